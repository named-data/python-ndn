import NdnProofs.Props.C06
import NdnProofs.Lemmas.FaceTasks
/-!
  # C06, task layer — one task per packet: exactly once, in order, nothing partial, isolated

  The model (NdnModel/FaceTasks.lean) puts the reader machine under an event loop: `StreamFace.run` creates one task
  per complete packet (`queue`), the loop runs them in FIFO order (`turn`, `step1`), each entering the black-box
  receive step (`processed`); the stream may end together with its last bytes (`close c`), the transport may fail
  (`exc`), the application may call `shutdown()`, a receive step may raise (`raise k`).  The specification is `frames`
  of everything fed (`fed h`); a statement holds for every `except` tuple, black box and application state, unless it
  names the extracted tuple (`Gen.C06.streamCaught`, `Gen.C06.udpCaught`) or the black box `recvHooks`.
  Clauses the docstrings refer to: (1) every complete packet is received exactly once, in stream order; (2) nothing
  partial is ever handed over; (3) when the stream ends, the transport fails or the application shuts down, no task
  already created is lost or cancelled; (4) a receive step that raises leaves the other tasks alone.
-/
namespace Ndn.C06
open Ndn Ndn.Framing Ndn.FaceTasks
open Ndn.StreamReader (RdErr Pkt)

variable {σ : Type}

/-- a trivial black box for the examples: the application state counts the packets received -/
def countHooks : Hooks Nat := { recv := fun n _ => (n + 1, false), fail := fun n _ => n, cleanup := fun n => n }

/-- (1, safety)  At EVERY moment of EVERY history: the packets whose receive step has been entered, followed by the
    packets still in the ready queue, are a PREFIX of the complete packets of the bytes fed so far: each at most once,
    in stream order, none invented.  (All of them, while the connection is open: `tasks_delivered_when_drained`.) -/
theorem tasks_exactly_once_in_order (caught : List RdErr) (H : Hooks σ) (a : σ) (h : List Ev) :
    (run caught H a h).processed ++ (run caught H a h).queue <+: (frames (fed h)).1 ∧
    (run caught H a h).processed <+: (frames (fed h)).1 :=
  ⟨(inv_run caught H a h).pre, (processed_prefix_spawned _).trans (inv_run caught H a h).pre⟩

example : (run Gen.C06.streamCaught countHooks 0 [.feed [5, 1], .shutdown, .turn, .feed [7, 6, 0], .raise 0, .turn]).processed
    <+: [(5, [5, 1, 7]), (6, [6, 0])] :=
  (tasks_exactly_once_in_order _ _ _ _).2.trans (by decide)

/-- (1, completeness)  While the connection is open (no end of stream, transport error or `shutdown()` so far; receive
    steps may raise): processed ++ queued is EXACTLY the complete packets of the bytes fed, so once the queue has
    drained every complete packet has been delivered exactly once, in order. -/
theorem tasks_delivered_when_drained (caught : List RdErr) (H : Hooks σ) (a : σ) (h : List Ev)
    (hq : h.all Ev.quiet = true) :
    (run caught H a h).processed ++ (run caught H a h).queue = (frames (fed h)).1 ∧
    ((run caught H a h).queue = [] → (run caught H a h).processed = (frames (fed h)).1) ∧
    (run caught H a (h ++ [.turn])).processed = (frames (fed h)).1 := by
  obtain ⟨_, _, hs⟩ := quiet_run caught H a h hq
  refine ⟨hs, fun hn => by simpa [St.spawned, hn] using hs, ?_⟩
  rw [run_append]
  exact (turn_processed caught H _).1.trans hs

example : (run Gen.C06.streamCaught countHooks 0 [.feed [5, 1], .turn, .feed [7, 6, 0], .raise 1, .step1, .turn]).processed
    = [(5, [5, 1, 7]), (6, [6, 0])] := by
  have := (tasks_delivered_when_drained Gen.C06.streamCaught countHooks 0
    [.feed [5, 1], .turn, .feed [7, 6, 0], .raise 1, .step1] (by decide)).2.2
  exact this.trans (by decide)

/-- (1)  Two open histories that feed the same bytes, cut into chunks and interleaved with loop turns in any two ways,
    have delivered the same packets in the same order once the queue is drained. -/
theorem tasks_chunks_and_turns_irrelevant (caught : List RdErr) (H : Hooks σ) (a : σ) (h1 h2 : List Ev)
    (hq1 : h1.all Ev.quiet = true) (hq2 : h2.all Ev.quiet = true) (hf : fed h1 = fed h2) :
    (run caught H a (h1 ++ [.turn])).processed = (run caught H a (h2 ++ [.turn])).processed := by
  rw [(tasks_delivered_when_drained caught H a h1 hq1).2.2, (tasks_delivered_when_drained caught H a h2 hq2).2.2, hf]

/-- … and that sequence is what the chunked reader machine hands over for ANY cut of the same bytes -/
theorem tasks_agree_with_chunked_machine (H : Hooks σ) (a : σ) (h : List Ev) (hq : h.all Ev.quiet = true)
    (cs : List Bytes) (hc : cs.flatten = fed h) (fin : StreamReader.Event) (hfin : IsEnd fin) :
    (run Gen.C06.streamCaught H a (h ++ [.turn])).processed =
      (StreamReader.run Gen.C06.streamCaught (feeds cs ++ [fin])).2 := by
  rw [(tasks_delivered_when_drained _ H a h hq).2.2, (chunks_irrelevant cs fin hfin).1, hc]

example : (run Gen.C06.streamCaught countHooks 0 ([.feed [5], .turn, .feed [1, 7, 6], .step1, .feed [0]] ++ [.turn])).processed =
    (run Gen.C06.streamCaught countHooks 0 ([.feed [5, 1, 7, 6, 0]] ++ [.turn])).processed :=
  tasks_chunks_and_turns_irrelevant _ _ _ _ _ (by decide) (by decide) (by decide)

/-- (2)  In EVERY history every task ever created carries exactly one complete element - also when the stream ends,
    the transport fails or the application shuts down in the middle of a packet. -/
theorem tasks_never_partial (caught : List RdErr) (H : Hooks σ) (a : σ) (h : List Ev) :
    ∀ p ∈ (run caught H a h).processed ++ (run caught H a h).queue, readPacket p.2 = some (p, []) := by
  intro p hp
  exact frames_complete _ p ((inv_run caught H a h).pre.subset hp)

/-- (2, 3)  The end of the stream reaches an open connection in the same pass as the last bytes `c` (`c = []`: a
    plain EOF), possibly in the middle of a packet: `run()` ends through the `except` clause, and whatever happens
    afterwards the tasks ever created are exactly the complete packets of the stream up to the end - those completed in
    that last pass included, the partial packet never.  On the next turn all of them have been delivered. -/
theorem tasks_end_mid_packet (caught : List RdErr) (H : Hooks σ) (a : σ) (h : List Ev) (hq : h.all Ev.quiet = true)
    (c : Bytes) (more : List Ev) :
    let st := run caught H a (h ++ .close c :: more)
    st.face.status = StreamReader.handled caught .incompleteRead ∧
    st.processed ++ st.queue = (frames (fed h ++ c)).1 ∧
    (run caught H a (h ++ .close c :: more ++ [.turn])).processed = (frames (fed h ++ c)).1 := by
  obtain ⟨ho, hi, _⟩ := quiet_run caught H a h hq
  obtain ⟨c1, c2⟩ := close_open caught H hi ho c
  exact run_ended caught H a h (.close c) more c1 c2

/-- with the shipped `except` tuple the status in `tasks_end_mid_packet` is `shutdown` -/
theorem tasks_end_shuts_down :
    StreamReader.handled Gen.C06.streamCaught .incompleteRead = .shutdown := stream_caught_sufficient.1

example : (run Gen.C06.streamCaught countHooks 0 ([.feed [5]] ++ .close [1, 7, 6, 0, 9, 4] :: [.feed [1, 2, 3, 4]] ++ [.turn])).processed
    = [(5, [5, 1, 7]), (6, [6, 0])] :=
  (tasks_end_mid_packet Gen.C06.streamCaught countHooks 0 [.feed [5]] (by decide) [1, 7, 6, 0, 9, 4] [.feed [1, 2, 3, 4]]).2.2.trans
    (by decide)

/-- (2, 3)  The transport sets an exception on an open connection: `run()` ends - through its `except` clause when the
    class is named there, with that exception otherwise - and the tasks ever created are exactly the complete
    packets received before the error; on the next turn all have been delivered. -/
theorem tasks_transport_error (caught : List RdErr) (H : Hooks σ) (a : σ) (h : List Ev) (hq : h.all Ev.quiet = true)
    (e : RdErr) (more : List Ev) :
    let st := run caught H a (h ++ .exc e :: more)
    st.face.status = StreamReader.handled caught e ∧
    st.processed ++ st.queue = (frames (fed h)).1 ∧
    (run caught H a (h ++ .exc e :: more ++ [.turn])).processed = (frames (fed h)).1 := by
  obtain ⟨ho, _, hs⟩ := quiet_run caught H a h hq
  obtain ⟨c1, c2⟩ := exc_running caught H ho.2 e
  exact run_ended caught H a h (.exc e) more c1 (c2.trans hs)

example : (run Gen.C06.streamCaught countHooks 0 ([.feed [5, 1, 7, 6]] ++ .exc .connectionReset :: [.feed [0]] ++ [.turn])).processed
    = [(5, [5, 1, 7])] :=
  (tasks_transport_error Gen.C06.streamCaught countHooks 0 [.feed [5, 1, 7, 6]] (by decide) .connectionReset [.feed [0]]).2.2.trans
    (by decide)

/-- once `run()` has ended - end of stream, transport error, or the `while self.running` test after `shutdown()` -
    `face.running` is False -/
theorem tasks_ended_not_running (caught : List RdErr) (H : Hooks σ) (a : σ) (h : List Ev)
    (hne : (run caught H a h).face.status ≠ .running) : (run caught H a h).running = false :=
  (inv_run caught H a h).stopped hne

example : (run Gen.C06.streamCaught countHooks 0 ([.feed [5]] ++ .close [] :: [])).running = false :=
  tasks_ended_not_running _ _ _ _ (by
    rw [(tasks_end_mid_packet Gen.C06.streamCaught countHooks 0 [.feed [5]] (by decide) [] []).1, stream_caught_sufficient.1]
    simp)

/-- (3)  The application shuts down an open connection, then anything happens (`more`), then the loop makes a turn.
    (i) Every packet completely received before the shutdown has been delivered: the tasks queued at that instant are
    neither cancelled nor dropped; (ii) at most ONE further packet is delivered, the one whose read was in progress:
    `run()` completes the pending read before it tests `self.running`; (iii) what is delivered is still a prefix of
    the stream's packets.  Packets behind that one are never read: they are the only thing lost. -/
theorem tasks_shutdown_guarantee (caught : List RdErr) (H : Hooks σ) (a : σ) (h : List Ev)
    (hq : h.all Ev.quiet = true) (more : List Ev) :
    let fin := run caught H a (h ++ .shutdown :: more ++ [.turn])
    (frames (fed h)).1 <+: fin.processed ∧
    fin.processed.length ≤ (frames (fed h)).1.length + 1 ∧
    fin.processed <+: (frames (fed h ++ fed more)).1 ∧
    fin.queue = [] ∧ fin.running = false := by
  obtain ⟨_, hi, hs⟩ := quiet_run caught H a h hq
  obtain ⟨s1, s2, s3, s4⟩ := shutdown_run caught H hi more
  rw [hs] at s1 s2
  intro fin
  have hfin : fin = step caught H (FaceTasks.runFrom caught H (step caught H (run caught H a h) .shutdown) more) .turn := by
    show run caught H a (h ++ .shutdown :: more ++ [.turn]) = _
    rw [run_append, run_append]
    rfl
  obtain ⟨t1, t2⟩ := turn_processed caught H (FaceTasks.runFrom caught H (step caught H (run caught H a h) .shutdown) more)
  rw [hfin, t1, t2]
  exact ⟨s1, s2, s3, rfl, (grows_step caught H _ .turn).flag s4⟩

/-- the extra packet of (ii) exists: `shutdown()` in the middle of packet (5, [5,1,7]); its last byte arrives
    afterwards together with a complete second packet - the first is delivered, the second is not -/
example : (run Gen.C06.streamCaught countHooks 0 ([.feed [5, 1]] ++ .shutdown :: [.feed [7, 6, 0]] ++ [.turn])).processed.length ≤ 0 + 1 :=
  Nat.le_trans (tasks_shutdown_guarantee Gen.C06.streamCaught countHooks 0 [.feed [5, 1]] (by decide) [.feed [7, 6, 0]]).2.1
    (by decide)

example : [(5, [5, 1, 7])] <+: (run Gen.C06.streamCaught countHooks 0 ([.feed [5, 1, 7, 6]] ++ .shutdown :: [] ++ [.turn])).processed := by
  have := (tasks_shutdown_guarantee Gen.C06.streamCaught countHooks 0 [.feed [5, 1, 7, 6]] (by decide) []).1
  exact (show [(5, [5, 1, 7])] <+: (frames (fed [.feed [5, 1, 7, 6]])).1 by decide).trans this

/-- (3)  No event takes a task out of the ready queue except running it: the tasks created so far only grow along any
    continuation, and after any later turn all of them have been delivered. -/
theorem tasks_never_withdrawn (caught : List RdErr) (H : Hooks σ) (a : σ) (h more : List Ev) :
    (run caught H a h).processed ++ (run caught H a h).queue <+: (run caught H a (h ++ more ++ [.turn])).processed := by
  rw [run_append, run_append]
  show _ <+: (step caught H _ .turn).processed
  rw [(turn_processed caught H _).1]
  exact (grows_runFrom caught H more _).spawned

/-- (4)  The task layer never looks at the outcome of a receive step: the face, the `running` flag, the ready queue and
    the packets delivered are the same without the `raise` marks and with any other black box: a task whose receive
    step raises does not stop, delay, reorder or duplicate the others. -/
theorem tasks_isolated {τ : Type} (caught : List RdErr) (H : Hooks σ) (H' : Hooks τ) (a : σ) (a' : τ) (h : List Ev) :
    core (run caught H a h) = core (run caught H' a' (h.filter (fun e => !e.isRaise))) :=
  core_runFrom caught H H' h _ _ rfl

example : (run Gen.C06.streamCaught countHooks 0 [.raise 0, .feed [5, 1, 7, 6, 0], .turn]).processed =
    (run Gen.C06.streamCaught countHooks 0 [.feed [5, 1, 7, 6, 0], .turn]).processed :=
  congrArg (fun c => c.2.2.2) (tasks_isolated Gen.C06.streamCaught countHooks countHooks 0 0 [.raise 0, .feed [5, 1, 7, 6, 0], .turn])

/-- (1)  On an open connection with no receive step marked as raising: the application tables are the black-box receive
    step applied to the packets delivered, ONCE each, in stream order, from the initial tables - whatever the chunks
    and the loop turns. -/
theorem tasks_tables_exactly_once (caught : List RdErr) (H : Hooks σ) (a : σ) (h : List Ev)
    (hq : h.all Ev.quiet = true) (hr : h.all (fun e => !e.isRaise) = true) :
    (run caught H a h).app = recvAll H a (run caught H a h).processed ∧
    (run caught H a (h ++ [.turn])).app = recvAll H a (frames (fed h)).1 := by
  have key : ∀ h : List Ev, h.all Ev.quiet = true → h.all (fun e => !e.isRaise) = true →
      (run caught H a h).app = recvAll H a (run caught H a h).processed := fun h hq hr =>
    (appInv_run caught H a h hr).app (quiet_run caught H a h hq).1.2
  refine ⟨key h hq hr, ?_⟩
  have := key (h ++ [.turn]) (by rw [List.all_append, hq]; rfl) (by rw [List.all_append, hr]; rfl)
  rw [this, (tasks_delivered_when_drained caught H a h hq).2.2]

example : (run Gen.C06.streamCaught countHooks 0 ([.feed [5, 1], .turn, .feed [7, 6, 0]] ++ [.turn])).app = 2 :=
  (tasks_tables_exactly_once Gen.C06.streamCaught countHooks 0 [.feed [5, 1], .turn, .feed [7, 6, 0]] (by decide) (by decide)).2.trans
    (by decide)

/-- (3)  The packets completed in the same pass as the end of the stream, and those still queued then: `main_loop` runs
    `_clean_up` in that very pass, BEFORE their tasks get their turn; on the next turn each is received exactly once, in
    order, against the tables as `_clean_up` left them.  (A Data arriving together with the end of the stream reaches
    `_receive`, but the Interest it answers has been cancelled by then.) -/
theorem tasks_last_pass_after_cleanup (caught : List RdErr) (H : Hooks σ) (a : σ) (h : List Ev)
    (hq : h.all Ev.quiet = true) (hr : h.all (fun e => !e.isRaise) = true) (c : Bytes) :
    let before := run caught H a h
    let fin := run caught H a (h ++ [.close c, .turn])
    fin.processed = (frames (fed h ++ c)).1 ∧
    fin.app = recvAll H (H.cleanup (recvAll H a before.processed))
                ((frames (fed h ++ c)).1.drop before.processed.length) := by
  obtain ⟨ho, hi, _⟩ := quiet_run caught H a h hq
  have ha := appInv_run caught H a h hr
  have := close_turn_app caught H hi ho ha.bad c
  intro before fin
  have hfin : fin = step caught H (step caught H (run caught H a h) (.close c)) .turn := run_append ..
  rw [hfin]
  refine ⟨this.1, ?_⟩
  have e : (run caught H a h).app = recvAll H a (run caught H a h).processed := ha.app ho.2
  rw [this.2, e]

/-- `_clean_up` resets the counter to 100: one packet before the end, one in the last pass -/
def cleanHooks : Hooks Nat := { recv := fun n _ => (n + 1, false), fail := fun n _ => n, cleanup := fun _ => 100 }

example : (run Gen.C06.streamCaught cleanHooks 0 (([.feed [5, 1, 7]] ++ [.turn]) ++ [.close [6, 0, 9], .turn])).app = 101 := by
  have h := (tasks_last_pass_after_cleanup Gen.C06.streamCaught cleanHooks 0 ([.feed [5, 1, 7]] ++ [.turn])
    (by decide) (by decide) [6, 0, 9]).2
  rw [(tasks_delivered_when_drained Gen.C06.streamCaught cleanHooks 0 [.feed [5, 1, 7]] (by decide)).2.2] at h
  exact h.trans (by decide)

/-- the black box instantiated with the byte-level reception pipeline (`receiveBytes`); an exception = the task ends with
    an unhandled error; `cleanup` is a parameter because the two front-ends differ -/
def recvHooks (g : Recv.Guards) (Hs : Bytes → Bytes) (cleanup : Recv.State → Recv.State) : Hooks Recv.State where
  recv st p := match RecvBytes.receiveBytes g Hs st p.1 p.2 with
    | .ok r => (r.1, false)
    | .error _ => (st, true)
  fail st _ := st
  cleanup := cleanup

theorem tasks_no_background_error_of_safe (caught : List RdErr) (g : Recv.Guards) (hs : safe g = true)
    (Hs : Bytes → Bytes) (cleanup : Recv.State → Recv.State) (st : Recv.State) (h : List Ev)
    (hr : h.all (fun e => !e.isRaise) = true) : (run caught (recvHooks g Hs cleanup) st h).errors = [] := by
  refine (appInv_run caught _ st h hr).errors fun a p => ?_
  obtain ⟨res, hres⟩ := receive_total_of_safe g hs _ (bytes_decoders_raise_only Hs) a p.1 p.2
  simp [recvHooks, RecvBytes.receiveBytes, hres]

/-- "No background task ends with an unhandled error", for the task layer and the reception pipeline TOGETHER: both
    front-ends, every byte stream cut in any way, any loop turns, end of stream, transport errors and `shutdown()` at
    any instant, every state of the tables: `errors` stays empty. -/
theorem tasks_no_background_error (Hs : Bytes → Bytes) (cleanup : Recv.State → Recv.State) (st : Recv.State)
    (h : List Ev) (hr : h.all (fun e => !e.isRaise) = true) :
    (run Gen.C06.streamCaught (recvHooks Gen.C06.v2 Hs cleanup) st h).errors = [] ∧
    (run Gen.C06.streamCaught (recvHooks Gen.C06.v1 Hs cleanup) st h).errors = [] :=
  ⟨tasks_no_background_error_of_safe _ _ gen_safe.1 Hs cleanup st h hr,
   tasks_no_background_error_of_safe _ _ gen_safe.2 Hs cleanup st h hr⟩

/-- a history that meets the hypothesis: no `raise` mark -/
example : [Ev.feed [100, 0], .turn, .close [5, 1], .turn].all (fun e => !e.isRaise) = true := by decide

/-! The UDP face has no reader: every datagram whose Type number can be read becomes a task at once, whatever
    `running` says and whether or not `run()` has returned. -/

open Ndn.FaceTasks.Udp (accepted dgrams) in
/-- (1, 2, 3)  EVERY history of the UDP face and every `except` tuple: the packets delivered followed by those still
    queued are exactly the datagrams whose Type number can be read, each once, in order of arrival, each the WHOLE
    datagram (never a part of one, never two glued); after a turn all have been delivered.  (The third conjunct spells
    out what `accepted` selects.) -/
theorem udp_tasks_exactly_once_in_order (caught : List PyErr) (H : Hooks σ) (a : σ) (h : List Udp.Ev) :
    (Udp.run caught H a h).st.processed ++ (Udp.run caught H a h).st.queue = accepted (dgrams h) ∧
    (Udp.run caught H a (h ++ [.turn])).st.processed = accepted (dgrams h) ∧
    (∀ p ∈ accepted (dgrams h), ∃ d ∈ dgrams h, p.2 = d ∧ ∃ o, parseTlNum d 0 = .ok (p.1, o)) := by
  have hs := Udp.runFrom_spawned caught H h (Udp.init a)
  have h0 : (Udp.init a).st.spawned = [] := rfl
  rw [h0, List.nil_append] at hs
  refine ⟨hs, ?_, ?_⟩
  · rw [Udp.run, Udp.runFrom_append]
    exact (Udp.turn_processed caught H _).1.trans hs
  · intro p hp
    simp only [accepted, List.mem_filterMap] at hp
    obtain ⟨d, hd, hm⟩ := hp
    refine ⟨d, hd, ?_⟩
    cases hq : parseTlNum d 0 with
    | ok r => obtain ⟨t, o⟩ := r; rw [hq] at hm; cases hm; exact ⟨rfl, o, rfl⟩
    | error e => rw [hq] at hm; cases hm

example : (Udp.run Gen.C06.udpCaught countHooks 0 ([.dgram [5, 1, 7], .dgram [], .lost, .dgram [253, 0], .raise 0, .dgram [6, 0]] ++ [.turn])).st.processed
    = [(5, [5, 1, 7]), (6, [6, 0])] :=
  (udp_tasks_exactly_once_in_order _ _ _ _).2.1.trans (by decide)

/-- with the generated `except` tuple no exception ever leaves `datagram_received` -/
theorem udp_tasks_no_callback_error (H : Hooks σ) (a : σ) (h : List Udp.Ev) :
    (Udp.run Gen.C06.udpCaught H a h).cbErrors = [] :=
  Udp.runFrom_cbErrors _ H udp_total h _

/-- (4)  as for the stream faces -/
theorem udp_tasks_isolated {τ : Type} (caught : List PyErr) (H : Hooks σ) (H' : Hooks τ) (a : σ) (a' : τ)
    (h : List Udp.Ev) :
    Udp.ucore (Udp.run caught H a h) = Udp.ucore (Udp.run caught H' a' (h.filter (fun e => !e.isRaise))) :=
  Udp.ucore_runFrom caught H H' h _ _ rfl

example : (Udp.run Gen.C06.udpCaught countHooks 0 [.raise 0, .dgram [5, 0], .turn, .dgram [6, 0], .turn]).st.processed =
    (Udp.run Gen.C06.udpCaught countHooks 0 [.dgram [5, 0], .turn, .dgram [6, 0], .turn]).st.processed :=
  congrArg (fun c => c.2.2.2.1) (udp_tasks_isolated Gen.C06.udpCaught countHooks countHooks 0 0
    [.raise 0, .dgram [5, 0], .turn, .dgram [6, 0], .turn])

end Ndn.C06
