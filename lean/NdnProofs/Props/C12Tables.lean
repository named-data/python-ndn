import NdnProofs.Lemmas.Lvs.Tables
import NdnGen.C12
/-!
  C12 - the tables `lean/NdnGen/C12.lean` is regenerated with from `checker.py`, `validator.py` and `compiler.py` on
  every run, tied to the model of `Checker.check` (`NdnModel/Lvs/Match.lean`) and of `_fix_signing_references`
  (`NdnModel/Lvs/Compile.lean`).  A source edit that alters one of them changes the generated file and the theorem stops
  checking, before the harness's correspondence run has searched for an input on which model and code differ.
  The model functions named in the docstrings are a reading aid; the statements compare the generated text with the literal,
  except where a conjunct names the model.
-/
namespace Ndn.C12
open Ndn Ndn.Lvs

/-- **digest stripping in `check`**: one `if` per name (packet, then key) drops the last component when its type is one of
    the generated types, and the model's `stripDigest` - applied to both names by `check` - drops it exactly then. -/
theorem check_digest_table :
    Gen.C12.checkDigestStrip.map (·.1) = ["pkt_name", "key_name"] ∧
    (∀ e ∈ Gen.C12.checkDigestStrip, e.2.1 = "if" ∧
      ∀ (n : List Bytes) (c : Bytes) (t s : Nat), parseTlNum c 0 = .ok (t, s) →
        stripDigest (n ++ [c]) = .ok (if e.2.2.contains t then n else n ++ [c])) ∧
    (∀ m env pkt key, check m env pkt key =
      match stripDigest pkt with
      | .error e => .error e
      | .ok p => match stripDigest key with
        | .error e => .error e
        | .ok k => checkCore m env p k) := by
  refine ⟨rfl, ?_, fun _ _ _ _ => rfl⟩
  intro e he
  obtain rfl | rfl : e = ("pkt_name", "if", [1]) ∨ e = ("key_name", "if", [1]) := by
    simpa [Gen.C12.checkDigestStrip] using he
  all_goals exact ⟨rfl, fun n c t s h => by simpa using stripDigest_spec n c t s h⟩

/-- **the loops of `check`**: the packet is matched from the empty context, the key from the context of the packet's
    match (`checkCore`: `matchIter m env pkt []`, `checkLoop` → `matchIter m env key ctx`); the only test is whether the
    key's node is listed among the packet node's signers (`keyHit`: `signers.contains`); it returns `True` on the first
    hit and `False` at the end. -/
theorem check_loops_table :
    Gen.C12.checkMatchCalls = ["pkt_name, {}", "key_name, context"] ∧
    Gen.C12.checkTests = ["key_node_id in pkt_node.sign_cons"] ∧
    Gen.C12.checkReturns = ["True", "False"] :=
  ⟨rfl, rfl, rfl⟩

/-- **no `except` clause** in checker.py or validator.py: whatever `_match` / a user function raises leaves `check` and
    `validate_name` (the model propagates every error: `keyHit`, `checkLoop`); `validate_name` returns the verdict of
    `check` or `False` when there is no key locator. -/
theorem checker_excepts_table :
    Gen.C12.checkerExcepts = [] ∧ Gen.C12.validatorExcepts = [] ∧
    Gen.C12.validateNameReturns = ["False", "checker.check(name, cert_name)"] :=
  ⟨rfl, rfl, rfl⟩

/-- **`_fix_signing_references`**: every node ending a rule named as signer is collected, the list is stored sorted
    (`signersOfStr`, `fixNode`) -/
theorem fix_signing_table :
    Gen.C12.fixSigningExtend = ["new_sign_cons <- self.rule_node_ids[rid]"] ∧
    Gen.C12.fixSigningStore = ["sorted(new_sign_cons)"] :=
  ⟨rfl, rfl⟩

end Ndn.C12
