import NdnProofs.Props.C13
import NdnProofs.Props.C07
import NdnModel.Lvs.Load
/-!
# C13 — `Checker.load` on every byte string

`Ndn.Lvs.loadBytes` = the TLV decoder model of C07/C08 (`Ndn.Codec.parse`) over the schema of `LvsModel` regenerated from
binary.py (`Gen.C08.binary_LvsModel`; `binary_layout_is_shipped_schema` ties it to the layout the Lean structures follow)
composed with the loader model `sanityCheck`.  For every byte string (`load_total`) `Checker.load` raises a documented
decoding error from `LvsModel.parse`; or `LvsModelError` / `SemanticError` from `_sanity_check` (`TypeError` only when the
bytes carry no `StartId`); or returns a checker whose model obeys the documented sanity rules and on which every search
ends within `stepBound (maxPE m) |name|` iterations (`maxPE m`: the largest number of pattern edges of a node).
-/
namespace Ndn.C13
open Ndn Ndn.Lvs Ndn.Codec

/-- the `LvsModel` schema is among those the decoder theorems of C07 quantify over (`pFs`: no MapField, repeated fields
    hold element kinds) -/
theorem lvsModel_schema_ok : pFs Gen.C08.binary_LvsModel = true := by decide +kernel

theorem loadBytes_decode {wire : Bytes} {e : PyErr} (h : loadBytes wire = .error (.decode e)) :
    Codec.parse Gen.C08.binary_LvsModel false wire = .error e := by
  unfold loadBytes at h
  split at h
  · cases h; assumption
  · split at h <;> cases h

theorem loadBytes_lvs {wire : Bytes} {e : LvsErr} (h : loadBytes wire = .error (.lvs e)) :
    ∃ vs, Codec.parse Gen.C08.binary_LvsModel false wire = .ok vs ∧ loadRaw (toRaw vs) = .error e := by
  unfold loadBytes at h
  split at h
  · cases h
  · split at h <;> cases h
    exact ⟨_, ‹_›, ‹_›⟩

theorem loadBytes_ok {wire : Bytes} {L : Loaded} (h : loadBytes wire = .ok L) :
    ∃ vs, Codec.parse Gen.C08.binary_LvsModel false wire = .ok vs ∧ loadRaw (toRaw vs) = .ok L := by
  unfold loadBytes at h
  split at h
  · cases h
  · split at h <;> cases h
    exact ⟨_, ‹_›, ‹_›⟩

theorem loadRaw_error {r : RawModel} {e : LvsErr} (h : loadRaw r = .error e) :
    (∃ s, r.startId = some s ∧
      sanityCheck { version := r.version, startId := s, namedCnt := r.namedCnt.getD 0, nodes := r.nodes } = .error e) ∨
    (r.startId = none ∧ (e = .typeError ∨ e = .modelError)) := by
  unfold loadRaw at h
  split at h
  · dsimp only at h
    split at h <;> cases h
    exact .inl ⟨_, ‹_›, ‹_›⟩
  · dsimp only at h
    split at h <;> cases h
    · exact .inr ⟨‹_›, .inl rfl⟩
    · exact .inr ⟨‹_›, .inr rfl⟩

theorem loadRaw_ok {r : RawModel} {L : Loaded} (h : loadRaw r = .ok L) : sanityCheck L.model = .ok () := by
  unfold loadRaw at h
  split at h
  · dsimp only at h
    split at h <;> cases h
    assumption
  · dsimp only at h
    split at h <;> cases h

theorem load_decode_errors (wire : Bytes) (e : PyErr) (h : loadBytes wire = .error (.decode e)) : docErr e = true :=
  Ndn.C07.parse_total _ false wire lvsModel_schema_ok e (loadBytes_decode h)

/-- `TypeError` leaves `_sanity_check` only when the bytes carry no `StartId`. -/
theorem load_error_classes (wire : Bytes) (e : LvsErr) (h : loadBytes wire = .error (.lvs e)) :
    e = .modelError ∨ e = .semanticError ∨
      (e = .typeError ∧ ∃ vs, Codec.parse Gen.C08.binary_LvsModel false wire = .ok vs ∧ (toRaw vs).startId = none) := by
  obtain ⟨vs, hvs, he⟩ := loadBytes_lvs h
  rcases loadRaw_error he with ⟨s, _, hs⟩ | ⟨hnone, ht | hm⟩
  · exact (sanityCheck_error_classes _ _ hs).imp_right .inl
  · exact .inr (.inr ⟨ht, vs, hvs, hnone⟩)
  · exact .inl hm

theorem load_accepted_terminates (wire : Bytes) (L : Loaded) (h : loadBytes wire = .ok L) :
    sanityCheck L.model = .ok () ∧ Sane L.model ∧
    (∀ (env : FnEnv) (name : List Bytes) (ctx : Ctx),
      ∃ k, k ≤ stepBound (maxPE L.model) name.length ∧ (runG L.model (edgeFn L.model env) name k (initSt L.model ctx)).cur = none) ∧
    (∀ (env : FnEnv) (pkt key : List Bytes),
      (matchIter L.model env pkt []).cur = none ∧ ∀ σ, (matchIter L.model env key σ).cur = none) := by
  obtain ⟨_, _, hl⟩ := loadBytes_ok h
  have hs := loadRaw_ok hl
  exact ⟨hs, accepted_sane _ hs, fun env name ctx => match_terminates _ hs env name ctx,
    fun env pkt key => check_terminates _ hs env pkt key⟩

/-- The three cases in one statement, for every byte string. -/
theorem load_total (wire : Bytes) :
    (∃ e, loadBytes wire = .error (.decode e) ∧ docErr e = true) ∨
    (∃ e, loadBytes wire = .error (.lvs e) ∧ (e = .modelError ∨ e = .semanticError ∨
      (e = .typeError ∧ ∃ vs, Codec.parse Gen.C08.binary_LvsModel false wire = .ok vs ∧ (toRaw vs).startId = none))) ∨
    (∃ L, loadBytes wire = .ok L ∧ Sane L.model ∧
      ∀ (env : FnEnv) (name : List Bytes) (ctx : Ctx),
        ∃ k, k ≤ stepBound (maxPE L.model) name.length ∧
          (runG L.model (edgeFn L.model env) name k (initSt L.model ctx)).cur = none) := by
  cases h : loadBytes wire with
  | error e =>
    cases e with
    | decode e => exact Or.inl ⟨e, rfl, load_decode_errors wire e h⟩
    | lvs e => exact Or.inr (Or.inl ⟨e, rfl, load_error_classes wire e h⟩)
  | ok L =>
    obtain ⟨_, h2, h3, _⟩ := load_accepted_terminates wire L h
    exact Or.inr (Or.inr ⟨L, rfl, h2, h3⟩)

theorem load_modelError_not_sane (r : RawModel) (s : Nat) (hs : r.startId = some s) (h : loadRaw r = .error .modelError) :
    ¬ Sane { version := r.version, startId := s, namedCnt := r.namedCnt.getD 0, nodes := r.nodes } := by
  rcases loadRaw_error h with ⟨s', hs', he⟩ | ⟨hnone, _⟩
  · obtain rfl : s = s' := Option.some.inj (hs.symm.trans hs')
    exact (modelError_iff_not_sane _).mp he
  · rw [hs] at hnone; cases hnone

/-- a root with three pattern edges to the same child -/
def dupEdges : Model :=
  { version := some maxVersion, startId := 0, namedCnt := 1,
    nodes := [
      { id := some 0, parent := none, ruleNames := [], vEdges := [],
        pEdges := [⟨some 1, some 1, []⟩, ⟨some 1, some 1, []⟩, ⟨some 1, some 1, []⟩], signCons := [] },
      { id := some 1, parent := some 0, ruleNames := ["#r"], vEdges := [], pEdges := [], signCons := [] }] }

/-- **why the bound is not a function of the number of nodes.**  The documented sanity rules do not forbid several edges
    to one destination: `dupEdges` has two nodes, three pattern edges on one of them, and is accepted; the search follows
    every edge (three matches of a one-component name), so its work depends on `maxPE`, not on the number of nodes. -/
theorem bound_needs_maxPE :
    sanityCheck dupEdges = .ok () ∧ dupEdges.nodes.length = 2 ∧ maxPE dupEdges = 3 ∧
    (matchIter dupEdges Example.noFns [Example.cA] []).outs.length = 3 := by
  exact ⟨(sanityCheck_ok_iff _).mpr ⟨by decide +kernel, by decide +kernel⟩, rfl, by decide +kernel, by decide +kernel⟩

/-! In the examples below the result of `loadBytes` is tested through a Boolean `match`, because `Except LoadErr Loaded` has
    no decidable equality (`Loaded` derives none); `split` then recovers the equation. -/

/-- the empty byte string: no `StartId` and no version → `LvsModelError` -/
example : loadBytes [] = .error (.lvs .modelError) := by
  have : (match loadBytes [] with | .error (.lvs .modelError) => true | _ => false) = true := by decide +kernel
  split at this
  · assumption
  · cases this
/-- a truncated element -/
example : ∃ e, loadBytes [0x61, 0x04, 0x00] = .error (.decode e) ∧ docErr e = true := by
  have : (match loadBytes [0x61, 0x04, 0x00] with | .error (.decode _) => true | _ => false) = true := by decide +kernel
  split at this
  · exact ⟨_, ‹_›, load_decode_errors _ _ ‹_›⟩
  · cases this
/-- Version 0x00011000 and nothing else: version and node ids are in order, `StartId` is absent → `TypeError` -/
example : loadBytes [0x61, 0x04, 0x00, 0x01, 0x10, 0x00] = .error (.lvs .typeError) := by
  have : (match loadBytes [0x61, 0x04, 0x00, 0x01, 0x10, 0x00] with | .error (.lvs .typeError) => true | _ => false) = true := by
    decide +kernel
  split at this
  · assumption
  · cases this
/-- Version, StartId 0, NamedPatternCnt 0, one node with id 0: accepted -/
example : ∃ L, loadBytes [0x61, 0x04, 0x00, 0x01, 0x10, 0x00, 0x25, 0x01, 0x00, 0x69, 0x01, 0x00, 0x63, 0x03, 0x25, 0x01, 0x00]
    = .ok L ∧ L.model.nodes.length = 1 := by
  have : (match loadBytes [0x61, 0x04, 0x00, 0x01, 0x10, 0x00, 0x25, 0x01, 0x00, 0x69, 0x01, 0x00, 0x63, 0x03, 0x25, 0x01, 0x00] with
      | .ok L => decide (L.model.nodes.length = 1) | _ => false) = true := by decide +kernel
  split at this
  · rename_i L hL; exact ⟨L, hL, by simpa using this⟩
  · cases this

end Ndn.C13
