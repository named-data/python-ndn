import NdnProofs.Lemmas.Basic  -- its `DecidableEq (Except ε α)` is what the `decide +kernel` proofs at the end need
import NdnProofs.Lemmas.Keychain
import NdnProofs.Lemmas.KeychainPhases
/-!
# C15 — Keychain contents, defaults and signers stay consistent over any history

Theorems about `Ndn.Keychain` (model of `KeychainSqlite3` / `Identity` / `Key` + `TpmFile`) for **every** history
`ops : List (Op × Option Nat)` — each operation optionally with a storage failure injected at its k-th database
write / commit / TPM call; `new_key` with every `key_id` / `key_id_type` the code accepts.

The file name of a key's private-key file is `fn key_name` (`TpmFile._to_file_name`).  `fn` is a parameter of every
theorem and is **arbitrary**: neither injectivity nor SHA-256 is assumed.  That no two stored key names share a file
is *proved* (`key_files_match`): the repaired `generate_key` refuses a key name whose file exists.

The SQL triggers are interpreted from the table `Ndn.Gen.C15.triggers` generated from the live `INITIALIZE_SQL`;
`triggers_closed_form` is re-derived from it on every build, so an edited trigger stops the proofs from checking.

The specifications are stated on rows, on the model's read functions (`idRow?`, `keyIter`, …) and, for
`default_exists`, on the ghost `Tab.lost`.
-/
namespace Ndn.C15
open Ndn Ndn.Sql Ndn.Keychain

/-- every `CREATE TRIGGER` of INITIALIZE_SQL was parsed into a recognised WHEN shape and body -/
theorem triggers_all_parsed :
    Gen.C15.triggers.length = Gen.C15.triggerKeywordCount ∧
    ∀ t ∈ Gen.C15.triggers, t.cond ≠ .unknown ∧ t.action ≠ .unknown := by decide +kernel

/-- there are no DELETE triggers (the model's `Tab.delete` fires none) -/
theorem no_delete_triggers : ∀ t ∈ Gen.C15.triggers, t.event ≠ .delete := by decide +kernel

/-- every UPDATE trigger fires BEFORE the update, requires `NEW.is_default=1`, and only clears defaults: this is why
    the UPDATEs executed *inside* trigger bodies fire no further trigger (model: `act0`) -/
theorem update_triggers_need_new_default :
    ∀ t ∈ Gen.C15.triggers, t.event = .update → (t.cond = .newIsDefaultOldNot ∨ t.cond = .newIsDefault) ∧
      t.timing = .before ∧ ∃ sc, t.action = .clearDefaults sc := by decide +kernel

/-- the code never switches foreign keys on: `ON DELETE CASCADE` is inert, cascades are done by hand -/
theorem foreign_keys_off : Gen.C15.pragmaForeignKeys = false := by decide +kernel

/-- the interpreted trigger table gives the closed forms `setDefaultCF`, `insertCF` of the two write statements -/
theorem triggers_closed_form :
    (∀ n t, updSetDefault (ν := Nat) (trs .identities) n t = setDefaultCF false n t) ∧
    (∀ n t, updSetDefault (ν := KeyName) (trs .keys) n t = setDefaultCF true n t) ∧
    (∀ n t, updSetDefault (ν := CertName) (trs .certificates) n t = setDefaultCF true n t) ∧
    (∀ o n t, insertRow (ν := Nat) (trs .identities) o n t = insertCF false o n t) ∧
    (∀ o n t, insertRow (ν := KeyName) (trs .keys) o n t = insertCF true o n t) ∧
    (∀ o n t, insertRow (ν := CertName) (trs .certificates) o n t = insertCF true o n t) :=
  ⟨fun n => congrFun (upd_trs .identities n), fun n => congrFun (upd_trs .keys n), fun n => congrFun (upd_trs .certificates n),
    ins_trs .identities, ins_trs .keys, ins_trs .certificates⟩

/-- the SQL text at every `conn.execute` call site, as the hand-written operations model it -/
def expectedStatements : List (String × String) := [
  ("Key.__len__", "SELECT count(*) FROM certificates WHERE key_id=?"),
  ("Key.__getitem__", "SELECT id, certificate_name, certificate_data, is_default FROM certificates WHERE certificate_name=? AND key_id=?"),
  ("Key.__iter__", "SELECT certificate_name FROM certificates WHERE key_id=?"),
  ("Key.has_default_cert", "SELECT id FROM certificates WHERE is_default=1 AND key_id=?"),
  ("Key.set_default_cert", "UPDATE certificates SET is_default=1 WHERE certificate_name=?"),
  ("Key.default_cert", "SELECT id, certificate_name, certificate_data, is_default FROM certificates WHERE is_default=1 AND key_id=?"),
  ("Identity.__len__", "SELECT count(*) FROM keys WHERE identity_id=?"),
  ("Identity.__getitem__", "SELECT id, key_name, key_bits, is_default FROM keys WHERE key_name=? AND identity_id=?"),
  ("Identity.__iter__", "SELECT key_name FROM keys WHERE identity_id=?"),
  ("Identity.has_default_key", "SELECT id FROM keys WHERE is_default=1 AND identity_id=?"),
  ("Identity.set_default_key", "UPDATE keys SET is_default=1 WHERE key_name=?"),
  ("Identity.default_key", "SELECT id, key_name, key_bits, is_default FROM keys WHERE is_default=1 AND identity_id=?"),
  ("KeychainSqlite3.initialize", "INSERT INTO tpmInfo (tpm_locator) VALUES (?)"),
  ("KeychainSqlite3.__init__", "SELECT tpm_locator FROM tpmInfo"),
  ("KeychainSqlite3.__iter__", "SELECT identity FROM identities"),
  ("KeychainSqlite3.__len__", "SELECT count(*) FROM identities"),
  ("KeychainSqlite3.__getitem__", "SELECT id, identity, is_default FROM identities WHERE identity=?"),
  ("KeychainSqlite3.has_default_identity", "SELECT id FROM identities WHERE is_default=1"),
  ("KeychainSqlite3.set_default_identity", "UPDATE identities SET is_default=1 WHERE identity=?"),
  ("KeychainSqlite3.default_identity", "SELECT id, identity, is_default FROM identities WHERE is_default=1"),
  ("KeychainSqlite3.new_identity", "INSERT INTO identities (identity) VALUES (?)"),
  ("KeychainSqlite3.touch_identity", "INSERT INTO identities (identity) VALUES (?)"),
  ("KeychainSqlite3.del_identity", "DELETE FROM identities WHERE identity=?"),
  ("KeychainSqlite3.del_key", "DELETE FROM certificates WHERE key_id=?"),
  ("KeychainSqlite3.del_key", "DELETE FROM keys WHERE key_name=?"),
  ("KeychainSqlite3.del_cert", "DELETE FROM certificates WHERE certificate_name=?"),
  ("KeychainSqlite3.new_key", "INSERT INTO keys (identity_id, key_name, key_bits) VALUES (?, ?, ?)"),
  ("KeychainSqlite3.new_key", "INSERT INTO certificates (key_id, certificate_name, certificate_data)VALUES ((SELECT id FROM keys WHERE key_name=?), ?, ?)"),
  ("KeychainSqlite3.import_cert", "INSERT INTO certificates (key_id, certificate_name, certificate_data)VALUES ((SELECT id FROM keys WHERE key_name=?), ?, ?)")
]

theorem statements_as_modelled : Gen.C15.statements = expectedStatements := by rfl

/-- specification: at most one default row per scope -/
def AtMostOneDefault {ν : Type} (sc : Bool) (t : Table ν) : Prop :=
  ∀ a ∈ t, ∀ b ∈ t, a.dflt = true → b.dflt = true → sameScope sc a.owner b.owner = true → a = b

theorem atMostOne_of_defU {ν : Type} {sc : Bool} {t : Table ν} (h : DefU sc t) : AtMostOneDefault sc t := by
  intro a ha b hb hda hdb hs
  apply Classical.byContradiction
  intro hne
  rcases pairwise_mem h ha hb hne with h1 | h1
  · exact h1 ⟨hda, hdb, hs⟩
  · exact h1 ⟨hdb, hda, by rw [sameScope_comm]; exact hs⟩

/-- After any history there is at most one default identity, one default key per identity and one default certificate
    per key - in what the connection sees and in what is committed. -/
theorem default_unique (fn : KeyName → FileName) (ops : List (Op × Option Nat)) :
    let s := run (Sys.init fn) ops
    (AtMostOneDefault false s.cur.ids.rows ∧ AtMostOneDefault true s.cur.keys.rows ∧
      AtMostOneDefault true s.cur.certs.rows) ∧
    (AtMostOneDefault false s.com.ids.rows ∧ AtMostOneDefault true s.com.keys.rows ∧
      AtMostOneDefault true s.com.certs.rows) := by
  have h := sysInv_run fn ops
  exact ⟨⟨atMostOne_of_defU h.cur.ids.defu, atMostOne_of_defU h.cur.keys.defu, atMostOne_of_defU h.cur.certs.defu⟩,
    ⟨atMostOne_of_defU h.com.ids.defu, atMostOne_of_defU h.com.keys.defu, atMostOne_of_defU h.com.certs.defu⟩⟩

/-- specification: every populated scope either has a default row or is recorded (ghost `lost`) as a scope
    whose default row was deleted and that has had no default since -/
def DefaultUnlessDeleted {ν : Type} (sc : Bool) (T : Tab ν) : Prop :=
  ∀ r ∈ T.rows, (∃ d ∈ T.rows, d.dflt = true ∧ sameScope sc r.owner d.owner = true) ∨ scopeKey sc r.owner ∈ T.lost

theorem defaultUnlessDeleted_of_inv {ν : Type} [DecidableEq ν] {sc : Bool} {T : Tab ν} (h : TabInv sc T) :
    DefaultUnlessDeleted sc T := by
  intro r hr
  cases hx : hasDefault sc r.owner T.rows
  · exact Or.inr (h.lost r hr hx)
  · exact Or.inl (hasDefault_iff.mp hx)

/-- After any history a keychain with identities has a default identity, an identity with keys a default key, a key
    with certificates a default certificate - unless that scope's default was deleted and none has been set or
    inserted since.  Stated for `cur`; `sysInv_run` gives the same for `com`. -/
theorem default_exists (fn : KeyName → FileName) (ops : List (Op × Option Nat)) :
    let s := run (Sys.init fn) ops
    DefaultUnlessDeleted false s.cur.ids ∧ DefaultUnlessDeleted true s.cur.keys ∧
      DefaultUnlessDeleted true s.cur.certs := by
  have h := sysInv_run fn ops
  exact ⟨defaultUnlessDeleted_of_inv h.cur.ids, defaultUnlessDeleted_of_inv h.cur.keys,
    defaultUnlessDeleted_of_inv h.cur.certs⟩

/-- what the ghost means: `Tab.apply` (INSERT / UPDATE) never adds a scope to `lost` and drops those that have a
    default again; `Tab.delete` adds a scope only when it deletes a default row of that scope. -/
theorem lost_only_by_deleting_default {ν : Type} [DecidableEq ν] (sc : Bool) (T : Tab ν) (k : Nat) :
    (∀ f, k ∈ (T.apply sc f).lost → k ∈ T.lost ∧ hasDefault sc k (f T.rows) = false) ∧
    (∀ p, k ∈ (T.delete sc p).lost →
      (k ∈ T.lost ∨ ∃ d ∈ T.rows, p d = true ∧ d.dflt = true ∧ scopeKey sc d.owner = k) ∧
      hasDefault sc k (T.rows.filter fun x => !p x) = false) :=
  ⟨fun _ => mem_lost_apply.mp, fun _ => mem_lost_delete.mp⟩

/-- specification of a mapping view: `iter` has no repetitions, `len` is its length, lookup succeeds exactly on the
    iterated names and returns the entry of that name -/
structure ConsistentView {κ ρ : Type} (len : Nat) (iter : List κ) (get : κ → Option ρ) (nameOf : ρ → κ) : Prop where
  len_eq : len = iter.length
  nodup : iter.Nodup
  mem_iff : ∀ x, x ∈ iter ↔ (get x).isSome = true
  get_name : ∀ x r, get x = some r → nameOf r = x

theorem find_view {ν : Type} [DecidableEq ν] {t : Table ν} (hn : NamesU t) (q : Row ν → Bool) :
    ConsistentView (t.filter q).length ((t.filter q).map (·.name))
      (fun x => t.find? fun r => r.name = x && q r) (·.name) := by
  refine ⟨by simp, ?_, fun x => ?_, fun x r h => ?_⟩
  · have := (namesU_iff _).mp (List.Pairwise.filter q hn)
    exact this
  · simp only [List.mem_map, List.mem_filter, List.find?_isSome, Bool.and_eq_true, decide_eq_true_eq]
    constructor
    · rintro ⟨r, ⟨hr, hq⟩, rfl⟩; exact ⟨r, hr, rfl, hq⟩
    · rintro ⟨r, hr, rfl, hq⟩; exact ⟨r, ⟨hr, hq⟩, rfl⟩
  · have := List.find?_some h
    simp only [Bool.and_eq_true, decide_eq_true_eq] at this
    exact this.1

theorem owner_unique {ν : Type} [DecidableEq ν] {t : Table ν} (hn : NamesU t) {o o' : Nat} {x : ν}
    (h1 : x ∈ (t.filter fun r => r.owner == o).map (·.name)) (h2 : x ∈ (t.filter fun r => r.owner == o').map (·.name)) :
    o = o' := by
  simp only [List.mem_map, List.mem_filter, beq_iff_eq] at h1 h2
  obtain ⟨r1, ⟨hr1, ho1⟩, hn1⟩ := h1
  obtain ⟨r2, ⟨hr2, ho2⟩, hn2⟩ := h2
  rw [← ho1, ← ho2, pairwise_inj hn hr1 hr2 (hn1.trans hn2.symm)]

/-- After any history the keychain over identities, every identity (row id `o`) over its keys and every key over its
    certificates are consistent mappings, `v[x]` is owned by `o`, and views of different owners are disjoint. -/
theorem views_agree (fn : KeyName → FileName) (ops : List (Op × Option Nat)) :
    let d := (run (Sys.init fn) ops).cur
    ConsistentView (idLen d) (idIter d) (idRow? d) (·.name) ∧
    (∀ o, ConsistentView (keyLen d o) (keyIter d o) (keyRow? d o) (·.name) ∧
        ∀ k r, keyRow? d o k = some r → r.owner = o) ∧
    (∀ o, ConsistentView (certLen d o) (certIter d o) (certRow? d o) (·.name) ∧
        ∀ c r, certRow? d o c = some r → r.owner = o) ∧
    (∀ o o' k, k ∈ keyIter d o → k ∈ keyIter d o' → o = o') ∧
    (∀ o o' c, c ∈ certIter d o → c ∈ certIter d o' → o = o') := by
  intro d
  have h := (sysInv_run fn ops).cur
  refine ⟨?_, fun o => ⟨?_, fun k r hr => ?_⟩, fun o => ⟨?_, fun c r hr => ?_⟩, ?_, ?_⟩
  · have := find_view h.ids.names (fun _ => true)
    have hf : d.ids.rows.filter (fun _ => true) = d.ids.rows := List.filter_eq_self.mpr (fun _ _ => rfl)
    simp only [Bool.and_true] at this
    rw [hf] at this
    exact this
  · exact find_view h.keys.names (fun r => r.owner == o)
  · exact (keyRow?_some hr).2.2
  · exact find_view h.certs.names (fun r => r.owner == o)
  · exact (find_name_owner hr).2.2
  · exact fun _ _ _ => owner_unique h.keys.names
  · exact fun _ _ _ => owner_unique h.certs.names

/-- specification: the key and the certificate that signing arguments designate: certificate `c` and the key it is
    named after; key `k` and its default certificate; identity `n` (or the default identity), its default key and
    that key's default certificate -/
inductive Selected (d : Db) : Sel → KeyName → CertName → Prop
  | cert (c : CertName) : Selected d (.cert c) c.key c
  | key (ir : Row Nat) (kr : Row KeyName) (cr : Row CertName) :
      ir ∈ d.ids.rows → kr ∈ d.keys.rows → kr.owner = ir.rid → ir.name = kr.name.idn →
      cr ∈ d.certs.rows → cr.owner = kr.rid → cr.dflt = true → Selected d (.key kr.name) kr.name cr.name
  | ident (ir : Row Nat) (kr : Row KeyName) (cr : Row CertName) :
      ir ∈ d.ids.rows → kr ∈ d.keys.rows → kr.owner = ir.rid → kr.dflt = true →
      cr ∈ d.certs.rows → cr.owner = kr.rid → cr.dflt = true → Selected d (.ident ir.name) kr.name cr.name
  | dflt (ir : Row Nat) (kr : Row KeyName) (cr : Row CertName) :
      ir ∈ d.ids.rows → ir.dflt = true → kr ∈ d.keys.rows → kr.owner = ir.rid → kr.dflt = true →
      cr ∈ d.certs.rows → cr.owner = kr.rid → cr.dflt = true → Selected d .dflt kr.name cr.name

theorem selected_of_resolve {d : Db} {sel : Sel} {k : KeyName} {c : CertName}
    (h : resolve d sel = some (k, c)) : Selected d sel k c := by
  cases sel <;>
    simp only [resolve, Option.bind_eq_bind, Option.bind_eq_some_iff, Option.pure_def, Option.some.injEq,
      Prod.mk.injEq] at h
  case cert c' =>
    obtain ⟨rfl, rfl⟩ := h
    exact .cert _
  case key k' =>
    obtain ⟨ir, hi, kr, hk, cr, hc, rfl, rfl⟩ := h
    obtain ⟨hk1, rfl, hko⟩ := keyRow?_some hk
    obtain ⟨hc1, hc2, hc3⟩ := defaultCert?_some hc
    exact .key ir kr cr (idRow?_some hi).1 hk1 hko (idRow?_some hi).2 hc1 hc3 hc2
  case ident n =>
    obtain ⟨ir, hi, kr, hk, cr, hc, rfl, rfl⟩ := h
    obtain ⟨hi1, rfl⟩ := idRow?_some hi
    obtain ⟨hk1, hk2, hk3⟩ := defaultKey?_some hk
    obtain ⟨hc1, hc2, hc3⟩ := defaultCert?_some hc
    exact .ident ir kr cr hi1 hk1 hk3 hk2 hc1 hc3 hc2
  case dflt =>
    obtain ⟨ir, hi, kr, hk, cr, hc, rfl, rfl⟩ := h
    obtain ⟨hi1, hi2⟩ := find_spec hi
    obtain ⟨hk1, hk2, hk3⟩ := defaultKey?_some hk
    obtain ⟨hc1, hc2, hc3⟩ := defaultCert?_some hc
    exact .dflt ir kr cr hi1 hi2 hk1 hk3 hk2 hc1 hc3 hc2

theorem init_fn (fn : KeyName → FileName) (ops : List (Op × Option Nat)) : (run (Sys.init fn) ops).cfg.fn = fn := by
  rw [run_cfg]; rfl

/-- After any history, for ANY file-name function: every key row (seen by the connection, and committed) has its
    private-key file, holding the private key of the row's public key (`key_bits`); no two stored key names share a
    file name; no private key is in two files. -/
theorem key_files_match (fn : KeyName → FileName) (ops : List (Op × Option Nat)) :
    let s := run (Sys.init fn) ops
    (∀ r ∈ s.cur.keys.rows, fileGet s.tpm (fn r.name) = some r.data) ∧
    (∀ r ∈ s.com.keys.rows, fileGet s.tpm (fn r.name) = some r.data) ∧
    (∀ a ∈ s.cur.keys.rows ++ s.com.keys.rows, ∀ b ∈ s.cur.keys.rows ++ s.com.keys.rows,
      fn a.name = fn b.name → a.name = b.name) ∧
    (∀ e1 ∈ s.tpm, ∀ e2 ∈ s.tpm, e1.2 = e2.2 → e1 = e2) := by
  intro s
  have hi := sysInv_run fn ops
  have hm := hi.matched
  rw [init_fn] at hm
  refine ⟨hm.1, hm.2, fun a ha b hb e => ?_, fun e1 h1 e2 h2 e => ?_⟩
  · have := hi.fd a.name (List.mem_map_of_mem ha) b.name (List.mem_map_of_mem hb)
    rw [init_fn] at this
    exact this e
  · exact pairwise_inj hi.privs h1 h2 e

/-- After any history, whenever `get_signer` returns a signer - freshly made or from the cache - it was made for the
    selected key, its key locator is the caller's explicit one or else the selected certificate's name, and it signs
    with the private key in the selected key's file, which belongs to the public key (`key_bits`) stored for that
    key name. -/
theorem signer_right_key (fn : KeyName → FileName) (ops : List (Op × Option Nat))
    (sel : Sel) (loc : Option Nat) (f : Option Nat)
    (sg : Signer) (s' : Sys) (h : step (run (Sys.init fn) ops) (.getSigner sel loc, f) = (.ok (some sg), s')) :
    ∃ k c, Selected (run (Sys.init fn) ops).cur sel k c ∧ sg.key = k ∧ sg.loc = locOf loc c ∧
      fileGet (run (Sys.init fn) ops).tpm (fn k) = some sg.priv ∧
      ∀ kr ∈ (run (Sys.init fn) ops).cur.keys.rows, kr.name = k → kr.data = sg.priv := by
  have hi := sysInv_run fn ops
  obtain ⟨k, c, hr, h1, h2, ht⟩ := getSigner_step hi h
  rw [init_fn] at ht
  refine ⟨k, c, selected_of_resolve hr, h1, h2, ht, fun kr hkr hn => ?_⟩
  have := hi.matched.1 kr hkr
  rw [init_fn, hn, ht] at this
  exact (Option.some.inj this).symm

/-- After any history every key row hangs below an existing identity row and is named after it, and every certificate
    row below an existing key row: no orphan rows that a later row with a re-used id could adopt.  (Foreign keys are
    off; this is the hand-written cascade order - children first - also when it is interrupted.) -/
theorem views_scoped (fn : KeyName → FileName) (ops : List (Op × Option Nat)) :
    let d := (run (Sys.init fn) ops).cur
    (∀ i ∈ d.ids.rows, ∀ k ∈ keyIter d i.rid, k.idn = i.name) ∧
    (∀ k ∈ d.keys.rows, ∃ i ∈ d.ids.rows, i.rid = k.owner) ∧
    (∀ c ∈ d.certs.rows, ∃ k ∈ d.keys.rows, k.rid = c.owner) := by
  intro d
  have h := sysInv_run fn ops
  exact ⟨fun _ hi _ hk => h.link.1.keyIter_idn h.cur.ids.rids hi hk,
    fun k hk => let ⟨i, hi, h1, _⟩ := h.link.1.keyHome k hk; ⟨i, hi, h1⟩, h.link.1.certKey⟩

/-- **delete_cascades (key).** A `del_key k` that returns normally leaves no key named `k`, no certificate below the
    row that carried the name, no private-key file for `k`; all committed; other keys and identities untouched. -/
theorem del_key_cascades (fn : KeyName → FileName) (ops : List (Op × Option Nat)) (k : KeyName) (f : Option Nat)
    (r : Option Signer) (s' : Sys) (h : step (run (Sys.init fn) ops) (.delKey k, f) = (.ok r, s')) :
    let s := run (Sys.init fn) ops
    (∀ x ∈ s'.cur.keys.rows, x.name ≠ k) ∧
    (∀ kr ∈ s.cur.keys.rows, kr.name = k → ∀ c ∈ s'.cur.certs.rows, c.owner ≠ kr.rid) ∧
    fileGet s'.tpm (fn k) = none ∧ s'.com = s'.cur ∧
    (∀ x ∈ s.cur.keys.rows, x.name ≠ k → x ∈ s'.cur.keys.rows) ∧ s'.cur.ids = s.cur.ids := by
  intro s
  have hp := delKey_step h
  have hi := (sysInv_run fn ops).cur
  obtain ⟨ir, kr0, _, hkr0, hcerts⟩ := hp.found
  obtain ⟨hkr0m, hkr0n, _⟩ := keyRow?_some hkr0
  refine ⟨fun x hx => ?_, fun kr hkr hk c hc => ?_, ?_, hp.committed, fun x hx hne => ?_, hp.ids⟩
  · rw [hp.keys, List.mem_filter] at hx
    simpa using hx.2
  · have : kr = kr0 := pairwise_inj hi.keys.names hkr hkr0m (hk.trans hkr0n.symm)
    subst this
    rw [hcerts, List.mem_filter] at hc
    simpa using hc.2
  · rw [hp.tpm, init_fn]
    exact fileGet_remove_self _ _
  · rw [hp.keys, List.mem_filter]
    exact ⟨hx, by simp [hne]⟩

/-- **delete_cascades (identity).** A `del_identity n` that returns normally leaves no identity named `n` and, for
    every key row that was below it, no key of that name, no private-key file, no certificate; all committed. -/
theorem del_identity_cascades (fn : KeyName → FileName) (ops : List (Op × Option Nat)) (n : Nat) (f : Option Nat)
    (r : Option Signer) (s' : Sys) (h : step (run (Sys.init fn) ops) (.delIdentity n, f) = (.ok r, s')) :
    let s := run (Sys.init fn) ops
    (∀ x ∈ s'.cur.ids.rows, x.name ≠ n) ∧
    (∀ ir ∈ s.cur.ids.rows, ir.name = n → ∀ kr ∈ s.cur.keys.rows, kr.owner = ir.rid →
      (∀ x ∈ s'.cur.keys.rows, x.name ≠ kr.name) ∧ fileGet s'.tpm (fn kr.name) = none ∧
      ∀ c ∈ s'.cur.certs.rows, c.owner ≠ kr.rid) ∧
    s'.com = s'.cur := by
  intro s
  have hi := (sysInv_run fn ops).cur
  have hp := delIdentity_step hi.keys.names h
  obtain ⟨ir0, hir0, hkeys, hcerts, htpm, _⟩ := hp.found
  obtain ⟨hir0m, hir0p⟩ := idRow?_some hir0
  refine ⟨fun x hx => ?_, fun ir hir hname kr hkr hown => ?_, hp.committed⟩
  · rw [hp.idsGone, List.mem_filter] at hx
    simpa using hx.2
  · have : ir = ir0 := pairwise_inj hi.ids.names hir hir0m (hname.trans hir0p.symm)
    subst this
    have hmem : kr.name ∈ keyIter s.cur ir.rid := mem_keyIter.mpr ⟨kr, hkr, hown, rfl⟩
    refine ⟨fun x hx => ?_, ?_, fun c hc => (hcerts c hc).2 kr hkr hmem⟩
    · rw [hkeys, List.mem_filter] at hx
      intro e
      rw [e] at hx
      have := hx.2
      simp only [Bool.not_eq_true', decide_eq_false_iff_not] at this
      exact this hmem
    · rw [htpm, init_fn]
      refine fileGet_filter (b := false) fun e _ he => ?_
      simp only [Bool.not_eq_false', decide_eq_true_eq]
      rw [he]
      exact List.mem_map_of_mem hmem

/-- private key `q` is in no file and will never be generated again -/
def PrivGone (q : Nat) (t : List (FileName × Nat)) (n : Nat) : Prop := (∀ e ∈ t, e.2 ≠ q) ∧ q < n

theorem privGone_ok (q : Nat) : JOk (PrivGone q) := by
  refine ⟨fun t n f h => ⟨fun e he => ?_, by have := h.2; omega⟩, fun t n p h => ⟨fun e he => h.1 e (List.mem_filter.mp he).1, h.2⟩⟩
  rcases mem_writeFile he with he | rfl
  · exact h.1 e he
  · have := h.2
    show n ≠ q
    omega

/-- a private key that is in no file and whose number is used up is not handed out again: the slot `J := PrivGone q`
    of the invariant carries that through every later operation -/
theorem no_signer_of_privGone {s s' : Sys} {q : Nat} (h : SysInv (PrivGone q) s) (ops : List (Op × Option Nat))
    {sel : Sel} {loc f : Option Nat} {sg : Signer}
    (hget : step (run s ops) (.getSigner sel loc, f) = (.ok (some sg), s')) : sg.priv ≠ q := by
  have h' := h.run (privGone_ok q) ops
  obtain ⟨_, _, _, _, _, hk⟩ := getSigner_step h' hget
  exact h'.extra.1 _ (fileGet_some_mem hk)

theorem delKey_privGone {s s2 : Sys} (h : Inv s) {k : KeyName} {f : Option Nat} {r : Option Signer}
    (hdel : step s (.delKey k, f) = (.ok r, s2)) :
    ∃ kr ∈ s.cur.keys.rows, kr.name = k ∧ fileGet s.tpm (s.cfg.fn k) = some kr.data ∧
      PrivGone kr.data s2.tpm s2.nextKid := by
  have hp := delKey_step hdel
  obtain ⟨_, kr, _, hkr, _⟩ := hp.found
  obtain ⟨hkrm, hkrn, _⟩ := keyRow?_some hkr
  have hfile : fileGet s.tpm (s.cfg.fn k) = some kr.data := hkrn ▸ h.matched.1 kr hkrm
  have hmem := fileGet_some_mem hfile
  refine ⟨kr, hkrm, hkrn, hfile, fun e he he2 => ?_, hp.kid ▸ h.kids _ hmem⟩
  rw [hp.tpm] at he
  obtain ⟨he1, he3⟩ := List.mem_filter.mp he
  -- no private key is in two files, so `e` is the file of `k`: the one that was removed
  rw [pairwise_inj h.privs he1 hmem he2] at he3
  simp at he3

/-- Once `del_key k` has returned normally, no later `get_signer` - whatever the history in between (the SAME key
    name may be generated again), faults, arguments, cached or not - returns a signer that signs with the deleted
    key's private key. -/
theorem no_signer_for_deleted (fn : KeyName → FileName) (ops1 ops2 : List (Op × Option Nat)) (k : KeyName)
    (f f' : Option Nat) (r : Option Signer) (s2 s' : Sys) (sel : Sel) (loc : Option Nat) (sg : Signer)
    (hdel : step (run (Sys.init fn) ops1) (.delKey k, f) = (.ok r, s2))
    (hget : step (run s2 ops2) (.getSigner sel loc, f') = (.ok (some sg), s')) :
    ∃ kr ∈ (run (Sys.init fn) ops1).cur.keys.rows, kr.name = k ∧
      fileGet (run (Sys.init fn) ops1).tpm (fn k) = some kr.data ∧ sg.priv ≠ kr.data := by
  have h1 := sysInv_run fn ops1
  obtain ⟨kr, hkr, hn, hfile, hgone⟩ := delKey_privGone h1 hdel
  have h2 := h1.step JOk.trivial (.delKey k, f)
  rw [hdel] at h2
  rw [init_fn] at hfile
  exact ⟨kr, hkr, hn, hfile, no_signer_of_privGone (h2.withJ hgone) ops2 hget⟩

/-- a key-generating operation, run without injected failure, answered IntegrityError: in python-ndn, the key name
    `new_key` constructed or the name of its self-signed certificate is already in the database.  It is the only way
    a failure-free operation can end with uncommitted work (`step_committed`); a `new_key` with the id of a LIVE key is
    refused with ValueError before anything is written (`live_key_id_refused`). -/
def KeyGenClash (s : Sys) (op : Op) : Prop :=
  op.keyGen = true ∧ (step s (op, none)).1 = .error .integrityError

/-- a history without injected failures in which no operation is a `KeyGenClash` -/
def NoClash : Sys → List Op → Prop
  | _, [] => True
  | s, op :: r => ¬ KeyGenClash s op ∧ NoClash (step s (op, none)).2 r

theorem clean_run (ops : List Op) : ∀ s : Sys, s.cur = s.com → NoClash s ops →
    (run s (ops.map fun o => (o, none))).cur = (run s (ops.map fun o => (o, none))).com := by
  induction ops with
  | nil => intro s h _; exact h
  | cons o r ih =>
    intro s hc hn
    exact ih _ ((step_committed o hc).resolve_right hn.1) hn.2

/-- After any history without injected storage failures in which key generation never hit an IntegrityError, nothing
    is uncommitted, so reopening the store changes neither the database the connection sees nor the private-key
    store.  The content is `s.cur = s.com`; the other conjuncts hold of `reopen` by definition. -/
theorem reopen_same (fn : KeyName → FileName) (ops : List Op) (h : NoClash (Sys.init fn) ops) :
    let s := run (Sys.init fn) (ops.map fun o => (o, none))
    let s' := (step s (.reopen, none)).2
    s.cur = s.com ∧ s'.cur = s.cur ∧ s'.com = s.com ∧ s'.tpm = s.tpm ∧ s'.nextKid = s.nextKid ∧ s'.cache = [] := by
  intro s s'
  have hc : s.cur = s.com := clean_run ops (Sys.init fn) rfl h
  refine ⟨hc, ?_, rfl, rfl, rfl, rfl⟩
  show s.com = s.cur
  exact hc.symm

/-- After any history, a `new_key` - whatever its arguments and fault schedule - that is refused with ValueError
    (unsupported key type or `key_id_type`, or a key name whose private key is already stored) leaves the whole
    system state unchanged.  Left out: the ValueError of `self_sign` (`C16.self_instants`: 29 February, year + 20 not
    a leap year), which the code meets after the key file is written; the model's `newKey` has no raise there. -/
theorem new_key_refused_unchanged (fn : KeyName → FileName) (ops : List (Op × Option Nat)) (n : Nat) (bad : Bool)
    (spec : KeyIdSpec) (f : Option Nat) :
    let s := run (Sys.init fn) ops
    (step s (.newKey n bad spec, f)).1 = .error .valueError → (step s (.newKey n bad spec, f)).2 = s :=
  newKey_step_valueError (run_fault _ ops rfl)

/-- After any history, `new_key` (no failure scheduled for it) with the explicit key id of a key that is in the
    database is refused with ValueError and (`new_key_refused_unchanged`) nothing changes: the live key keeps its
    private key. -/
theorem live_key_id_refused (fn : KeyName → FileName) (ops : List (Op × Option Nat)) (n x : Nat) (bad : Bool)
    (hlive : ∃ kr ∈ (run (Sys.init fn) ops).cur.keys.rows, kr.name = ⟨n, .lit x⟩) :
    step (run (Sys.init fn) ops) (.newKey n bad (.explicit x), none) = (.error .valueError, run (Sys.init fn) ops) := by
  have hi := sysInv_run fn ops
  obtain ⟨kr, hkr, hn⟩ := hlive
  refine newKey_step_refuses bad (run_fault _ ops rfl) ?_ hi.guard ?_
  · obtain ⟨i, him, _, hin⟩ := hi.link.1.keyHome kr hkr
    rw [hn] at hin
    simp only [idRow?, List.find?_isSome, decide_eq_true_eq]
    exact ⟨i, him, hin⟩
  · have := hi.matched.1 kr hkr
    rw [hn] at this
    simp [fileHas, this]

/-- a file-name function for the concrete histories -/
def demoFn (k : KeyName) : FileName :=
  match k.kid with
  | .rnd p => 3 * (k.idn * 1000 + p)
  | .lit x => 3 * (k.idn * 1000 + x) + 1
  | .hash p => 3 * (k.idn * 1000 + p) + 2

/-- the key `/1/KEY/x1` -/
abbrev demoKey : KeyName := ⟨1, .lit 1⟩
/-- `new_identity 1; new_key(1, key_id=x1)` -/
abbrev demoPre : List (Op × Option Nat) := [(.newIdentity 1, none), (.newKey 1 false (.explicit 1), none)]
/-- `new_key(1, key_id=x1)` once more -/
abbrev demoAgain : Op × Option Nat := (.newKey 1 false (.explicit 1), none)

/-- The code before the repair (`Sys.initUnchanged`: `save_key` overwrites): in `new_identity 1; new_key(1, key_id=x1);
    new_key(1, key_id=x1)` the second `new_key` is refused by the database (IntegrityError), but the live key's
    private-key file has been overwritten already: the row holds the public key of key pair 0, the file private key 1,
    and after a reopen `get_signer` signs with private key 1.  On the repaired code: ValueError, private key 0. -/
theorem unchanged_new_key_overwrites_live_key :
    (step (run (Sys.initUnchanged demoFn) demoPre) demoAgain).1 = .error .integrityError ∧
    (run (Sys.initUnchanged demoFn) (demoPre ++ [demoAgain, (.reopen, none)])).cur.keys.rows.map (fun r => (r.name, r.data))
      = [(demoKey, 0)] ∧
    fileGet (run (Sys.initUnchanged demoFn) (demoPre ++ [demoAgain, (.reopen, none)])).tpm (demoFn demoKey) = some 1 ∧
    (step (run (Sys.initUnchanged demoFn) (demoPre ++ [demoAgain, (.reopen, none)]))
      (.getSigner (.key demoKey) none, none)).1 = .ok (some ⟨demoKey, .cert ⟨demoKey, 0⟩, 1⟩) ∧
    (step (run (Sys.init demoFn) demoPre) demoAgain).1 = .error .valueError ∧
    (step (run (Sys.init demoFn) (demoPre ++ [demoAgain, (.reopen, none)]))
      (.getSigner (.key demoKey) none, none)).1 = .ok (some ⟨demoKey, .cert ⟨demoKey, 0⟩, 0⟩) := by decide +kernel

/-- a file-name function WITH collisions (all keys of an identity on one file): a second key of the identity is
    refused (ValueError), so the two names are never stored together -/
example :
    let s := run (Sys.init fun k => k.idn) [(.touchIdentity 1, none), (.touchIdentity 2, none)]
    (step s (.newKey 1 false .random, none)).1 = .error .valueError ∧
    (step s (.newKey 2 false (.explicit 4), none)).1 = .error .valueError ∧
    s.tpm = [(1, 0), (2, 1)] := by decide +kernel

/-- two identities, the second identity has two keys: exactly one default per scope -/
example :
    let s := run (Sys.init demoFn) [(.touchIdentity 1, none), (.touchIdentity 2, none), (.newKey 2 false .random, none)]
    s.cur.ids.rows.map (fun r => (r.name, r.dflt)) = [(1, true), (2, false)] ∧
    s.cur.keys.rows.map (fun r => (r.name, r.owner, r.dflt, r.data)) =
      [(⟨1, 0⟩, 1, true, 0), (⟨2, 1⟩, 2, true, 1), (⟨2, 2⟩, 2, false, 2)] := by decide +kernel

/-- deleting the default identity leaves a populated scope without default, recorded in `lost`; a later insert gives
    it a default again and clears the record -/
example :
    let s := run (Sys.init demoFn) [(.touchIdentity 1, none), (.touchIdentity 2, none), (.delIdentity 1, none)]
    hasDefault false 0 s.cur.ids.rows = false ∧ s.cur.ids.lost = [0] ∧
    (run s [(.newIdentity 3, none)]).cur.ids.lost = [] ∧
    (run s [(.newIdentity 3, none)]).cur.ids.rows.map (fun r => (r.name, r.dflt)) = [(2, false), (3, true)] := by
  decide +kernel

/-- `get_signer` with an explicit locator and a non-default key; via the cache; for a key whose id is the hash of its
    public key -/
example :
    let s := run (Sys.init demoFn) [(.touchIdentity 1, none), (.newKey 1 false (.explicit 7), none),
      (.newKey 1 false .sha256, none)]
    (step s (.getSigner (.key ⟨1, .lit 7⟩) (some 5), none)).1 = .ok (some ⟨⟨1, .lit 7⟩, .lit 5, 1⟩) ∧
    (step (step s (.getSigner (.key ⟨1, 0⟩) (some 5), none)).2 (.getSigner (.key ⟨1, .lit 7⟩) (some 5), none)).1
      = .ok (some ⟨⟨1, .lit 7⟩, .lit 5, 1⟩) ∧
    (step s (.getSigner (.key ⟨1, .hash 2⟩) none, none)).1 = .ok (some ⟨⟨1, .hash 2⟩, .cert ⟨⟨1, .hash 2⟩, 0⟩, 2⟩) ∧
    (step s (.getSigner .dflt none, none)).1 = .ok (some ⟨⟨1, 0⟩, .cert ⟨⟨1, 0⟩, 0⟩, 0⟩) := by decide +kernel

/-- the deletes return normally; the explicit key id of the deleted key is used again and the signer for that NAME
    then signs with the new private key (2), not the deleted one (1) -/
example :
    let s := run (Sys.init demoFn) [(.touchIdentity 1, none), (.newKey 1 false (.explicit 7), none),
      (.importCert ⟨1, 0⟩ ⟨⟨1, 0⟩, 2⟩, none)]
    (step s (.delKey ⟨1, .lit 7⟩, none)).1 = .ok none ∧
    (step s (.delIdentity 1, none)).1 = .ok none ∧
    (step (step s (.delKey ⟨1, 0⟩, none)).2 (.getSigner (.key ⟨1, .lit 7⟩) none, none)).1
      = .ok (some ⟨⟨1, .lit 7⟩, .cert ⟨⟨1, .lit 7⟩, 0⟩, 1⟩) ∧
    (step (step s (.delKey ⟨1, 0⟩, none)).2 (.getSigner (.ident 1) none, none)).1 = .error .keyError ∧
    (step (step s (.delKey ⟨1, 0⟩, none)).2 (.getSigner (.cert ⟨⟨1, 0⟩, 0⟩) none, none)).1 = .error .keyError ∧
    (step (run s [(.delKey ⟨1, .lit 7⟩, none), (.newKey 1 false (.explicit 7), none)])
      (.getSigner (.key ⟨1, .lit 7⟩) none, none)).1 = .ok (some ⟨⟨1, .lit 7⟩, .cert ⟨⟨1, .lit 7⟩, 0⟩, 2⟩) := by
  decide +kernel

/-- the three refusals (key id of a live key, unsupported `key_id_type`, unsupported key type), also with a fault
    scheduled behind the refusal -/
example :
    let s := run (Sys.init demoFn) [(.touchIdentity 1, none), (.newKey 1 false (.explicit 7), none)]
    (step s (.newKey 1 false (.explicit 7), none)).1 = .error .valueError ∧
    (step s (.newKey 1 false (.explicit 7), some 3)).1 = .error .valueError ∧
    (step s (.newKey 1 false .badType, none)).1 = .error .valueError ∧
    (step s (.newKey 1 true .random, none)).1 = .error .valueError ∧
    -- the same key id under another identity is another key name: accepted
    (step (run s [(.touchIdentity 2, none)]) (.newKey 2 false (.explicit 7), none)).1 = .ok none := by decide +kernel

/-- a storage failure inside `del_key`, after the certificates were deleted: uncommitted work -/
example :
    let s := (step (run (Sys.init demoFn) [(.touchIdentity 1, none)]) (.delKey ⟨1, 0⟩, some 1)).2
    s.cur.certs.rows.length = 0 ∧ s.cur.keys.rows.length = 1 ∧ s.com.certs.rows.length = 1 := by decide +kernel

/-- a history satisfying `NoClash` -/
example : NoClash (Sys.init demoFn) [.touchIdentity 1, .newKey 1 false (.explicit 7), .importCert ⟨1, 0⟩ ⟨⟨1, 0⟩, 0⟩,
    .delKey ⟨1, .lit 7⟩] := by
  refine ⟨fun h => absurd h.2 (by decide +kernel), fun h => absurd h.2 (by decide +kernel), fun h => absurd h.1 (by decide +kernel),
    fun h => absurd h.1 (by decide +kernel), trivial⟩

end Ndn.C15
