import NdnProofs.Lemmas.Lvs.Sanity
import NdnProofs.Lemmas.Lvs.SignOrder
import NdnProofs.Lemmas.Lvs.Sem
import NdnProofs.Lemmas.Lvs.Example
import NdnProofs.Lemmas.Lvs.CompileSane
import NdnProofs.Lemmas.Lvs.CompileExample
import NdnProofs.Lemmas.Lvs.CompileComplete
import NdnProofs.Lemmas.Lvs.SrcExec
import NdnProofs.Lemmas.Lvs.KeyExp
/-!
# C13 — ill-formed models are rejected; every query on an accepted model terminates

Model: `Ndn.Lvs.sanityCheck` (`Checker._sanity_check`: version, `dfs`, `top_order`) and the iterative matcher
`stepG` / `runG` / `matchIter` (`Checker._match`).  Specification (`NdnModel/Lvs/Sem.lean`): `Sane m`, the six rules of
docs/src/lvs/binary-format.rst "Sanity Check" (the node-id rule for every node, the others over the reachable nodes).

For the compiler model (`Ndn.Lvs.compile`): it raises, and then `SemanticError`, exactly on the schemas with a static
error (`compile_ok_iff_static`, `compile_rejects_*`); what it emits is accepted by the loader iff its nodes do not sign
each other in a cycle (`compile_accepted_iff`).  At the level of the text: all chains that end at one node have one *shape*
(length, and component values at the same positions), so a schema in which no shape of a name pattern (expansion of a
definition) is, directly or transitively, the shape of one of its signers is accepted (`compile_sane_src`).  An acyclic
*rule-level* signing graph does NOT suffice: two rules with the same name pattern share one node
(`mergedSigner_counterexample`).  The exact criterion (equal merge-key paths) is in `Props/C13Keys.lean`, `Checker.load`
on every byte string in `Props/C13Load.lean`.

Not proved: an exact criterion in terms of the text alone for schemas WITH temporary patterns (two chains share a
temporary pattern only when both inline the same chain of the same rule, which the source semantics has no name for), and
model = code, which rests on the correspondence run and the schema-level oracle.
-/
namespace Ndn.C13
open Ndn Ndn.Lvs

/-- The structural part of the loader's check (version, the loop over the node array, `dfs`) succeeds exactly on the
    models that obey the documented sanity rules. -/
theorem sanity_iff_documented (m : Model) : structCheck m = true ↔ Sane m :=
  ⟨sane_of_structCheck m, structCheck_of_sane m⟩

theorem modelError_iff_not_sane (m : Model) : sanityCheck m = .error .modelError ↔ ¬ Sane m := by
  rw [sanityCheck_modelError_iff, ← sanity_iff_documented, Bool.not_eq_true]

theorem rejected_of (m : Model) (h1 : structCheck m = false) : sanityCheck m = .error .modelError :=
  (sanityCheck_modelError_iff m).mpr h1

/-- "Every node's NodeId equals to its index in the array" holds of every node, reachable or not; otherwise
    `LvsModelError` (before `top_order` can see the identifier). -/
theorem load_rejects_bad_node_id (m : Model) (i : Nat) (node : Node) (hn : m.nodes[i]? = some node)
    (hid : node.id ≠ some i) : sanityCheck m = .error .modelError := by
  rw [modelError_iff_not_sane]
  exact fun hs => hid (hs.ids i node hn)

theorem accepted_sane (m : Model) (h : sanityCheck m = .ok ()) : Sane m :=
  sane_of_sanityCheck h

/-- On every accepted model the search ends (`cur` becomes `None`) within `stepBound (maxPE m) |name|` iterations, whatever
    the name, the initial context and the `user_fns` dictionary. -/
theorem match_terminates (m : Model) (h : sanityCheck m = .ok ()) (env : FnEnv) (name : List Bytes) (ctx : Ctx) :
    ∃ k, k ≤ stepBound (maxPE m) name.length ∧
      (runG m (edgeFn m env) name k (initSt m ctx)).cur = none :=
  ⟨_, Nat.le_refl _, matchIter_halts m (accepted_sane m h).treeOK env name ctx⟩

theorem match_stable (m : Model) (h : sanityCheck m = .ok ()) (env : FnEnv) (name : List Bytes) (ctx : Ctx)
    (k : Nat) (hk : stepBound (maxPE m) name.length ≤ k) :
    runG m (edgeFn m env) name k (initSt m ctx) = matchIter m env name ctx :=
  runG_of_le _ _ _ _ _ _ hk (matchIter_halts m (accepted_sane m h).treeOK env name ctx)

/-- `check` runs `_match` once on the packet name and once per packet match on the key name; each search ends. -/
theorem check_terminates (m : Model) (h : sanityCheck m = .ok ()) (env : FnEnv) (pkt key : List Bytes) :
    (matchIter m env pkt []).cur = none ∧ ∀ σ, (matchIter m env key σ).cur = none :=
  ⟨matchIter_halts m (accepted_sane m h).treeOK env pkt [],
   fun σ => matchIter_halts m (accepted_sane m h).treeOK env key σ⟩

theorem match_no_exception (m : Model) (h : sanityCheck m = .ok ()) (env : FnEnv) (henv : EnvTotal env)
    (name : List Bytes) (ctx : Ctx) : (matchIter m env name ctx).err = none :=
  matchIter_no_err m (accepted_sane m h) env henv name ctx

/-- A sane model in which reachable nodes sign each other in a cycle is refused with `SemanticError`: this is how a
    schema with cyclic signing relations is caught when the checker is built. -/
theorem sign_cycle_rejected (m : Model) (hs : Sane m) (C : List Nat) (hne : ∃ c, c ∈ C)
    (hC : ∀ c ∈ C, ∃ p ∈ C, Reach m p ∧ ∃ pnode, m.nodes[p]? = some pnode ∧ c ∈ pnode.signCons) :
    sanityCheck m = .error .semanticError :=
  (sanityCheck_semanticError_iff_sane m).mpr ⟨hs, C, hne, hC⟩

/-- A reference to a temporary rule (`#_x`) or to an undefined identifier: `SemanticError`. -/
theorem compile_rejects_bad_reference (S : Schema) (r : SRule) (hr : r ∈ S.rules) (c : String)
    (hc : Comp.ref c ∈ r.name) (h : isTempRule c = true ∨ ∀ r' ∈ S.rules, r'.id ≠ c) :
    compile S = .error .semantic :=
  (compile_spec S).not fun hs => by
    obtain ⟨ht, r', hr', hid⟩ := hs.refs.defined r hr c hc
    exact h.elim (fun h => Bool.false_ne_true (ht.symm.trans h)) fun h => h r' hr' hid

/-- Cyclic rule references (in particular a rule referring to itself): `SemanticError` ("Loop detected"). -/
theorem compile_rejects_reference_cycle (S : Schema) (C : List String) (hne : C ≠ [])
    (hC : ∀ c ∈ C, ∃ r ∈ S.rules, r.id ∈ C ∧ Comp.ref c ∈ r.name) :
    compile S = .error .semantic :=
  (compile_spec S).not fun hs => hs.refs.acyclic ⟨C, hne, hC⟩

/-- `BadTerm`: a constraint on a pattern that is written nowhere (a temporary one: not in the rule's own name pattern), or
    an option / user-function argument that is a temporary pattern or written nowhere: `SemanticError`. -/
theorem compile_rejects_bad_constraint (S : Schema) (r : SRule) (hr : r ∈ S.rules) (cs : List (Term String String))
    (hcs : cs ∈ r.cons) (t : Term String String) (ht : t ∈ cs) (hbad : BadTerm S.rules r t) :
    compile S = .error .semantic :=
  (compile_spec S).not fun hs => hs.terms r hr cs hcs t ht hbad

/-- A signer that is not the identifier of a rule (temporary rules count under their renamed identifier `#_x#k`, which
    no signer can spell): `SemanticError`. -/
theorem compile_rejects_undefined_signer (S : Schema) (r : SRule) (hr : r ∈ S.rules) (s : String) (hs : s ∈ r.sign)
    (hbad : s ∉ ruleIds (renameTemps S.rules 1)) : compile S = .error .semantic :=
  (compile_spec S).not fun h => hbad (h.signers r hr s hs)

/-- … in particular a signer that is neither temporary nor the identifier of a rule of the schema -/
theorem compile_rejects_unknown_signer (S : Schema) (r : SRule) (hr : r ∈ S.rules) (s : String) (hs : s ∈ r.sign)
    (hnt : isTempRule s = false) (hbad : ∀ r' ∈ S.rules, r'.id ≠ s) : compile S = .error .semantic :=
  compile_rejects_undefined_signer S r hr s hs fun hin => by
    obtain ⟨r', hr', hid⟩ := (mem_ruleIds_renameTemps hnt).mp hin
    exact hbad r' hr' hid

/-- The only exception the compiler model raises is `SemanticError`: `rep_rules[comp.id]` never raises `KeyError` (after
    the topological sort references point backwards) and `_generate_node` recurses no deeper than the longest name pattern. -/
theorem compile_only_semantic_errors (S : Schema) (e : CErr) (h : compile S = .error e) : e = .semantic :=
  (compile_spec S).2 e h

/-- The compiler model accepts exactly the schemas without static error (`StaticOK`) and otherwise raises `SemanticError`. -/
theorem compile_ok_iff_static (S : Schema) :
    ((∃ res, compile S = .ok res) ↔ StaticOK S) ∧ (compile S = .error .semantic ↔ ¬ StaticOK S) :=
  ⟨(compile_spec S).1, (compile_spec S).error_iff⟩

/-- What a well-formed AST (`Schema.WF`: what the grammar guarantees) compiles to obeys the documented sanity rules; the
    loader never raises `LvsModelError` on it. -/
theorem compile_structure_sane (S : Schema) (hwf : S.WF) (m : Model) (syms : List String)
    (h : compile S = .ok (m, syms)) : Sane m ∧ structCheck m = true ∧ sanityCheck m ≠ .error .modelError := by
  have hs := (compile_built S hwf m syms h).sane
  refine ⟨hs, (sanity_iff_documented m).mpr hs, ?_⟩
  rw [Ne, modelError_iff_not_sane]
  exact fun hn => hn hs

/-- The loader accepts the compiled model exactly when no reachable nodes sign each
    other in a cycle; otherwise it raises `SemanticError`. -/
theorem compile_accepted_iff (S : Schema) (hwf : S.WF) (m : Model) (syms : List String)
    (h : compile S = .ok (m, syms)) :
    (sanityCheck m = .ok () ↔ ¬ SignCycle m) ∧ (sanityCheck m = .error .semanticError ↔ SignCycle m) := by
  have hs := (compile_built S hwf m syms h).sane
  exact ⟨(sanityCheck_ok_iff_sane m).trans (and_iff_right hs),
    (sanityCheck_semanticError_iff_sane m).trans (and_iff_right hs)⟩

theorem compile_sane (S : Schema) (hwf : S.WF) (m : Model) (syms : List String)
    (h : compile S = .ok (m, syms)) (hac : ¬ SignCycle m) : sanityCheck m = .ok () :=
  (compile_accepted_iff S hwf m syms h).1.mpr hac

/-- In one piece: a parsable schema without static error compiles, and the loader accepts the result unless its nodes
    sign each other in a cycle (then `SemanticError`, never `LvsModelError`). -/
theorem compile_static_sane (S : Schema) (hwf : S.WF) (hst : StaticOK S) :
    ∃ m syms, compile S = .ok (m, syms) ∧ Sane m ∧
      (sanityCheck m = .ok () ↔ ¬ SignCycle m) ∧ (sanityCheck m = .error .semanticError ↔ SignCycle m) := by
  obtain ⟨⟨m, syms⟩, h⟩ := compile_complete S hst
  exact ⟨m, syms, h, (compile_structure_sane S hwf m syms h).1, compile_accepted_iff S hwf m syms h⟩

/-- the hypothesis is closed by evaluation: one run of `compile S` gives the model and the loader's verdict on it -/
theorem compile_accepted_of {S : Schema}
    (h : (match compile S with | .ok (m, _) => structCheck m && signOK m | .error _ => false) = true) :
    ∃ m syms, compile S = .ok (m, syms) ∧ sanityCheck m = .ok () := by
  split at h
  · rw [Bool.and_eq_true] at h
    exact ⟨_, _, ‹_›, (sanityCheck_ok_iff _).mpr h⟩
  · cases h

theorem compile_refused_of {S : Schema}
    (h : (match compile S with | .ok (m, _) => structCheck m && !signOK m | .error _ => false) = true) :
    ∃ m syms, compile S = .ok (m, syms) ∧ sanityCheck m = .error .semanticError := by
  split at h
  · rw [Bool.and_eq_true, Bool.not_eq_true'] at h
    exact ⟨_, _, ‹_›, (sanityCheck_semanticError_iff _).mpr h⟩
  · cases h

/-- A signing cycle among the reachable nodes of the compiled model is a cycle among the shapes of the name patterns of
    the text. -/
theorem signCycle_shapeSelfSigning (S : Schema) (hwf : S.WF) (m : Model) (syms : List String)
    (h : compile S = .ok (m, syms)) (hcy : SignCycle m) : ShapeSelfSigning ⟨renameTemps S.rules 1⟩ := by
  obtain ⟨chains, hch, hb⟩ := compile_ok_inv h
  exact srcKeySelfSigning_shape (keySelfSigning_src S hwf chains syms hch
    ((Ndn.Lvs.signCycle_iff_keySelfSigning chains syms m (chainsOf_ok S hwf chains syms hch) hb).mp hcy))

/-- The positive clause at the level of the text: if no shape of a name pattern is, directly or transitively, the shape
    of one of its signers (`ShapeSelfSigning`), the loader accepts the compiled model. -/
theorem compile_sane_src (S : Schema) (hwf : S.WF) (m : Model) (syms : List String)
    (h : compile S = .ok (m, syms)) (hns : ¬ ShapeSelfSigning ⟨renameTemps S.rules 1⟩) : sanityCheck m = .ok () :=
  compile_sane S hwf m syms h fun hcy => hns (signCycle_shapeSelfSigning S hwf m syms h hcy)

theorem static_sane_src (S : Schema) (hwf : S.WF) (hst : StaticOK S)
    (hns : ¬ ShapeSelfSigning ⟨renameTemps S.rules 1⟩) :
    ∃ m syms, compile S = .ok (m, syms) ∧ sanityCheck m = .ok () := by
  obtain ⟨⟨m, syms⟩, h⟩ := compile_complete S hst
  exact ⟨m, syms, h, compile_sane_src S hwf m syms h hns⟩

/-- a cycle in the rule-level signing graph: a non-empty set of rule identifiers each of which is listed as signer by a
    definition of a member -/
def RuleSignCycle (S : Schema) : Prop :=
  ∃ C : List String, C ≠ [] ∧ ∀ c ∈ C, ∃ r ∈ S.rules, r.id ∈ C ∧ c ∈ r.sign

theorem not_ruleSignCycle_of_order (S : Schema) (order : List String)
    (h : ∀ r ∈ S.rules, ∀ c ∈ r.sign, order.idxOf r.id < order.idxOf c) : ¬ RuleSignCycle S := by
  rintro ⟨C, hne, hC⟩
  obtain ⟨c, hc⟩ := List.exists_mem_of_ne_nil _ hne
  -- descend along the cycle
  induction hn : order.idxOf c using Nat.strongRecOn generalizing c with
  | ind n ih =>
    obtain ⟨r, hr, hrC, hcs⟩ := hC c hc
    exact ih _ (hn ▸ h r hr c hcs) _ hrC rfl

/-- `#a: "k"/x <= #b`, `#b: "k"/x` -/
def mergedSigner : Schema := { rules := [
  { id := "#a", name := [.lit Example.cK, .pat "x"], cons := [], sign := ["#b"] },
  { id := "#b", name := [.lit Example.cK, .pat "x"], cons := [], sign := [] }] }

/-- An acyclic rule-level signing graph does NOT imply that the loader accepts: the two rules of `mergedSigner` have the
    same name pattern, so they end at one node, which lists itself as signer.  (The real `compile_lvs` / `Checker` do the
    same: corpus case `merged-signer`.) -/
theorem mergedSigner_counterexample :
    mergedSigner.WF ∧ StaticOK mergedSigner ∧ ¬ RuleSignCycle mergedSigner ∧
    ∃ m syms, compile mergedSigner = .ok (m, syms) ∧ sanityCheck m = .error .semanticError := by
  obtain ⟨m, syms, h1, h2⟩ := compile_refused_of (S := mergedSigner) (by decide +kernel)
  exact ⟨Schema.wf_of_all _ (by decide +kernel), (compile_ok_iff_static _).1.mp ⟨_, h1⟩,
    not_ruleSignCycle_of_order _ ["#a", "#b"] (by decide +kernel), m, syms, h1, h2⟩

/-- … and it is self-signing at the level of shapes, as `compile_sane_src` requires it to be -/
theorem mergedSigner_selfSigning : ShapeSelfSigning ⟨renameTemps mergedSigner.rules 1⟩ := by
  obtain ⟨hwf, _, _, m, syms, h1, h2⟩ := mergedSigner_counterexample
  apply Classical.byContradiction
  intro hns
  rw [compile_sane_src mergedSigner hwf m syms h1 hns] at h2
  simp at h2

/-- For *any* model, compiled or not: the loader accepts it exactly when it is sane and `top_order` finds no signing loop. -/
theorem compile_sane_partial (m : Model) : sanityCheck m = .ok () ↔ Sane m ∧ signOK m = true := by
  rw [sanityCheck_ok_iff, sanity_iff_documented]

theorem model_accepted : sanityCheck Example.model = .ok () :=
  (sanityCheck_ok_iff _).mpr ⟨by decide +kernel, by decide +kernel⟩

theorem signLoop_refused : sanityCheck Example.signLoop = .error .semanticError :=
  (sanityCheck_semanticError_iff _).mpr ⟨by decide +kernel, by decide +kernel⟩

example : sanityCheck Example.model = .ok () := model_accepted
example : Sane Example.model := accepted_sane _ model_accepted
/-- F10: a child of the root with a wrong parent is rejected (`node.parent != par`) … -/
example : sanityCheck Example.badRootChild = .error .modelError := rejected_of _ (by decide +kernel)
example : ¬ Sane Example.badRootChild := (modelError_iff_not_sane _).mp (rejected_of _ (by decide +kernel))
/-- an unreachable node without `NodeId`, or with a wrong one, is rejected -/
example : sanityCheck Example.extraNodeNoId = .error .modelError :=
  load_rejects_bad_node_id _ 5 { id := none, parent := none, ruleNames := [], vEdges := [], pEdges := [], signCons := [] }
    (by decide) (by decide)
example : sanityCheck Example.extraNodeWrongId = .error .modelError :=
  load_rejects_bad_node_id _ 5 { id := some 3, parent := none, ruleNames := [], vEdges := [], pEdges := [], signCons := [] }
    (by decide) (by decide)
/-- … and so is a root that records a parent (either would make `_match` loop forever) -/
example : sanityCheck Example.badRootParent = .error .modelError := rejected_of _ (by decide +kernel)
/-- on the corrupted model the search does not end within the bound (nor ever) -/
example : (matchIter Example.badRootChild Example.noFns [Example.cK, Example.cE] []).cur ≠ none := by decide +kernel
example : (matchIter Example.model Example.noFns [Example.cK, Example.cA] []).outs = [(4, [(1, Example.cA)])] := by
  decide +kernel
/-- `#p` signed by `#k` signed by `#p` -/
example : sanityCheck Example.signLoop = .error .semanticError := signLoop_refused
example : EnvTotal Example.allFns := Example.allFns_envTotal

/-! the compiler model: `#p: "d"/x <= #k`, `#k: "k"/x & {x: "a"|"b"}` compiles to `Example.model` -/
example : compile Example.schema = .ok (Example.model, ["x"]) := Example.compile_schema
example : Sane Example.model :=
  (compile_structure_sane _ Example.schema_wf _ _ Example.compile_schema).1
example : ¬ SignCycle Example.model :=
  (compile_accepted_iff _ Example.schema_wf _ _ Example.compile_schema).1.mp model_accepted
example : sanityCheck Example.model = .ok () :=
  compile_sane _ Example.schema_wf _ _ Example.compile_schema
    ((compile_accepted_iff _ Example.schema_wf _ _ Example.compile_schema).1.mp model_accepted)
/-- `#p <= #k`, `#k <= #p` compiles, and the loader refuses the result: nodes 2 and 4 sign each other -/
example : SignCycle Example.signLoop :=
  (compile_accepted_iff _ Example.schemaLoop_wf _ _ Example.compile_schemaLoop).2.mp signLoop_refused

theorem schema_static : StaticOK Example.schema := (compile_ok_iff_static Example.schema).1.mp ⟨_, Example.compile_schema⟩

example : StaticOK Example.schema := schema_static
example : ∃ m syms, compile Example.schema = .ok (m, syms) ∧ Sane m ∧
    (sanityCheck m = .ok () ↔ ¬ SignCycle m) ∧ (sanityCheck m = .error .semanticError ↔ SignCycle m) :=
  compile_static_sane Example.schema Example.schema_wf schema_static

theorem schemaBadSigner_rejected : compile Example.schemaBadSigner = .error .semantic :=
  compile_rejects_unknown_signer _ _ List.mem_cons_self "#nokey" List.mem_cons_self (by decide +kernel) (by decide +kernel)

/-- `#p: "d"/x <= #nokey` -/
example : compile Example.schemaBadSigner = .error .semantic := schemaBadSigner_rejected
example : ¬ StaticOK Example.schemaBadSigner := (compile_ok_iff_static _).2.mp schemaBadSigner_rejected
example : CErr.semantic = .semantic := compile_only_semantic_errors Example.schemaBadSigner _ schemaBadSigner_rejected
/-- `#p: #nope/"d"` -/
example : compile Example.schemaBadRef = .error .semantic :=
  compile_rejects_bad_reference _ _ List.mem_cons_self "#nope" List.mem_cons_self (Or.inr (by decide +kernel))
/-- `#p: "d"/#q`, `#q: #p/"k"` -/
example : compile Example.schemaRefCycle = .error .semantic :=
  compile_rejects_reference_cycle _ ["#p", "#q"] (by simp) (by decide +kernel)
/-- `#p: "d"/x & {x: "a", y: "b"}`: `y` is written in no name pattern -/
example : compile Example.schemaBadCons = .error .semantic :=
  compile_rejects_bad_constraint _ _ List.mem_cons_self _ List.mem_cons_self
    { pat := "y", opts := [.lit Example.cB] } (by simp)
    (Or.inl ⟨by decide, by unfold NamedIn; decide +kernel⟩)
/-- `#p: "d"/x & {x: _t}`: a temporary pattern used as constraint value -/
example : compile Example.schemaTempOpt = .error .semantic :=
  compile_rejects_bad_constraint _ _ List.mem_cons_self _ List.mem_cons_self
    { pat := "x", opts := [.pat "_t"] } List.mem_cons_self
    (Or.inr (Or.inr ⟨.pat "_t", List.mem_cons_self, "_t", List.mem_cons_self, Or.inl (by decide)⟩))

/-- in `#p: "d"/x <= #k`, `#k: "k"/x & {…}` no shape is the shape of one of its signers -/
theorem example_not_selfSigning : ¬ ShapeSelfSigning ⟨renameTemps Example.schema.rules 1⟩ := by
  rintro ⟨P, ⟨s, hs⟩, hP⟩
  -- by evaluation of the expansions: whatever is signed has shape `"d"/_`, whatever signs has shape `"k"/_`
  have hsig : ∀ p s, ShapeSigns ⟨renameTemps Example.schema.rules 1⟩ p s →
      p = [some Example.cD, none] ∧ s = [some Example.cK, none] := by
    intro p s hps
    obtain ⟨srules, _, _, hsort, _⟩ := chainsOf_ok_inv Example.chainsOf_schema
    obtain ⟨r, hr, f, hf, rfl, q, hq, g, hg, rfl⟩ := shapeSigns_exec _ srules hsort hps
    have := (by decide +kernel : ∀ r ∈ renameTemps Example.schema.rules 1, ∀ q ∈ r.sign,
      (∀ f ∈ flatsOfDef (flatsOfRule ⟨renameTemps Example.schema.rules 1⟩ (renameTemps Example.schema.rules 1).length) r,
        f.shape = [some Example.cD, none]) ∧
      ∀ g ∈ flatsOfRule ⟨renameTemps Example.schema.rules 1⟩ ((renameTemps Example.schema.rules 1).length + 1) q,
        g.shape = [some Example.cK, none]) r hr q hq
    exact ⟨this.1 f hf, this.2 g hg⟩
  obtain ⟨p, hp, hps⟩ := hP s hs
  obtain ⟨rfl, rfl⟩ := hsig p s hps
  obtain ⟨p', _, hps'⟩ := hP _ hp
  exact absurd (hsig p' _ hps').2 (by decide)
example : sanityCheck Example.model = .ok () :=
  compile_sane_src _ Example.schema_wf _ _ Example.compile_schema example_not_selfSigning
example : ∃ m syms, compile Example.schema = .ok (m, syms) ∧ sanityCheck m = .ok () :=
  static_sane_src _ Example.schema_wf schema_static example_not_selfSigning
/-- `#p <= #k`, `#k <= #p`: the node-level cycle of `Example.signLoop` is a cycle of shapes of the text -/
example : ShapeSelfSigning ⟨renameTemps Example.schemaLoop.rules 1⟩ :=
  signCycle_shapeSelfSigning _ Example.schemaLoop_wf _ _ Example.compile_schemaLoop
    ((compile_accepted_iff _ Example.schemaLoop_wf _ _ Example.compile_schemaLoop).2.mp signLoop_refused)
example : ¬ RuleSignCycle mergedSigner := mergedSigner_counterexample.2.2.1

end Ndn.C13
