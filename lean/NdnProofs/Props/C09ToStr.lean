import NdnProofs.Props.C09
/-! C09, `to_str`: total on well-formed components; typed-number components of a width
    that is not a nonNegativeInteger are printed generically and round-trip. -/
namespace Ndn.C09
open Ndn Ndn.Comp
/-- `to_str` never fails on a well-formed component: the number shorthand is used only for 1/2/4/8-byte values, so
    CPython's integer-to-text digit limit, which a typed-number component of 1786 bytes or more would hit, is never
    reached (`Name.to_str` runs eagerly in `params_sha256_checker`'s log line, inside the receive pipeline). -/
theorem toStr_total (p : AComp) (h : ValidComp p) : ∃ u, toStr (repC p) = .ok u :=
  let ⟨u, hu, _⟩ := Codec.bind_ok (toStr_readsBack p.1 p.2 h.1 h.2.1 h.2.2)
  ⟨u, hu⟩

set_option linter.unusedVariables false in
/-- A typed-number component whose value is not 1, 2, 4 or 8 bytes long is printed in the generic
    `<type>=<escaped bytes>` form and reads back as itself.  (`h1`, `h2` are not needed: a digest of such a length is
    printed in hex and reads back as well, `toStr_readsBack`.) -/
theorem fromStr_toStr_oddwidth (p : AComp) (h : ValidComp p) (h1 : p.1 ≠ 1) (h2 : p.1 ≠ 2)
    (hw : ¬ (p.2.length = 1 ∨ p.2.length = 2 ∨ p.2.length = 4 ∨ p.2.length = 8)) :
    (toStr (repC p) >>= fromStr) = .ok (repC p) := by
  have := toStr_readsBack p.1 p.2 h.1 h.2.1 h.2.2
  rwa [numCanon_of_width hw] at this

end Ndn.C09
