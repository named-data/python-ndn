import NdnGen.TlvModelFields
import NdnProofs.Props.TlvVarGen
import NdnProofs.Lemmas.Codec
/-!
  The decoding side of the leaf field classes of `src/ndn/encoding/tlv_model.py`: `UintField.parse_from`,
  `BoolField.parse_from`, `BytesField.parse_from` (bytes and text), TRANSLATED from the source text on every run
  (`harness/py2lean.py` -> `lean/NdnGen/TlvModelFields.lean`), are equal, for every wire, every offset `0 ≤ off`
  (`off < 2^63` where `struct.unpack_from` is called) and every declared Length `≥ 0`, to what the generic decoder
  model does with a leaf element (`Codec.leafCheck` and `Codec.parseValue`).  Negative offsets and Lengths are not
  covered.  (The encoding side is `Props/TlvModelGen.lean`, same namespace; two files so that the decoder properties do
  not depend on the encoder methods.)
-/
namespace Ndn.TlvModelGen
open Ndn Ndn.Py Ndn.TlvVarGen Ndn.Codec

theorem parse_translated :
    Gen.TlvModelFields.UintField_parse_from_translated = true ∧ Gen.TlvModelFields.BoolField_parse_from_translated = true ∧
    Gen.TlvModelFields.BytesField_parse_from_bytes_translated = true ∧
    Gen.TlvModelFields.BytesField_parse_from_str_translated = true := by decide

/-- `PyErr.other`, which nothing returns, for a value that is not a uint -/
def uintOf : Value → Except PyErr Int
  | .uint n => .ok ((n : Nat) : Int)
  | _ => .error .other

/-- **UintField.parse_from**, every wire, offset `0 ≤ off < 2^63` and declared Length `≥ 0`: Lengths 1/2/4/8 are read
    big-endian (`struct.error` when the wire is shorter), every other Length is `ValueError`. -/
theorem uint_parse_from_eq (t : Nat) (fl : Option Nat) (fuel : Nat) (elem : Bytes) (m : Dict) (wire : Bytes)
    (off len btl : Nat) (hoff : off < 2 ^ 63) :
    Gen.TlvModelFields.UintField_parse_from m wire off len btl
      = (leafCheck (.uint t fl) len (pySlice wire off (off + len)) >>= fun _ =>
          parseValue (fuel + 1) (.uint t fl) (pySlice wire off (off + len)) elem >>= uintOf) := by
  -- the same four Lengths on both sides; `struct.unpack_from` fails exactly when the slice is short
  simp only [Gen.TlvModelFields.UintField_parse_from, leafCheck, parseValue, lit_natCast, Int.natCast_inj,
    unpackFrom_one 1 (by decide) wire off hoff, unpackFrom_one 2 (by decide) wire off hoff,
    unpackFrom_one 4 (by decide) wire off hoff, unpackFrom_one 8 (by decide) wire off hoff, ite_bind, ok_bind, error_bind, List.getD_cons_zero, uintOf, pure_eq_ok]
  by_cases h1 : len = 1
  · subst h1; simp only [true_or, if_true]
  by_cases h2 : len = 2
  · subst h2; simp only [h1, true_or, or_true, if_true, if_false]
  by_cases h4 : len = 4
  · subst h4; simp only [h1, h2, true_or, or_true, if_true, if_false]
  by_cases h8 : len = 8
  · subst h8; simp only [h1, h2, h4, or_true, if_true, if_false]
  · simp only [h1, h2, h4, h8, or_self, if_false]

/-- **BoolField.parse_from** returns `True` and `Codec.parseValue` for a bool field returns `.bool`: two separate facts,
    neither function looks at the wire. -/
theorem bool_parse_from_eq (t : Nat) (fuel : Nat) (body elem : Bytes) (m : Dict) (wire : Bytes) (off len btl : Int) :
    Gen.TlvModelFields.BoolField_parse_from m wire off len btl = .ok true ∧
    parseValue (fuel + 1) (.bool t) body elem = .ok .bool := ⟨rfl, rfl⟩

/-- **BytesField.parse_from**, `is_string = False`: the Value bytes, cut at the end of the wire. -/
theorem bytes_parse_from_eq (t : Nat) (fuel : Nat) (elem : Bytes) (m : Dict) (wire : Bytes) (off len btl : Nat) :
    (Gen.TlvModelFields.BytesField_parse_from_bytes m wire off len btl).map Value.bytes
      = parseValue (fuel + 1) (.bytes t false) (pySlice wire off (off + len)) elem := by
  simp only [Gen.TlvModelFields.BytesField_parse_from_bytes, parseValue, add_natCast, slice_natCast]
  rfl

/-- the `UnicodeDecodeError` of `bytes.decode` is a `ValueError`, which is how the codec model names it -/
def asValueError : PyErr → PyErr
  | .unicodeError => .valueError
  | e => e

/-- **BytesField.parse_from**, `is_string = True`: the text whose UTF-8 encoding the Value bytes are, `ValueError`
    (`UnicodeDecodeError`) when they are not valid UTF-8. -/
theorem str_parse_from_eq (t : Nat) (fuel : Nat) (elem : Bytes) (m : Dict) (wire : Bytes) (off len btl : Nat) :
    ((Gen.TlvModelFields.BytesField_parse_from_str m wire off len btl).map fun s => Value.bytes s.utf8).mapError asValueError
      = parseValue (fuel + 1) (.bytes t true) (pySlice wire off (off + len)) elem := by
  simp only [Gen.TlvModelFields.BytesField_parse_from_str, parseValue, add_natCast, slice_natCast, bytesDecodeUtf8]
  split <;> rfl

example : Gen.TlvModelFields.UintField_parse_from [] [9, 1, 44] 1 2 0 = .ok 300 := by decide +kernel
example : Gen.TlvModelFields.UintField_parse_from [] [9, 1, 44] 0 3 0 = .error .valueError := by decide +kernel
example : Gen.TlvModelFields.BytesField_parse_from_bytes [] [9, 1, 44] 1 5 0 = .ok [1, 44] := by decide +kernel

end Ndn.TlvModelGen
