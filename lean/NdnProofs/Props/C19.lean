import NdnProofs.Lemmas.SegFetchNames
import NdnProofs.Lemmas.SegFetchScripted
import NdnProofs.Props.C03
import NdnProofs.Props.C09
import NdnGen.C19
/-!
# C19 — Segmented fetch yields every segment once, in order, tolerating bounded loss

Theorems about `Ndn.SegFetch.fetch` (model of `segment_fetcher` over the legacy `NDNApp.express_interest`) for every
object, discovery answer, per-Interest script and retry limit. The statements use `attempts`, `Tolerable`, `IsFinal` /
`NoFinal` and the log of every Interest the producer saw: nothing of the implementation. After them the same fetch at
the level of names (`fetchB`), and in the second half of the file over the pending-Interest table (`fetchT`). Of the
words of the statements, `attempts` is defined in `Lemmas/SegFetch`, `Genuine` and `Benign` in `Lemmas/SegFetchRounds`,
`scan`, `reqOf` and `WInv` in `Lemmas/SegFetchTimed`, `logOut` and `Prompt` in `Lemmas/SegFetchScripted`.
-/
namespace Ndn.C19
open Ndn Ndn.SegFetch

/-- loss the fetch has to tolerate; `cur` = losses in a row so far -/
def Tolerable (a : Nat) : Nat → List Outcome → Prop
  | _, [] => True
  | _, .data :: r => Tolerable a 0 r
  | cur, .timeout :: r => cur + 1 < a ∧ Tolerable a (cur + 1) r
  | _, .nack :: _ => False
  | _, .invalid :: _ => False

/-- segment `f` is the one designated final: the first whose marker names its own number -/
def IsFinal (segs : List Seg) (f : Nat) : Prop :=
  (∃ s : Seg, segs[f]? = some s ∧ s.fbi = some f) ∧ ∀ (j : Nat) (s : Seg), j < f → segs[j]? = some s → s.fbi ≠ some j

/-- no segment's marker names its own number -/
def NoFinal (segs : List Seg) : Prop := ∀ (j : Nat) (s : Seg), segs[j]? = some s → s.fbi ≠ some j

/-- what a fetch of all of `segs` yields -/
def contents (segs : List Seg) : List Nat := segs.map (·.content)

/-- the requests that were answered with Data, in the order they were sent -/
def answered {α : Type} (lg : List (α × Outcome)) : List α :=
  (lg.filter fun e => decide (e.2 = Outcome.data)).map (·.1)

theorem answered_append {α : Type} (a b : List (α × Outcome)) : answered (a ++ b) = answered a ++ answered b := by
  simp [answered]

theorem sent_answered {α : Type} {q : α} {blk tail : List (α × Outcome)} (hb : answered blk = [q])
    (hq : ∀ e ∈ blk, e.1 = q) (ht : ∀ e ∈ tail, e.1 ∈ answered tail) :
    ∀ e ∈ blk ++ tail, e.1 ∈ answered (blk ++ tail) := by
  intro e he
  rw [answered_append, hb]
  rcases List.mem_append.mp he with h | h
  · exact hq e h ▸ List.mem_cons_self
  · exact List.mem_cons_of_mem _ (ht e h)

theorem mem_block {α β : Type} {a : α} {l : List β} {e : α × β} (h : e ∈ l.map fun o => (a, o)) : e.1 = a := by
  obtain ⟨o, _, rfl⟩ := List.mem_map.mp h
  rfl

theorem answered_map {α β : Type} (g : α → β) (lg : List (α × Outcome)) :
    answered (lg.map fun e => (g e.1, e.2)) = (answered lg).map g := by
  simp [answered, List.filter_map, Function.comp_def]

/-! `fetch` is the generator of `NdnModel/SegFetchTimed.lean` over an `ask` that answers by the script
(`SegFetchT.fetch_eq_askU`): what it comes to is what the generator over any `ask` comes to (`SegFetchT.fetch_rounds`). -/

theorem fetch_fetched (S : Scenario) : SegFetchT.Fetched (attempts S.limit) S.obj
    (SegFetchT.fetchG (SegFetchT.askU (SegFetchT.cfgU S)) S.obj S.limit S.script).1 :=
  (SegFetchT.fetch_rounds _ (SegFetchT.askU_scripted (SegFetchT.cfgU S)).askOk S.limit _ ⟨_, rfl⟩).1

/-- The fuel given by `fetch` always suffices: the generator finishes or raises. -/
theorem fetch_terminates (S : Scenario) : (fetch S).end_ ≠ .fuel := by
  rw [SegFetchT.fetch_eq_askU]
  exact (fetch_fetched S).good.ne_fuel

/-- The fetch fails with a timeout exactly when some request exhausted its attempts: the
    log ends with `attempts limit` lost Interests for one and the same request. -/
theorem fetch_timeout_iff (S : Scenario) :
    (fetch S).end_ = .timeout ↔
      ∃ pre req, (fetch S).log = pre ++ List.replicate (attempts S.limit) (req, Outcome.timeout) := by
  rw [SegFetchT.fetch_eq_askU]
  exact (fetch_fetched S).good.timeout_iff_out (attempts_pos _)

/-- A Nack, or Data that fails validation, is never skipped: it is the last Interest the
    fetch sends and the fetch ends with that very failure; conversely the fetch ends that way only then. -/
theorem fetch_propagates (S : Scenario) :
    (∀ req, (req, Outcome.nack) ∈ (fetch S).log →
        (fetch S).end_ = .nack ∧ (fetch S).log.getLast? = some (req, Outcome.nack)) ∧
    (∀ req, (req, Outcome.invalid) ∈ (fetch S).log →
        (fetch S).end_ = .invalid ∧ (fetch S).log.getLast? = some (req, Outcome.invalid)) ∧
    ((fetch S).end_ = .nack → ∃ req, (fetch S).log.getLast? = some (req, Outcome.nack)) ∧
    ((fetch S).end_ = .invalid → ∃ req, (fetch S).log.getLast? = some (req, Outcome.invalid)) := by
  rw [SegFetchT.fetch_eq_askU]
  exact (fetch_fetched S).good.propagates_out

/-- No request is sent more often than the configured number of attempts. -/
theorem requests_bounded (S : Scenario) (req : Req) :
    ((fetch S).log.filter (fun e => decide (e.1 = req))).length ≤ attempts S.limit := by
  rw [SegFetchT.fetch_eq_askU]
  exact SegFetchT.logOut_count _ req ▸ (fetch_fetched S).count req

theorem run_final {l : List Seg} {y : List Nat} {e : End} (h : SegFetchT.Run l 0 y e) :
    (∀ f, IsFinal l f → ∃ n, n ≤ f + 1 ∧ y = contents (l.take n) ∧ (e = .done ↔ n = f + 1)) ∧
    (NoFinal l → e ≠ .done ∧ ∃ n, y = contents (l.take n)) := by
  obtain ⟨n, h⟩ := h
  have y : y = contents (l.take n) := h.yielded_eq
  refine ⟨fun f ⟨hself, hbefore⟩ => ⟨n, ?_, y, fun hd => ?_, fun hn => (h.stops_at_final f (by omega) (by omega) hself).2⟩,
    fun hno => ⟨fun hd => ?_, n, y⟩⟩
  · rcases Nat.lt_or_ge f n with hlt | hge
    · have := (h.stops_at_final f (by omega) hlt hself).1; omega
    · omega
  · obtain ⟨e1, s, e2, e3⟩ := h.done_only_at_final hd
    rcases Nat.lt_or_ge (n - 1) f with hlt | hge
    · exact absurd e3 (hbefore _ s hlt e2)
    · have := (h.stops_at_final f (by omega) (by omega) hself).1; omega
  · obtain ⟨_, s, e1, e2⟩ := h.done_only_at_final hd
    exact hno _ s e1 e2

theorem fetch_run (segs : List Seg) (disc limit : Nat) (sc : List Outcome) :
    SegFetchT.Run segs 0 (fetch ⟨.segs segs, disc, sc, limit⟩).yielded (fetch ⟨.segs segs, disc, sc, limit⟩).end_ := by
  rw [SegFetchT.fetch_eq_askU]
  exact (fetch_fetched ⟨.segs segs, disc, sc, limit⟩).run

/-- Whatever happens (loss, Nack, invalid Data), what has been yielded when the
    fetch ends is an initial run of the segments `0, 1, …` in order, each once (for an unsegmented object:
    nothing or its single content). -/
theorem yielded_prefix_in_order (S : Scenario) :
    match S.obj with
    | .unseg c => (fetch S).yielded = [] ∨ (fetch S).yielded = [c]
    | .segs l => ∃ n, (fetch S).yielded = contents (l.take n) := by
  obtain ⟨obj, disc, sc, limit⟩ := S
  cases obj with
  | unseg c =>
    rw [SegFetchT.fetch_eq_askU]
    obtain ⟨h1, h2⟩ := (fetch_fetched ⟨.unseg c, disc, sc, limit⟩).unseg_yield
    by_cases hd : (SegFetchT.fetchG (SegFetchT.askU (SegFetchT.cfgU ⟨.unseg c, disc, sc, limit⟩)) (.unseg c) limit sc).1.end_ = .done
    · exact .inr (h1 hd)
    · exact .inl (h2 hd)
  | segs l =>
    obtain ⟨n, h⟩ := fetch_run l disc limit sc
    exact ⟨n, h.yielded_eq⟩

/-! `Tolerable` speaks of the script, so it is followed through `retry` and the loop by the case rules of `Lemmas/SegFetch`
(`fetch_through`); where a run of segments can end comes from the generator (`run_final`). -/

theorem retry_tolerable (limit : Nat) : ∀ (sc : List Outcome) (fuel trial : Nat),
    Tolerable (attempts limit) trial sc → trial ≤ limit → limit + 1 ≤ fuel + trial →
    (retry limit true fuel trial sc).1 = .ok ∧ Tolerable (attempts limit) 0 (retry limit true fuel trial sc).2.1 ∧
    ∃ j, (retry limit true fuel trial sc).2.2 = List.replicate j .timeout ++ [.data] := by
  intro sc
  induction sc with
  | nil =>
    intro fuel trial _ h2 h3
    obtain ⟨n, rfl⟩ : ∃ n, fuel = n + 1 := ⟨fuel - 1, by omega⟩
    exact ⟨rfl, trivial, 0, rfl⟩
  | cons o r ih =>
    intro fuel trial h1 h2 h3
    obtain ⟨n, rfl⟩ : ∃ n, fuel = n + 1 := ⟨fuel - 1, by omega⟩
    cases o with
    | data => exact ⟨rfl, h1, 0, rfl⟩
    | nack => exact h1.elim
    | invalid => exact h1.elim
    | timeout =>
      obtain ⟨h4, h5⟩ := h1
      have hlt : ¬ (trial + 1 ≥ limit) := by simp only [attempts] at h4; omega
      obtain ⟨i1, i2, j, i3⟩ := ih n (trial + 1) h5 (by omega) (by omega)
      simp only [retry_succ, pop, eff, if_true, hlt, if_false]
      exact ⟨i1, i2, j + 1, by rw [i3]; rfl⟩

theorem block_tolerable (limit : Nat) (sc : List Outcome) (ht : Tolerable (attempts limit) 0 sc) (req : Req) :
    (retry limit true (limit + 1) 0 sc).1 = .ok ∧ Tolerable (attempts limit) 0 (retry limit true (limit + 1) 0 sc).2.1 ∧
    answered ((retry limit true (limit + 1) 0 sc).2.2.map fun o => (req, o)) = [req] := by
  obtain ⟨hok, hrest, j, hj⟩ := retry_tolerable limit sc (limit + 1) 0 ht (by omega) (by omega)
  exact ⟨hok, hrest, by simp [hj, answered, List.filter_append]⟩

theorem retry_missing_timeout (limit a : Nat) : ∀ (fuel trial cur : Nat) (sc : List Outcome),
    Tolerable a cur sc → trial ≤ limit → limit + 1 ≤ fuel + trial → (retry limit false fuel trial sc).1 = .timeout := by
  intro fuel
  induction fuel with
  | zero => intro trial cur sc _ h2 h3; omega
  | succ n ih =>
    intro trial cur sc h1 h2 h3
    -- a segment that does not exist is never answered, and a tolerable script has no Nack
    obtain ⟨he, cur', hr⟩ : eff (pop sc).1 false = .timeout ∧ ∃ cur', Tolerable a cur' (pop sc).2 := by
      cases sc with
      | nil => exact ⟨rfl, 0, trivial⟩
      | cons o r =>
        cases o with
        | data => exact ⟨rfl, 0, h1⟩
        | timeout => exact ⟨rfl, cur + 1, h1.2⟩
        | nack => exact h1.elim
        | invalid => exact h1.elim
    rw [retry_succ, he]
    by_cases h : trial + 1 ≥ limit
    · simp only [h, if_true]
    · simp only [h, if_false]
      exact ih (trial + 1) cur' _ hr (by omega) (by omega)

/-- Under tolerable loss nothing but the object stops the loop: a segment that names itself final, or the timeout on the
    segment after the last one (`i + r.yielded.length = segs.length`). -/
theorem fetchLoop_through (limit : Nat) (segs : List Seg) :
    ∀ (fuel i : Nat) (sc : List Outcome) (r : Result), i ≤ segs.length → segs.length + 1 ≤ fuel + i →
    Tolerable (attempts limit) 0 sc → fetchLoop limit segs fuel i sc = r →
    (r.end_ = .done ∨ r.end_ = .timeout ∧ i + r.yielded.length = segs.length) ∧
    (r.end_ = .done → answered r.log = (List.range' i r.yielded.length).map Req.seg ∧
      ∀ e ∈ r.log, e.1 ∈ answered r.log) := by
  intro fuel
  induction fuel with
  | zero => intro i sc r h1 h2; omega
  | succ n ih =>
    intro i sc r h1 h2 h3 hr
    subst hr
    by_cases hilt : i < segs.length
    · obtain ⟨hok, hrest, hb⟩ := block_tolerable limit sc h3 (Req.seg i)
      obtain ⟨_, heq⟩ := fetchLoop_ok (by rw [decide_eq_true hilt]) hok n
      rw [heq]
      by_cases hf : segs[i].fbi = some i
      · rw [if_pos hf]
        exact ⟨.inl rfl, fun _ => ⟨hb, fun e he => by rw [hb, mem_block he]; exact List.mem_cons_self⟩⟩
      · rw [if_neg hf]
        obtain ⟨e, s⟩ := ih (i + 1) _ _ (by omega) (by omega) hrest rfl
        refine ⟨e.imp_right (And.imp_right fun hl => by rw [List.length_cons]; omega), fun hd => ?_⟩
        obtain ⟨y1, y2⟩ := s hd
        exact ⟨by rw [answered_append, hb, y1, List.length_cons, List.range'_succ]; rfl,
          sent_answered hb (fun _ => mem_block) y2⟩
    · -- the segment after the last one: every Interest for it is lost
      have hto := retry_missing_timeout limit _ (limit + 1) 0 0 sc h3 (by omega) (by omega)
      rw [fetchLoop_fail (by rw [decide_eq_false hilt]) (by rw [hto]; exact nofun), hto]
      exact ⟨.inr ⟨rfl, by rw [List.length_nil]; omega⟩, fun h => nomatch h⟩

theorem fetch_through (segs : List Seg) (disc limit : Nat) (sc : List Outcome) (hd : disc < segs.length)
    (ht : Tolerable (attempts limit) 0 sc) (r : Result) (hr : fetch ⟨.segs segs, disc, sc, limit⟩ = r) :
    (r.end_ = .done ∨ r.end_ = .timeout ∧ r.yielded.length = segs.length) ∧
    (r.end_ = .done →
      answered r.log = Req.disc :: (List.range' (if disc = 0 then 1 else 0)
        (r.yielded.length - (if disc = 0 then 1 else 0))).map Req.seg ∧
      ∀ e ∈ r.log, e.1 ∈ answered r.log) := by
  subst hr
  obtain ⟨hok, hrest, hb⟩ := block_tolerable limit sc ht Req.disc
  obtain ⟨_, heq⟩ := fetch_segs_ok (by rw [decide_eq_true hd]) hok
  have hloop := fun i hi => fetchLoop_through limit segs (segs.length + 1) i _ _ hi (by omega) hrest rfl
  rw [heq]
  by_cases hd0 : disc = 0
  · subst hd0
    rw [if_pos rfl]
    by_cases hf : segs[0].fbi = some 0
    · rw [if_pos hf]
      exact ⟨.inl rfl, fun _ => ⟨hb, fun e he => by rw [hb, mem_block he]; exact List.mem_cons_self⟩⟩
    · rw [if_neg hf]
      obtain ⟨e, s⟩ := hloop 1 (by omega)
      refine ⟨e.imp_right (And.imp_right fun hl => by rw [List.length_cons]; omega), fun hdn => ?_⟩
      obtain ⟨y1, y2⟩ := s hdn
      exact ⟨by rw [answered_append, hb, y1]; rfl, sent_answered hb (fun _ => mem_block) y2⟩
  · rw [if_neg hd0]
    obtain ⟨e, s⟩ := hloop 0 (by omega)
    refine ⟨e.imp_right (And.imp_right fun hl => (Nat.zero_add _).symm.trans hl), fun hdn => ?_⟩
    obtain ⟨y1, y2⟩ := s hdn
    exact ⟨by rw [answered_append, hb, y1, if_neg hd0]; rfl, sent_answered hb (fun _ => mem_block) y2⟩

theorem length_contents_take (l : List Seg) (n : Nat) : (contents (l.take n)).length = min n l.length := by
  simp [contents]

theorem IsFinal.lt {segs : List Seg} {f : Nat} (h : IsFinal segs f) : f < segs.length := by
  obtain ⟨⟨s, hs, _⟩, _⟩ := h
  exact lt_of_getElem? hs

/-- Under tolerable loss the fetch yields the contents of segments `0, 1, …, f` (`f` designated final), each exactly once
    and in order, and finishes normally - whichever existing segment answers the discovery Interest. -/
theorem fetch_yields_all_once_in_order (segs : List Seg) (disc limit f : Nat) (sc : List Outcome)
    (hfin : IsFinal segs f) (hd : disc < segs.length) (ht : Tolerable (attempts limit) 0 sc) :
    (fetch ⟨.segs segs, disc, sc, limit⟩).yielded = contents (segs.take (f + 1)) ∧
    (fetch ⟨.segs segs, disc, sc, limit⟩).end_ = .done := by
  have hflt := hfin.lt
  obtain ⟨n, hn, y, hiff⟩ := (run_final (fetch_run segs disc limit sc)).1 f hfin
  have hdone : (fetch ⟨.segs segs, disc, sc, limit⟩).end_ = .done := by
    rcases (fetch_through segs disc limit sc hd ht _ rfl).1 with h | ⟨_, hl⟩
    · exact h
    · -- a timeout past the last segment would have passed the final one
      rw [y, length_contents_take] at hl
      exact hiff.mpr (by omega)
  exact ⟨by rw [y, hiff.mp hdone], hdone⟩

/-- An unsegmented object yields its single content under tolerable loss. -/
theorem fetch_unsegmented (c disc limit : Nat) (sc : List Outcome) (ht : Tolerable (attempts limit) 0 sc) :
    (fetch ⟨.unseg c, disc, sc, limit⟩).yielded = [c] ∧ (fetch ⟨.unseg c, disc, sc, limit⟩).end_ = .done := by
  rw [fetch_unseg rfl, if_pos (block_tolerable limit sc ht Req.disc).1]
  exact ⟨rfl, rfl⟩

/-- When no segment is designated final the fetcher cannot know where the object ends:
    under tolerable loss it yields every segment once in order and then fails with a timeout on the first
    segment that does not exist. -/
theorem fetch_no_final_marker (segs : List Seg) (disc limit : Nat) (sc : List Outcome)
    (hno : NoFinal segs) (hd : disc < segs.length) (ht : Tolerable (attempts limit) 0 sc) :
    (fetch ⟨.segs segs, disc, sc, limit⟩).yielded = contents segs ∧
    (fetch ⟨.segs segs, disc, sc, limit⟩).end_ = .timeout := by
  obtain ⟨hnd, n, y⟩ := (run_final (fetch_run segs disc limit sc)).2 hno
  rcases (fetch_through segs disc limit sc hd ht _ rfl).1 with h | ⟨h, hl⟩
  · exact absurd h hnd
  · rw [y, length_contents_take] at hl
    exact ⟨by rw [y, List.take_of_length_le (by omega)], h⟩

/-! The names-level half: `fetchB` is the fetcher working on names (`segComp n` = `Component.from_segment(n)`) against a
producer that sees Interest names only. The component facts are those of `Lemmas/SegFetchNames` (over
`Lemmas/NameWire`); the URI shorthand and the abstract component are C09's. -/

/-- `Component.from_segment(n)` is `segComp n` (Type 50 = the live `TYPE_SEGMENT`, minimal-width big-endian value);
    `get_type` and `to_number` read it back, it is what the URI shorthand `seg=n` denotes (C09), and it is injective. -/
theorem segment_component_roundtrip (n : Nat) (hn : n < 2 ^ 64) :
    Comp.fromNumber (n : Int) TYPE_SEGMENT = .ok (segComp n) ∧
    Comp.getType (segComp n) = .ok TYPE_SEGMENT ∧
    Comp.toNumber (segComp n) = .ok n ∧
    Comp.fromStr ("seg=".toList ++ toDec n) = .ok (segComp n) ∧
    (∀ m, m < 2 ^ 64 → (segComp m = segComp n ↔ m = n)) ∧
    Gen.C19.typeSegment = TYPE_SEGMENT ∧ Gen.C19.segShorthandType = TYPE_SEGMENT :=
  ⟨fromNumber_seg n hn, segComp_getType n, segComp_toNumber n hn, (C09.fromStr_shorthand_number n hn).1,
    fun m hm => ⟨segComp_inj m n hm hn, fun e => e ▸ rfl⟩, rfl, rfl⟩

/-- the component is the C09 representation of the abstract component (50, pack_uint_bytes n): `get_type` /
    `get_value` read that pair back (`C09.getType_getValue`) -/
theorem segComp_is_rep (n : Nat) :
    segComp n = C09.repC (TYPE_SEGMENT, packUint n) ∧ C09.ValidComp (TYPE_SEGMENT, packUint n) ∧
    Comp.getValue (segComp n) = .ok (packUint n) := by
  have hv : C09.ValidComp (TYPE_SEGMENT, packUint n) :=
    ⟨by simp [TYPE_SEGMENT], by simp [TYPE_SEGMENT], by have := packUint_length_le n; simp only; omega⟩
  exact ⟨rfl, hv, (C09.getType_getValue _ hv).2.2⟩

/-- For a Data named `base ++ [segment component i]` whose FinalBlockId is the
    segment component of `k`: the byte comparison `meta.final_block_id == name[-1]` succeeds iff `k = i`; without a
    FinalBlockId it fails. -/
theorem final_block_id_names_segment_iff (base : List Bytes) (i k c : Nat) (hi : i < 2 ^ 64) (hk : k < 2 ^ 64) :
    (fbiNamesLast ⟨base ++ [segComp i], some (segComp k), c⟩ = true ↔ k = i) ∧
    fbiNamesLast ⟨base ++ [segComp i], none, c⟩ = false := by
  have := fbiNamesLast_dataOf base ⟨c, some k⟩ i hi (fun k' h => by cases h; exact hk)
  simp only [Option.map_some] at this
  refine ⟨by rw [this]; simp, ?_⟩
  simp [fbiNamesLast]

/-- The fetcher on names sends, Interest by Interest, exactly the names the number-level requests stand for (`pre` for
    discovery, `base ++ [segment component k]` for segment `k`), with the same outcomes, yields the same contents and
    ends the same way. -/
theorem fetchB_refines (limit : Nat) (pre base : List Bytes) (l : List Seg) (disc : Nat) (sc : List Outcome)
    (hpre : pre.length ≤ base.length) (hfb : FbiBound l) (hlen : l.length + 2 < 2 ^ 64) :
    fetchB limit (producer pre (.segs base l) disc) pre (l.length + 1) sc =
      liftResult pre base (fetch ⟨.segs l, disc, sc, limit⟩) := by
  by_cases hok : (retry limit (decide (disc < l.length)) (limit + 1) 0 sc).1 = .ok
  · obtain ⟨hlt, heq⟩ := fetch_segs_ok rfl hok
    have hs : l[disc]? = some l[disc] := List.getElem?_eq_getElem hlt
    have hdisc : disc < 2 ^ 64 := by omega
    have hd : dataOf base l disc = some ⟨base ++ [segComp disc], l[disc].fbi.map segComp, l[disc].content⟩ := by
      simp only [dataOf, hs, Option.map_some]
    simp only [fetchB, producer_pre, dataOf_isSome]
    rw [heq, hok, hd]
    simp only [List.getLast?_concat, segComp_getType, ne_eq, not_true_eq_false, if_false, segComp_toNumber disc hdisc,
      fbiNamesLast_dataOf base l[disc] disc hdisc (fun k hk => hfb disc _ k hs hk)]
    by_cases hd0 : disc = 0
    · subst hd0
      rw [if_pos rfl, if_pos rfl]
      by_cases hf : l[0].fbi = some 0
      · simp only [hf, decide_true, if_true, liftResult, lift_block]; rfl
      · simp only [hf, decide_false, Bool.false_eq_true, if_false]
        rw [fetchLoopB_refines limit pre base l 0 hpre hfb (l.length + 1) 1 0 _ (by omega)]
        simp only [liftResult, List.map_append, lift_block]; rfl
    · rw [if_neg hd0, if_neg hd0, fetchLoopB_refines limit pre base l disc hpre hfb (l.length + 1) 0 disc _ (by omega)]
      simp only [liftResult, List.map_append, lift_block]; rfl
  · rw [fetch_segs_fail rfl hok]
    simp only [fetchB, producer_pre, dataOf_isSome]
    split <;> first | contradiction | (simp only [liftResult, lift_block]; rfl)

/-- The same for an unsegmented object whose Data name ends in a component that is
    not a segment component (whatever else the name is: the prefix itself, a version, a file name).  `base` is arbitrary:
    the only requests are discovery Interests, named `pre`. -/
theorem fetchB_refines_unsegmented (limit : Nat) (pre base name : List Bytes) (x : Bytes) (t c disc fuel : Nat)
    (sc : List Outcome) (hlast : name.getLast? = some x) (ht : Comp.getType x = .ok t) (hne : t ≠ TYPE_SEGMENT) :
    fetchB limit (producer pre (.unseg name c) disc) pre fuel sc =
      liftResult pre base (fetch ⟨.unseg c, disc, sc, limit⟩) := by
  unfold fetchB fetch
  simp only [producer, if_true, Option.isSome_some]
  cases hr : (retry limit true (limit + 1) 0 sc).1 <;>
    simp [hlast, ht, hne, liftResult, reqName, List.map_map, Function.comp_def, endOf]

/-- `fetch_yields_all_once_in_order` at the level of names; in addition every Interest sent is named the prefix or
    `base ++ [Component.from_segment(k)]` with `k ≤ f`, and the answered ones are, in order, the prefix and then
    `k = 0, 1, …, f` (from 1 when discovery already delivered segment 0). -/
theorem fetch_yields_all_once_in_order_names (pre base : List Bytes) (segs : List Seg) (disc limit f : Nat)
    (sc : List Outcome) (hfin : IsFinal segs f) (hd : disc < segs.length) (ht : Tolerable (attempts limit) 0 sc)
    (hpre : pre.length ≤ base.length) (hfb : FbiBound segs) (hlen : segs.length + 2 < 2 ^ 64) :
    let r := fetchB limit (producer pre (.segs base segs) disc) pre (segs.length + 1) sc
    r.yielded = contents (segs.take (f + 1)) ∧ r.end_ = .fin .done ∧
    (∀ e ∈ r.log, e.1 = pre ∨ ∃ k, k ≤ f ∧ e.1 = base ++ [segComp k]) ∧
    answered r.log = pre :: (List.range' (if disc = 0 then 1 else 0) (f + 1 - (if disc = 0 then 1 else 0))).map
      (fun k => base ++ [segComp k]) := by
  intro r
  have hr : r = liftResult pre base (fetch ⟨.segs segs, disc, sc, limit⟩) :=
    fetchB_refines limit pre base segs disc sc hpre hfb hlen
  obtain ⟨hy, he⟩ := fetch_yields_all_once_in_order segs disc limit f sc hfin hd ht
  obtain ⟨ha, hreq⟩ := (fetch_through segs disc limit sc hd ht _ rfl).2 he
  rw [hy, length_contents_take, Nat.min_eq_left hfin.lt] at ha
  rw [hr]
  refine ⟨hy, by simp [liftResult, he], ?_, ?_⟩
  · intro e hm
    simp only [liftResult, List.mem_map] at hm
    obtain ⟨x, hx, rfl⟩ := hm
    have hx := hreq x hx
    rw [ha, List.mem_cons, List.mem_map] at hx
    rcases hx with h | ⟨k, hk, h⟩
    · left; simp [h, reqName]
    · right
      have hk := (List.mem_range'_1.mp hk).2
      rw [Nat.add_sub_of_le (by split <;> omega)] at hk
      exact ⟨k, Nat.le_of_lt_succ hk, by simp [← h, reqName]⟩
  · simp only [liftResult]
    rw [answered_map (reqName pre base), ha]
    simp [reqName, List.map_map, Function.comp_def]

section Examples
def exSegs : List Seg := [⟨10, some 2⟩, ⟨11, some 2⟩, ⟨12, some 2⟩, ⟨13, none⟩]

example : IsFinal exSegs 2 := by
  refine ⟨⟨⟨12, some 2⟩, rfl, rfl⟩, ?_⟩
  intro j s hj hs
  have : j = 0 ∨ j = 1 := by omega
  rcases this with rfl | rfl <;> simp [exSegs] at hs <;> subst hs <;> decide

example : Tolerable (attempts 3) 0 [.timeout, .timeout, .data, .timeout, .data] := by
  simp [Tolerable, attempts]

/-- discovery answered by segment 1, two losses in a row with limit 3 -/
example : fetch ⟨.segs exSegs, 1, [.timeout, .timeout, .data, .timeout, .data], 3⟩ =
    ⟨[10, 11, 12], [(.disc, .timeout), (.disc, .timeout), (.disc, .data), (.seg 0, .timeout), (.seg 0, .data),
      (.seg 1, .data), (.seg 2, .data)], .done⟩ := by decide +kernel

/-- three losses in a row with limit 3 on segment 1 -/
example : fetch ⟨.segs exSegs, 0, [.data, .timeout, .timeout, .timeout, .data], 3⟩ =
    ⟨[10], [(.disc, .data), (.seg 1, .timeout), (.seg 1, .timeout), (.seg 1, .timeout)], .timeout⟩ := by decide +kernel

example : fetch ⟨.segs exSegs, 0, [.data, .timeout, .nack, .data], 3⟩ =
    ⟨[10], [(.disc, .data), (.seg 1, .timeout), (.seg 1, .nack)], .nack⟩ := by decide +kernel
example : fetch ⟨.segs exSegs, 3, [.data, .data, .invalid], 3⟩ =
    ⟨[10], [(.disc, .data), (.seg 0, .data), (.seg 1, .invalid)], .invalid⟩ := by decide +kernel

example : fetch ⟨.unseg 7, 0, [.timeout], 2⟩ = ⟨[7], [(.disc, .timeout), (.disc, .data)], .done⟩ := by decide +kernel
example : NoFinal [⟨1, none⟩, ⟨2, some 5⟩] := by
  intro j s hs
  rcases j with _ | _ | j <;> simp at hs <;> subst hs <;> decide

/-- names level: object `/a/v=1` (`08 01 61`, `36 01 01`), fetched by the prefix `/a`; discovery answered by segment 1,
    one loss on discovery and one on segment 0 — every Interest name byte for byte -/
example : fetchB 3 (producer [[8, 1, 97]] (.segs [[8, 1, 97], [54, 1, 1]] exSegs) 1) [[8, 1, 97]] 5
      [.timeout, .data, .timeout, .data] =
    ⟨[10, 11, 12],
     [([[8, 1, 97]], .timeout), ([[8, 1, 97]], .data),
      ([[8, 1, 97], [54, 1, 1], [50, 1, 0]], .timeout), ([[8, 1, 97], [54, 1, 1], [50, 1, 0]], .data),
      ([[8, 1, 97], [54, 1, 1], [50, 1, 1]], .data), ([[8, 1, 97], [54, 1, 1], [50, 1, 2]], .data)],
     .fin .done⟩ := by decide +kernel
example : segComp 300 = [50, 2, 1, 44] := by decide +kernel
example : FbiBound exSegs := by
  intro j s k hs hk
  have : k = 2 := by
    rcases j with _ | _ | _ | _ | j <;> simp [exSegs] at hs <;> subst hs <;> simp at hk <;> omega
  omega
end Examples

end Ndn.C19

/-!
# C19, timed: the generator over the pending-Interest table, answers that take time

Theorems about `Ndn.SegFetchT.fetchT` (`NdnModel/SegFetchTimed.lean`): the same generator, but every Interest is
expressed in the C03 model of the legacy pending-Interest table (`Ndn.Pit`, `FrontEnd.v1`), and the producer's answer
reaches the consumer after a scripted delay - any delay: below, at or beyond the lifetime.  An answer that comes too late
for its own Interest satisfies whatever Interest is pending under a name it matches (the retry: same name), or nothing.
-/
namespace Ndn.C19
open Ndn Ndn.SegFetch Ndn.SegFetchT

/-- One `await app.express_interest(...)` of the fetcher over the table: the awaitable comes to what `scan` says of the
    packets in flight - the first that arrives before the deadline and concerns the request, whichever Interest it was
    sent in answer to; one arriving at the deadline or later stays in flight.  Afterwards nothing is pending, the table
    is still a reachable state of the C03 model, and no callback raised. -/
theorem timed_interest_outcome (C : Cfg) (w : World) (q : Req) (hw : WInv C w) :
    WInv C (ask C w q).2 ∧ (ask C w q).2.σ.errs = w.σ.errs ∧
    (ask C w q).1 = (if C.life = 0 then .timeout
      else (scan (reqOf C w.σ.clock q) (w.σ.clock + C.life) (flightWith C w q)).1) ∧
    (ask C w q).2.fl = (if C.life = 0 then flightWith C w q
      else (scan (reqOf C w.σ.clock q) (w.σ.clock + C.life) (flightWith C w q)).2) :=
  ask_spec C w q hw

/-- Whatever Data an Interest of the fetcher is satisfied with - the answer to that very Interest or a late answer to an
    earlier one - is a Data of the object under a name the Interest matches; nothing but Data, Nack or timeout ever
    comes out of an awaitable. -/
theorem timed_data_is_genuine (C : Cfg) (w : World) (q : Req) (hw : WInv C w) : Genuine C.obj q (ask C w q).1 :=
  (ask_ok C w q hw).2

theorem timed_fetched (S : SegFetchT.Scenario) :
    Fetched (attempts S.limit) S.cfg.obj (fetchT S).1 ∧ WInv S.cfg (fetchT S).2 :=
  fetch_rounds (ask S.cfg) (ask_ok S.cfg) S.limit _ (winv_init S.cfg S.script)

/-- The fuel given by `fetchT` always suffices, whatever the delays. -/
theorem timed_terminates (S : SegFetchT.Scenario) : (fetchT S).1.end_ ≠ .fuel :=
  (timed_fetched S).1.good.ne_fuel

/-- For every delay pattern: what the fetch has yielded when it ends is an initial run of the segments in order, each
    once, never beyond the segment designated final, and the whole run `0 … f` exactly when the fetch finishes normally;
    without a final segment it never finishes normally. -/
theorem timed_yields_in_order (cfg : Cfg) (segs : List Seg) (limit : Nat) (sc : List (Outcome × Nat))
    (hobj : cfg.obj = .segs segs) :
    (∀ f, IsFinal segs f → ∃ n, n ≤ f + 1 ∧ (fetchT ⟨cfg, limit, sc⟩).1.yielded = contents (segs.take n) ∧
      ((fetchT ⟨cfg, limit, sc⟩).1.end_ = .done ↔ n = f + 1)) ∧
    (NoFinal segs → (fetchT ⟨cfg, limit, sc⟩).1.end_ ≠ .done ∧
      ∃ n, (fetchT ⟨cfg, limit, sc⟩).1.yielded = contents (segs.take n)) :=
  run_final (hobj ▸ (timed_fetched ⟨cfg, limit, sc⟩).1 : Fetched (attempts limit) (.segs segs) (fetchT ⟨cfg, limit, sc⟩).1).run

/-- An unsegmented object yields its single content exactly when the fetch finishes normally,
    and nothing otherwise. -/
theorem timed_unsegmented (cfg : Cfg) (c limit : Nat) (sc : List (Outcome × Nat)) (hobj : cfg.obj = .unseg c) :
    ((fetchT ⟨cfg, limit, sc⟩).1.end_ = .done → (fetchT ⟨cfg, limit, sc⟩).1.yielded = [c]) ∧
    ((fetchT ⟨cfg, limit, sc⟩).1.end_ ≠ .done → (fetchT ⟨cfg, limit, sc⟩).1.yielded = []) :=
  (hobj ▸ (timed_fetched ⟨cfg, limit, sc⟩).1 : Fetched (attempts limit) (.unseg c) (fetchT ⟨cfg, limit, sc⟩).1).unseg_yield

/-- The fetch fails with a timeout exactly when some request exhausted its attempts as the code counts them: the log ends
    with `attempts limit` Interests for one request whose awaitables all timed out (an Interest satisfied by a late
    answer to an earlier attempt did not time out; one whose answer arrives at the deadline or later did). -/
theorem timed_timeout_iff (S : SegFetchT.Scenario) :
    (fetchT S).1.end_ = .timeout ↔
      ∃ pre req, (fetchT S).1.log = pre ++ List.replicate (attempts S.limit) (req, Pit.Outcome.timeout) :=
  (timed_fetched S).1.good.timeout_iff (attempts_pos _)

/--  A Nack, or Data that fails validation, that reaches a pending Interest of the fetcher - in
    answer to it or as a late answer to an earlier attempt - is never skipped: that Interest is the last one the fetch
    sends and the fetch ends with that very failure; conversely the fetch ends that way only then. -/
theorem timed_propagates (S : SegFetchT.Scenario) :
    (∀ req rs, (req, Pit.Outcome.nack rs) ∈ (fetchT S).1.log →
        (fetchT S).1.end_ = .nack ∧ (fetchT S).1.log.getLast? = some (req, Pit.Outcome.nack rs)) ∧
    (∀ req d, idValid d = false → (req, Pit.Outcome.data d) ∈ (fetchT S).1.log →
        (fetchT S).1.end_ = .invalid ∧ (fetchT S).1.log.getLast? = some (req, Pit.Outcome.data d)) ∧
    ((fetchT S).1.end_ = .nack → ∃ req rs, (fetchT S).1.log.getLast? = some (req, Pit.Outcome.nack rs)) ∧
    ((fetchT S).1.end_ = .invalid → ∃ req d, idValid d = false ∧
        (fetchT S).1.log.getLast? = some (req, Pit.Outcome.data d)) :=
  (timed_fetched S).1.good.propagates

/-- No request is sent more often than the configured number of attempts, whatever the
    delays. -/
theorem timed_requests_bounded (S : SegFetchT.Scenario) (req : Req) :
    ((fetchT S).1.log.filter (fun e => decide (e.1 = req))).length ≤ attempts S.limit :=
  (timed_fetched S).1.count req

/-- `fetch_yields_all_once_in_order` for every delay pattern, with tolerable loss read off the log: no Nack or invalid
    Data reached a pending Interest and no request had `attempts limit` awaitables time out in a row - whichever
    attempt's answer it was that satisfied each Interest. -/
theorem timed_yields_all_once_in_order (cfg : Cfg) (segs : List Seg) (limit f : Nat) (sc : List (Outcome × Nat))
    (hobj : cfg.obj = .segs segs) (hfin : IsFinal segs f)
    (hben : ∀ e ∈ (fetchT ⟨cfg, limit, sc⟩).1.log, Benign e.2)
    (hnot : ¬ ∃ pre req, (fetchT ⟨cfg, limit, sc⟩).1.log = pre ++ List.replicate (attempts limit) (req, Pit.Outcome.timeout)) :
    (fetchT ⟨cfg, limit, sc⟩).1.yielded = contents (segs.take (f + 1)) ∧ (fetchT ⟨cfg, limit, sc⟩).1.end_ = .done := by
  have hdone : (fetchT ⟨cfg, limit, sc⟩).1.end_ = .done := by
    obtain ⟨_, _, p3, p4⟩ := timed_propagates ⟨cfg, limit, sc⟩
    cases he : (fetchT ⟨cfg, limit, sc⟩).1.end_ with
    | done => rfl
    | fuel => exact absurd he (timed_terminates _)
    | timeout => exact absurd ((timed_timeout_iff ⟨cfg, limit, sc⟩).mp he) hnot
    | nack =>
      obtain ⟨req, rs, hl⟩ := p3 he
      have := hben _ (List.mem_of_getLast? hl)
      simp [Benign] at this
    | invalid =>
      obtain ⟨req, d, hv, hl⟩ := p4 he
      have := hben _ (List.mem_of_getLast? hl)
      simp [Benign, hv] at this
  obtain ⟨n, _, y, hiff⟩ := (timed_yields_in_order cfg segs limit sc hobj).1 f hfin
  exact ⟨by rw [y, hiff.mp hdone], hdone⟩

/-- When every scripted answer arrives within the lifetime of its own Interest (or never), the generator over the table
    yields, logs and ends as the untimed model `SegFetch.fetch` run on the script of outcomes: the theorems about `fetch`
    are theorems about `fetchT`. -/
theorem timed_refines_untimed (S : SegFetchT.Scenario) (hlife : 0 < S.cfg.life) (hp : Prompt S.cfg.life S.script) :
    (fetchT S).1.yielded = (fetch ⟨S.cfg.obj, S.cfg.disc, S.script.map Prod.fst, S.limit⟩).yielded ∧
    logOut (fetchT S).1.log = (fetch ⟨S.cfg.obj, S.cfg.disc, S.script.map Prod.fst, S.limit⟩).log ∧
    (fetchT S).1.end_ = (fetch ⟨S.cfg.obj, S.cfg.disc, S.script.map Prod.fst, S.limit⟩).end_ := by
  have h : resOut (fetchT S).1 = fetch ⟨S.cfg.obj, S.cfg.disc, S.script.map Prod.fst, S.limit⟩ :=
    fetch_untimed (ask_scripted S.cfg hlife) S.limit (w := { script := S.script }) ⟨winv_init S.cfg S.script, rfl, hp, rfl⟩
  -- a variable in place of the run: `rfl` on `(fetchT S).1` would unfold the timed model
  generalize (fetchT S).1 = r at h ⊢
  rw [← h]
  exact ⟨rfl, rfl, rfl⟩

/-- `fetch_yields_all_once_in_order` for the fetch over the table: prompt answers and
    tolerable loss. -/
theorem timed_tolerable_yields_all (cfg : Cfg) (segs : List Seg) (limit f : Nat) (sc : List (Outcome × Nat))
    (hobj : cfg.obj = .segs segs) (hlife : 0 < cfg.life) (hp : Prompt cfg.life sc) (hfin : IsFinal segs f)
    (hd : cfg.disc < segs.length) (ht : Tolerable (attempts limit) 0 (sc.map Prod.fst)) :
    (fetchT ⟨cfg, limit, sc⟩).1.yielded = contents (segs.take (f + 1)) ∧ (fetchT ⟨cfg, limit, sc⟩).1.end_ = .done := by
  obtain ⟨r1, _, r3⟩ := timed_refines_untimed ⟨cfg, limit, sc⟩ hlife hp
  obtain ⟨u1, u2⟩ := fetch_yields_all_once_in_order segs cfg.disc limit f (sc.map Prod.fst) hfin hd ht
  simp only [hobj] at r1 r3
  exact ⟨r1.trans u1, r3.trans u2⟩

/--  When the fetch is over - however it ended - the pending-Interest table is a state
    of the C03 model reached by a history `evs` in which no callback raised, the trie is empty
    (C03 `pit_empty_at_quiescence`), and whatever arrives afterwards - the answers still in flight - changes the record
    of no Interest (C03 `complete_at_most_once`): late answers are dropped. -/
theorem timed_table_clean_at_end (S : SegFetchT.Scenario) :
    ∃ evs, (fetchT S).2.σ = Pit.run .v1 evs ∧ (fetchT S).2.σ.errs = [] ∧ (fetchT S).2.σ.trie = [] ∧
      ∀ (later : List Pit.Ev) (i : Nat) (s : Pit.IState), (fetchT S).2.σ.sts[i]? = some s →
        (Pit.run .v1 (evs ++ later)).sts[i]? = some s := by
  obtain ⟨_, _, hdone, ⟨evs, hreach⟩, _⟩ := timed_fetched S
  refine ⟨evs, hreach, ?_, ?_, ?_⟩
  · rw [hreach]; exact C03.no_internal_error .v1 evs
  · rw [hreach]
    refine (C03.pit_empty_at_quiescence .v1 evs fun i hi => ?_).1
    rw [← hreach] at hi
    obtain ⟨o, t, h⟩ := hdone i _ hi
    cases h
  · intro later i s hs
    obtain ⟨o, t, rfl⟩ := hdone i s hs
    rw [hreach] at hs
    exact C03.complete_at_most_once .v1 evs later i o t hs

/-! Concrete timed scenarios (lifetime 1000): the hypotheses are satisfiable, and what late answers do. -/
section TimedExamples

/-- three segments (contents 10, 11, 12; the last one final), discovery answered by segment 1, lifetime 1000 ms, Nacks
    with reason 150 -/
def exCfg : Cfg := ⟨.segs [⟨10, none⟩, ⟨11, none⟩, ⟨12, some 2⟩], 1, 1000, 150⟩

/-- * the answer to the first discovery Interest travels 1200 ms: that Interest times out at 1000, the retry (never
      answered itself) is satisfied at 1200 by the late Data - same name;
    * segment 1: the answer arrives exactly at the deadline (1200 + 1000): too late, the Interest times out, and the retry
      sent in that instant is satisfied by it at once (its own answer, due at 3199, is dropped later). -/
def exLate : SegFetchT.Scenario :=
  ⟨exCfg, 3, [(.data, 1200), (.timeout, 0), (.data, 0), (.data, 1000), (.data, 999)]⟩

theorem exLate_result : (fetchT exLate).1 =
    ⟨[10, 11, 12], [(.disc, .timeout), (.disc, .data 4), (.seg 0, .data 2), (.seg 1, .timeout), (.seg 1, .data 4),
      (.seg 2, .data 6)], .done⟩ := by decide +kernel

example : (fetchT exLate).1 =
    ⟨[10, 11, 12], [(.disc, .timeout), (.disc, .data 4), (.seg 0, .data 2), (.seg 1, .timeout), (.seg 1, .data 4),
      (.seg 2, .data 6)], .done⟩ := exLate_result
example : (fetchT exLate).2.sent = [(.disc, 0), (.disc, 1000), (.seg 0, 1200), (.seg 1, 1200), (.seg 1, 2200), (.seg 2, 2200)] := by
  decide +kernel

/-- the hypotheses of `timed_yields_all_once_in_order` hold for `exLate` although two answers came too late -/
example : (∀ e ∈ (fetchT exLate).1.log, Benign e.2) ∧
    ¬ ∃ pre req, (fetchT exLate).1.log = pre ++ List.replicate (attempts 3) (req, Pit.Outcome.timeout) := by
  refine ⟨?_, fun h => ?_⟩
  · rw [exLate_result]
    intro e he
    simp only [List.mem_cons, List.not_mem_nil, or_false] at he
    rcases he with rfl | rfl | rfl | rfl | rfl | rfl <;> simp [Benign, idValid]
  · have := (timed_timeout_iff exLate).mpr h
    rw [exLate_result] at this
    cases this
example : IsFinal [⟨10, none⟩, ⟨11, none⟩, (⟨12, some 2⟩ : Seg)] 2 := by
  refine ⟨⟨_, rfl, rfl⟩, ?_⟩
  intro j s hj hs
  rcases j with _ | _ | j
  · simp at hs; subst hs; decide
  · simp at hs; subst hs; decide
  · omega

/-- both attempts for segment 0 are answered, each answer arriving exactly when the *next* deadline
    falls (2000 ms): every awaitable times out and the fetch fails, the answers are dropped afterwards -/
example : (fetchT ⟨exCfg, 2, [(.data, 0), (.data, 2000), (.data, 2000)]⟩).1 =
    ⟨[], [(.disc, .data 4), (.seg 0, .timeout), (.seg 0, .timeout)], .timeout⟩ := by decide +kernel

/-- a Nack that comes too late for the attempt it answers ends the fetch through the retry;
    an invalid Data likewise -/
example : (fetchT ⟨exCfg, 3, [(.data, 0), (.nack, 1500), (.timeout, 0)]⟩).1 =
    ⟨[], [(.disc, .data 4), (.seg 0, .timeout), (.seg 0, .nack 150)], .nack⟩ := by decide +kernel
example : (fetchT ⟨exCfg, 3, [(.data, 0), (.invalid, 1001), (.timeout, 0)]⟩).1 =
    ⟨[], [(.disc, .data 4), (.seg 0, .timeout), (.seg 0, .data 3)], .invalid⟩ := by decide +kernel

/-- the late discovery Data (segment 1, 2500 ms) satisfies the Interest for segment 1 while that is pending -/
example : (fetchT ⟨exCfg, 3, [(.data, 2500), (.timeout, 0), (.data, 0), (.data, 0), (.timeout, 0), (.data, 0)]⟩).1 =
    ⟨[10, 11, 12], [(.disc, .timeout), (.disc, .timeout), (.disc, .data 4), (.seg 0, .data 2), (.seg 1, .data 4),
      (.seg 2, .data 6)], .done⟩ := by decide +kernel

/-- lifetime 0: `wait_for(future, 0)` gives up at once, whatever is answered -/
example : (fetchT ⟨⟨.unseg 7, 0, 0, 150⟩, 2, []⟩).1 = ⟨[], [(.disc, .timeout), (.disc, .timeout)], .timeout⟩ := by decide +kernel

example : WInv exCfg { script := exLate.script } := winv_init _ _

/-- a prompt script: delays below the lifetime, or no answer at all -/
example : Prompt 1000 [(.data, 999), (.timeout, 5000), (.nack, 0)] := by
  intro e he
  simp only [List.mem_cons, List.not_mem_nil, or_false] at he
  rcases he with rfl | rfl | rfl <;> simp
example : (fetchT ⟨exCfg, 3, [(.data, 999), (.timeout, 5000), (.data, 500)]⟩).1.yielded = [10, 11, 12] ∧
    logOut (fetchT ⟨exCfg, 3, [(.data, 999), (.timeout, 5000), (.data, 500)]⟩).1.log =
      (fetch ⟨exCfg.obj, 1, [.data, .timeout, .data], 3⟩).log := by decide +kernel

end TimedExamples

end Ndn.C19
