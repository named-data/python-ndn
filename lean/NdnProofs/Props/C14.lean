import NdnProofs.Lemmas.Cascade
import NdnProofs.Lemmas.PitSpec
import NdnGen.C14
/-!
# C14 — The schema validator accepts exactly packets with a valid chain to the anchor

Theorems about `Ndn.Cascade.validate` / `construct` / `runSys` (model of `lvs_validator`, `union_checker`,
`CascadeChecker.validate`, `_verify_sig`, `MemoryKeyStorage`, one storage per instance), for every world of retrievable
certificates, every packet, every reachable storage and every history of validations by any number of instances.

`Signed k o` is the ground truth: `o`'s signature value was produced with the private key of `k`; `Unforgeable` and
`Correct` tie the crypto library's answer (`E.crypto`) to it and are hypotheses, never axioms.  Names are an arbitrary
type `N` and the signing check is the parameter `E.allowed` (`Props/C14Lvs.lean` puts in real names and
`Checker.check`); it may raise, and a link of a chain is a check that answers `True`.  "Retrievable" means: the network
answers the Interest `certInterest kn` (exact name, MustBeFresh, 4000 ms: the only kind the validator sends) with a Data
named exactly `kn`.  "No verdict" (`verdict = none`) is fuel exhaustion, the model of a validation that does not
terminate; it is never an acceptance.
-/
namespace Ndn.C14
open Ndn Ndn.Cascade

variable {N : Type} [DecidableEq N] (E : Env N) (Signed : Key → Obj N → Prop)

/-- Whatever the fuel, the storage (as long as it satisfies the invariant) and
    the packet: if the validator accepts, there is a valid chain to the anchor. -/
theorem validate_sound (hu : Unforgeable E Signed) (fuel : Nat) (st : Cache N) (o : Obj N)
    (hinv : CacheInv E Signed st) (h : (validate E fuel st o).verdict = some .accept) :
    Chain E Signed o :=
  have ⟨_, hd⟩ := validate_chainC hu fuel st o hinv.trusts h
  hd.chain

/-- A packet with a chain of `d` intermediate certificates is accepted by any
    run with more than `d` units of fuel, from any storage satisfying the invariant. -/
theorem validate_complete (hc : Correct E Signed) (d : Nat) (o : Obj N) (h : ChainD E Signed d o)
    (fuel : Nat) (st : Cache N) (hinv : CacheInv E Signed st) (hf : d < fuel) :
    (validate E fuel st o).verdict = some .accept :=
  (validate_of_chainC hc hinv.agrees (chainC_of_chainD E Signed _ d o h) fuel).resolve_right
    fun hn => Nat.not_le_of_lt hf hn.1

theorem no_chain_of_verdict (hc : Correct E Signed) {fuel : Nat} {st : Cache N} {o : Obj N} {v : Verdict}
    (hinv : CacheInv E Signed st) (h : (validate E fuel st o).verdict = some v) (hv : v ≠ .accept) :
    ¬ Chain E Signed o := by
  rintro ⟨d, hd⟩
  rcases validate_of_chainC hc hinv.agrees (chainC_of_chainD E Signed _ d o hd) fuel with h1 | ⟨_, h0⟩
  · exact hv (Option.some.inj (h.symm.trans h1))
  · cases h.symm.trans h0

/-- Whenever a verdict is reached it is `accept` exactly when a chain exists. -/
theorem verdict_iff_chain (hu : Unforgeable E Signed) (hc : Correct E Signed) (fuel : Nat) (st : Cache N)
    (o : Obj N) (hinv : CacheInv E Signed st) (v : Verdict) (h : (validate E fuel st o).verdict = some v) :
    v = .accept ↔ Chain E Signed o :=
  ⟨fun hv => validate_sound E Signed hu fuel st o hinv (hv ▸ h),
   fun hch => Decidable.of_not_not fun hv => no_chain_of_verdict E Signed hc hinv h hv hch⟩

/-- Every validation (accepting, rejecting, raising or running out of
    fuel) leaves the storage invariant intact. -/
theorem cache_inv_preserved (hu : Unforgeable E Signed) (fuel : Nat) (st : Cache N) (o : Obj N)
    (hinv : CacheInv E Signed st) : CacheInv E Signed (validate E fuel st o).cache :=
  hinv.preserved hu fuel o

/-- For an instance with private storage (initially empty): after
    any two histories of earlier validations, the verdicts on the same packet agree on acceptance. -/
theorem verdict_history_independent (hu : Unforgeable E Signed) (hc : Correct E Signed)
    (h1 h2 : List (Nat × Obj N)) (f1 f2 : Nat) (o : Obj N) (v1 v2 : Verdict)
    (e1 : (validate E f1 (runHist E [] h1) o).verdict = some v1)
    (e2 : (validate E f2 (runHist E [] h2) o).verdict = some v2) :
    v1 = .accept ↔ v2 = .accept := by
  have i1 := runHist_inv E Signed hu h1 [] (cacheInv_nil E Signed)
  have i2 := runHist_inv E Signed hu h2 [] (cacheInv_nil E Signed)
  rw [verdict_iff_chain E Signed hu hc f1 _ o i1 v1 e1, verdict_iff_chain E Signed hu hc f2 _ o i2 v2 e2]

/-- In a system of instances with private storages, the storage of instance `i` after any interleaved history is the
    one `i` would have built from its own steps alone. -/
theorem other_instances_irrelevant (envs : Nat → Env N) (i : Nat) (h : List (Nat × Nat × Obj N))
    (cs : Nat → Cache N) :
    runSys envs cs h i = runHist (envs i) (cs i) ((h.filter fun s => s.1 = i).map fun s => s.2) := by
  induction h generalizing cs with
  | nil => rfl
  | cons x r ih =>
    obtain ⟨j, f, o⟩ := x
    rw [runSys, ih]
    by_cases hji : j = i
    · subst hji
      simp [setCache, runHist]
    · simp [setCache, hji, Ne.symm hji]

/-- Several instances (different anchors / schemas, one world), any
    interleaved history from empty storages: a verdict of instance `i` is `accept` exactly when the
    packet has a chain to `i`'s anchor under `i`'s schema. -/
theorem system_verdict_iff_chain (envs : Nat → Env N)
    (hu : ∀ i, Unforgeable (envs i) Signed) (hc : ∀ i, Correct (envs i) Signed)
    (h : List (Nat × Nat × Obj N)) (i fuel : Nat) (o : Obj N) (v : Verdict)
    (e : (validate (envs i) fuel (runSys envs (fun _ => []) h i) o).verdict = some v) :
    v = .accept ↔ Chain (envs i) Signed o := by
  rw [other_instances_irrelevant] at e
  exact verdict_iff_chain (envs i) Signed (hu i) (hc i) fuel _ o
    (runHist_inv (envs i) Signed (hu i) _ [] (cacheInv_nil _ _)) v e

/-- If the key locator of `o` leads into a set of certificate names that is
    closed under "key locator of the certificate served under that name" and does not contain the
    anchor (a certificate loop), then no run, with any fuel and any reachable storage, accepts `o`.
    (The second conjunct only records that a run with no fuel at all gives no verdict; it holds of every packet.) -/
theorem loop_never_accepted (hu : Unforgeable E Signed) (S : N → Prop)
    (hS : ∀ n c, S n → E.world (certInterest n) = some (.data c) → ∃ m, c.keyLoc = some m ∧ S m)
    (hA : ¬ S E.anchorName) (o : Obj N) (n : N) (hn : o.keyLoc = some n) (hs : S n)
    (fuel : Nat) (st : Cache N) (hinv : CacheInv E Signed st) :
    (validate E fuel st o).verdict ≠ some .accept ∧ (validate E 0 st o).verdict = none := by
  refine ⟨fun h => ?_, by simp [validate]⟩
  obtain ⟨d, hd⟩ := validate_sound E Signed hu fuel st o hinv h
  exact no_chain_in_closed_set E Signed S hS hA d o hd n hn hs

omit [DecidableEq N] in
/-- The validator is built exactly when the user functions are present, the
    anchor's name matches (at least one rule and) every root of trust of the schema, and the anchor's
    signature verifies under its own key; the instance then holds the anchor's name and key. -/
theorem construct_refuses (crypto : Key → Obj N → Bool)
    (hu : ∀ k o, crypto k o = true → Signed k o) (hc : ∀ k o, Signed k o → crypto k o = true)
    (s : Setup N) (n : N) (k : Key) :
    construct crypto s = .ok (n, k) ↔
      (s.userFnsOk = true ∧ s.matched ≠ [] ∧ (∀ r ∈ s.roots, r ∈ s.matched) ∧
        Verifies Signed s.anchorKey s.anchor ∧ n = s.anchor.name ∧ k = s.anchorKey) := by
  have hm : (s.matched.isEmpty || !(s.roots.all fun r => s.matched.contains r)) = false ↔
      s.matched ≠ [] ∧ ∀ r ∈ s.roots, r ∈ s.matched := by simp
  have hv : verifySig crypto s.anchorKey s.anchor = .accept ↔ Verifies Signed s.anchorKey s.anchor :=
    verifySig_eq_accept.trans ⟨fun h => ⟨h.1, hu _ _ h.2⟩, fun h => ⟨h.1, hc _ _ h.2⟩⟩
  rw [← and_assoc (a := s.matched ≠ []), ← hm, ← hv]
  unfold construct
  cases s.userFnsOk
  · simp
  cases (s.matched.isEmpty || !(s.roots.all fun r => s.matched.contains r))
  · cases verifySig crypto s.anchorKey s.anchor <;> simp [eq_comm]
  · simp

/-- If `Checker.check` raises on the packet's own link, the validation raises that exception: no certificate Interest,
    the storage untouched. -/
theorem check_raise_reaches_caller (fuel : Nat) (st : Cache N) (o : Obj N) (kn : N) (e : PyErr)
    (hk : o.keyLoc = some kn) (ha : E.allowed o.name kn = .error e) :
    validate E (fuel + 1) st o = ⟨some (.raise e), st, []⟩ := by
  rw [validate]; simp [hk, ha]

/-- If the validation of a fetched certificate raises, the validation that fetched it raises the same exception (the
    `except` around the fetch does not catch it) and the key is not cached. -/
theorem nested_raise_propagates (fuel : Nat) (st : Cache N) (o : Obj N) (kn : N) (c : Obj N) (e : PyErr)
    (hk : o.keyLoc = some kn) (ha : E.allowed o.name kn = .ok true) (hn : kn ≠ E.anchorName)
    (hl : cacheLoad st kn = none) (hex : express E (certInterest kn) = some c)
    (hr : (validate E fuel st c).verdict = some (.raise e)) :
    (validate E (fuel + 1) st o).verdict = some (.raise e) ∧
      (validate E (fuel + 1) st o).cache = (validate E fuel st c).cache := by
  rw [validate]; simp [hk, ha, hn, hl, hex, hr]

/-- A packet on whose link the signing check raises is never accepted and never refused: the only verdicts are none
    (no fuel) and the exception. -/
theorem raising_check_never_accepts (fuel : Nat) (st : Cache N) (o : Obj N) (kn : N) (e : PyErr)
    (hk : o.keyLoc = some kn) (ha : E.allowed o.name kn = .error e) :
    (validate E fuel st o).verdict = none ∨ (validate E fuel st o).verdict = some (.raise e) := by
  cases fuel with
  | zero => left; simp [validate]
  | succ f => right; rw [check_raise_reaches_caller E f st o kn e hk ha]

/-- A validation raises `e` only if `allowed` raises `e` on some pair of names - which pair is not said - or `e` is the
    `ValueError` of a key importer (key bits that do not fit the declared signature type). -/
theorem raise_has_cause (fuel : Nat) (st : Cache N) (o : Obj N) (e : PyErr)
    (h : (validate E fuel st o).verdict = some (.raise e)) :
    (∃ a b, E.allowed a b = .error e) ∨ e = .valueError := by
  -- the branches of `validate` are numbered as listed in `Lemmas/Cascade.lean`
  fun_induction validate E fuel st o
  case case3 ha => exact .inl ⟨_, _, Verdict.raise.inj (Option.some.inj h) ▸ ha⟩
  case case5 | case6 | case10 => exact .inr (verifySig_raise (Option.some.inj h))
  case case12 hr ih => exact ih (hr.trans h)
  all_goals cases h

/-- Every Interest a validation sends is the certificate Interest for its
    name: exact name (CanBePrefix false), MustBeFresh, lifetime 4000 ms. -/
theorem log_only_cert_interests (fuel : Nat) (st : Cache N) (o : Obj N) :
    ∀ i ∈ (validate E fuel st o).log, i = certInterest i.name := by
  intro i hi
  fun_induction validate E fuel st o
  case case7 => cases hi with | head => rfl | tail _ hi => cases hi
  case case8 ih | case9 ih | case10 ih | case11 ih | case12 ih => cases hi with | head => rfl | tail _ hi => exact ih hi
  all_goals cases hi

/-- The fetch for a key locator `kn` hands a Data to the next-level validator exactly when the network answered
    `certInterest kn` with it and it is named exactly `kn`. -/
theorem fetch_exact_name (kn : N) (c : Obj N) :
    express E (certInterest kn) = some c ↔ E.world (certInterest kn) = some (.data c) ∧ c.name = kn :=
  express_certInterest E kn c

/-- A key bound to `n` in the storage after a validation was bound before, or is the content of a Data named exactly
    `n` that answered a certificate Interest for `n` sent during this validation. -/
theorem fetched_key_only_under_requested_name (fuel : Nat) (st : Cache N) (o : Obj N) (n : N) (k : Key)
    (h : cacheLoad (validate E fuel st o).cache n = some k) :
    cacheLoad st n = some k ∨
      (certInterest n ∈ (validate E fuel st o).log ∧
        ∃ c, E.world (certInterest n) = some (.data c) ∧ c.name = n ∧ c.content = some k) :=
  (validate_cache E fuel st o n k h).imp_right fun ⟨hm, _, c, hex, hcc, _⟩ =>
    have ⟨hw, hcn⟩ := (express_certInterest E n c).mp hex
    ⟨hm, c, hw, hcn, hcc⟩

omit [DecidableEq N] in
/-- (bridge to C03) In the specification of the pending-Interest table
    (`Ndn.Pit.Matches`, refined by the PIT model: `Ndn.C03.one_data_all_matching_no_others`), an Interest
    without CanBePrefix and without implicit digest is matched by exactly the Data of its own name.  `pitPasses`
    applies the same criterion to the records of this model; the two are related by reading, not by a theorem. -/
theorem pit_exact_for_cert_interest (r : Ndn.Pit.Req) (dnm : Ndn.Pit.Name) (dg : Nat)
    (hc : r.cbp = false) (hi : r.implicit = none) : Ndn.Pit.Matches r dnm dg ↔ dnm = r.name := by
  unfold Ndn.Pit.Matches
  simp only [hc, hi, Bool.false_eq_true, false_and, or_false, true_or, and_true]
  exact eq_comm

/-- (generated table) The keyword arguments of the one `express_interest` call in `CascadeChecker.validate`; no
    lifetime among them, so `InterestParam`'s default (`Ndn.Gen.C14.defaultLifetime`) applies. -/
theorem fetch_interest_params :
    Ndn.Gen.C14.fetchKwargs = [("name", "cert_name"), ("must_be_fresh", "True"), ("can_be_prefix", "False"),
      ("validator", "self.next_level")] ∧
    (∀ kn : Nat, (certInterest kn).lifetime = Ndn.Gen.C14.defaultLifetime) ∧
    (∀ kn : Nat, (certInterest kn).canBePrefix = false ∧ (certInterest kn).mustBeFresh = true) :=
  ⟨by decide +kernel, fun _ => rfl, fun _ => ⟨rfl, rfl⟩⟩

/-- (generated tables) Nothing between `Checker.check` and the caller of the validator catches its exceptions: no `try`
    in `validate_name` and in `union_checker`'s wrapper, `NDNApp._wait_for_data` calls the validator outside its `try`,
    and the one `except` in `CascadeChecker.validate` names no exception class of the model (`PyErr`). -/
theorem check_exception_uncaught :
    Ndn.Gen.C14.validateNameCaught = [] ∧ Ndn.Gen.C14.unionCaught = [] ∧
    Ndn.Gen.C14.waitValidatorCaught = [] ∧
    ∀ e : PyErr, ∀ h ∈ Ndn.Gen.C14.validateCaught, e.name ∉ h ∧ "Exception" ∉ h ∧ "BaseException" ∉ h := by
  refine ⟨rfl, rfl, rfl, fun e h hh => ?_⟩
  obtain rfl := List.mem_singleton.mp hh
  refine ⟨?_, by simp, by simp⟩
  cases e <;> simp [PyErr.name]

/-- (generated table) The one `except` in `CascadeChecker.validate` catches exactly ValidationFailure, InterestTimeout
    and InterestNack: the outcomes the model turns into `reject`. -/
theorem caught_exceptions :
    Ndn.Gen.C14.validateCaught = [["ValidationFailure", "InterestTimeout", "InterestNack"]] := by decide +kernel

/-- who signed: the signature token names the signing key pair -/
def GSigned (k : Key) (o : Obj N) : Prop := o.sig = some k.id

def gcrypto (k : Key) (o : Obj N) : Bool := o.sig == some k.id

/-- name 1 = anchor A, 2 = anchor B, 3 = a certificate issued by A, 4 = a packet signed by 3 -/
def certA : Obj Name := ⟨1, some 1, .ecdsa, some 10, some ⟨.ec, 10⟩⟩
def cert3 : Obj Name := ⟨3, some 1, .ecdsa, some 10, some ⟨.ec, 30⟩⟩
def pkt4 : Obj Name := ⟨4, some 3, .ecdsa, some 30, none⟩
def gworld (i : Interest Name) : Option (Outcome Name) :=
  if i.name = 1 then some (.data certA) else if i.name = 3 then some (.data cert3) else none
def gallowed (a b : Name) : Except PyErr Bool := if a = 0 then .error .indexError else .ok (!(a == b))
def EA : Env Name := ⟨gallowed, gcrypto, gworld, 1, ⟨.ec, 10⟩⟩
def EB : Env Name := ⟨gallowed, gcrypto, gworld, 2, ⟨.ec, 20⟩⟩

theorem g_unforgeable (E : Env Name) (h : E.crypto = gcrypto) : Unforgeable E GSigned :=
  fun k o hc => beq_iff_eq.mp (show gcrypto k o = true from h ▸ hc)

theorem g_correct (E : Env Name) (h : E.crypto = gcrypto) : Correct E GSigned :=
  fun k o hs => h ▸ (beq_iff_eq.mpr hs : gcrypto k o = true)

theorem chain_pkt4 : ChainD EA GSigned 1 pkt4 :=
  .step pkt4 3 cert3 ⟨.ec, 30⟩ 0 rfl (by decide +kernel) rfl rfl rfl rfl ⟨rfl, rfl⟩
    (.anchor cert3 rfl rfl ⟨rfl, rfl⟩)

example : (validate EA 2 [] pkt4).verdict = some .accept :=
  validate_complete EA GSigned (g_correct EA rfl) 1 pkt4 chain_pkt4 2 [] (cacheInv_nil _ _) (by omega)

example : Chain EA GSigned pkt4 :=
  validate_sound EA GSigned (g_unforgeable EA rfl) 2 [] pkt4 (cacheInv_nil _ _) (by decide +kernel)

example : CacheInv EA GSigned (validate EA 2 [] pkt4).cache ∧ (validate EA 2 [] pkt4).cache = [(3, ⟨.ec, 30⟩)] :=
  ⟨cache_inv_preserved EA GSigned (g_unforgeable EA rfl) 2 [] pkt4 (cacheInv_nil _ _), by decide +kernel⟩

theorem no_chain_EB : ¬ Chain EB GSigned pkt4 :=
  no_chain_of_verdict EB GSigned (g_correct EB rfl) (cacheInv_nil _ _)
    (by decide +kernel : (validate EB 5 [] pkt4).verdict = some .reject) nofun

/-- instance B (another anchor) has no chain for the packet and rejects it, fresh or after any history -/
example : (validate EB 5 [] pkt4).verdict = some .reject := by decide +kernel

example (h : List (Nat × Nat × Obj Name)) (f : Nat) (v : Verdict)
    (e : (validate EB f (runSys (fun i => if i = 0 then EA else EB) (fun _ => []) h 1) pkt4).verdict = some v) :
    v ≠ .accept := by
  intro hv
  have hcr : ∀ i, (if i = 0 then EA else EB).crypto = gcrypto := fun i => by split <;> rfl
  exact no_chain_EB ((system_verdict_iff_chain GSigned (fun i => if i = 0 then EA else EB)
    (fun i => g_unforgeable _ (hcr i)) (fun i => g_correct _ (hcr i)) h 1 f pkt4 v e).mp hv)

/-- F11 in the model: if instance B is given the storage that instance A filled (the shared default
    `MemoryKeyStorage()`), it accepts the packet although no chain to B's anchor exists: A's storage does not satisfy
    `CacheInv` for B. -/
example : (validate EB 5 (validate EA 5 [] pkt4).cache pkt4).verdict = some .accept ∧
    ¬ Chain EB GSigned pkt4 ∧ ¬ CacheInv EB GSigned (validate EA 5 [] pkt4).cache := by
  have hacc : (validate EB 5 (validate EA 5 [] pkt4).cache pkt4).verdict = some .accept := by decide +kernel
  exact ⟨hacc, no_chain_EB,
    fun hinv => no_chain_EB (validate_sound EB GSigned (g_unforgeable EB rfl) 5 _ pkt4 hinv hacc)⟩

/-- the loop theorem applies: certificates 5 and 6 name each other -/
example : ∀ fuel, (validate ⟨gallowed, gcrypto,
      fun i => if i.name = 5 then some (.data ⟨5, some 6, .ecdsa, some 60, some ⟨.ec, 50⟩⟩)
               else if i.name = 6 then some (.data ⟨6, some 5, .ecdsa, some 50, some ⟨.ec, 60⟩⟩) else none,
      1, ⟨.ec, 10⟩⟩ fuel [] ⟨7, some 5, .ecdsa, some 50, none⟩).verdict ≠ some .accept := by
  intro fuel
  refine (loop_never_accepted _ GSigned (g_unforgeable _ rfl) (fun n => n = 5 ∨ n = 6) ?_ (by decide +kernel)
    _ 5 rfl (Or.inl rfl) fuel [] (cacheInv_nil _ _)).1
  intro n c hn hw
  rcases hn with rfl | rfl
  · simp [certInterest] at hw; subst hw; exact ⟨6, rfl, Or.inr rfl⟩
  · simp [certInterest] at hw; subst hw; exact ⟨5, rfl, Or.inl rfl⟩

/-- a packet named 0 makes the signing check raise: the exception is the verdict … -/
example : validate EA 3 [] ⟨0, some 1, .ecdsa, some 10, none⟩ = ⟨some (.raise .indexError), [], []⟩ :=
  check_raise_reaches_caller EA 2 [] _ 1 .indexError rfl rfl

def EA0 : Env Name := { EA with world := fun i => if i.name = 0 then some (.data ⟨0, some 1, .ecdsa, some 10, some ⟨.ec, 70⟩⟩) else none }

/-- … also when it is a fetched certificate (named 0, served by `EA0`) on whose link the check raises: the packet 7
    that names it gets the exception, not a refusal, and nothing is cached -/
example : (validate EA0 3 [] ⟨7, some 0, .ecdsa, some 70, none⟩).verdict = some (.raise .indexError) ∧
    (validate EA0 3 [] ⟨7, some 0, .ecdsa, some 70, none⟩).cache = [] :=
  nested_raise_propagates EA0 2 [] _ 0 ⟨0, some 1, .ecdsa, some 10, some ⟨.ec, 70⟩⟩ .indexError rfl rfl
    (by decide +kernel) rfl (by decide +kernel) (by decide +kernel)

example : (∃ a b, EA0.allowed a b = .error .indexError) ∨ PyErr.indexError = .valueError :=
  raise_has_cause EA0 3 [] ⟨7, some 0, .ecdsa, some 70, none⟩ .indexError (by decide +kernel)

example : (validate EA 2 [] pkt4).log = [⟨3, false, true, 4000⟩] := by decide +kernel

/-- a Data of another name returned for the Interest for 3 is not taken: refused, nothing cached -/
example : (validate { EA with world := fun _ => some (.data { cert3 with name := 33 }) } 2 [] pkt4).verdict
      = some .reject ∧
    (validate { EA with world := fun _ => some (.data { cert3 with name := 33 }) } 2 [] pkt4).cache = [] := by
  decide +kernel

/-- … whereas a CanBePrefix Interest would be satisfied by it (what the code must not send) -/
example : express { EA with world := fun _ => some (.data { cert3 with name := 33 }) } ⟨3, true, true, 4000⟩
    = some { cert3 with name := 33 } := by decide +kernel

example : construct gcrypto ⟨true, ["#root"], ["#root"], certA, ⟨.ec, 10⟩⟩ = .ok (1, ⟨.ec, 10⟩) := by rfl
example : construct gcrypto ⟨true, ["#root"], ["#admin"], certA, ⟨.ec, 10⟩⟩ = .error .valueError := by rfl
example : construct gcrypto ⟨true, ["#root"], ["#root"], { certA with sig := some 11 }, ⟨.ec, 10⟩⟩
    = .error .valueError := by rfl

/-! ## the certificate world changes between validations; the key storage is an explicit object

`Ndn.Cascade.runD` / `validateD` / `traceD`: a history of `validate i fuel o` and `world w` events over instances
`cfgs i` (schema check, crypto, anchor, and the storage object the instance holds: an `EmptyKeyStorage` or the
`MemoryKeyStorage` number `s`, possibly held by several instances).  Histories start in a fresh process (every storage
object empty). -/

section dynamic
variable (cfgs : Nat → Cfg N)

/-- the state after a history that began in a fresh process in front of the network `w0` -/
abbrev after (w0 : World N) (h : List (Event N)) : DState N := runD cfgs ⟨w0, fun _ => []⟩ h

omit [DecidableEq N] in
/-- What a storage object vouches for after a history was served by the network, under
    that name and with that key, in one of the states it went through. -/
theorem trusted_keys_were_served (w0 : World N) (h : List (Event N)) (s : Nat) (n : N) (k : Key)
    (ht : TrustedD (allowedOf cfgs) cfgs Signed w0 noTrust h s n k) :
    ∃ w ∈ worldsOf w0 h, ∃ x, w (certInterest n) = some (.data x) ∧ x.name = n ∧ x.content = some k :=
  trustedD_induction (allowedOf cfgs) cfgs Signed
    (fun T => ∀ s n k, T s n k → ∃ w ∈ worldsOf w0 h, ∃ x, w (certInterest n) = some (.data x) ∧ x.name = n ∧
      x.content = some k)
    h w0 noTrust (fun _ _ _ hf => hf.elim)
    (fun w' hm _ _ hT s n k hs => hs.elim (hT s n k) fun ⟨_, x, hw, hxn, hxc, _⟩ => ⟨w', hm, x, hw, hxn, hxc⟩) s n k ht

/-- Completeness, whatever happened before (failed fetches, earlier states of the network, validations by this and by
    other instances, storage objects shared or not): a packet with a chain in the network as it is now is accepted.
    Hypothesis `KeyStable`: a name denotes one key — no state of the network during the history served other key bits
    under the name of a certificate retrievable now (without it the statement is false: the REPLACE example below). -/
theorem accept_of_chain_now (hc : ∀ i k o, Signed k o → (cfgs i).crypto k o = true)
    (w0 : World N) (h : List (Event N)) (i fuel d : Nat) (o : Obj N)
    (hstable : KeyStable (worldsOf w0 h) (after cfgs w0 h).world)
    (hch : ChainD ((cfgs i).env (after cfgs w0 h).world) Signed d o) (hf : d < fuel) :
    (validateD cfgs (after cfgs w0 h) i fuel o).verdict = some .accept := by
  refine (validate_of_chainC (correct_env (cfgs i) Signed _ (hc i)) ?_ (chainC_of_chainD _ Signed _ d o hch) fuel).resolve_right
    fun hn => Nat.not_le_of_lt hf hn.1
  cases hst : (cfgs i).store with
  | empty => exact cacheAgrees_nil _
  | mem s =>
    refine cacheAgrees_of_stable _ (worldsOf w0 h) hstable _ fun n k hl => ?_
    -- no hypothesis on the signature scheme is needed here: the invariant of the storage objects is used with
    -- "some instance's crypto library accepts" as the ground truth of who signed, for which `hu` is trivial
    exact trusted_keys_were_served (fun k o => ∃ j, (cfgs j).crypto k o = true) cfgs w0 h s n k
      (storesTrusted_run cfgs _ (fun j _ _ hj => ⟨j, hj⟩) h ⟨w0, fun _ => []⟩ noTrust (fun _ => trusts_nil _) s n k hl)

/-- Soundness with a cache.  An acceptance after any history has a chain, by `i`'s signing check, that reaches `i`'s
    anchor through certificates retrievable now or ends at a key `i`'s storage object vouches for (`TrustedD`): the key
    of a certificate that was retrievable under that name at an earlier `validate` event of an instance holding the
    same storage object, and had such a chain then, to the anchor and by the check of that instance.  An
    `EmptyKeyStorage` vouches for nothing. -/
theorem accept_sound_with_cache (hu : ∀ i k o, (cfgs i).crypto k o = true → Signed k o)
    (w0 : World N) (h : List (Event N)) (i fuel : Nat) (o : Obj N)
    (hacc : (validateD cfgs (after cfgs w0 h) i fuel o).verdict = some .accept) :
    ∃ d, ChainC (AllowedR (cfgs i).allowed) ((cfgs i).env (after cfgs w0 h).world) Signed
      (trustOf (TrustedD (allowedOf cfgs) cfgs Signed w0 noTrust h) (cfgs i).store) d o := by
  have hinv := storesTrusted_run cfgs Signed hu h ⟨w0, fun _ => []⟩ noTrust (fun s => trusts_nil _)
  exact validate_chainC (unforgeable_env (cfgs i) Signed _ (hu i)) fuel _ o (trusts_loadStore hinv (cfgs i).store) hacc

/-- An instance that was given an `EmptyKeyStorage`: at every step of every
    history, a verdict is `accept` exactly when the packet has a chain in the network as it is now. -/
theorem empty_storage_verdict_iff_chain (hu : ∀ i k o, (cfgs i).crypto k o = true → Signed k o)
    (hc : ∀ i k o, Signed k o → (cfgs i).crypto k o = true)
    (w0 : World N) (h : List (Event N)) (i fuel : Nat) (o : Obj N) (v : Verdict) (he : (cfgs i).store = .empty)
    (e : (validateD cfgs (after cfgs w0 h) i fuel o).verdict = some v) :
    v = .accept ↔ Chain ((cfgs i).env (after cfgs w0 h).world) Signed o := by
  simp only [validateD, he, loadStore] at e
  exact verdict_iff_chain _ Signed (unforgeable_env (cfgs i) Signed _ (hu i)) (correct_env (cfgs i) Signed _ (hc i))
    fuel [] o (cacheInv_nil _ _) v e

/-- Isolation.  What instance `i` (holding the storage object `s`) answers after a history — verdict, certificate
    Interests, storage — is what it answers after the same history without the `validate` events of instances that do
    not hold `s`. -/
theorem instances_independent (st : DState N) (h : List (Event N)) (i fuel s : Nat) (o : Obj N)
    (hs : (cfgs i).store = .mem s) :
    validateD cfgs (runD cfgs st h) i fuel o =
      validateD cfgs (runD cfgs st (h.filter (touches cfgs s))) i fuel o := by
  obtain ⟨hw, hst⟩ := runD_filter cfgs s h st st rfl rfl
  simp only [validateD, hs, loadStore, hw, hst]

/-- … and an instance holding an `EmptyKeyStorage` is influenced by no `validate`
    event at all, its own included. -/
theorem empty_storage_independent (st : DState N) (h : List (Event N)) (i fuel : Nat) (o : Obj N)
    (he : (cfgs i).store = .empty) :
    validateD cfgs (runD cfgs st h) i fuel o = validateD cfgs (runD cfgs st (h.filter isWorld)) i fuel o := by
  have hw := runD_world_only cfgs h st st rfl
  simp only [validateD, he, loadStore, hw]

/-- With no `world` event and one storage object per instance the model with events is the
    static model (`runSys` / `traceSys`): same storages, same verdicts, same certificate Interests. -/
theorem static_refinement (hpriv : ∀ i, (cfgs i).store = .mem i) (w : World N) (h : List (Nat × Nat × Obj N))
    (cs : Nat → Cache N) :
    (runD cfgs ⟨w, cs⟩ (staticEvents h)).stores = runSys (fun i => (cfgs i).env w) cs h ∧
    (runD cfgs ⟨w, cs⟩ (staticEvents h)).world = w ∧
    traceD cfgs ⟨w, cs⟩ (staticEvents h) = traceSys (fun i => (cfgs i).env w) cs h := by
  induction h generalizing cs with
  | nil => exact ⟨rfl, rfl, rfl⟩
  | cons x r ih =>
    have := ih (setCache cs x.1 (validate ((cfgs x.1).env w) x.2.1 (cs x.1) x.2.2).cache)
    simp only [staticEvents, List.map_cons, runD, runSys, traceD, traceSys, stepD, validateD, hpriv x.1, loadStore,
      saveStore] at this ⊢
    exact ⟨this.1, this.2.1, by rw [this.2.2]⟩

/-- (`system_verdict_iff_chain` carried over by `static_refinement`) In a history without `world`
    events over instances with private storage objects, a verdict is `accept` exactly when a chain exists. -/
theorem static_history_verdict_iff_chain (hpriv : ∀ i, (cfgs i).store = .mem i)
    (hu : ∀ i k o, (cfgs i).crypto k o = true → Signed k o) (hc : ∀ i k o, Signed k o → (cfgs i).crypto k o = true)
    (w : World N) (h : List (Nat × Nat × Obj N)) (i fuel : Nat) (o : Obj N) (v : Verdict)
    (e : (validateD cfgs (after cfgs w (staticEvents h)) i fuel o).verdict = some v) :
    v = .accept ↔ Chain ((cfgs i).env w) Signed o := by
  obtain ⟨hst, hw, _⟩ := static_refinement cfgs hpriv w h (fun _ => [])
  simp only [validateD, hpriv i, loadStore, after, hst, hw] at e
  exact system_verdict_iff_chain Signed (fun i => (cfgs i).env w)
    (fun i => unforgeable_env (cfgs i) Signed w (hu i)) (fun i => correct_env (cfgs i) Signed w (hc i)) h i fuel o v e

end dynamic

/-- instances 0 and 1 hold the storage object 0, instance 2 its own, instance 3 an `EmptyKeyStorage`; all anchored at A -/
def gcfgs (i : Nat) : Cfg Name :=
  ⟨gallowed, gcrypto, 1, ⟨.ec, 10⟩, if i ≤ 1 then .mem 0 else if i = 2 then .mem 2 else .empty⟩

def wNone : World Name := fun _ => none
def wTimeout : World Name := fun i => if i.name = 3 then some .timeout else none
/-- another certificate (another key) under the name 3, also issued by A -/
def cert3' : Obj Name := ⟨3, some 1, .ecdsa, some 10, some ⟨.ec, 31⟩⟩
def wRepl : World Name := fun i => if i.name = 3 then some (.data cert3') else none
/-- a packet signed with the key of `cert3'` -/
def pkt4' : Obj Name := ⟨4, some 3, .ecdsa, some 31, none⟩

theorem gcfg_unforgeable : ∀ i k (o : Obj Name), (gcfgs i).crypto k o = true → GSigned k o :=
  fun _ _ _ h => beq_iff_eq.mp h

theorem gcfg_correct : ∀ i k (o : Obj Name), GSigned k o → (gcfgs i).crypto k o = true :=
  fun _ _ _ h => beq_iff_eq.mpr h

/-- APPEAR: the fetch of certificate 3 times out, the packet is refused; the certificate becomes retrievable; the same
    instance and a fresh one accept (`accept_of_chain_now` applies: the hypothesis `KeyStable` holds) -/
example : traceD gcfgs ⟨wTimeout, fun _ => []⟩
      [.validate 0 3 pkt4, .world gworld, .validate 0 3 pkt4, .validate 2 3 pkt4] =
    [(some .reject, [⟨3, false, true, 4000⟩]), (some .accept, [⟨3, false, true, 4000⟩]),
     (some .accept, [⟨3, false, true, 4000⟩])] := by decide +kernel

example : (validateD gcfgs (after gcfgs wTimeout [.validate 0 3 pkt4, .world gworld]) 0 3 pkt4).verdict = some .accept := by
  refine accept_of_chain_now GSigned gcfgs gcfg_correct wTimeout _ 0 3 1 pkt4 ?_ chain_pkt4 (by omega)
  show KeyStable [wTimeout, gworld] gworld
  exact .cons (fun i c => by unfold wTimeout; split <;> nofun) (.self gworld)

/-- DISAPPEAR (the cache, exhibited): the packet is accepted and the key of certificate 3 stored; the certificate is
    withdrawn from the network; the same instance, and instance 1 that shares its storage object, still accept — without
    sending an Interest —, although NO chain exists in the network as it is now; instance 2 (own storage) and instance 3
    (`EmptyKeyStorage`) refuse. -/
example : traceD gcfgs ⟨gworld, fun _ => []⟩
      [.validate 0 3 pkt4, .world wNone, .validate 0 3 pkt4, .validate 1 3 pkt4, .validate 2 3 pkt4, .validate 3 3 pkt4] =
    [(some .accept, [⟨3, false, true, 4000⟩]), (some .accept, []), (some .accept, []),
     (some .reject, [⟨3, false, true, 4000⟩]), (some .reject, [⟨3, false, true, 4000⟩])] := by decide +kernel

example : ¬ Chain ((gcfgs 0).env wNone) GSigned pkt4 :=
  no_chain_of_verdict ((gcfgs 0).env wNone) GSigned (gcfg_correct 0) (cacheInv_nil _ _)
    (by decide +kernel : (validate ((gcfgs 0).env wNone) 5 [] pkt4).verdict = some .reject) nofun

/-- … what `accept_sound_with_cache` says about that acceptance: a chain that ends at a key the storage vouches for -/
example : ∃ d, ChainC (AllowedR gallowed) ((gcfgs 1).env wNone) GSigned
    (TrustedD (allowedOf gcfgs) gcfgs GSigned gworld noTrust [.validate 0 3 pkt4, .world wNone] 0) d pkt4 :=
  accept_sound_with_cache GSigned gcfgs gcfg_unforgeable gworld [.validate 0 3 pkt4, .world wNone] 1 3 pkt4 (by decide +kernel)

/-- REPLACE: after the key of certificate 3 was stored, ANOTHER certificate (another key) is published under the same
    name, and a packet signed with the new key has a chain in the network as it is now — the instance that holds the old
    key refuses it (`KeyStable` fails: `accept_of_chain_now` is false without it), an instance with its own storage
    accepts it -/
example : traceD gcfgs ⟨gworld, fun _ => []⟩
      [.validate 0 3 pkt4, .world wRepl, .validate 0 3 pkt4', .validate 2 3 pkt4', .validate 0 3 pkt4] =
    [(some .accept, [⟨3, false, true, 4000⟩]), (some .reject, []), (some .accept, [⟨3, false, true, 4000⟩]),
     (some .accept, [])] := by decide +kernel

example : ChainD ((gcfgs 0).env wRepl) GSigned 1 pkt4' :=
  .step pkt4' 3 cert3' ⟨.ec, 31⟩ 0 rfl (by decide +kernel) rfl rfl rfl rfl ⟨rfl, rfl⟩
    (.anchor cert3' rfl rfl ⟨rfl, rfl⟩)

example (h : List (Event Name)) (f : Nat) (o : Obj Name) :
    validateD gcfgs (after gcfgs gworld h) 2 f o =
      validateD gcfgs (after gcfgs gworld (h.filter (touches gcfgs 2))) 2 f o :=
  instances_independent gcfgs _ h 2 f 2 o rfl

example (h : List (Event Name)) (f : Nat) (v : Verdict)
    (e : (validateD gcfgs (after gcfgs gworld h) 3 f pkt4).verdict = some v) :
    v = .accept ↔ Chain ((gcfgs 3).env (after gcfgs gworld h).world) GSigned pkt4 :=
  empty_storage_verdict_iff_chain GSigned gcfgs gcfg_unforgeable gcfg_correct gworld h 3 f pkt4 v rfl e

end Ndn.C14
