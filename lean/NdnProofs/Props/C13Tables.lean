import NdnProofs.Lemmas.Lvs.Tables
import NdnGen.C13
import NdnGen.C08
/-!
  C13 - the tables `lean/NdnGen/C13.lean` is regenerated with from `binary.py`, `checker.py` and `compiler.py` on every
  run, tied to the loader / compiler models (`NdnModel/Lvs/{Model,Match,Compile}.lean`).

  A source edit that alters one of the entries changes the generated file and the theorem stops checking, before the
  harness's correspondence run has searched for an input on which model and code differ.
  The model functions named in the docstrings are a reading aid; the statements compare the generated text with the literal,
  except where a conjunct names the model.
-/
namespace Ndn.C13
open Ndn Ndn.Lvs

/-- **VERSION / MIN_SUPPORTED_VERSION**: the bounds `versionOK` tests are the live values of binary.py, and the
    compiler model stamps `VERSION` -/
theorem versions_table :
    minVersion = Gen.C13.minSupportedVersion ∧ maxVersion = Gen.C13.version ∧
    (∀ m : Model, versionOK m =
      match m.version with
      | none => false
      | some v => decide (Gen.C13.minSupportedVersion ≤ v) && decide (v ≤ Gen.C13.version)) ∧
    (∀ chains named m, buildModel chains named = .ok m → m.version = some Gen.C13.version) :=
  ⟨rfl, rfl, fun _ => rfl, fun chains named m h => (buildModel_header chains named m h).1⟩

/-- Python class, attribute the harness exporter (`lvs_common.enc_model`) reads, TLV kind, Type number, and the field
    of the Lean structure (`NdnModel/Lvs/Model.lean`) that receives it (`-` = not represented: the symbol table only
    prints bindings).  This last column is documentation: `binary_layout_table` compares the first three. -/
def layout : List (String × List (String × String × Nat × String)) := [
  ("UserFnArg", [("value", "bytes", 0x21, "FnArg.value"), ("tag", "uint", 0x23, "FnArg.tag")]),
  ("UserFnCall", [("fn_id", "string", 0x27, "FnCall.fnId"), ("args", "rep-model:UserFnArg", 0x33, "FnCall.args")]),
  ("ConstraintOption", [("value", "bytes", 0x21, "ConsOption.value"), ("tag", "uint", 0x23, "ConsOption.tag"),
                        ("fn", "model:UserFnCall", 0x31, "ConsOption.fn")]),
  ("PatternConstraint", [("options", "rep-model:ConstraintOption", 0x41, "Constraint")]),
  ("PatternEdge", [("dest", "uint", 0x25, "PEdge.dest"), ("tag", "uint", 0x23, "PEdge.tag"),
                   ("cons_sets", "rep-model:PatternConstraint", 0x43, "PEdge.cons")]),
  ("ValueEdge", [("dest", "uint", 0x25, "VEdge.dest"), ("value", "bytes", 0x21, "VEdge.value")]),
  ("Node", [("id", "uint", 0x25, "Node.id"), ("parent", "uint", 0x57, "Node.parent"),
            ("rule_name", "rep-string", 0x29, "Node.ruleNames"), ("v_edges", "rep-model:ValueEdge", 0x51, "Node.vEdges"),
            ("p_edges", "rep-model:PatternEdge", 0x53, "Node.pEdges"), ("sign_cons", "rep-uint", 0x55, "Node.signCons")]),
  ("TagSymbol", [("tag", "uint", 0x23, "-"), ("ident", "string", 0x29, "-")]),
  ("LvsModel", [("version", "uint", 0x61, "Model.version"), ("start_id", "uint", 0x25, "Model.startId"),
                ("named_pattern_cnt", "uint", 0x69, "Model.namedCnt"), ("nodes", "rep-model:Node", 0x63, "Model.nodes"),
                ("symbols", "rep-model:TagSymbol", 0x67, "-")])]

/-- **binary model classes**: every class of binary.py, its fields in encoding order, their kinds and Type numbers are
    the ones the Lean structures are laid out after; the Type numbers are the members of `binary.TypeNumber`. -/
theorem binary_layout_table :
    Gen.C13.classes = layout.map (fun c => (c.1, c.2.map fun f => (f.1, f.2.1, f.2.2.1))) ∧
    Gen.C13.typeNumbers =
      [("COMPONENT_VALUE", 0x21), ("PATTERN_TAG", 0x23), ("NODE_ID", 0x25), ("USER_FN_ID", 0x27), ("IDENTIFIER", 0x29),
       ("USER_FN_CALL", 0x31), ("FN_ARGS", 0x33), ("CONS_OPTION", 0x41), ("CONSTRAINT", 0x43), ("VALUE_EDGE", 0x51),
       ("PATTERN_EDGE", 0x53), ("KEY_NODE_ID", 0x55), ("PARENT_ID", 0x57), ("VERSION", 0x61), ("NODE", 0x63),
       ("TAG_SYMBOL", 0x67), ("NAMED_PATTERN_NUM", 0x69)] ∧
    (∀ c ∈ Gen.C13.classes, ∀ f ∈ c.2, f.2.2 ∈ Gen.C13.typeNumbers.map (·.2)) :=
  ⟨rfl, rfl, by decide +kernel⟩

mutual
/-- a codec schema (C08) as a flat token list: nested models as `model … end`, a repeated field prefixed by `rep` -/
def flat : Codec.Schema → List (String × Nat)
  | .uint t _ => [("uint", t)]
  | .bool t => [("bool", t)]
  | .bytes t s => [(if s then "string" else "bytes", t)]
  | .name t => [("name", t)]
  | .model t fs _ => ("model", t) :: (flatL fs ++ [("end", t)])
  | .repeated e => ("rep", 0) :: flat e
  | .map k v => ("map", 0) :: (flat k ++ flat v)
  | .marker => [("marker", 0)]
def flatL : List Codec.Schema → List (String × Nat)
  | [] => []
  | s :: r => flat s ++ flatL r
end

/-- **the wire format of the model is a shipped C08 schema**: the `LvsModel` layout this property's extractor reads from
    binary.py is, token for token, the schema `binary_LvsModel` of C08's `shipped` list (for which the codec theorems hold). -/
theorem binary_layout_is_shipped_schema :
    flatL Gen.C08.binary_LvsModel = Gen.C13.lvsModelTokens ∧
    (Gen.C08.shipped.map flatL).contains Gen.C13.lvsModelTokens = true := by
  have h : flatL Gen.C08.binary_LvsModel = Gen.C13.lvsModelTokens := by decide +kernel
  exact ⟨h, List.contains_iff_mem.mpr (List.mem_map.mpr
    ⟨Gen.C08.binary_LvsModel, by simp only [Gen.C08.shipped, List.mem_cons, true_or, or_true], h⟩)⟩

/-- **the loader's rule list**: every `raise` of `Checker._sanity_check` in source order - exception class, guard,
    message - with the model function that implements it:
    1 `versionOK`; 2 `idsOK` (every node of the array); 3-5 `dfs` / `nodeLocalOK` (index in range, id, parent);
    6 `vEdgeOK`; 7 `pEdgeOK`; 8-9 `optOK` (exactly one branch; a user function has an id); 10 the signer bound of
    `nodeLocalOK`.  All ten raise `LvsModelError` (`sanityCheck`: `.modelError`); then `top_order` is run on the
    signing relation and raises `SemanticError` in two ways (`signOK`: an edge outside the ids, `kahn` finds a loop). -/
theorem loader_rules_table :
    Gen.C13.loaderRaises = [
      ("LvsModelError", "self.model.version is None or not bny.MIN_SUPPORTED_VERSION <= self.model.version <= bny.VERSION",
        "Unsupported LVS model version {}"),
      ("LvsModelError", "node.id != idx", "Malformed node id {}"),
      ("LvsModelError", "cur >= len(self.model.nodes)", "Non-existing node id {}"),
      ("LvsModelError", "node.id != cur", "Malformed node id {}"),
      ("LvsModelError", "node.parent != par", "Node {} has a wrong parent"),
      ("LvsModelError", "ve.dest is None or not ve.value", "Node {} has a malformed edge"),
      ("LvsModelError", "pe.dest is None or pe.tag is None", "Node {} has a malformed edge"),
      ("LvsModelError", "branch != 1", "Edge {}->{} has a malformed condition"),
      ("LvsModelError", "not op.fn.fn_id", "Edge {}->{} has a malformed condition"),
      ("LvsModelError", "key_node_id >= len(self.model.nodes)", "Node {} is signed by a non-existing key {}")] ∧
    Gen.C13.loaderCalls = ["dfs(self.model.start_id, None)", "top_order(nodes_id_lst, adj_lst)"] ∧
    Gen.C13.topOrderRaises = [
      ("SemanticError", "src not in nodes or dst not in nodes", "Reference relation {}->{} refers to a not existing identifier"),
      ("SemanticError", "not cur_round", "Loop detected for {}")] ∧
    LvsErr.modelError.name = "LvsModelError" ∧ LvsErr.semanticError.name = "SemanticError" :=
  ⟨rfl, rfl, rfl, rfl, rfl⟩

/-- **the compiler's static errors**: every `raise` of the methods of `Compiler` in source order - method, class,
    guard - with the model function that implements it: `badRef` (undefined rule / temporary rule referenced,
    `sortRuleReferences`), `numRhs` (a temporary pattern as option / as argument; an unknown pattern: the `KeyError` /
    `IndexError` of the dictionary look-ups, caught by the one `except` clause of the module and re-raised),
    `signersOfStr` (undefined signer).  All are `SemanticError` (`CErr.semantic`); the reference cycle is `top_order`'s
    second `raise`.  The only exception classes the two modules define are `SemanticError` and `LvsModelError`. -/
theorem compiler_errors_table :
    Gen.C13.compilerRaises = [
      ("_sort_rule_references", "SemanticError", "c.id not in rule_id_set", "Rule {} refers to a non-existing rule {}"),
      ("_sort_rule_references", "SemanticError", "c.id[1] == '_'", "Rule {} refers to a temporary rule {}"),
      ("_gen_pattern_numbers", "SemanticError", "not (op.id[0] != '_')",
        "Temporary pattern {} cannot be used on the right hand side of any pattern constraint"),
      ("_gen_pattern_numbers", "SemanticError", "not (arg.id[0] != '_')",
        "Temporary pattern {} cannot be used on the right hand side of any pattern constraint"),
      ("_gen_pattern_numbers", "SemanticError", "except IndexError|KeyError", "Pattern {} never occurs before."),
      ("_fix_signing_references", "SemanticError", "rid not in self.rule_node_ids", "Signed by a non-existing key {}")] ∧
    Gen.C13.compilerExcepts = [("_gen_pattern_numbers", ["IndexError", "KeyError"])] ∧
    Gen.C13.exceptionClasses = [("SemanticError", ["Exception"]), ("LvsModelError", ["Exception"])] ∧
    CErr.semantic.name = "SemanticError" :=
  ⟨rfl, rfl, rfl, rfl⟩

end Ndn.C13
