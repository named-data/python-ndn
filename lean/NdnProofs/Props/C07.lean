import NdnProofs.Lemmas.CodecStrict
import NdnProofs.Lemmas.PacketEnc
import NdnGen.C07
/-!
# C07 — Packet decoders accept exactly the well-formed packets

Model: `Ndn.Codec.parse` (the scan loop of `TlvModel.parse`, faithfully including Python's silently
truncating slices), `decodeName` (`Name.decode`), `Ndn.Packet.decodePacket` (`parse_and_check_tl` + scan
loop + mandatory Name + no NDNLP fragmentation) over the packet schemas regenerated from the source
(`Ndn.Gen.C07`).  The theorems hold for **every byte string**.  The title is false of the code: an element whose
Length runs past its parent can be accepted (`overrun_accepted_counterexample`).  Proved instead is the exact gap:
the decoder agrees with a bounds-checked reading except at such overruns (`packet_accept_iff_strict`).
-/
namespace Ndn.C07
open Ndn Ndn.Codec Ndn.Packet

/-- On every byte string the scan loop, given fuel `length + 1` (one unit per element read), never runs out of
    fuel and never reaches an internal error: it returns a model or fails with a documented decoding error
    (`docErr`: IndexError, struct.error, ValueError, DecodeError, TypeError). -/
theorem parse_total (fs : List Schema) (ic : Bool) (wire : Bytes) (hp : pFs fs = true) :
    Doc (parse fs ic wire) :=
  parse_doc fs ic wire hp

/-- `decodePacket` (the shape of `parse_interest`, `parse_data`, `parse_lp_packet_v2` and `parse_certificate`) over any
    `pFs` schema (no MapField) either accepts or rejects with a documented decoding error, for every byte string. -/
theorem decodePacket_error_classes (fs : List Schema) (outer : Nat) (ic nn : Bool) (forbid : List Nat)
    (wire : Bytes) (hp : pFs fs = true) : Doc (decodePacket fs outer ic nn forbid wire) := by
  unfold decodePacket
  apply Doc.bind (parseAndCheckTl_doc _ _); intro v _
  apply Doc.bind (parse_total fs ic v hp); intro vs _
  by_cases c1 : (nn && nameMissing fs vs) = true
  · simp only [c1, if_true]; exact Doc.err _ rfl
  · simp only [c1]
    by_cases c2 : anyPresent fs vs forbid = true
    · simp only [c2, if_true]; exact Doc.err _ rfl
    · simp only [c2]; exact Doc.ok _

/-- the four shipped packet decoders (schemas regenerated from the source on every run) -/
theorem shipped_decoders_error_classes (wire : Bytes) :
    Doc (decodePacket Gen.C07.interest 5 false true [] wire) ∧
    Doc (decodePacket Gen.C07.data 6 false true [] wire) ∧
    Doc (decodePacket Gen.C07.lp 100 true false [82, 83] wire) ∧
    Doc (decodePacket Gen.C07.cert 6 false true [] wire) := by
  have h := Gen.C07.packet_schemas_ok
  simp only [List.all_cons, List.all_nil, Bool.and_true, Bool.and_eq_true] at h
  exact ⟨decodePacket_error_classes _ _ _ _ _ _ h.1, decodePacket_error_classes _ _ _ _ _ _ h.2.1,
    decodePacket_error_classes _ _ _ _ _ _ h.2.2.1, decodePacket_error_classes _ _ _ _ _ _ h.2.2.2⟩

/-- `Name.from_bytes` either decodes or fails with a documented error. -/
theorem decodeName_error_classes (wire : Bytes) : Doc (decodeName wire 0) := decodeName_doc wire 0

/-- A packet accepted by a decoder that requires it carries its Name. -/
theorem accepted_has_name (fs : List Schema) (outer : Nat) (ic : Bool) (forbid : List Nat) (wire : Bytes)
    (vs : List Value) (i : Nat) (hi : nameIdx fs = some i)
    (h : decodePacket fs outer ic true forbid wire = .ok vs) :
    ∃ x, vs[i]? = some x ∧ isNone x = false := by
  unfold decodePacket at h
  obtain ⟨v, _, h2⟩ := bind_ok h
  obtain ⟨vs', _, h3⟩ := bind_ok h2
  by_cases c1 : (true && nameMissing fs vs') = true
  · simp only [c1, if_true] at h3; cases h3
  · simp only [c1] at h3
    by_cases c2 : anyPresent fs vs' forbid = true
    · simp only [c2, if_true] at h3; cases h3
    · simp [c2] at h3; subst h3
      simp only [Bool.true_and, nameMissing, hi] at c1
      cases hx : vs'[i]? with
      | none => simp [hx] at c1
      | some x => exact ⟨x, rfl, by simpa [hx] using c1⟩

/-- An accepted packet is exactly one element of the expected Type whose
    declared Length is the number of bytes that follow. -/
theorem accepted_outer_exact (fs : List Schema) (outer : Nat) (ic nn : Bool) (forbid : List Nat)
    (wire : Bytes) (vs : List Value) (h : decodePacket fs outer ic nn forbid wire = .ok vs) :
    ∃ tl size sl, parseTlNum wire 0 = .ok (outer, tl) ∧ parseTlNum wire tl = .ok (size, sl) ∧
      wire.length = tl + sl + size := by
  unfold decodePacket at h
  obtain ⟨v, hv, _⟩ := bind_ok h
  obtain ⟨tl, size, sl, h1, h2, hl, _⟩ := parseAndCheckTl_ok hv
  exact ⟨tl, size, sl, h1, h2, hl⟩

/-- Every packet *value* the library encodes (marker-free schema, legal assignment) wrapped in its outer element
    is accepted, with exactly the encoded fields, by a decoder that neither requires a Name nor forbids a field.
    No strict decoder occurs in the statement, and none of the four shipped configurations is an instance (marker
    fields in Interest, Data, certificate; LpPacket forbids 82 and 83).  The converse is false of the code:
    `overrun_accepted_counterexample`. -/
theorem strict_implies_accept_partial (fs : List Schema) (vs : List Value) (body : Bytes) (outer : Nat)
    (ic : Bool) (hw : wfTop fs = true) (hfit : fitsFs fs vs = true) (h : encFields fs vs = .ok body)
    (ho : outer < 2 ^ 64) (hb : body.length < 2 ^ 64) :
    decodePacket fs outer ic false [] (tlv outer body) = .ok vs := by
  simp only [wfTop, Bool.and_eq_true] at hw
  exact decodePacket_tlv fs outer ic false body vs ho hb (parse_encFields fs vs body ic hw.1 hw.2 hfit h) rfl

/-- (known finding, negation of "accepted ⇒ every nested element
    lies inside its parent"): the Data decoder accepts `06 09 07 03 08 01 61 15 10 78 79`, whose Content
    announces 16 bytes but has 2, and reports Content = `78 79`. -/
theorem overrun_accepted_counterexample :
    ∃ vs, decodePacket Gen.C07.data 6 false true []
      [0x06, 0x09, 0x07, 0x03, 0x08, 0x01, 0x61, 0x15, 0x10, 0x78, 0x79] = .ok vs ∧
      vs[7]? = some (Value.bytes [0x78, 0x79]) := by
  refine ⟨_, rfl, rfl⟩

example : pFs Gen.C07.data = true := by decide
example : nameIdx Gen.C07.data = some 5 := by decide
example : Doc (decodePacket Gen.C07.data 6 false true [] [0x06, 0x00]) :=
  (shipped_decoders_error_classes _).2.1
/-- a Data without Name is rejected with DecodeError -/
example : decodePacket Gen.C07.data 6 false true [] [0x06, 0x00] = .error .decodeError := by rfl
/-- an outer Length (10) that is not the number of bytes that follow (9) is rejected with IndexError -/
example : decodePacket Gen.C07.data 6 false true []
    [0x06, 0x0a, 0x07, 0x00, 0x14, 0x05, 0x18, 0x03, 0x00, 0x00, 0x01] = .error .indexError := by rfl

/-! ## The strict decoder and the exact size of the known finding

`Ndn.Codec.strictParse` / `Ndn.Packet.strictDecodePacket` (NdnModel/CodecStrict.lean) are the decoder *with* the
bounds check the code lacks (`hdr + len ≤ rest.length` after each Type and Length, else `SErr.overrun kind`).
`WellNested` / `PacketNested` say "every nested element lies inside its parent" without mentioning a decoder.
All theorems below hold for **every byte string** and every schema of the fragment `pFs` (no MapField). -/

/-- Whatever the strict reading accepts is a sequence of complete elements,
    each inside the wire, recursively inside every recognised sub-model, name components inside their Name. -/
theorem strict_accepts_well_nested (fs : List Schema) (ic : Bool) (w : Bytes) (vs : List Value)
    (hp : pFs fs = true) (h : strictParse fs ic w = .ok vs) : WellNested fs 0 w :=
  (nested_step (w.length + 1)).1 fs ic w 0 0 _ vs hp h

/-- the strict and the faithful decoder agree (value for value, error class for error class) unless the strict
    reading stops at an overrun; at an overrunning integer or Name the faithful decoder fails too, at an overrun of
    any other kind `Agree` says nothing -/
theorem strict_agrees (fs : List Schema) (ic : Bool) (w : Bytes) (hp : pFs fs = true) :
    Agree (strictParse fs ic w) (parse fs ic w) :=
  (agree_step (w.length + 1)).1 fs ic w 0 0 _ hp

/-- Whatever the strict reading accepts, the decoder accepts with exactly the same
    extracted fields. -/
theorem strict_refines (fs : List Schema) (ic : Bool) (w : Bytes) (vs : List Value) (hp : pFs fs = true)
    (h : strictParse fs ic w = .ok vs) : parse fs ic w = .ok vs :=
  (strict_agrees fs ic w hp).of_ok h

/-- Where the strict reading rejects for a reason other than an overrun, the decoder
    rejects with the same error class. -/
theorem strict_error_agrees (fs : List Schema) (ic : Bool) (w : Bytes) (e : PyErr) (hp : pFs fs = true)
    (h : strictParse fs ic w = .error (.py e)) : parse fs ic w = .error e :=
  (strict_agrees fs ic w hp).of_err h

/-- The converse of `strict_refines` up to the known finding: a byte string the decoder accepts is accepted by the
    strict reading with the same fields, or the strict reading stops at an overrunning byte string, sub-model,
    boolean or unrecognised element (the four `overrun-*` keys of known_findings.txt; an overrunning integer or
    Name is rejected by the code as it is). -/
theorem only_overruns_differ (fs : List Schema) (ic : Bool) (w : Bytes) (vs : List Value) (hp : pFs fs = true)
    (h : parse fs ic w = .ok vs) :
    strictParse fs ic w = .ok vs ∨
    ∃ k, strictParse fs ic w = .error (.overrun k) ∧
      (k = .byteString ∨ k = .subModel ∨ k = .boolean ∨ k = .unrecognised) :=
  (strict_agrees fs ic w hp).only_overruns h

/-- The acceptance gap is exactly the overruns: the strict reading accepts (with
    fields `vs`) iff the decoder accepts (with fields `vs`) and the byte string is well nested. -/
theorem accept_iff_strict (fs : List Schema) (ic : Bool) (w : Bytes) (vs : List Value) (hp : pFs fs = true) :
    strictParse fs ic w = .ok vs ↔ (parse fs ic w = .ok vs ∧ WellNested fs 0 w) :=
  (strict_agrees fs ic w hp).ok_iff (strict_accepts_well_nested fs ic w vs hp) (fun hw => wellNested_noov hw hp _ _ _ _)

theorem packet_strict_agrees (fs : List Schema) (outer : Nat) (ic nn : Bool) (forbid : List Nat)
    (wire : Bytes) (hp : pFs fs = true) :
    Agree (strictDecodePacket fs outer ic nn forbid wire) (decodePacket fs outer ic nn forbid wire) := by
  unfold strictDecodePacket decodePacket
  apply Agree.bind_lift; intro v _
  apply Agree.bind (strict_agrees fs ic v hp); intro vs _ _
  by_cases c1 : (nn && nameMissing fs vs) = true
  · simp only [c1, if_true]; exact Agree.err _
  · simp only [c1]
    by_cases c2 : anyPresent fs vs forbid = true
    · simp only [c2, if_true]; exact Agree.err _
    · simp only [c2]; exact Agree.ok _

/-- `strict_refines` for `parse_interest` / `parse_data` / `parse_lp_packet_v2` / `parse_certificate`. -/
theorem packet_strict_refines (fs : List Schema) (outer : Nat) (ic nn : Bool) (forbid : List Nat)
    (wire : Bytes) (vs : List Value) (hp : pFs fs = true)
    (h : strictDecodePacket fs outer ic nn forbid wire = .ok vs) :
    decodePacket fs outer ic nn forbid wire = .ok vs :=
  (packet_strict_agrees fs outer ic nn forbid wire hp).of_ok h

/-- `only_overruns_differ` for whole packets. -/
theorem packet_only_overruns_differ (fs : List Schema) (outer : Nat) (ic nn : Bool) (forbid : List Nat)
    (wire : Bytes) (vs : List Value) (hp : pFs fs = true)
    (h : decodePacket fs outer ic nn forbid wire = .ok vs) :
    strictDecodePacket fs outer ic nn forbid wire = .ok vs ∨
    ∃ k, strictDecodePacket fs outer ic nn forbid wire = .error (.overrun k) ∧
      (k = .byteString ∨ k = .subModel ∨ k = .boolean ∨ k = .unrecognised) :=
  (packet_strict_agrees fs outer ic nn forbid wire hp).only_overruns h

/-- A packet the strict packet decoder accepts is exactly one element
    of the expected Type filling the wire whose Value is well nested. -/
theorem packet_strict_accepts_well_nested (fs : List Schema) (outer : Nat) (ic nn : Bool) (forbid : List Nat)
    (wire : Bytes) (vs : List Value) (hp : pFs fs = true)
    (h : strictDecodePacket fs outer ic nn forbid wire = .ok vs) : PacketNested fs outer wire := by
  unfold strictDecodePacket at h
  obtain ⟨v, hv, hrest⟩ := bind_ok h
  obtain ⟨vs', hvs, _⟩ := bind_ok hrest
  have hv := lift_ok hv
  have hw := strict_accepts_well_nested fs ic v vs' hp hvs
  obtain ⟨tl, size, sl, h1, h2, hl, rfl⟩ := parseAndCheckTl_ok hv
  exact ⟨tl, size, sl, h1, h2, hl, hw⟩

theorem packet_noov (fs : List Schema) (outer : Nat) (ic nn : Bool) (forbid : List Nat) (wire : Bytes)
    (hp : pFs fs = true) (hn : PacketNested fs outer wire) :
    NoOv (strictDecodePacket fs outer ic nn forbid wire) := by
  obtain ⟨tl, size, sl, h1, h2, hl, hw⟩ := hn
  unfold strictDecodePacket parseAndCheckTl
  simp only [h1, h2, ok_bind, ne_eq, not_true_eq_false, if_false, hl, pure, Except.pure, lift_ok_eq]
  apply NoOv.bind (wellNested_noov hw hp _ _ _ _); intro vs _
  split
  · exact NoOv.py _
  · split
    · exact NoOv.py _
    · exact NoOv.ok _

/-- `accept_iff_strict` for whole packets. -/
theorem packet_accept_iff_strict (fs : List Schema) (outer : Nat) (ic nn : Bool) (forbid : List Nat)
    (wire : Bytes) (vs : List Value) (hp : pFs fs = true) :
    strictDecodePacket fs outer ic nn forbid wire = .ok vs ↔
      (decodePacket fs outer ic nn forbid wire = .ok vs ∧ PacketNested fs outer wire) :=
  (packet_strict_agrees fs outer ic nn forbid wire hp).ok_iff
    (packet_strict_accepts_well_nested fs outer ic nn forbid wire vs hp) (packet_noov fs outer ic nn forbid wire hp)

/-- `packet_accept_iff_strict` for the four shipped packet decoders (schemas regenerated from the source on every run). -/
theorem shipped_decoders_strict (wire : Bytes) (vs : List Value) :
    (strictDecodePacket Gen.C07.interest 5 false true [] wire = .ok vs ↔
      (decodePacket Gen.C07.interest 5 false true [] wire = .ok vs ∧ PacketNested Gen.C07.interest 5 wire)) ∧
    (strictDecodePacket Gen.C07.data 6 false true [] wire = .ok vs ↔
      (decodePacket Gen.C07.data 6 false true [] wire = .ok vs ∧ PacketNested Gen.C07.data 6 wire)) ∧
    (strictDecodePacket Gen.C07.lp 100 true false [82, 83] wire = .ok vs ↔
      (decodePacket Gen.C07.lp 100 true false [82, 83] wire = .ok vs ∧ PacketNested Gen.C07.lp 100 wire)) ∧
    (strictDecodePacket Gen.C07.cert 6 false true [] wire = .ok vs ↔
      (decodePacket Gen.C07.cert 6 false true [] wire = .ok vs ∧ PacketNested Gen.C07.cert 6 wire)) := by
  have h := Gen.C07.packet_schemas_ok
  simp only [List.all_cons, List.all_nil, Bool.and_true, Bool.and_eq_true] at h
  exact ⟨packet_accept_iff_strict _ _ _ _ _ _ _ h.1, packet_accept_iff_strict _ _ _ _ _ _ _ h.2.1,
    packet_accept_iff_strict _ _ _ _ _ _ _ h.2.2.1, packet_accept_iff_strict _ _ _ _ _ _ _ h.2.2.2⟩

/-- `packet_only_overruns_differ` for the four shipped decoders. -/
theorem shipped_only_overruns_differ (wire : Bytes) (vs : List Value) :
    (decodePacket Gen.C07.interest 5 false true [] wire = .ok vs →
      strictDecodePacket Gen.C07.interest 5 false true [] wire = .ok vs ∨
      ∃ k, strictDecodePacket Gen.C07.interest 5 false true [] wire = .error (.overrun k) ∧
        (k = .byteString ∨ k = .subModel ∨ k = .boolean ∨ k = .unrecognised)) ∧
    (decodePacket Gen.C07.data 6 false true [] wire = .ok vs →
      strictDecodePacket Gen.C07.data 6 false true [] wire = .ok vs ∨
      ∃ k, strictDecodePacket Gen.C07.data 6 false true [] wire = .error (.overrun k) ∧
        (k = .byteString ∨ k = .subModel ∨ k = .boolean ∨ k = .unrecognised)) ∧
    (decodePacket Gen.C07.lp 100 true false [82, 83] wire = .ok vs →
      strictDecodePacket Gen.C07.lp 100 true false [82, 83] wire = .ok vs ∨
      ∃ k, strictDecodePacket Gen.C07.lp 100 true false [82, 83] wire = .error (.overrun k) ∧
        (k = .byteString ∨ k = .subModel ∨ k = .boolean ∨ k = .unrecognised)) ∧
    (decodePacket Gen.C07.cert 6 false true [] wire = .ok vs →
      strictDecodePacket Gen.C07.cert 6 false true [] wire = .ok vs ∨
      ∃ k, strictDecodePacket Gen.C07.cert 6 false true [] wire = .error (.overrun k) ∧
        (k = .byteString ∨ k = .subModel ∨ k = .boolean ∨ k = .unrecognised)) := by
  have h := Gen.C07.packet_schemas_ok
  simp only [List.all_cons, List.all_nil, Bool.and_true, Bool.and_eq_true] at h
  exact ⟨packet_only_overruns_differ _ _ _ _ _ _ _ h.1, packet_only_overruns_differ _ _ _ _ _ _ _ h.2.1,
    packet_only_overruns_differ _ _ _ _ _ _ _ h.2.2.1, packet_only_overruns_differ _ _ _ _ _ _ _ h.2.2.2⟩

/-- the known-finding vector: the strict reading stops at the overrunning Content (a byte string) -/
example : strictDecodePacket Gen.C07.data 6 false true []
    [0x06, 0x09, 0x07, 0x03, 0x08, 0x01, 0x61, 0x15, 0x10, 0x78, 0x79] = .error (.overrun .byteString) := by rfl
/-- … so that packet, which `parse_data` accepts, is NOT well nested -/
example : ¬ PacketNested Gen.C07.data 6 [0x06, 0x09, 0x07, 0x03, 0x08, 0x01, 0x61, 0x15, 0x10, 0x78, 0x79] := by
  intro hn
  obtain ⟨vs, hd, _⟩ := overrun_accepted_counterexample
  have := ((shipped_decoders_strict _ vs).2.1).mpr ⟨hd, hn⟩
  cases this
/-- the repaired vector (Content Length 2) is accepted by both readings, hence well nested -/
example : PacketNested Gen.C07.data 6 [0x06, 0x09, 0x07, 0x03, 0x08, 0x01, 0x61, 0x15, 0x02, 0x78, 0x79] :=
  packet_strict_accepts_well_nested Gen.C07.data 6 false true [] _ _ (by decide) rfl
/-- the other three kinds of the known finding: boolean (MustBeFresh, Length 1, no Value byte), sub-model
    (MetaInfo, Length 5, 3 bytes) and unrecognised non-critical (Type 0xF0) -/
example : strictDecodePacket Gen.C07.interest 5 false true [] [0x05, 0x07, 0x07, 0x03, 0x08, 0x01, 0x61, 0x12, 0x01]
    = .error (.overrun .boolean) := by rfl
example : strictDecodePacket Gen.C07.data 6 false true []
    [0x06, 0x0a, 0x07, 0x03, 0x08, 0x01, 0x61, 0x14, 0x05, 0x18, 0x01, 0x00] = .error (.overrun .subModel) := by rfl
example : strictDecodePacket Gen.C07.data 6 false true []
    [0x06, 0x08, 0x07, 0x03, 0x08, 0x01, 0x61, 0xf0, 0x09, 0x00] = .error (.overrun .unrecognised) := by rfl
/-- an overrunning integer is rejected by the code as it is (struct.error), as `only_overruns_differ` says -/
example : decodePacket Gen.C07.data 6 false true []
    [0x06, 0x0a, 0x07, 0x03, 0x08, 0x01, 0x61, 0x14, 0x03, 0x18, 0x02, 0x00] = .error .structError := by rfl

end Ndn.C07
