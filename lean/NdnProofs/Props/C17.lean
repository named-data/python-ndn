import NdnProofs.Lemmas.NfdBytes
import NdnGen.C17
/-!
# C17 — Prefix registration speaks the forwarder management protocol correctly

Theorems about `Ndn.NfdMgmt` (model of `NfdRegister.register/unregister`, the legacy `NDNApp.register/unregister`,
`starting_task` auto-registration and the glue of `parse_response`), for every event history, clock and reply.
Specification vocabulary defined with the lemmas: `alt`, `tsOf`, `autoCmds`, `countCmd`, `WF`, `autoOpen`, `NoConnect`
(Lemmas/NfdMgmt); `Good`, `forwarderData` (Lemmas/NfdBytes).

`section Bytes` composes the TLV codec (C08) and the packet model (C01/C02) into the command name, the command
Interest and the response decoder of `Ndn.NfdBytes`, for every hash function `H` with 32-byte output.
`section Composed` runs the state machine between the two: reply bytes of any content are decoded (C07) into the
reply kinds it consumes, and its trace is turned into the command Interest wires of the front-end in use.

`Cfg.repaired fe` has every switch of `Cfg` on — candidate fixes C17-1 (response without body), C17-2 (`unregister`
looks at the status), C17-3 (malformed response), C17-4 (timestamp guard and re-read), C17-5 (legacy front-end
serialised).  `Cfg.unchanged fe` is the tree without them, including the legacy `NDNApp.unregister` outside the
semaphore (`Cfg.unregLock = false`, `freeRun`).
-/
namespace Ndn.C17
open Ndn Ndn.NfdMgmt

/-- the forwarder answered with status 200 — and, on the front-end that validates what it receives, the answer
    is authentic -/
def answers200 (fe : FrontEnd) : Reply → Bool
  | .response c _ sigOk => (c == some 200) && (match fe with | .v2 => true | .legacy => sigOk)
  | _ => false

/-- `register` / `unregister` return `True` if and only if the forwarder answers with status 200, and never raise. -/
theorem success_iff_200 (fe : FrontEnd) (v : Verb) (k : Reply) :
    finish (Cfg.repaired fe) v (expressOutcome fe k) = .ok (answers200 fe k) := by
  cases k with
  | response c b ok =>
    cases fe <;> cases ok <;> simp [finish, expressOutcome, validates, parseStatus, Cfg.repaired, answers200]
  | undecodable ok =>
    cases fe <;> cases ok <;> simp [finish, expressOutcome, validates, parseStatus, Cfg.repaired, answers200]
  | nack => rfl
  | timeout => rfl
  | canceled => rfl

example : answers200 .v2 (.response (some 200) false true) = true := by decide +kernel
example : answers200 .legacy (.response (some 200) true false) = false := by decide +kernel

/-- … in the state machine: the reply to the command in flight makes exactly that call return, first thing. -/
theorem reply_returns (fe : FrontEnd) (env : Env) (s : St) (r : Req) (k : Reply) (h : s.inflight = some r) :
    (step (Cfg.repaired fe) env s (.reply k)).2.head? = some (.ret r (.ok (answers200 fe k))) := by
  rw [step_reply_some _ env s k r h]
  show some (Out.ret r (finish (Cfg.repaired fe) r.verb (expressOutcome fe k))) = _
  rw [success_iff_200]

example : (step (Cfg.repaired .v2) ⟨fun _ => 0, fun _ => 1, fun _ => 0, fun _ => 0⟩
    { clock := { now := 5 }, inflight := some ⟨0, .register, 3, false⟩ } (.reply .nack)).2.head?
      = some (.ret ⟨0, .register, 3, false⟩ (.ok false)) := by decide +kernel

/-- A Nack, a timeout, a shutdown, a validation failure, any status other than 200 (or none) and a response that
    does not decode all report `False` without raising. -/
theorem failure_no_raise (fe : FrontEnd) (v : Verb) (k : Reply) (h : answers200 fe k = false) :
    finish (Cfg.repaired fe) v (expressOutcome fe k) = .ok false := by
  rw [success_iff_200, h]

example : answers200 .v2 (.response (some 403) false true) = false := by decide +kernel
example : answers200 .legacy (.undecodable true) = false := by decide +kernel

/-- F13 (1): a ControlResponse without body — what NFD sends with 403/404 — makes `register` raise
    `AttributeError` instead of returning `False` (both front-ends). -/
theorem unchanged_register_raises_without_body (fe : FrontEnd) (c : Option Nat) :
    finish (Cfg.unchanged fe) .register (expressOutcome fe (.response c false true)) = .error .attributeError := by
  cases fe <;> simp [finish, expressOutcome, validates, parseStatus, Cfg.unchanged]

/-- F13 (2): `unregister` reports success for any Data that comes back, whatever its status. -/
theorem unchanged_unregister_ignores_status (fe : FrontEnd) (c : Option Nat) (b : Bool) :
    finish (Cfg.unchanged fe) .unregister (expressOutcome fe (.response c b true)) = .ok true ∧
    finish (Cfg.unchanged fe) .unregister (expressOutcome fe (.undecodable true)) = .ok true := by
  cases fe <;> simp [finish, expressOutcome, validates, Cfg.unchanged]

/-- In every history every call returns normally. -/
theorem never_raises (fe : FrontEnd) (env : Env) (s : St) (evs : List Ev) (r : Req) (res : Except PyErr Bool)
    (h : Out.ret r res ∈ (run (Cfg.repaired fe) env s evs).2) : ∃ b, res = .ok b :=
  run_retsOk (Cfg.repaired fe) rfl rfl env s evs r res h

/-- In the trace commands and returns alternate, and each return is that of the call whose command is in flight:
    never two commands in flight. -/
theorem one_at_a_time (cfg : Cfg) (hl : cfg.unregLock = true) (env : Env) (t0 : Nat) (evs : List Ev) :
    alt none (run cfg env (init t0) evs).2 = some (run cfg env (init t0) evs).1.inflight :=
  (run_disc cfg hl env (init t0) evs (fun _ => rfl) rfl).alt

example : alt none [.cmd ⟨0, .register, 1, false⟩ 7, .ret ⟨0, .register, 1, false⟩ (.ok true),
    .cmd ⟨1, .unregister, 1, false⟩ 8] = some (some ⟨1, .unregister, 1, false⟩) := by decide +kernel
example : alt none [.cmd ⟨0, .register, 1, false⟩ 7, .cmd ⟨1, .unregister, 1, false⟩ 8] = none := by decide +kernel

/-- As many commands have been put on the wire as requests were made (`nextId` counts
    them) and are not still waiting for the semaphore (an equation between counts, not a statement per request). -/
theorem one_command_per_call (cfg : Cfg) (hl : cfg.unregLock = true) (env : Env) (t0 : Nat) (evs : List Ev) :
    countCmd (run cfg env (init t0) evs).2 + (run cfg env (init t0) evs).1.queue.length
      = (run cfg env (init t0) evs).1.nextId := by
  have := (run_disc cfg hl env (init t0) evs (fun _ => rfl) rfl).count
  simpa [init] using this

/-- If the clock advances across every 1 ms sleep of the guard loop, the signed timestamps of the commands are
    strictly increasing — whatever calls coincide and however the clock ticks between the guarded read, the signed
    read and the re-read. -/
theorem timestamps_strict (fe : FrontEnd) (env : Env) (hs : ∀ k, 1 ≤ env.sleepAdv k) (t0 : Nat) (evs : List Ev) :
    List.Pairwise (· < ·) (tsOf (run (Cfg.repaired fe) env (init t0) evs).2) :=
  (run_trel (Cfg.repaired fe) env ⟨rfl, rfl, hs, Or.inl rfl⟩ (init t0) evs (Nat.zero_le _)).strict

example : tsOf (run (Cfg.repaired .v2) ⟨fun _ => 0, fun _ => 1, fun k => if k = 0 then 1 else 0, fun _ => 0⟩ (init 5)
    [.call .register 0, .call .unregister 1, .reply (.response (some 200) true true), .reply .nack]).2
      = [6, 7] := by decide +kernel

/-- Without the re-read (the unchanged v2 registerer) the same holds if the clock never ticks between the guarded
    read and the read that is signed — and not otherwise: `guard_only_counterexample`. -/
theorem guard_only_strict_without_sign_tick (cfg : Cfg) (hg : cfg.guard = true) (hl : cfg.unregLock = true)
    (env : Env) (hs : ∀ k, 1 ≤ env.sleepAdv k) (hz : ∀ k, env.signTick k = 0) (t0 : Nat) (evs : List Ev) :
    List.Pairwise (· < ·) (tsOf (run cfg env (init t0) evs).2) :=
  (run_trel cfg env ⟨hg, hl, hs, Or.inr hz⟩ (init t0) evs (Nat.zero_le _)).strict

/-- (finding F13, third item) On the unchanged tree the guard compares a clock reading taken before the one that
    is signed: a clock that ticks once between guard and signature of the first command and not afterwards makes two
    consecutive commands carry the same timestamp. -/
theorem guard_only_counterexample :
    ∃ env : Env, (∀ k, 1 ≤ env.sleepAdv k) ∧
      tsOf (run (Cfg.unchanged .v2) env (init 0)
        [.call .register 0, .reply (.response (some 200) true true), .call .register 1]).2 = [2, 2] :=
  ⟨⟨fun k => if k = 0 then 1 else 0, fun _ => 1, fun k => if k = 0 then 1 else 0, fun _ => 0⟩,
    fun _ => Nat.le_refl 1, by decide⟩

/-- The unchanged legacy front-end has no guard at all: two registrations answered within the same
    millisecond carry the same timestamp. -/
theorem no_guard_counterexample :
    tsOf (run (Cfg.unchanged .legacy) ⟨fun _ => 0, fun _ => 1, fun _ => 0, fun _ => 0⟩ (init 5)
      [.call .register 0, .call .register 1, .reply (.response (some 200) true true)]).2 = [5, 5] := by decide +kernel

/-- With `Cfg.repaired`, on both front-ends, a call of `unregister` goes the way a call of `register` goes
    (`submit`); so `one_at_a_time`, `one_command_per_call` and `timestamps_strict` speak about both alike. -/
theorem unregister_takes_the_lock (fe : FrontEnd) (env : Env) (s : St) (v : Verb) (p : Nat) :
    step (Cfg.repaired fe) env s (.call v p) = submit (Cfg.repaired fe) env s v p false :=
  step_call (Cfg.repaired fe) rfl env s v p

/-- … and nothing is ever in flight outside the lock. -/
theorem nothing_outside_the_lock (cfg : Cfg) (hl : cfg.unregLock = true) (env : Env) (t0 : Nat) (evs : List Ev) :
    (run cfg env (init t0) evs).1.free = [] :=
  (run_disc cfg hl env (init t0) evs (fun _ => rfl) rfl).free

/-- The unserialised legacy `NDNApp.unregister` (`Cfg.unregLock = false`, what candidate fix C17-5 changes): issued
    while a registration is in flight it puts a second command on the wire, and two calls at one clock reading carry the
    same timestamp; and the answer to a command sent outside the lock ends that call with `True` even when its status is
    404 (`replyU`). -/
theorem unchanged_legacy_unregister_overlaps :
    alt none (run (Cfg.unchanged .legacy) ⟨fun _ => 0, fun _ => 1, fun _ => 0, fun _ => 0⟩ (init 5)
      [.call .register 0, .call .unregister 1]).2 = none ∧
    tsOf (run (Cfg.unchanged .legacy) ⟨fun _ => 0, fun _ => 1, fun _ => 0, fun _ => 0⟩ (init 5)
      [.call .unregister 0, .call .unregister 1]).2 = [5, 5] ∧
    (run (Cfg.unchanged .legacy) ⟨fun _ => 0, fun _ => 1, fun _ => 0, fun _ => 0⟩ (init 5)
      [.call .register 0, .call .unregister 1, .call .unregister 2, .replyU 1 (.response (some 404) false true)]).2
      = [.cmd ⟨0, .register, 0, false⟩ 5, .cmd ⟨1, .unregister, 1, false⟩ 5, .cmd ⟨2, .unregister, 2, false⟩ 5,
         .ret ⟨2, .unregister, 2, false⟩ (.ok true)] := by
  decide

/-- After a connection is established (with no starting task still running) the route registrations on the wire,
    those waiting for the semaphore and those not yet requested are, in this order, exactly the declared routes,
    whatever calls and replies are interleaved: no route is registered twice on a connection. -/
theorem routes_conserved (fe : FrontEnd) (env : Env) (s : St) (hw : WF s) (hf : s.free = [])
    (ha : autoActive s = false) (rs : List Nat) (evs : List Ev) (hne : NoConnect evs) :
    autoCmds (run (Cfg.repaired fe) env s (.connect rs :: evs)).2
      ++ autoOpen (run (Cfg.repaired fe) env s (.connect rs :: evs)).1 = rs := by
  have hd := step_disc (Cfg.repaired fe) rfl env s (.connect rs) hw hf
  simp only [run]
  rw [autoCmds_append, List.append_assoc, run_auto (Cfg.repaired fe) rfl rfl rfl env _ evs hne hd.wf (hd.free.trans hf),
    connect_auto (Cfg.repaired fe) env s rs ha hw]

/-- … hence once the starting task has nothing left to do, every declared route has been registered exactly once,
    in declaration order. -/
theorem routes_once_per_connection (fe : FrontEnd) (env : Env) (s : St) (hw : WF s) (hf : s.free = [])
    (ha : autoActive s = false) (rs : List Nat) (evs : List Ev) (hne : NoConnect evs)
    (hdone : autoOpen (run (Cfg.repaired fe) env s (.connect rs :: evs)).1 = []) :
    autoCmds (run (Cfg.repaired fe) env s (.connect rs :: evs)).2 = rs := by
  have := routes_conserved fe env s hw hf ha rs evs hne
  rw [hdone, List.append_nil] at this
  exact this

/-- … and that point is reached with one reply of any kind (refusal, Nack, timeout, garbage) per route. -/
theorem routes_registered_after_replies (fe : FrontEnd) (env : Env) (t0 : Nat) (rs : List Nat) (ks : List Reply)
    (hl : rs.length ≤ ks.length) :
    autoCmds (run (Cfg.repaired fe) env (init t0) (.connect rs :: ks.map .reply)).2 = rs := by
  have hne : NoConnect (ks.map Ev.reply) := by
    intro e he
    obtain ⟨k, _, rfl⟩ := List.mem_map.mp he
    exact ⟨fun hc => (nomatch hc), fun _ hc => (nomatch hc)⟩
  apply routes_once_per_connection fe env (init t0) (fun _ => rfl) rfl rfl rs _ hne
  cases rs with
  | nil =>
    simp only [run]
    rw [step_connect_nil _ env (init t0) rfl, run_replies_idle _ env (init t0) ks rfl]
    rfl
  | cons p todo =>
    simp only [run]
    rw [step_connect_cons _ env (init t0) p todo rfl]
    exact autoOpen_nil_of_replies (Cfg.repaired fe) rfl rfl env _ ks ⟨0, .register, p, true⟩ rfl rfl rfl
      (by show todo.length + 1 ≤ ks.length; simpa using hl)

example : autoCmds (run (Cfg.repaired .legacy) ⟨fun _ => 0, fun _ => 1, fun _ => 0, fun _ => 0⟩ (init 5)
    [.connect [7, 8], .call .unregister 1, .reply (.response (some 403) false true), .reply .timeout,
     .reply (.undecodable true)]).2 = [7, 8] := by decide +kernel

/-- consequence of F13 (1): the first refused route kills the starting task; the remaining routes are never
    registered on that connection. -/
theorem unchanged_routes_lost :
    (run (Cfg.unchanged .v2) ⟨fun _ => 0, fun _ => 1, fun _ => 0, fun _ => 0⟩ (init 5)
      [.connect [7, 8], .reply (.response (some 403) false true), .reply .timeout]).2
      = [.connected, .cmd ⟨0, .register, 7, true⟩ 5, .ret ⟨0, .register, 7, true⟩ (.error .attributeError)] := by
  decide

/-- However a connection ends (`Face.run()` returns or raises; start-up registration finished, in progress or not
    begun), the start-up task is gone with it and the call in flight has returned `False` — provided nobody was
    waiting for the command lock (marked `unmodelled`).  This gives `autoActive s = false` for `routes_conserved`. -/
theorem connection_loss_ends_startup (cfg : Cfg) (env : Env) (s : St) (hq : s.queue = []) :
    autoActive (step cfg env s .down).1 = false ∧ WF (step cfg env s .down).1 ∧
    (step cfg env s .down).1.free = s.free ∧ autoCmds (step cfg env s .down).2 = [] ∧
    ∀ r, s.inflight = some r → (step cfg env s .down).2 = [.ret r (.ok false)] := by
  rcases step_down_cases cfg env s with ⟨h, _⟩ | ⟨_, hi, he⟩ | ⟨r, _, hi, he⟩
  · exact absurd hq h
  · rw [he]
    refine ⟨by simp [autoActive, hi, hq], fun _ => hq, rfl, rfl, ?_⟩
    intro r hr; rw [hi] at hr; cases hr
  · rw [he]
    refine ⟨by simp [autoActive, hq], fun _ => hq, rfl, rfl, ?_⟩
    intro r' hr; rw [hi] at hr; cases hr
    cases r.verb <;> simp [replyRes, finish, expressOutcome]

/-- Whatever state the previous connection was in when it was lost, on the next connection the route registrations
    on the wire, waiting and not yet requested are exactly the routes declared at that moment: the model keeps no
    per-connection memory of routes, as the code has none.  Not covered (`unmodelled`): waiters for the command lock
    at the loss, and a reconnection while the start-up task of the previous connection is still running. -/
theorem routes_once_after_any_end (fe : FrontEnd) (env : Env) (s : St) (hf : s.free = []) (hq : s.queue = [])
    (rs : List Nat) (evs : List Ev) (hne : NoConnect evs) :
    autoCmds (run (Cfg.repaired fe) env s (.down :: .connect rs :: evs)).2
      ++ autoOpen (run (Cfg.repaired fe) env s (.down :: .connect rs :: evs)).1 = rs := by
  obtain ⟨ha, hw, hfr, hc, _⟩ := connection_loss_ends_startup (Cfg.repaired fe) env s hq
  have := routes_conserved fe env (step (Cfg.repaired fe) env s .down).1 hw (by rw [hfr]; exact hf) ha rs evs hne
  show autoCmds ((step (Cfg.repaired fe) env s .down).2 ++
      (run (Cfg.repaired fe) env (step (Cfg.repaired fe) env s .down).1 (.connect rs :: evs)).2) ++ _ = rs
  rw [autoCmds_append, hc, List.nil_append]
  exact this

/-- the first connection is lost after one of two start-up commands; on the second both routes are registered -/
example : autoCmds (run (Cfg.repaired .v2) ⟨fun _ => 0, fun _ => 1, fun _ => 0, fun _ => 0⟩ (init 5)
    [.connect [7, 8], .down, .connect [7, 8], .reply (.response (some 200) true true),
     .reply (.response (some 200) true true)]).2 = [7, 7, 8] := by decide +kernel

/-- `parse_response` returns the fields of the decoded ControlResponse: status code,
    status text and every ControlParameters field of the body (`None` for a field, or a body, that is absent). -/
theorem response_roundtrip (cr : ControlResponseRec) :
    ∃ d, parseResponseRec true cr = .ok d ∧
      d.lookup "status_code" = some (match cr.statusCode with | some n => .uint n | none => .none) ∧
      d.lookup "status_text" = some (match cr.statusText with | some t => .text t | none => .none) ∧
      ∀ k ∈ cpvFields, d.lookup k = some (DVal.ofF (cr.body.bind fun b => lookupField b k)) :=
  ⟨_, parseResponseRec_bodyFix cr, respDict_lookup cr List.mem_cons_self,
    respDict_lookup cr (List.mem_cons_of_mem _ List.mem_cons_self), fun k hk =>
    respDict_lookup cr (List.mem_cons_of_mem _ (List.mem_cons_of_mem _ (List.mem_map.mpr ⟨k, hk, rfl⟩)))⟩

example : (parseResponseRec true ⟨some 403, none, none⟩).toOption.bind (·.lookup "name") = some .none := by decide +kernel

theorem response_keys (cr : ControlResponseRec) :
    ∃ d, parseResponseRec true cr = .ok d ∧ d.map (·.1) = "status_code" :: "status_text" :: cpvFields :=
  ⟨_, parseResponseRec_bodyFix cr, respDict_keys cr⟩

section Bytes
open Ndn.Codec Ndn.Packet Ndn.NfdBytes

/-- the schemas of the byte-level model are `_encoded_fields` of the live classes ControlParametersValue,
    ControlParameters and ControlResponse, and they satisfy the hypothesis of the C08 theorems -/
theorem gen_schemas :
    Ndn.Gen.C17.controlParametersValueLive = cpvFs ∧ Ndn.Gen.C17.controlParametersLive = cpFs ∧
    Ndn.Gen.C17.controlResponseLive = crFs ∧ wfTop cpFs = true ∧ wfTop crFs = true :=
  ⟨rfl, rfl, rfl, wf_cp, wf_cr⟩

/-- the field list the model iterates over is `ControlParametersValue._encoded_fields` of the source, and
    ControlResponse has the three fields the model reads -/
theorem gen_fields :
    Ndn.Gen.C17.controlParametersValueFields = cpvFields ∧
    Ndn.Gen.C17.controlResponseFields = ["status_code", "status_text", "body"] := ⟨rfl, rfl⟩

/-- each of the four registration functions catches the four network outcomes the model maps to `False` -/
theorem gen_caught :
    Ndn.Gen.C17.caught.map (·.1) = ["NfdRegister.register", "NfdRegister.unregister", "app.register", "app.unregister"] ∧
    ∀ row ∈ Ndn.Gen.C17.caught,
      ∀ c ∈ ["InterestNack", "InterestTimeout", "InterestCanceled", "ValidationFailure"], c ∈ row.2 := by decide +kernel

/-- Whenever `make_command_v2(module, command, face, name=prefix, **rest)` returns a name, it is
    `/localhost|localhop/nfd/<module>/<command>` followed by exactly one component, and decoding that component with
    the ControlParameters decoder yields exactly the field values given (`fitsFs`: legal for their fields), the
    requested prefix as `Name`. -/
theorem command_names_prefix (isLocal : Bool) (module command : Bytes) (pfx : List Bytes) (rest : List Value)
    (n : List Bytes) (hfit : fitsFs cpvFs (cpvOf pfx rest) = true)
    (h : commandName isLocal module command (cpvOf pfx rest) = .ok n) :
    n.length = 5 ∧ n.take 4 = commandHead isLocal module command ∧
    decodeCommandParams n = .ok [.model (cpvOf pfx rest)] ∧
    (decodeCommandParams n).toOption.bind namedPrefix = some pfx := by
  have hd := decode_commandName hfit h
  obtain ⟨cp, _, _, rfl⟩ := commandName_ok h
  refine ⟨by simp [commandHead], by simp [commandHead], hd, ?_⟩
  rw [hd]; rfl

/-- … for the two commands the registerer sends: `/localhost|localhop/nfd/rib/register|unregister/<ControlParameters>` -/
theorem rib_command_names_prefix (isLocal : Bool) (v : Verb) (pfx : List Bytes) (rest : List Value) (n : List Bytes)
    (hfit : fitsFs cpvFs (cpvOf pfx rest) = true) (h : ribCommandName isLocal v pfx rest = .ok n) :
    n.take 4 = [tlv 8 (if isLocal then localhostB else localhopB), tlv 8 nfdB, tlv 8 ribB, tlv 8 (verbB v)] ∧
    (decodeCommandParams n).toOption.bind namedPrefix = some pfx := by
  obtain ⟨_, h2, _, h4⟩ := command_names_prefix isLocal ribB (verbB v) pfx rest n hfit h
  exact ⟨h2, h4⟩

example : ribCommandName true .register [[8, 1, 97]] (List.replicate 15 .none) =
    .ok [[8, 9, 108, 111, 99, 97, 108, 104, 111, 115, 116], [8, 3, 110, 102, 100], [8, 3, 114, 105, 98],
         [8, 8, 114, 101, 103, 105, 115, 116, 101, 114], [8, 7, 104, 5, 7, 3, 8, 1, 97]] :=
  by decide +kernel
example : fitsFs cpvFs (cpvOf [[8, 1, 97], [8, 1, 98]] (Value.uint 300 :: List.replicate 14 Value.none)) = true := by decide +kernel
example : (do let n ← ribCommandName false .unregister [[8, 1, 97], [8, 1, 98]] (Value.uint 300 :: List.replicate 14 Value.none)
              decodeCommandParams n) =
    .ok [.model (cpvOf [[8, 1, 97], [8, 1, 98]] (Value.uint 300 :: List.replicate 14 Value.none))] := by rfl

/-- The v2 command Interest — `make_interest(name, param, b'', DigestSha256Signer(for_interest=True))` on a name
    built by `make_command_v2` — is made without error; `parse_interest` decodes it to the command name followed by
    the ParametersSha256Digest component, the Interest parameters, empty ApplicationParameters and a SignatureInfo
    with the given SignatureTime and SignatureNonce; and the forwarder-side checks pass on the ranges the parser
    reports (`params_sha256_checker`, `sha256_digest_checker`; the signed portion is what the signer was handed).
    Size hypotheses: `module` and `command` below 2^64 bytes, name and parameters together below 2^63. -/
theorem command_signed_v2 (H : Bytes → Bytes) (hH : ∀ x, (H x).length = 32)
    (isLocal : Bool) (module command : Bytes) (hm : module.length < 2 ^ 64) (hc : command.length < 2 ^ 64)
    (cpv : List Value) (n : List Bytes) (h : commandName isLocal module command cpv = .ok n)
    (mid : List Value) (midB : Bytes) (time nonce : Nat)
    (hmid : encFields midFs mid = .ok midB) (hfitmid : fitsFs midFs mid = true)
    (ht : time < 2 ^ 64) (hn : nonce < 2 ^ 64) (hsize : (concatB n).length + midB.length < 2 ^ 63) :
    ∃ m vals ptrs, commandInterestV2 H n mid time nonce = .ok m ∧
      parseInterest m.wire = .ok (vals, ptrs) ∧
      m.finalName = n ++ [2 :: 32 :: H m.digestCovered] ∧
      vals = List.replicate 7 (Value.uint 0) ++ (Value.name m.finalName :: mid) ++
             List.replicate 2 (Value.uint (tlv 7 (concatB m.finalName) ++ midB).length) ++
             [.bytes [], digestSigInfo time nonce, .bytes (H (concatB m.covered)), .none] ∧
      paramsCheck H ptrs = true ∧
      concatB ptrs.sigCovered = concatB m.covered ∧
      ptrs.sigValue = some (H (concatB ptrs.sigCovered)) ∧
      verifyPtrs (digestScheme H) ptrs = true := by
  obtain ⟨hname, hnd⟩ := commandName_comps h hm hc
  exact commandInterestV2_checks H hH n mid midB time nonce hname hnd hmid hfitmid ht hn hsize

set_option maxRecDepth 8000 in
example :
    (do let n ← ribCommandName true .register [[8, 1, 97]] (List.replicate 15 .none)
        let m ← commandInterestV2 (fun _ => List.replicate 32 7) n [.none, .bool, .none, .uint 5, .uint 1000, .none] 1700 9
        let (_, p) ← parseInterest m.wire
        pure (m.finalName.length, paramsCheck (fun _ => List.replicate 32 7) p,
              verifyPtrs (digestScheme (fun _ => List.replicate 32 7)) p, p.sigValue)) =
    .ok (6, true, true, some (List.replicate 32 7)) :=
  by decide +kernel

/-- `parse_response` on the bytes the forwarder sends (element 0x65 around a ControlResponse legal for its fields):
    the decoder gives back the encoded values (C08 round trip), the whole function agrees with `parseResponseRec` on
    the decoded record, and the dict holds status code, status text and, under each ControlParameters field name,
    the value encoded for it (`None` when it or the body is absent; a `strategy` is shown by its name). -/
theorem response_roundtrip_bytes (code : Option Nat) (text : Option Bytes) (body : Option (List Value)) (w : Bytes)
    (hfit : fitsFs crFs (crValues code text body) = true) (henc : encodeResponse code text body = .ok w) :
    (∃ v, parseAndCheckTl w 0x65 = .ok v ∧ parse crFs false v = .ok (crValues code text body)) ∧
    parseResponse true w = parseResponseRec true ⟨code, text, body.map (bodyFields cpvFields)⟩ ∧
    ∃ d, parseResponse true w = .ok d ∧
      d.lookup "status_code" = some ((code.map DVal.uint).getD .none) ∧
      d.lookup "status_text" = some ((text.map DVal.text).getD .none) ∧
      ∀ (i : Nat) (k : String), cpvFields[i]? = some k →
        d.lookup k = some ((body.map fun vs => dvalOf (vs.getD i .none)).getD .none) := by
  obtain ⟨h1, hrec⟩ := contentRec_encode code text body w hfit henc
  have h2 := parseResponse_eq true w
  rw [hrec] at h2
  refine ⟨h1, h2, ?_⟩
  obtain ⟨d, hd, hc, ht, hf⟩ := response_roundtrip ⟨code, text, body.map (bodyFields cpvFields)⟩
  refine ⟨d, h2.trans hd, by cases code <;> exact hc, by cases text <;> exact ht, ?_⟩
  intro i k hk
  rw [hf k (List.mem_of_getElem? hk)]
  cases body with
  | none => rfl
  | some vs =>
    have hfv : fitsFs cpvFs vs = true := by
      simp only [crFs, crValues, fitsFs, fits, Bool.and_eq_true] at hfit
      exact hfit.2.2.1
    have hl : cpvFields.length = vs.length := by rw [fitsFs_length cpvFs vs hfv]; rfl
    simp only [Option.map_some, Option.bind_some, Option.getD_some, dvalOf]
    rw [lookupField_bodyFields cpvFields vs (List.nodup_cons.mp (List.nodup_cons.mp respKeys_nodup).2).2 hl i k hk]

example : encodeResponse (some 200) (some [79, 75]) (some (cpvOf [[8, 1, 97]] (Value.uint 300 :: List.replicate 14 Value.none)))
    = .ok [101, 18, 102, 1, 200, 103, 2, 79, 75, 104, 9, 7, 3, 8, 1, 97, 105, 2, 1, 44] :=
  by decide +kernel
example : (parseResponse true [101, 18, 102, 1, 200, 103, 2, 79, 75, 104, 9, 7, 3, 8, 1, 97, 105, 2, 1, 44]).toOption.bind
    (fun d => d.lookup "face_id") = some (.uint 300) := by decide +kernel
example : (parseResponse true [101, 3, 102, 1, 147]).toOption.bind (fun d => d.lookup "name") = some .none := by decide +kernel

/-- the forwarder-side check of a legacy (signed-name) command: nine components, the last one holding a
    SignatureValue element whose value is `H` of the eight components before it -/
def legacySigOk (H : Bytes → Bytes) (n : List Bytes) : Bool :=
  n.length == 9 &&
  match n[8]? with
  | some c => compValue c == [23, 32] ++ H (concatB (n.take 8))
  | none => false

/-- Whenever the legacy `make_command` returns a name, it is the v2 command name followed by the timestamp and the
    nonce as 8-byte big-endian generic components that decode back, a component holding the SignatureInfo element
    (SignatureType DigestSha256 only), and one holding the SignatureValue element, `H` of the eight components
    before it. -/
theorem legacy_command_name (H : Bytes → Bytes) (hH : ∀ x, (H x).length = 32) (isLocal : Bool)
    (module command : Bytes) (cpv : List Value) (ts nonce : Nat) (n : List Bytes)
    (h : legacyCommandName H isLocal module command cpv ts nonce = .ok n) :
    ∃ n5, commandName isLocal module command cpv = .ok n5 ∧
      n = n5 ++ [tlv 8 (be8 ts), tlv 8 (be8 nonce), tlv 8 [22, 3, 27, 1, 0],
                 tlv 8 ([23, 32] ++ H (concatB (n.take 8)))] ∧
      beVal (compValue (tlv 8 (be8 ts))) = ts ∧ beVal (compValue (tlv 8 (be8 nonce))) = nonce ∧
      (parseAndCheckTl (compValue (tlv 8 [22, 3, 27, 1, 0])) 22 >>= parse sigInfoFields false) = .ok legacySigInfo ∧
      legacySigOk H n = true := by
  obtain ⟨n5, h5, hts, hno, rfl⟩ := legacyCommandName_ok h
  obtain ⟨cp, _, _, rfl⟩ := commandName_ok h5
  have hv : ∀ b : Bytes, b.length ≤ 34 → compValue (tlv 8 b) = b :=
    fun b hb => compValue_tlv 8 b (by decide) (by omega)
  have htake : ∀ x, ((commandHead isLocal module command ++ [tlv 8 cp]) ++ legacyTail ts nonce ++ [x]).take 8
      = (commandHead isLocal module command ++ [tlv 8 cp]) ++ legacyTail ts nonce := fun _ => List.take_left' rfl
  refine ⟨_, h5, ?_, ?_, ?_, ?_, ?_⟩
  · rw [htake, List.append_assoc]; rfl
  · rw [hv _ (by rw [be8_length]; decide)]; exact beVal_be8 ts hts
  · rw [hv _ (by rw [be8_length]; decide)]; exact beVal_be8 nonce hno
  · rw [hv _ (by decide)]; rfl
  · unfold legacySigOk
    rw [htake]
    exact (Bool.and_eq_true _ _).mpr ⟨rfl, beq_iff_eq.mpr (hv _ (by simp [hH]))⟩

example : legacyCommandName (fun _ => List.replicate 32 7) true ribB registerB (cpvOf [[8, 1, 97]] (List.replicate 15 .none))
    1000 5 =
    .ok [[8, 9, 108, 111, 99, 97, 108, 104, 111, 115, 116], [8, 3, 110, 102, 100], [8, 3, 114, 105, 98],
         [8, 8, 114, 101, 103, 105, 115, 116, 101, 114], [8, 7, 104, 5, 7, 3, 8, 1, 97],
         [8, 8, 0, 0, 0, 0, 0, 0, 3, 232], [8, 8, 0, 0, 0, 0, 0, 0, 0, 5], [8, 5, 22, 3, 27, 1, 0],
         8 :: 34 :: 23 :: 32 :: List.replicate 32 7] :=
  by decide +kernel

end Bytes

section Composed
open Ndn.Codec Ndn.Packet Ndn.NfdBytes

/-- `/localhost|localhop/nfd/rib/<verb>`, i.e. `commandHead isLocal ribB (verbB v)` -/
def ribHead (isLocal : Bool) (v : Verb) : List Bytes :=
  [tlv 8 (if isLocal then localhostB else localhopB), tlv 8 nfdB, tlv 8 ribB, tlv 8 (verbB v)]

/-- what a forwarder finds when it decodes a command Interest of the signed-Interest format (`NfdRegister`) -/
def AcceptsV2 (H : Bytes → Bytes) (isLocal : Bool) (wire : Bytes) (v : Verb) (pfx : List Bytes) (ts : Nat) : Prop :=
  ∃ vals ptrs n d nonce, parseInterest wire = .ok (vals, ptrs) ∧
    vals[7]? = some (.name (n ++ [2 :: 32 :: d])) ∧ n.length = 5 ∧ n.take 4 = ribHead isLocal v ∧
    decodeCommandParams n = .ok [.model (cpvOf pfx noKw)] ∧
    (decodeCommandParams n).toOption.bind namedPrefix = some pfx ∧
    vals[16]? = some (.bytes []) ∧ vals[17]? = some (digestSigInfo ts nonce) ∧
    paramsCheck H ptrs = true ∧ ptrs.sigValue = some (H (concatB ptrs.sigCovered)) ∧
    verifyPtrs (digestScheme H) ptrs = true

/-- … and of the signed-name format (legacy `NDNApp`) -/
def AcceptsLegacy (H : Bytes → Bytes) (isLocal : Bool) (wire : Bytes) (v : Verb) (pfx : List Bytes) (ts : Nat) : Prop :=
  ∃ vals ptrs n, parseInterest wire = .ok (vals, ptrs) ∧ vals[7]? = some (.name n) ∧
    n.take 4 = ribHead isLocal v ∧
    decodeCommandParams n = .ok [.model (cpvOf pfx noKw)] ∧
    (decodeCommandParams n).toOption.bind namedPrefix = some pfx ∧
    (n[5]?.map fun c => beVal (compValue c)) = some ts ∧
    legacySigOk H n = true ∧ vals.drop 14 = List.replicate 6 Value.none

def Accepts (fe : FrontEnd) (H : Bytes → Bytes) (isLocal : Bool) (wire : Bytes) (v : Verb) (pfx : List Bytes)
    (ts : Nat) : Prop :=
  match fe with
  | .v2 => AcceptsV2 H isLocal wire v pfx ts
  | .legacy => AcceptsLegacy H isLocal wire v pfx ts

theorem Accepts.wireTs {fe : FrontEnd} {H : Bytes → Bytes} {isLocal : Bool} {wire : Bytes} {v : Verb}
    {pfx : List Bytes} {ts : Nat} (h : Accepts fe H isLocal wire v pfx ts) : NfdBytes.wireTs fe wire = some ts := by
  cases fe with
  | v2 =>
    obtain ⟨vals, ptrs, _, _, nonce, hp, _, _, _, _, _, _, h17, _⟩ := h
    simp only [NfdBytes.wireTs, hp, h17, digestSigInfo]
  | legacy =>
    obtain ⟨vals, ptrs, n, hp, h7, _, _, _, h5, _⟩ := h
    simp only [NfdBytes.wireTs, hp, h7, h5]

theorem cmdWire_v2 (w : Wire) (g : Good w) (k : Nat) (v : Verb) (p ts : Nat) (hts : ts < 2 ^ 64) :
    ∃ wire, cmdWire w .v2 k v p ts = .ok wire ∧ AcceptsV2 w.H w.isLocal wire v (w.pfxName p) ts := by
  have hsz := g.pfxSize p
  have hn : commandName w.isLocal ribB (verbB v) (cpvOf (w.pfxName p) noKw) = .ok (ribName w.isLocal v (w.pfxName p)) :=
    ribCommandName_eq w.isLocal v (w.pfxName p) (by omega)
  obtain ⟨c1, c2, c3, c4⟩ := command_names_prefix w.isLocal ribB (verbB v) (w.pfxName p) noKw _
    (fits_cpv_name (w.pfxName p) (g.pfxOk p)) hn
  obtain ⟨hname, hnd, hlen⟩ := genericName (ribVals w.isLocal v (w.pfxName p)) _ (ribVals_size _ _ _) (by omega)
  obtain ⟨hmid, hfit⟩ := cmdMid_enc (w.nonce32 k) (g.n32 k)
  -- `Good.pfxSize` (2^62) is the headroom for the bound 2^63 that `commandInterestV2_checks` asks of name and parameters
  obtain ⟨m, vals, ptrs, h1, h2, h3, h4, h5, _, h7, h8⟩ :=
    commandInterestV2_checks w.H g.hH (ribName w.isLocal v (w.pfxName p)) (cmdMid (w.nonce32 k)) _ ts (w.nonce64 k)
      hname hnd hmid hfit hts (g.n64 k) (by
        have : (ribVals w.isLocal v (w.pfxName p)).length = 5 := rfl
        rw [cmdMid_len, ribName]; omega)
  exact ⟨m.wire, by simp only [cmdWire, ribCommandName, hn, h1, bind, Except.bind, pure, Except.pure],
    vals, ptrs, _, w.H m.digestCovered, w.nonce64 k, h2, by rw [h4, h3]; rfl, c1, c2, c3, c4, by rw [h4]; rfl,
    by rw [h4]; rfl, h5, h7, h8⟩

theorem cmdWire_legacy (w : Wire) (g : Good w) (k : Nat) (v : Verb) (p ts : Nat) (hts : ts < 2 ^ 64) :
    ∃ wire, cmdWire w .legacy k v p ts = .ok wire ∧ AcceptsLegacy w.H w.isLocal wire v (w.pfxName p) ts := by
  have hsz := g.pfxSize p
  have hn : commandName w.isLocal ribB (verbB v) (cpvOf (w.pfxName p) noKw) = .ok (ribName w.isLocal v (w.pfxName p)) :=
    ribCommandName_eq w.isLocal v (w.pfxName p) (by omega)
  obtain ⟨_, _, c3, c4⟩ := command_names_prefix w.isLocal ribB (verbB v) (w.pfxName p) noKw _
    (fits_cpv_name (w.pfxName p) (g.pfxOk p)) hn
  have hl := legacyCommandName_eq w.H w.isLocal v (w.pfxName p) ts (w.nonce64 k) (by omega) hts (g.n64 k)
  obtain ⟨_, _, _, _, _, _, hsig⟩ := legacy_command_name w.H g.hH w.isLocal ribB (verbB v) _ ts (w.nonce64 k) _ hl
  obtain ⟨hname, hnd, hlen⟩ := genericName (legacyVals w.H w.isLocal v (w.pfxName p) ts (w.nonce64 k)) _
    (legacyVals_size w.H g.hH _ _ _ _ _) (by omega)
  obtain ⟨hmid, hfit⟩ := cmdMid_enc (w.nonce32 k) (g.n32 k)
  obtain ⟨m, h1, _, h3⟩ := C01.parse_make_interest_plain w.H (legacyName w.H w.isLocal v (w.pfxName p) ts (w.nonce64 k))
    (cmdMid (w.nonce32 k)) _ hmid hname hnd hfit (by
      have : (legacyVals w.H w.isLocal v (w.pfxName p) ts (w.nonce64 k)).length = 9 := rfl
      rw [cmdMid_len, legacyName]; omega)
  cases hp : parseInterest m.wire with
  | error e => rw [hp] at h3; cases h3
  | ok r =>
    obtain ⟨vals, ptrs⟩ := r
    rw [hp] at h3
    simp only [Except.map, Except.ok.injEq] at h3
    subst h3
    exact ⟨m.wire, by simp only [cmdWire, hl, h1, bind, Except.bind, pure, Except.pure],
      _, ptrs, _, hp, rfl, rfl, c3, c4, legacyName_ts w.H w.isLocal v (w.pfxName p) ts (w.nonce64 k) hts, hsig, rfl⟩

/-- The wire of the k-th command (verb `v`, prefix number `p`, signed timestamp `ts`) is produced without error, and
    a forwarder decoding it (`parse_interest`, C07; ControlParameters, C08) finds `/localhost|localhop/nfd/rib/<v>`,
    ControlParameters naming exactly the requested prefix, and — `NfdRegister`: a valid ParametersSha256Digest,
    SignatureTime `ts` and a signature that is `H` of the signed portion; legacy `NDNApp`: the timestamp component
    holding `ts` and a SignatureValue component that is `H` of the eight before it.  `wireTs` reads back `ts`. -/
theorem emitted_command_accepted (w : Wire) (g : Good w) (fe : FrontEnd) (k : Nat) (v : Verb) (p ts : Nat)
    (hts : ts < 2 ^ 64) :
    ∃ wire, cmdWire w fe k v p ts = .ok wire ∧ Accepts fe w.H w.isLocal wire v (w.pfxName p) ts ∧
      wireTs fe wire = some ts := by
  have ⟨wire, h1, h2⟩ : ∃ wire, cmdWire w fe k v p ts = .ok wire ∧ Accepts fe w.H w.isLocal wire v (w.pfxName p) ts := by
    cases fe with
    | v2 => exact cmdWire_v2 w g k v p ts hts
    | legacy => exact cmdWire_legacy w g k v p ts hts
  exact ⟨wire, h1, h2, h2.wireTs⟩

/-- In every history of the composed model, for either front-end, the i-th wire on the face is the wire of the i-th
    command of the state machine, produced without error, and a forwarder accepts it (`Accepts`) — while the clock
    stays below 2^64 ms. -/
theorem every_emitted_wire_accepted (cfg : Cfg) (env : Env) (w : Wire) (g : Good w) (s : St) (evs : List WEv)
    (hts : ∀ ts ∈ tsOf (runW cfg env w s evs).2.1, ts < 2 ^ 64)
    (i : Nat) (r : Req) (ts : Nat) (hi : (cmdsOf (runW cfg env w s evs).2.1)[i]? = some (r, ts)) :
    ∃ wire, (runW cfg env w s evs).2.2[i]? = some (.ok wire) ∧
      Accepts cfg.fe w.H w.isLocal wire r.verb (w.pfxName r.pfx) ts := by
  have hlt : ts < 2 ^ 64 := by
    apply hts
    rw [tsOf_cmdsOf]
    exact List.mem_map.mpr ⟨(r, ts), List.mem_of_getElem? hi, rfl⟩
  obtain ⟨wire, h1, h2, _⟩ := emitted_command_accepted w g cfg.fe (0 + i) r.verb r.pfx ts hlt
  refine ⟨wire, ?_, h2⟩
  have := wiresFrom_getElem w cfg.fe (runW cfg env w s evs).2.1 0 i r ts hi
  rw [h1] at this
  exact this

/-- In every history of the composed model (`unregister` under the command lock) as many command Interests are on
    the face as requests were made and are not waiting for the lock, and commands and returns alternate, whatever
    bytes came back. -/
theorem one_wire_per_call (cfg : Cfg) (hl : cfg.unregLock = true) (env : Env) (w : Wire) (t0 : Nat) (evs : List WEv) :
    (runW cfg env w (init t0) evs).2.2.length + (runW cfg env w (init t0) evs).1.queue.length
      = (runW cfg env w (init t0) evs).1.nextId ∧
    alt none (runW cfg env w (init t0) evs).2.1 = some (runW cfg env w (init t0) evs).1.inflight := by
  refine ⟨?_, one_at_a_time cfg hl env t0 _⟩
  have := one_command_per_call cfg hl env t0 (evs.filterMap (absEv w.H))
  simp only [runW, wiresFrom_length]
  exact this

theorem wiresFrom_ts (w : Wire) (g : Good w) (fe : FrontEnd) (o : List Out) (k : Nat)
    (hts : ∀ ts ∈ tsOf o, ts < 2 ^ 64) :
    ∃ ws : List Bytes, wiresFrom w fe k o = ws.map Except.ok ∧ ws.map (wireTs fe) = (tsOf o).map some := by
  induction o generalizing k with
  | nil => exact ⟨[], rfl, rfl⟩
  | cons x t ih =>
    cases x with
    | cmd r ts =>
      obtain ⟨wire, h1, _, h2⟩ := emitted_command_accepted w g fe k r.verb r.pfx ts (hts ts List.mem_cons_self)
      obtain ⟨ws, h3, h4⟩ := ih (k + 1) (fun t' ht' => hts t' (List.mem_cons_of_mem _ ht'))
      exact ⟨wire :: ws, by simp [wiresFrom, h1, h3], by simp [tsOf, h2, h4]⟩
    | ret r res => exact ih k hts
    | connected => exact ih k hts
    | unmodelled => exact ih k hts

/-- … and every command is on the face as a wire carrying a readable timestamp, and these timestamps increase
    strictly in emission order, under the clock hypothesis of `timestamps_strict`. -/
theorem wire_timestamps_strict (fe : FrontEnd) (env : Env) (hs : ∀ k, 1 ≤ env.sleepAdv k) (w : Wire) (g : Good w)
    (t0 : Nat) (evs : List WEv)
    (hts : ∀ ts ∈ tsOf (runW (Cfg.repaired fe) env w (init t0) evs).2.1, ts < 2 ^ 64) :
    ∃ (ws : List Bytes) (tss : List Nat), (runW (Cfg.repaired fe) env w (init t0) evs).2.2 = ws.map Except.ok ∧
      ws.map (wireTs fe) = tss.map some ∧ List.Pairwise (· < ·) tss := by
  obtain ⟨ws, h1, h2⟩ := wiresFrom_ts w g fe _ 0 hts
  exact ⟨ws, _, h1, h2, timestamps_strict fe env hs t0 _⟩

/-- the bytes of a reply say "status 200" -/
def wire200 (fe : FrontEnd) (H : Bytes → Bytes) (b : Bytes) : Bool :=
  match parseData b with
  | .error _ => false
  | .ok (vs, ptrs) =>
    (match bytesOf vs[7]? with
     | none => false
     | some c =>
       match parseResponse true c with
       | .ok d => d.lookup "status_code" == some (DVal.uint 200)
       | .error _ => false) &&
    (match fe with | .v2 => true | .legacy => digestSigOk H vs ptrs)

theorem status_lookup (r : ControlResponseRec) :
    (match parseResponseRec true r with
     | .ok d => d.lookup "status_code" == some (DVal.uint 200)
     | .error _ => false) = (r.statusCode == some 200) := by
  rw [parseResponseRec_bodyFix]
  simp only [respDict_lookup r List.mem_cons_self]
  cases r.statusCode with
  | none => rfl
  | some n => rw [Bool.eq_iff_iff]; simp

/-- `replyOfData` answers "200" exactly when the bytes say so: a Data packet whose Content `parse_response` turns
    into a dict with `status_code` 200 and — on the front-end that validates — whose DigestSha256 signature verifies -/
theorem answers200_wire200 (fe : FrontEnd) (H : Bytes → Bytes) (b : Bytes) (k : Reply)
    (h : replyOfData H b = some k) : answers200 fe k = wire200 fe H b := by
  unfold replyOfData at h
  unfold wire200
  cases hp : parseData b with
  | error e => rw [hp] at h; cases h
  | ok r =>
    obtain ⟨vs, ptrs⟩ := r
    rw [hp] at h
    cases h
    dsimp only
    cases bytesOf vs[7]? with
    | none => rfl
    | some c =>
      dsimp only
      rw [parseResponse_eq]
      cases contentRec c with
      | error e => rfl
      | ok rec => exact congrArg (· && _) (status_lookup rec).symm

/-- While a command is in flight, for every byte string that arrives as the answer: either it is not a Data packet
    (the receive loop drops it, the command stays in flight) or the call returns, first thing, normally, with `True`
    exactly when the bytes say "status 200" (`wire200`). -/
theorem reply_wire_decides (fe : FrontEnd) (env : Env) (w : Wire) (s : St) (r : Req) (b : Bytes)
    (h : s.inflight = some r) :
    (replyOfData w.H b = none → runW (Cfg.repaired fe) env w s [.data b] = (s, [], [])) ∧
    (replyOfData w.H b ≠ none →
      (runW (Cfg.repaired fe) env w s [.data b]).2.1.head? = some (.ret r (.ok (wire200 fe w.H b)))) := by
  constructor
  · intro hn
    simp [runW, absEv, hn, run, wiresFrom]
  · intro hn
    cases hk : replyOfData w.H b with
    | none => exact absurd hk hn
    | some k =>
      have := reply_returns fe env s r k h
      rw [answers200_wire200 fe w.H b k hk] at this
      simp only [runW, List.filterMap_cons, absEv, hk, Option.map_some, List.filterMap_nil, run, List.append_nil]
      exact this

/-- In every history of the composed model, whatever bytes come back, every call returns normally. -/
theorem reply_bytes_never_raise (fe : FrontEnd) (env : Env) (w : Wire) (s : St) (evs : List WEv) (r : Req)
    (res : Except PyErr Bool) (h : Out.ret r res ∈ (runW (Cfg.repaired fe) env w s evs).2.1) : ∃ b, res = .ok b :=
  never_raises fe env s _ r res h

/-- From the forwarder's side: a ControlResponse legal for its fields, wrapped in element 0x65 as Content of a Data
    packet signed with DigestSha256 (`forwarderData`), makes the call in flight return `True` if and only if the
    status code that was encoded is 200. -/
theorem forwarder_answer_decides (fe : FrontEnd) (env : Env) (w : Wire) (hH : ∀ x, (w.H x).length = 32)
    (s : St) (r : Req) (h : s.inflight = some r)
    (name : List Bytes) (hname : name.all compOk = true)
    (code : Option Nat) (text : Option Bytes) (body : Option (List Value)) (content p : Bytes)
    (hfit : fitsFs crFs (crValues code text body) = true) (henc : encodeResponse code text body = .ok content)
    (hp : encFields [nameS, metaS, contentS, dataSigInfoS] [.name name, .none, .bytes content, .model legacySigInfo] = .ok p)
    (hsz : p.length < 2 ^ 63) :
    ∃ wire, forwarderData w.H name content = .ok wire ∧
      replyOfData w.H wire = some (.response code body.isSome true) ∧
      wire200 fe w.H wire = (code == some 200) ∧
      (runW (Cfg.repaired fe) env w s [.data wire]).2.1.head? = some (.ret r (.ok (code == some 200))) := by
  obtain ⟨h1, h2⟩ := replyOfData_forwarder w.H hH name content p hname hp hsz
  rw [(contentRec_encode code text body content hfit henc).2] at h2
  have h2' : replyOfData w.H (tlv 6 (p ++ tlv 23 (w.H p))) = some (.response code body.isSome true) := by
    rw [h2]; cases body <;> rfl
  have h200 : wire200 fe w.H (tlv 6 (p ++ tlv 23 (w.H p))) = (code == some 200) := by
    rw [← answers200_wire200 fe w.H _ _ h2']
    cases fe <;> simp [answers200]
  refine ⟨_, h1, h2', h200, ?_⟩
  have := (reply_wire_decides fe env w s r (tlv 6 (p ++ tlv 23 (w.H p))) h).2 (by rw [h2']; simp)
  rw [h200] at this
  exact this

/-- the Python class a decoding error of the model stands for, as it is written in the `except` clauses -/
def pyClass : PyErr → String
  | .structError => "error"          -- `struct.error`
  | e => e.name

theorem docErr_caught (e : PyErr) (h : docErr e = true) :
    pyClass e ∈ Ndn.Gen.C17.malformedResponse ∧
    ∀ row ∈ Ndn.Gen.C17.caught, (row.1 = "app.register" ∨ row.1 = "app.unregister") → pyClass e ∈ row.2 := by
  have he : e ∈ [PyErr.decodeError, .valueError, .typeError, .indexError, .structError] := by
    cases e <;> first | decide | cases h
  have hm : Ndn.Gen.C17.malformedResponse =
      [PyErr.decodeError, .valueError, .typeError, .indexError, .structError].map pyClass := by decide +kernel
  have hrows : ∀ row ∈ Ndn.Gen.C17.caught, (row.1 = "app.register" ∨ row.1 = "app.unregister") →
      ∀ c ∈ Ndn.Gen.C17.malformedResponse, c ∈ row.2 := by decide +kernel
  have he : pyClass e ∈ Ndn.Gen.C17.malformedResponse := hm ▸ List.mem_map_of_mem he
  exact ⟨he, fun row hr hn => hrows row hr hn _ he⟩

/-- The only exceptions `parse_response` can raise on any Content bytes are the documented decoding errors (C07),
    and each of these classes is named in `MALFORMED_RESPONSE` (`NfdRegister`) and in the `except` clauses of the
    legacy `NDNApp.register/unregister` — tables generated from the source. -/
theorem reply_decode_errors_are_caught (c : Bytes) (e : PyErr) (h : parseResponse true c = .error e) :
    docErr e = true ∧ pyClass e ∈ Ndn.Gen.C17.malformedResponse ∧
    ∀ row ∈ Ndn.Gen.C17.caught, (row.1 = "app.register" ∨ row.1 = "app.unregister") → pyClass e ∈ row.2 :=
  ⟨parseResponse_doc c e h, docErr_caught e (parseResponse_doc c e h)⟩

/-- `H` = the constant 32-byte string, one prefix `/a`, Nonce 5, SignatureNonce 9 -/
def exW : Wire := { H := fun _ => List.replicate 32 7, isLocal := true, pfxName := fun _ => [[8, 1, 97]],
                    nonce32 := fun _ => 5, nonce64 := fun _ => 9 }

theorem exW_good : Good exW :=
  ⟨fun _ => rfl, fun _ => rfl, fun _ => (by decide : ([8, 1, 97] : Bytes).length < 2 ^ 62),
   fun _ => (by decide : 5 < 2 ^ 32), fun _ => (by decide : 9 < 2 ^ 64)⟩

example : Good exW := exW_good

set_option maxRecDepth 8000 in
example : cmdWire exW .legacy 0 .unregister 0 1700 =
    .ok [5, 117, 7, 105, 8, 9, 108, 111, 99, 97, 108, 104, 111, 115, 116, 8, 3, 110, 102, 100, 8, 3, 114, 105, 98, 8,
      10, 117, 110, 114, 101, 103, 105, 115, 116, 101, 114, 8, 7, 104, 5, 7, 3, 8, 1, 97, 8, 8, 0, 0, 0, 0, 0, 0, 6, 164, 8,
      8, 0, 0, 0, 0, 0, 0, 0, 9, 8, 5, 22, 3, 27, 1, 0, 8, 34, 23, 32, 7, 7, 7, 7, 7, 7, 7, 7, 7, 7, 7, 7, 7, 7, 7, 7, 7, 7,
      7, 7, 7, 7, 7, 7, 7, 7, 7, 7, 7, 7, 7, 7, 10, 4, 0, 0, 0, 5, 12, 2, 3, 232] :=
  by decide +kernel

set_option maxRecDepth 8000 in
example : ((cmdWire exW .v2 0 .register 0 1700).toOption.bind (wireTs .v2),
           (cmdWire exW .legacy 0 .unregister 0 1700).toOption.bind (wireTs .legacy)) = (some 1700, some 1700) := by
  obtain ⟨_, h1, _, t1⟩ := emitted_command_accepted exW exW_good .v2 0 .register 0 1700 (by decide)
  obtain ⟨_, h2, _, t2⟩ := emitted_command_accepted exW exW_good .legacy 0 .unregister 0 1700 (by decide)
  rw [h1, h2]
  exact Prod.ext t1 t2

set_option maxRecDepth 8000 in
example : (forwarderData exW.H [[8, 1, 97]] [101, 3, 102, 1, 200]).toOption.bind (replyOfData exW.H) =
    some (.response (some 200) false true) := by decide +kernel

/-- legacy front-end: two calls at one clock reading; garbage bytes (dropped), a Data saying 200 (the registration
    returns `True`, the unregistration goes out one millisecond later), a Nack (it returns `False`) -/
example : (runW (Cfg.repaired .legacy) ⟨fun _ => 0, fun _ => 1, fun _ => 0, fun _ => 0⟩ exW (init 5)
    [.call .register 0, .call .unregister 0, .data [1, 2, 3],
     .data [6, 51, 7, 3, 8, 1, 97, 21, 5, 101, 3, 102, 1, 200, 22, 3, 27, 1, 0, 23, 32, 7, 7, 7, 7, 7, 7, 7, 7, 7, 7, 7,
            7, 7, 7, 7, 7, 7, 7, 7, 7, 7, 7, 7, 7, 7, 7, 7, 7, 7, 7, 7, 7], .nack]).2.1 =
    [.cmd ⟨0, .register, 0, false⟩ 5, .ret ⟨0, .register, 0, false⟩ (.ok true),
     .cmd ⟨1, .unregister, 0, false⟩ 6, .ret ⟨1, .unregister, 0, false⟩ (.ok false)] := by decide +kernel

end Composed

end Ndn.C17
