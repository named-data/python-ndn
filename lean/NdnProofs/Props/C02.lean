import NdnProofs.Props.C01
import NdnProofs.Lemmas.Signers
/-!
# C02 — Signatures and parameter digests cover the specified bytes; tampering is detected

Everything is about `Ndn.Packet.makeData` / `interestCore` (what `makeInterest` runs once it knows where the digest
goes, `C01.make_interest_is_core*`) / `parseData` / `parseInterest`, for every field combination, payload and signer
behaviour under the standing hypotheses listed at the head of C01.  Cryptography enters only as explicit hypotheses
(`Correct`, `Unforgeable`) — never as axioms; SHA-256 is an arbitrary function `H`.
-/
namespace Ndn.C02
open Ndn Ndn.Codec Ndn.Packet

/-- For a signed Data the signer is handed exactly the encoded Name, MetaInfo, Content and SignatureInfo elements,
    and in the final (shrunk) wire those are the bytes of the Data Value in front of the SignatureValue element. -/
theorem sign_input_is_signed_portion_data (name : List Bytes) (mi content sigInfo : Value) (s : SignerOut)
    (a b c d : Bytes)
    (ha : enc nameS (.name name) = .ok a) (hb : enc metaS mi = .ok b) (hc : enc contentS content = .ok c)
    (hd : enc dataSigInfoS sigInfo = .ok d)
    (hle : s.sig.length ≤ s.reserved) (hflex : s.sig.length = s.reserved ∨ s.reserved < 253)
    (hsize : (a ++ b ++ c ++ d).length + s.reserved + 12 < 2 ^ 64) :
    makeData name mi content sigInfo (some s) =
      .ok { wire := tlv 6 ((a ++ b ++ c ++ d) ++ tlv 23 s.sig), covered := [a ++ b ++ c ++ d] } := by
  have hp : encFields [nameS, metaS, contentS, dataSigInfoS] [.name name, mi, content, sigInfo]
      = .ok (a ++ b ++ c ++ d) := by
    simp [encFields, ha, hb, hc, hd, bind, Except.bind, pure, Except.pure, List.append_assoc]
  exact C01.make_data_wire name mi content sigInfo s _ hp hle hflex hsize

/-- For a signed Interest (digest component appended) the signer is handed, in order: all name components except
    the ParametersSha256Digest component, then the encoded ApplicationParameters and InterestSignatureInfo.  The last
    conjunct only says that `digestCovered` is a suffix of the Value (`nameB` is not tied to the name there). -/
theorem sign_input_is_signed_portion_interest (H : Bytes → Bytes) (name : List Bytes) (mid : List Value)
    (app sigInfo : Value) (s : SignerOut) (midB appB siB : Bytes)
    (hmid : encFields [.bool 33, .bool 18, linksS, .uint 10 (some 4), .uint 12 none, .uint 34 (some 1)] mid = .ok midB)
    (happ : enc (.bytes 36 false) app = .ok appB) (hsi : enc intSigInfoS sigInfo = .ok siB)
    (hle : s.sig.length ≤ s.reserved) (hflex : s.sig.length = s.reserved ∨ s.reserved < 253)
    (hr : s.reserved < 2 ^ 64)
    (hsize : (concatB (placeDigest (name ++ [digestPlaceholder]) name.length
        (H ((appB ++ siB) ++ tlv 46 s.sig)))).length + midB.length + (appB ++ siB).length + s.reserved + 64 < 2 ^ 64) :
    ∃ m, interestCore H name mid app sigInfo (some s) true none = .ok m ∧
      concatB m.covered = concatB name ++ appB ++ siB ∧
      m.digestCovered = appB ++ siB ++ tlv 46 s.sig ∧
      ∃ nameB, m.wire = tlv 5 (nameB ++ midB ++ (appB ++ siB ++ tlv 46 s.sig)) := by
  refine ⟨_, C01.make_interest_wire H name mid app sigInfo s midB (appB ++ siB) hmid
    (encFields_pair _ _ _ _ _ _ happ hsi) hle hflex hr _ _ rfl rfl hsize, ?_, rfl, ⟨_, by simp only [List.append_assoc]; rfl⟩⟩
  simp only [concatB_app, nameChunks_placeDigest, concatB_nameChunks_at, concatB, List.append_nil, List.append_assoc]

/-- The ParametersSha256Digest is computed over the encoded ApplicationParameters, SignatureInfo and the final
    (shrunk) SignatureValue element, a suffix of the Interest Value.  (The signed case; without a signer see
    `parsed_digest_cover_params_interest`.  `nameB` is any prefix as stated; `C01.make_interest_wire` shows it to be
    `tlv 7 (concatB m.finalName)`.) -/
theorem digest_covers_params_to_end (H : Bytes → Bytes) (name : List Bytes) (mid : List Value)
    (app sigInfo : Value) (s : SignerOut) (midB appB siB : Bytes)
    (hmid : encFields [.bool 33, .bool 18, linksS, .uint 10 (some 4), .uint 12 none, .uint 34 (some 1)] mid = .ok midB)
    (happ : enc (.bytes 36 false) app = .ok appB) (hsi : enc intSigInfoS sigInfo = .ok siB)
    (hle : s.sig.length ≤ s.reserved) (hflex : s.sig.length = s.reserved ∨ s.reserved < 253)
    (hr : s.reserved < 2 ^ 64)
    (hsize : (concatB (placeDigest (name ++ [digestPlaceholder]) name.length
        (H ((appB ++ siB) ++ tlv 46 s.sig)))).length + midB.length + (appB ++ siB).length + s.reserved + 64 < 2 ^ 64) :
    ∃ m nameB, interestCore H name mid app sigInfo (some s) true none = .ok m ∧
      m.wire = tlv 5 (nameB ++ midB ++ m.digestCovered) ∧
      m.finalName = placeDigest (name ++ [digestPlaceholder]) name.length (H m.digestCovered) :=
  ⟨_, _, C01.make_interest_wire H name mid app sigInfo s midB (appB ++ siB) hmid
    (encFields_pair _ _ _ _ _ _ happ hsi) hle hflex hr _ _ rfl rfl hsize, by simp only [List.append_assoc]; rfl, rfl⟩

/-- the offset at which the parser ends the covered range -/
theorem covered_end_is_sigvalue_offset (p sig R : Bytes) (hp : SeqWithout 23 p) (hs : sig.length < 2 ^ 64) :
    offsetOfType ((p ++ (tlv 23 sig ++ R)).length + 1) (p ++ (tlv 23 sig ++ R)) 0 23 = some p.length := by
  have := offsetOfType_skip 23 (by decide) sig R hs hp ((p ++ (tlv 23 sig ++ R)).length + 1) 0
    (by simp; omega)
  simpa using this

/-- Parsing a made Data returns the fields that went in and reports exactly `p` (the encoded Name … SignatureInfo)
    as the covered range and `sig` as the signature value: the verifier checks the bytes that were signed. -/
theorem parsed_cover_is_signed_portion_data (name : List Bytes) (mi content sigInfo : Value) (sig p : Bytes)
    (hp : encFields [nameS, metaS, contentS, dataSigInfoS] [.name name, mi, content, sigInfo] = .ok p)
    (hfit : fitsFs [nameS, metaS, contentS, dataSigInfoS] [.name name, mi, content, sigInfo] = true)
    (hsize : (p ++ tlv 23 sig).length < 2 ^ 64) (hsig : sig.length < 2 ^ 64) :
    parseData (tlv 6 (p ++ tlv 23 sig)) =
      .ok (List.replicate 5 (Value.uint 0) ++ [.name name, mi, content, sigInfo, .bytes sig],
           { sigCovered := [p], sigValue := some sig, digestCovered := [], digestValue := none }) := by
  have hdec := C01.decode_data name mi content sigInfo (.bytes sig) p (tlv 23 sig) hp hfit
    (enc_bytes false (by decide) hsig) rfl hsize
  have hoff := covered_end_is_sigvalue_offset p sig []
    (seqWithout_fieldsB 23 [nameS, metaS, contentS, dataSigInfoS] _ p (by decide) hp) hsig
  simp only [List.append_nil, List.length_append] at hoff
  unfold parseData
  simp only [hdec, parseAndCheckTl_tlv 6 _ (by decide) hsize, bind, Except.bind, pure, Except.pure]
  simp [bytesOf, markerOff, hoff, pySlice, List.replicate]

/-- the verifier accepts what the signer produced -/
def Correct (S : Scheme) : Prop := ∀ m, S.verify m (S.sign m) = true
/-- the verifier accepts nothing but the one (message, signature) pair the key holder produced: a key that signed
    once.  No scheme is both `Correct` and `Unforgeable` (it would accept `sign m'` for every `m'`), so `verify_own` and
    `tamper_rejected` never speak of the same `S`. -/
def Unforgeable (S : Scheme) (m s : Bytes) : Prop := ∀ m' s', S.verify m' s' = true → m' = m ∧ s' = s

theorem verify_own (S : Scheme) (hc : Correct S) (p : Ptrs) (m : Bytes)
    (hcov : concatB p.sigCovered = m) (hsv : p.sigValue = some (S.sign m)) : verifyPtrs S p = true :=
  (Sign.verifyPtrs_iff S p).mpr ⟨_, hsv, by rw [hcov]; exact hc m⟩

theorem tamper_rejected (S : Scheme) (m s : Bytes) (hu : Unforgeable S m s) (p : Ptrs)
    (hdiff : concatB p.sigCovered ≠ m ∨ p.sigValue ≠ some s) : verifyPtrs S p = false := by
  refine Bool.eq_false_iff.mpr fun h => ?_
  obtain ⟨s', hs', hv⟩ := (Sign.verifyPtrs_iff S p).mp h
  obtain ⟨h1, h2⟩ := hu _ _ hv
  exact hdiff.elim (fun hd => hd h1) (fun hd => hd (h2 ▸ hs'))

/-- the test `params_sha256_checker` and `sha256_digest_checker` share -/
theorem covered_hash_iff (l : List Bytes) (d h : Bytes) :
    (!l.isEmpty && !d.isEmpty && h == d) = true ↔ d ≠ [] ∧ l ≠ [] ∧ h = d := by
  cases l <;> cases d <;> simp

theorem params_digest_iff (H : Bytes → Bytes) (p : Ptrs) :
    paramsCheck H p = true ↔
      ∃ d, p.digestValue = some d ∧ d ≠ [] ∧ p.digestCovered ≠ [] ∧ H (concatB p.digestCovered) = d := by
  unfold paramsCheck
  cases p.digestValue with
  | none => simp
  | some d => simp only [covered_hash_iff, Option.some.injEq, exists_eq_left']

theorem paramsCheck_own (H : Bytes → Bytes) (p : Ptrs) (x : Bytes) (hc : p.digestCovered = [x])
    (hv : p.digestValue = some (H x)) (hH : (H x).length = 32) : paramsCheck H p = true := by
  rw [params_digest_iff]
  exact ⟨_, hv, List.ne_nil_of_length_pos (by omega), by rw [hc]; simp, by rw [hc]; simp [concatB]⟩

/-! `make_interest` accepts a name `pre ++ [02 20 x] ++ post` that already holds ONE ParametersSha256Digest component
(34 bytes, `x` arbitrary) at any position and fills it in (`C01.make_interest_is_core_at`).  A name without one is the
case `post = []`, `x` all zero (`interestCore_appended`), so each statement comes twice: for the placeholder, and read
off it for the appended component. -/

/-- Parsing a made signed Interest reports as signature-covered parts all name components except the digest component
    (`pre ++ post`), then ApplicationParameters and SignatureInfo — byte for byte what the signer was handed —, as
    signature value what the signer wrote, as digest-covered range ApplicationParameters … end of the (shrunk) Interest,
    and as digest value `H` of exactly that range. -/
theorem parsed_cover_is_signed_portion_interest_placeholder (H : Bytes → Bytes) (pre post : List Bytes) (x : Bytes)
    (mid : List Value) (app sigInfo : Value) (s : SignerOut) (midB appB siB : Bytes)
    (hmid : encFields [.bool 33, .bool 18, linksS, .uint 10 (some 4), .uint 12 none, .uint 34 (some 1)] mid = .ok midB)
    (happ : enc (.bytes 36 false) app = .ok appB) (hsi : enc intSigInfoS sigInfo = .ok siB)
    (hle : s.sig.length ≤ s.reserved) (hflex : s.sig.length = s.reserved ∨ s.reserved < 253)
    (hr : s.reserved < 2 ^ 64) (hx : x.length = 32)
    (hpre : pre.all compOk = true) (hpost : post.all compOk = true)
    (hndpre : ∀ c ∈ pre, isDigestComp c = false) (hndpost : ∀ c ∈ post, isDigestComp c = false)
    (hfitmid : fitsFs [.bool 33, .bool 18, linksS, .uint 10 (some 4), .uint 12 none, .uint 34 (some 1)] mid = true)
    (hfittail : fitsFs [.bytes 36 false, intSigInfoS] [app, sigInfo] = true)
    (hH : (H (appB ++ siB ++ tlv 46 s.sig)).length = 32)
    (hsize : (concatB (pre ++ (2 :: 32 :: H (appB ++ siB ++ tlv 46 s.sig)) :: post)).length + midB.length +
        (appB ++ siB).length + s.reserved + 64 < 2 ^ 64) :
    ∃ m vals ptrs,
      interestCore H (pre ++ (2 :: 32 :: x) :: post) mid app sigInfo (some s) true (some pre.length) = .ok m ∧
      parseInterest m.wire = .ok (vals, ptrs) ∧
      m.finalName = pre ++ (2 :: 32 :: H (appB ++ siB ++ tlv 46 s.sig)) :: post ∧
      concatB ptrs.sigCovered = concatB pre ++ concatB post ++ appB ++ siB ∧
      concatB ptrs.sigCovered = concatB m.covered ∧
      ptrs.sigValue = some s.sig ∧
      ptrs.digestCovered = [appB ++ siB ++ tlv 46 s.sig] ∧
      ptrs.digestCovered = [m.digestCovered] ∧
      ptrs.digestValue = some (H (appB ++ siB ++ tlv 46 s.sig)) := by
  obtain ⟨hw, hp⟩ := C01.make_parse_interest_signed H pre post x mid app sigInfo s midB
    (appB ++ siB) hmid (encFields_pair _ _ _ _ _ _ happ hsi) hle hflex hr hx hpre hpost hndpre hndpost hfitmid
    hfittail _ _ rfl hH rfl hsize
  refine ⟨_, _, _, hw, hp, rfl, ?_, ?_, rfl, rfl, rfl, rfl⟩ <;>
    simp only [concatB_app, concatB_nameChunks_at, concatB, List.append_nil, List.append_assoc]

/-- `params_sha256_checker` accepts what `parse_interest` reports for a made signed Interest. -/
theorem own_interest_placeholder_passes_digest_check (H : Bytes → Bytes) (pre post : List Bytes) (x : Bytes)
    (mid : List Value) (app sigInfo : Value) (s : SignerOut) (midB appB siB : Bytes)
    (hmid : encFields [.bool 33, .bool 18, linksS, .uint 10 (some 4), .uint 12 none, .uint 34 (some 1)] mid = .ok midB)
    (happ : enc (.bytes 36 false) app = .ok appB) (hsi : enc intSigInfoS sigInfo = .ok siB)
    (hle : s.sig.length ≤ s.reserved) (hflex : s.sig.length = s.reserved ∨ s.reserved < 253)
    (hr : s.reserved < 2 ^ 64) (hx : x.length = 32)
    (hpre : pre.all compOk = true) (hpost : post.all compOk = true)
    (hndpre : ∀ c ∈ pre, isDigestComp c = false) (hndpost : ∀ c ∈ post, isDigestComp c = false)
    (hfitmid : fitsFs [.bool 33, .bool 18, linksS, .uint 10 (some 4), .uint 12 none, .uint 34 (some 1)] mid = true)
    (hfittail : fitsFs [.bytes 36 false, intSigInfoS] [app, sigInfo] = true)
    (hH : (H (appB ++ siB ++ tlv 46 s.sig)).length = 32)
    (hsize : (concatB (pre ++ (2 :: 32 :: H (appB ++ siB ++ tlv 46 s.sig)) :: post)).length + midB.length +
        (appB ++ siB).length + s.reserved + 64 < 2 ^ 64) :
    ∃ m vals ptrs,
      interestCore H (pre ++ (2 :: 32 :: x) :: post) mid app sigInfo (some s) true (some pre.length) = .ok m ∧
      parseInterest m.wire = .ok (vals, ptrs) ∧ paramsCheck H ptrs = true := by
  obtain ⟨m, vals, ptrs, h1, h2, _, _, _, _, h6, _, h8⟩ :=
    parsed_cover_is_signed_portion_interest_placeholder H pre post x mid app sigInfo s midB appB siB hmid happ hsi
      hle hflex hr hx hpre hpost hndpre hndpost hfitmid hfittail hH hsize
  exact ⟨m, vals, ptrs, h1, h2, paramsCheck_own H ptrs _ h6 h8 hH⟩

/-- Under `Correct`, when the signer wrote `S.sign` of what it was handed, the matching verifier accepts what
    `parse_interest` reports for the made Interest. -/
theorem own_interest_placeholder_verifies (S : Scheme) (hc : Correct S) (H : Bytes → Bytes) (pre post : List Bytes)
    (x : Bytes) (mid : List Value) (app sigInfo : Value) (s : SignerOut) (midB appB siB : Bytes)
    (hmid : encFields [.bool 33, .bool 18, linksS, .uint 10 (some 4), .uint 12 none, .uint 34 (some 1)] mid = .ok midB)
    (happ : enc (.bytes 36 false) app = .ok appB) (hsi : enc intSigInfoS sigInfo = .ok siB)
    (hle : s.sig.length ≤ s.reserved) (hflex : s.sig.length = s.reserved ∨ s.reserved < 253)
    (hr : s.reserved < 2 ^ 64) (hx : x.length = 32)
    (hpre : pre.all compOk = true) (hpost : post.all compOk = true)
    (hndpre : ∀ c ∈ pre, isDigestComp c = false) (hndpost : ∀ c ∈ post, isDigestComp c = false)
    (hfitmid : fitsFs [.bool 33, .bool 18, linksS, .uint 10 (some 4), .uint 12 none, .uint 34 (some 1)] mid = true)
    (hfittail : fitsFs [.bytes 36 false, intSigInfoS] [app, sigInfo] = true)
    (hH : (H (appB ++ siB ++ tlv 46 s.sig)).length = 32)
    (hsize : (concatB (pre ++ (2 :: 32 :: H (appB ++ siB ++ tlv 46 s.sig)) :: post)).length + midB.length +
        (appB ++ siB).length + s.reserved + 64 < 2 ^ 64)
    (hsigned : s.sig = S.sign (concatB pre ++ concatB post ++ appB ++ siB)) :
    ∃ m vals ptrs,
      interestCore H (pre ++ (2 :: 32 :: x) :: post) mid app sigInfo (some s) true (some pre.length) = .ok m ∧
      parseInterest m.wire = .ok (vals, ptrs) ∧ verifyPtrs S ptrs = true := by
  obtain ⟨m, vals, ptrs, h1, h2, _, h3, _, h5, _⟩ :=
    parsed_cover_is_signed_portion_interest_placeholder H pre post x mid app sigInfo s midB appB siB hmid happ hsi
      hle hflex hr hx hpre hpost hndpre hndpost hfitmid hfittail hH hsize
  exact ⟨m, vals, ptrs, h1, h2, verify_own S hc ptrs _ h3 (by rw [h5, hsigned])⟩

/-- For an unsigned Interest that carries ApplicationParameters the parser reports no signature value,
    ApplicationParameters … end as the digest-covered range and `H` of it as digest value; `params_sha256_checker`
    accepts. -/
theorem parsed_digest_cover_params_interest_placeholder (H : Bytes → Bytes) (pre post : List Bytes) (x : Bytes)
    (mid : List Value) (app sigInfo : Value) (midB tailA : Bytes)
    (hmid : encFields [.bool 33, .bool 18, linksS, .uint 10 (some 4), .uint 12 none, .uint 34 (some 1)] mid = .ok midB)
    (htail : encFields [.bytes 36 false, intSigInfoS] [app, sigInfo] = .ok tailA) (hx : x.length = 32)
    (hpre : pre.all compOk = true) (hpost : post.all compOk = true)
    (hndpre : ∀ c ∈ pre, isDigestComp c = false) (hndpost : ∀ c ∈ post, isDigestComp c = false)
    (hfitmid : fitsFs [.bool 33, .bool 18, linksS, .uint 10 (some 4), .uint 12 none, .uint 34 (some 1)] mid = true)
    (hfittail : fitsFs [.bytes 36 false, intSigInfoS] [app, sigInfo] = true)
    (hne : tailA ≠ []) (hH : (H tailA).length = 32)
    (hsize : (concatB (pre ++ (2 :: 32 :: H tailA) :: post)).length + midB.length + tailA.length + 64 < 2 ^ 64) :
    ∃ m vals ptrs,
      interestCore H (pre ++ (2 :: 32 :: x) :: post) mid app sigInfo none true (some pre.length) = .ok m ∧
      parseInterest m.wire = .ok (vals, ptrs) ∧
      m.finalName = pre ++ (2 :: 32 :: H tailA) :: post ∧
      ptrs.sigValue = none ∧ ptrs.sigCovered = pre ++ post ∧
      ptrs.digestCovered = [tailA] ∧ ptrs.digestCovered = [m.digestCovered] ∧
      ptrs.digestValue = some (H tailA) ∧ paramsCheck H ptrs = true := by
  obtain ⟨hw, hp⟩ := C01.make_parse_interest_params H pre post x mid app sigInfo midB tailA
    hmid htail hx hpre hpost hndpre hndpost hfitmid hfittail hne hH _ rfl hsize
  exact ⟨_, _, _, hw, hp, rfl, rfl, rfl, rfl, rfl, rfl, paramsCheck_own H _ _ rfl rfl hH⟩

/-- `parsed_cover_is_signed_portion_interest_placeholder` for an appended digest component. -/
theorem parsed_cover_is_signed_portion_interest (H : Bytes → Bytes) (name : List Bytes) (mid : List Value)
    (app sigInfo : Value) (s : SignerOut) (midB appB siB : Bytes)
    (hmid : encFields [.bool 33, .bool 18, linksS, .uint 10 (some 4), .uint 12 none, .uint 34 (some 1)] mid = .ok midB)
    (happ : enc (.bytes 36 false) app = .ok appB) (hsi : enc intSigInfoS sigInfo = .ok siB)
    (hle : s.sig.length ≤ s.reserved) (hflex : s.sig.length = s.reserved ∨ s.reserved < 253)
    (hr : s.reserved < 2 ^ 64)
    (hname : name.all compOk = true) (hnd : ∀ c ∈ name, isDigestComp c = false)
    (hfitmid : fitsFs [.bool 33, .bool 18, linksS, .uint 10 (some 4), .uint 12 none, .uint 34 (some 1)] mid = true)
    (hfittail : fitsFs [.bytes 36 false, intSigInfoS] [app, sigInfo] = true)
    (hH : (H (appB ++ siB ++ tlv 46 s.sig)).length = 32)
    (hsize : (concatB (name ++ [2 :: 32 :: H (appB ++ siB ++ tlv 46 s.sig)])).length + midB.length +
        (appB ++ siB).length + s.reserved + 64 < 2 ^ 64) :
    ∃ m vals ptrs, interestCore H name mid app sigInfo (some s) true none = .ok m ∧
      parseInterest m.wire = .ok (vals, ptrs) ∧
      concatB ptrs.sigCovered = concatB name ++ appB ++ siB ∧
      concatB ptrs.sigCovered = concatB m.covered ∧
      ptrs.sigValue = some s.sig ∧
      ptrs.digestCovered = [appB ++ siB ++ tlv 46 s.sig] ∧
      ptrs.digestCovered = [m.digestCovered] ∧
      ptrs.digestValue = some (H (appB ++ siB ++ tlv 46 s.sig)) := by
  obtain ⟨m, vals, ptrs, h1, h2, _, h4, h⟩ :=
    parsed_cover_is_signed_portion_interest_placeholder H name [] (List.replicate 32 0) mid app sigInfo s midB appB siB
      hmid happ hsi hle hflex hr rfl hname rfl hnd (by simp) hfitmid hfittail hH hsize
  exact ⟨m, vals, ptrs, (interestCore_appended ..).trans h1, h2, by simpa only [concatB, List.append_nil] using h4, h⟩

theorem own_interest_passes_digest_check (H : Bytes → Bytes) (name : List Bytes) (mid : List Value)
    (app sigInfo : Value) (s : SignerOut) (midB appB siB : Bytes)
    (hmid : encFields [.bool 33, .bool 18, linksS, .uint 10 (some 4), .uint 12 none, .uint 34 (some 1)] mid = .ok midB)
    (happ : enc (.bytes 36 false) app = .ok appB) (hsi : enc intSigInfoS sigInfo = .ok siB)
    (hle : s.sig.length ≤ s.reserved) (hflex : s.sig.length = s.reserved ∨ s.reserved < 253)
    (hr : s.reserved < 2 ^ 64)
    (hname : name.all compOk = true) (hnd : ∀ c ∈ name, isDigestComp c = false)
    (hfitmid : fitsFs [.bool 33, .bool 18, linksS, .uint 10 (some 4), .uint 12 none, .uint 34 (some 1)] mid = true)
    (hfittail : fitsFs [.bytes 36 false, intSigInfoS] [app, sigInfo] = true)
    (hH : (H (appB ++ siB ++ tlv 46 s.sig)).length = 32)
    (hsize : (concatB (name ++ [2 :: 32 :: H (appB ++ siB ++ tlv 46 s.sig)])).length + midB.length +
        (appB ++ siB).length + s.reserved + 64 < 2 ^ 64) :
    ∃ m vals ptrs, interestCore H name mid app sigInfo (some s) true none = .ok m ∧
      parseInterest m.wire = .ok (vals, ptrs) ∧ paramsCheck H ptrs = true := by
  obtain ⟨m, vals, ptrs, h1, h⟩ :=
    own_interest_placeholder_passes_digest_check H name [] (List.replicate 32 0) mid app sigInfo s midB appB siB hmid
      happ hsi hle hflex hr rfl hname rfl hnd (by simp) hfitmid hfittail hH hsize
  exact ⟨m, vals, ptrs, (interestCore_appended ..).trans h1, h⟩

theorem own_interest_verifies (S : Scheme) (hc : Correct S) (H : Bytes → Bytes) (name : List Bytes)
    (mid : List Value) (app sigInfo : Value) (s : SignerOut) (midB appB siB : Bytes)
    (hmid : encFields [.bool 33, .bool 18, linksS, .uint 10 (some 4), .uint 12 none, .uint 34 (some 1)] mid = .ok midB)
    (happ : enc (.bytes 36 false) app = .ok appB) (hsi : enc intSigInfoS sigInfo = .ok siB)
    (hle : s.sig.length ≤ s.reserved) (hflex : s.sig.length = s.reserved ∨ s.reserved < 253)
    (hr : s.reserved < 2 ^ 64)
    (hname : name.all compOk = true) (hnd : ∀ c ∈ name, isDigestComp c = false)
    (hfitmid : fitsFs [.bool 33, .bool 18, linksS, .uint 10 (some 4), .uint 12 none, .uint 34 (some 1)] mid = true)
    (hfittail : fitsFs [.bytes 36 false, intSigInfoS] [app, sigInfo] = true)
    (hH : (H (appB ++ siB ++ tlv 46 s.sig)).length = 32)
    (hsize : (concatB (name ++ [2 :: 32 :: H (appB ++ siB ++ tlv 46 s.sig)])).length + midB.length +
        (appB ++ siB).length + s.reserved + 64 < 2 ^ 64)
    (hsigned : s.sig = S.sign (concatB name ++ appB ++ siB)) :
    ∃ m vals ptrs, interestCore H name mid app sigInfo (some s) true none = .ok m ∧
      parseInterest m.wire = .ok (vals, ptrs) ∧ verifyPtrs S ptrs = true := by
  obtain ⟨m, vals, ptrs, h1, h⟩ :=
    own_interest_placeholder_verifies S hc H name [] (List.replicate 32 0) mid app sigInfo s midB appB siB hmid
      happ hsi hle hflex hr rfl hname rfl hnd (by simp) hfitmid hfittail hH hsize
      (by simpa only [concatB, List.append_nil] using hsigned)
  exact ⟨m, vals, ptrs, (interestCore_appended ..).trans h1, h⟩

/-- `parsed_digest_cover_params_interest_placeholder` for an appended digest component. -/
theorem parsed_digest_cover_params_interest (H : Bytes → Bytes) (name : List Bytes) (mid : List Value)
    (app sigInfo : Value) (midB tailA : Bytes)
    (hmid : encFields [.bool 33, .bool 18, linksS, .uint 10 (some 4), .uint 12 none, .uint 34 (some 1)] mid = .ok midB)
    (htail : encFields [.bytes 36 false, intSigInfoS] [app, sigInfo] = .ok tailA)
    (hname : name.all compOk = true) (hnd : ∀ c ∈ name, isDigestComp c = false)
    (hfitmid : fitsFs [.bool 33, .bool 18, linksS, .uint 10 (some 4), .uint 12 none, .uint 34 (some 1)] mid = true)
    (hfittail : fitsFs [.bytes 36 false, intSigInfoS] [app, sigInfo] = true)
    (hne : tailA ≠ []) (hH : (H tailA).length = 32)
    (hsize : (concatB (name ++ [2 :: 32 :: H tailA])).length + midB.length + tailA.length + 64 < 2 ^ 64) :
    ∃ m vals ptrs, interestCore H name mid app sigInfo none true none = .ok m ∧
      parseInterest m.wire = .ok (vals, ptrs) ∧
      ptrs.sigValue = none ∧ ptrs.sigCovered = name ∧
      ptrs.digestCovered = [tailA] ∧ ptrs.digestCovered = [m.digestCovered] ∧
      ptrs.digestValue = some (H tailA) ∧ paramsCheck H ptrs = true := by
  obtain ⟨m, vals, ptrs, h1, h2, _, h4, h5, h⟩ :=
    parsed_digest_cover_params_interest_placeholder H name [] (List.replicate 32 0) mid app sigInfo midB tailA
      hmid htail rfl hname rfl hnd (by simp) hfitmid hfittail hne hH hsize
  exact ⟨m, vals, ptrs, (interestCore_appended ..).trans h1, h2, h4, by rw [h5, List.append_nil], h⟩

/-! shrinking signer (reserved 8, real 5), `H` constant: the reported ranges are the signer's input / the digest input -/
example :
    (do let m ← interestCore (fun _ => List.replicate 32 7) [[8, 1, 97]]
                  [.none, .bool, .none, .uint 5, .uint 4000, .none] (.bytes [120, 121])
                  (.model [.uint 3, .none, .none, .none, .none]) (some { reserved := 8, sig := [1, 2, 3, 4, 5] }) true none
        let (vs, p) ← parseInterest m.wire
        pure (m.covered, vs, p, paramsCheck (fun _ => List.replicate 32 7) p)) =
    .ok ([[8, 1, 97], [36, 2, 120, 121, 44, 3, 27, 1, 3]],
         List.replicate 7 (Value.uint 0) ++
           [Value.name [[8, 1, 97], 2 :: 32 :: List.replicate 32 7], .none, .bool, .none, .uint 5, .uint 4000, .none] ++
           [.uint 51, .uint 51, .bytes [120, 121], .model [.uint 3, .none, .none, .none, .none],
            .bytes [1, 2, 3, 4, 5], .none],
         { sigCovered := [[8, 1, 97], [36, 2, 120, 121, 44, 3, 27, 1, 3]], sigValue := some [1, 2, 3, 4, 5],
           digestCovered := [[36, 2, 120, 121, 44, 3, 27, 1, 3, 46, 5, 1, 2, 3, 4, 5]],
           digestValue := some (List.replicate 32 7) }, true) := by
  rfl

/-! a placeholder in the MIDDLE of the name: the signer is handed the two name chunks around it and the parameters -/
example :
    (do let m ← makeInterest (fun _ => List.replicate 32 7) [[8, 1, 97], 2 :: 32 :: List.replicate 32 0, [8, 1, 98]]
                  [.none, .bool, .none, .uint 5, .uint 4000, .none] (.bytes [120, 121])
                  (.model [.uint 3, .none, .none, .none, .none]) (some { reserved := 8, sig := [1, 2, 3, 4, 5] })
        let (_, p) ← parseInterest m.wire
        pure (m.covered, m.finalName, p, paramsCheck (fun _ => List.replicate 32 7) p)) =
    .ok ([[8, 1, 97], [8, 1, 98], [36, 2, 120, 121, 44, 3, 27, 1, 3]],
         [[8, 1, 97], 2 :: 32 :: List.replicate 32 7, [8, 1, 98]],
         { sigCovered := [[8, 1, 97], [8, 1, 98], [36, 2, 120, 121, 44, 3, 27, 1, 3]], sigValue := some [1, 2, 3, 4, 5],
           digestCovered := [[36, 2, 120, 121, 44, 3, 27, 1, 3, 46, 5, 1, 2, 3, 4, 5]],
           digestValue := some (List.replicate 32 7) }, true) := by
  rfl

end Ndn.C02
