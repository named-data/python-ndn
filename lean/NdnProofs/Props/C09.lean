import NdnProofs.Lemmas.NameUriName
import NdnProofs.Lemmas.NameOrder
/-!
# C09 — name representations (URI text, component list, wire) are mutually consistent; prefix test; canonical order

Theorems about the model of `Component.py` / `Name.py` (`NdnModel/Name.lean`), for **every** name:
any number of components, every type 1..65535, arbitrary value bytes.

Specification vocabulary (does not mention the implementation):
* an abstract name is a list of `(type, value)` pairs (`AName`); `Valid` says types are in 1..65535
  (values shorter than 2^64 bytes); the library's representation of the abstract component `(t, v)`
  is the shortest-form TLV `tlv t v` (`repC`; `rep` for a name), which is what `Component.from_bytes` builds;
* `CanonNumber` (Lemmas/NameToStr) — a typed-number component (segment, byte offset, version, timestamp, sequence
  number) carries a minimal-width 1/2/4/8-byte number;
* `compLt` / `nameLt'` — NDN canonical order: type, then length, then value bytes; names
  component-wise, a proper prefix first.
-/
namespace Ndn.C09
open Ndn Ndn.Comp

abbrev AComp := Nat × Bytes

abbrev AName := List AComp

def ValidComp (p : AComp) : Prop := 1 ≤ p.1 ∧ p.1 ≤ 65535 ∧ p.2.length < 2^64

def Valid (n : AName) : Prop := ∀ p ∈ n, ValidComp p

theorem ValidComp.type_lt {p : AComp} (h : ValidComp p) : p.1 < 2^64 := by
  have := h.2.1
  omega

/-- the library's representation of an abstract component / name -/
def repC (p : AComp) : Bytes := tlv p.1 p.2

def rep (n : AName) : List Bytes := n.map repC

theorem repC_elem (p : AComp) (h : ValidComp p) : IsElem (repC p) :=
  isElem_tlv p.1 p.2 h.type_lt h.2.2

theorem rep_elems (n : AName) (h : Valid n) : ∀ c ∈ rep n, IsElem c := by
  intro c hc
  obtain ⟨p, hp, rfl⟩ := List.mem_map.mp hc
  exact repC_elem p (h p hp)

/-- `repC` is what `Component.from_bytes` builds, and `get_type` / `get_value` read the pair back. -/
theorem getType_getValue (p : AComp) (h : ValidComp p) :
    fromBytes p.2 p.1 = .ok (repC p) ∧ getType (repC p) = .ok p.1 ∧ getValue (repC p) = .ok p.2 :=
  ⟨fromBytes_ok p.1 p.2 h.1 h.2.1, getType_tlv p.1 p.2 h.type_lt,
    getValue_tlv p.1 p.2 h.type_lt h.2.2⟩

/-- Decoding the wire encoding of any name gives back its components and consumes exactly the encoding. -/
theorem decode_encode_name (n : AName) (h : Valid n) (hl : (rep n).flatten.length < 2^64) :
    Name.decode (Name.encode (rep n)) = .ok (rep n, (Name.encode (rep n)).length) := by
  have := decode_encode_append (rep n) (rep_elems n h) hl []
  rwa [List.append_nil] at this

theorem normalize_wire (n : AName) (h : Valid n) (hl : (rep n).flatten.length < 2^64) :
    Name.normalize (.wire (Name.encode (rep n))) = .ok (rep n) := by
  simp [Name.normalize, decode_encode_name n h hl, bind, Except.bind, pure, Except.pure]

example : Name.decode (Name.encode (rep [(8, [97]), (8, []), (65535, [0, 255])])) =
    .ok ([[8, 1, 97], [8, 0], [253, 255, 255, 2, 0, 255]], 13) := by decide +kernel

/-- For EVERY byte string: when `Name.decode` accepts, the buffer starts with Type 7 and a Length that lies inside the
    buffer, the components returned - joined - are exactly the `Length` bytes after the header (none past the declared
    Length, nothing left over) and the count of bytes consumed is header + Length.  That each component is one whole
    TLV element is the last clause of `decode_ok_exact`. -/
theorem decode_accepts_exact (buf : Bytes) (cs : List Bytes) (used : Nat) (h : Name.decode buf = .ok (cs, used)) :
    ∃ st length sl, parseTlNum buf 0 = .ok (7, st) ∧ parseTlNum buf st = .ok (length, sl) ∧
      used = st + sl + length ∧ used ≤ buf.length ∧ cs.flatten = pySlice buf (st + sl) used :=
  let ⟨st, length, sl, h1, h2, hu, hle, hf, _⟩ := decode_ok_exact h
  ⟨st, length, sl, h1, h2, hu, hle, hf⟩

/-- A Name TLV whose declared Length `L` ends strictly inside one of its components is rejected with `IndexError` by
    `Name.decode`, and so by `Name.normalize` of that wire.  A component cut by the end of the buffer is only the
    second `example` below. -/
theorem decode_overrun_rejected (n : AName) (p : AComp) (post : Bytes) (L : Nat) (h : Valid n) (hp : ValidComp p)
    (h1 : (rep n).flatten.length < L) (h2 : L < (rep n).flatten.length + (repC p).length) (hL : L < 2^64) :
    Name.decode (writeTlNum Name.TYPE_NAME ++ writeTlNum L ++ (rep n).flatten ++ (repC p ++ post)) = .error .indexError ∧
    Name.normalize (.wire (writeTlNum Name.TYPE_NAME ++ writeTlNum L ++ (rep n).flatten ++ (repC p ++ post)))
      = .error .indexError := by
  have hd := decode_overrun (rep n) (repC p) post (rep_elems n h) (repC_elem p hp) L h1 h2 hL
  exact ⟨hd, by simp only [Name.normalize, hd]; rfl⟩

/-- Length 3, one component of 4 bytes lying wholly inside the buffer, then another component: `IndexError` -/
example : Name.decode [7, 3, 8, 2, 0x61, 0x62, 8, 0] = .error .indexError := by decide +kernel

/-- the same component cut by the end of the buffer -/
example : Name.decode [7, 3, 8, 5, 0x61] = .error .indexError := by decide +kernel

theorem isPrefix_iff (a b : List Bytes) : Name.isPrefix a b = true ↔ a <+: b := by
  unfold Name.isPrefix
  rw [List.prefix_iff_eq_take]
  simp only [Bool.and_eq_true, decide_eq_true_eq, beq_iff_eq]
  constructor
  · exact fun h => h.2
  · intro h
    refine ⟨?_, h⟩
    have := congrArg List.length h
    simp at this; omega

theorem repC_inj (p q : AComp) (hp : ValidComp p) (hq : ValidComp q) (h : repC p = repC q) : p = q := by
  obtain ⟨a, b⟩ := tlv_inj p.1 q.1 p.2 q.2 hp.type_lt hq.type_lt hp.2.2 hq.2.2 h
  exact Prod.ext a b

/-- on library representations `is_prefix` agrees with component-wise equality of (type, value) -/
theorem isPrefix_iff_componentwise (a b : AName) (ha : Valid a) (hb : Valid b) :
    Name.isPrefix (rep a) (rep b) = true ↔ a <+: b := by
  rw [isPrefix_iff]
  constructor
  · intro h
    induction a generalizing b with
    | nil => exact List.nil_prefix
    | cons p a ih =>
      cases b with
      | nil => simp [rep] at h
      | cons q b =>
        simp only [rep, List.map_cons, List.cons_prefix_cons] at h
        have e := repC_inj p q (ha p (by simp)) (hb q (by simp)) h.1
        subst e
        rw [List.cons_prefix_cons]
        exact ⟨rfl, ih b (fun x hx => ha x (by simp [hx])) (fun x hx => hb x (by simp [hx])) h.2⟩
  · intro ⟨t, ht⟩
    exact ⟨rep t, by rw [← ht]; simp [rep]⟩

example : Name.isPrefix (rep [(8, [97])]) (rep [(8, [97]), (8, [])]) = true
    ∧ Name.isPrefix (rep [(8, [97]), (8, [])]) (rep [(8, [97])]) = false := by decide +kernel

/-- what `to_str`'s escaping prints, `from_str`'s decoding loop reads back -/
theorem unescape_escape (v : Bytes) : unescape (escBytes v) = some v := unescape_escBytes v

theorem fromStr_toCanonicalUri (p : AComp) (h : ValidComp p) :
    (toCanonicalUri (repC p) >>= fromStr) = .ok (repC p) := by
  rw [repC, toCanonicalUri_tlv p.1 p.2 h.type_lt h.2.2]
  exact fromStr_canonical p.1 p.2 h.1 h.2.1

example : toCanonicalUri (repC (300, [0x2f, 0x25, 0x3d, 0x7e, 0xff])) = .ok "300=%2F%25%3D~%FF".toList := by
  decide +kernel

/-- Any text component (a `str` element of a `NonStrictName`, or a piece of a name URI between slashes) without `%`
    and `=` - which `escape_str` passes through as URI syntax - becomes the generic component holding exactly its
    UTF-8 bytes. -/
theorem escape_then_fromStr (s : Str) (h : ∀ c ∈ s, c ≠ '%' ∧ c ≠ '=') :
    fromStr (escapeStr s) = .ok (tlv 8 (s.flatMap String.utf8EncodeChar)) := by
  have hu := unescape_escapeStr s (fun c hc => (h c hc).1)
  by_cases he : escapeStr s = []
  · rw [he, unescape] at hu
    rw [he, ← Option.some.inj hu]
    rfl
  · exact fromStr_generic _ _ he (escapeStr_chars s (fun c hc => (h c hc).2)) hu

example : fromStr (escapeStr "a é/".toList) = .ok [8, 5, 0x61, 0x20, 0xc3, 0xa9, 0x2f] := by decide +kernel

/-- `from_str (to_str c) = c` whenever a typed-number component carries a canonically encoded number (no hypothesis
    on other types; digests of any length included). -/
theorem fromStr_toStr (p : AComp) (h : ValidComp p) (hc : CanonNumber p.1 p.2) :
    (toStr (repC p) >>= fromStr) = .ok (repC p) := by
  have := toStr_readsBack p.1 p.2 h.1 h.2.1 h.2.2
  rwa [numCanon_of_canon hc] at this

/-- why the hypothesis is there: `32 02 00 01` (segment, two-byte 1) prints as `seg=1` and reads back
    as `32 01 01` -/
example : toStr [0x32, 2, 0, 1] = .ok "seg=1".toList ∧ fromStr "seg=1".toList = .ok [0x32, 1, 1] := by
  decide +kernel

example : CanonNumber 50 [1] ∧ ¬ CanonNumber 50 [0, 1] := by
  refine ⟨fun _ => ⟨1, by decide, by decide⟩, fun h => ?_⟩
  obtain ⟨n, hn, e⟩ := h (Or.inl rfl)
  have hv : n = 1 := by rw [← beVal_packUint n hn, ← e]; rfl
  subst hv
  revert e
  decide

/-- the number shorthands read as the minimal-width number, for every `n < 2^64` -/
theorem fromStr_shorthand_number (n : Nat) (hn : n < 2^64) :
    fromStr ("seg=".toList ++ toDec n) = .ok (tlv 50 (packUint n)) ∧
    fromStr ("off=".toList ++ toDec n) = .ok (tlv 52 (packUint n)) ∧
    fromStr ("v=".toList ++ toDec n) = .ok (tlv 54 (packUint n)) ∧
    fromStr ("t=".toList ++ toDec n) = .ok (tlv 56 (packUint n)) ∧
    fromStr ("seq=".toList ++ toDec n) = .ok (tlv 58 (packUint n)) := by
  have h := fromStr_number n hn
  simp only [Gen.C09.altUriType, List.forall_mem_cons, List.not_mem_nil, false_imp_iff, implies_true, and_true] at h
  -- the words are spelt out as character lists on both sides: comparing `"seg=".toList` with `"seg".toList ++ ['=']`
  -- by evaluation is slow to check
  repeat rw [String.toList_ofList] at h ⊢
  exact h

/-- digest shorthands, for a value of any length -/
theorem fromStr_shorthand_digest (v : Bytes) (hv : v.length < 2^64) :
    toStr (tlv 1 v) = .ok ("sha256digest=".toList ++ pyHex v) ∧
    fromStr ("sha256digest=".toList ++ pyHex v) = .ok (tlv 1 v) ∧
    toStr (tlv 2 v) = .ok ("params-sha256=".toList ++ pyHex v) ∧
    fromStr ("params-sha256=".toList ++ pyHex v) = .ok (tlv 2 v) :=
  ⟨by rw [toStr_tlv 1 v (by omega) hv, if_pos rfl], (fromStr_digest v).1,
   by rw [toStr_tlv 2 v (by omega) hv, if_neg (by decide), if_pos rfl], (fromStr_digest v).2⟩

def uriOf (g : Bytes → Except PyErr Str) (c : Bytes) : Str :=
  match g c with
  | .ok s => s
  | .error _ => []

theorem uriOf_ok {g : Bytes → Except PyErr Str} {c : Bytes} {u : Str} (h : g c = .ok u) : uriOf g c = u := by
  simp only [uriOf, h]

/-- `Name.from_str (Name.to_canonical_uri n) = n` for every name (the empty name and empty components included). -/
theorem name_fromStr_toCanonicalUri (n : AName) (h : Valid n) :
    (Name.toCanonicalUri (rep n) >>= Name.fromStr) = .ok (rep n) :=
  name_fromStr_print toCanonicalUri (rep n) (List.forall_mem_map.mpr fun p hp => fromStr_toCanonicalUri p (h p hp))

/-- The same for the convention URI, when every typed-number component is canonically encoded. -/
theorem name_fromStr_toStr (n : AName) (h : Valid n) (hc : ∀ p ∈ n, CanonNumber p.1 p.2) :
    (Name.toStr (rep n) >>= Name.fromStr) = .ok (rep n) :=
  name_fromStr_print toStr (rep n) (List.forall_mem_map.mpr fun p hp => fromStr_toStr p (h p hp) (hc p hp))

example : Name.toStr (rep [(8, [97]), (50, [5]), (8, [])]) = .ok "/a/seg=5//".toList
    ∧ Name.fromStr "/a/seg=5//".toList = .ok (rep [(8, [97]), (50, [5]), (8, [])]) := by decide +kernel

/-- Every accepted input form of the same name normalises to the same components: its wire encoding, its canonical
    URI as a `str`, the list of its encoded components, the list of its components' canonical URIs, and any mixture of
    the last two in which `pick` decides by the component. -/
theorem normalize_agree (n : AName) (h : Valid n) (hl : (rep n).flatten.length < 2^64)
    (pick : AComp → Bool) :
    Name.normalize (.wire (Name.encode (rep n))) = .ok (rep n) ∧
    ((Name.toCanonicalUri (rep n)) >>= fun u => Name.normalize (.str u)) = .ok (rep n) ∧
    Name.normalize (.list (n.map fun p =>
      if pick p then .inl (uriOf toCanonicalUri (repC p)) else .inr (repC p))) = .ok (rep n) := by
  refine ⟨normalize_wire n h hl, name_fromStr_toCanonicalUri n h, ?_⟩
  rw [Name.normalize]
  refine mapM_map_ok _ _ repC n fun p hp => ?_
  obtain ⟨u, h1, h3⟩ := Codec.bind_ok (fromStr_toCanonicalUri p (h p hp))
  by_cases hk : pick p
  · simp only [hk, if_true, uriOf_ok h1]
    rw [escapeStr_id u (fromStr_ok h3).1, h3]
  · simp only [hk, Bool.false_eq_true, if_false]
    rfl

theorem write_lex_mono (a b : Nat) (ha : a < 2^64) (hb : b < 2^64) :
    bytesLt (writeTlNum a) (writeTlNum b) = true ↔ a < b := by
  have := writeTlNum_lt_append a b [] [] ha hb
  simp only [List.append_nil] at this
  rw [this]
  by_cases h : a = b
  · subst h; simp [bytesLt]
  · simp [h]

/-- `bytesLt` (Python's `bytes <`) is the lexicographic order of the byte values -/
theorem bytesLt_iff_lex (x y : Bytes) : bytesLt x y = true ↔ x.map UInt8.toNat < y.map UInt8.toNat := by
  induction x generalizing y with
  | nil => cases y <;> simp [bytesLt]
  | cons a x ih =>
    cases y with
    | nil => simp [bytesLt]
    | cons b y =>
      simp only [bytesLt, List.map_cons, List.cons_lt_cons_iff, Bool.or_eq_true, decide_eq_true_eq,
        Bool.and_eq_true, beq_iff_eq, ih, UInt8.toNat_inj]

/-- NDN canonical order of components: type, then length, then value bytes -/
def compLt (p q : AComp) : Prop :=
  p.1 < q.1 ∨ (p.1 = q.1 ∧ (p.2.length < q.2.length ∨
    (p.2.length = q.2.length ∧ p.2.map UInt8.toNat < q.2.map UInt8.toNat)))

/-- NDN canonical order of names: first differing component decides; a proper prefix comes first -/
def nameLt' : AName → AName → Prop
  | [], [] => False
  | [], _ :: _ => True
  | _ :: _, [] => False
  | p :: ps, q :: qs => compLt p q ∨ (p = q ∧ nameLt' ps qs)

theorem repC_lt_append (p q : AComp) (hp : ValidComp p) (hq : ValidComp q) (r1 r2 : Bytes) :
    bytesLt (repC p ++ r1) (repC q ++ r2) = true ↔ compLt p q ∨ (p = q ∧ bytesLt r1 r2 = true) := by
  unfold repC compLt
  rw [tlv_lt_append p.1 q.1 p.2 q.2 r1 r2 hp.type_lt hq.type_lt hp.2.2 hq.2.2]
  obtain ⟨t1, v1⟩ := p
  obtain ⟨t2, v2⟩ := q
  simp only [Prod.mk.injEq]
  by_cases ht : t1 = t2
  · subst ht
    by_cases hl : v1.length = v2.length
    · by_cases hv : v1 = v2
      · subst hv
        have : ¬ (v1.map UInt8.toNat < v1.map UInt8.toNat) := List.lt_irrefl _
        simp [this]
      · simp only [hl, hv, if_true, if_false, bytesLt_iff_lex]
        simp
    · simp only [hl, if_true, if_false, decide_eq_true_eq]
      have : ¬ v1 = v2 := fun e => hl (by rw [e])
      simp [this]
  · simp only [ht, if_false, decide_eq_true_eq]
    simp

/-- Comparing two library-produced encoded components as bytes is NDN canonical order. -/
theorem order_canonical_component (p q : AComp) (hp : ValidComp p) (hq : ValidComp q) :
    bytesLt (repC p) (repC q) = true ↔ compLt p q := by
  have := repC_lt_append p q hp hq [] []
  simpa [bytesLt] using this

/-- Comparing the concatenated encoded components (the Name's value bytes) is NDN canonical order of names. -/
theorem order_canonical_name (a b : AName) (ha : Valid a) (hb : Valid b) :
    bytesLt (rep a).flatten (rep b).flatten = true ↔ nameLt' a b := by
  induction a generalizing b with
  | nil =>
    cases b with
    | nil => simp [rep, bytesLt, nameLt']
    | cons q b =>
      simp only [rep, List.map_nil, List.flatten_nil, List.map_cons, List.flatten_cons, nameLt', iff_true,
        bytesLt_nil_left, ne_eq, List.append_eq_nil_iff, not_and]
      exact fun e => absurd e (tlv_ne_nil _ _)
  | cons p a ih =>
    cases b with
    | nil => simp [rep, nameLt', bytesLt_nil_right]
    | cons q b =>
      simp only [rep, List.map_cons, List.flatten_cons, nameLt']
      rw [repC_lt_append p q (ha p (by simp)) (hb q (by simp))]
      have := ih b (fun x hx => ha x (by simp [hx])) (fun x hx => hb x (by simp [hx]))
      simp only [rep] at this
      rw [this]

/-- Python's comparison of two lists of encoded components is the same order. -/
theorem order_canonical_name_list (a b : AName) (ha : Valid a) (hb : Valid b) :
    nameLt (rep a) (rep b) = true ↔ nameLt' a b := by
  induction a generalizing b with
  | nil => cases b <;> simp [rep, nameLt, nameLt']
  | cons p a ih =>
    cases b with
    | nil => simp [rep, nameLt, nameLt']
    | cons q b =>
      have hp := ha p (by simp)
      have hq := hb q (by simp)
      have := ih b (fun x hx => ha x (by simp [hx])) (fun x hx => hb x (by simp [hx]))
      simp only [rep] at this
      simp only [rep, List.map_cons, nameLt, nameLt']
      by_cases e : repC p = repC q
      · have e' := repC_inj p q hp hq e
        subst e'
        simp only [if_true, this, true_and]
        have : ¬ compLt p p := by
          rw [← order_canonical_component p p hp hp, bytesLt_irrefl]; simp
        simp [this]
      · have : p ≠ q := fun e' => e (by rw [e'])
        simp only [e, if_false, order_canonical_component p q hp hq, this, false_and, or_false]

example : compLt (8, [255]) (8, [0, 0]) ∧ compLt (252, [9, 9]) (253, []) ∧ compLt (8, [1, 2]) (8, [1, 3])
    ∧ nameLt' [(8, [97])] [(8, [97]), (8, [])] := by
  refine ⟨by unfold compLt; decide, by unfold compLt; decide, by unfold compLt; decide, by simp [nameLt']⟩

/-- `""` and `"/"` are the empty name, which prints as `"/"`. -/
theorem uri_root : Name.fromStr [] = .ok [] ∧ Name.fromStr ['/'] = .ok [] ∧ Name.toStr [] = .ok ['/'] := by
  decide +kernel

/-- `"//"` is the name with one empty generic component, and prints back as `"//"`. -/
theorem uri_empty_component :
    Name.fromStr "//".toList = .ok [[8, 0]] ∧ Name.toStr [[8, 0]] = .ok "//".toList
    ∧ Name.fromStr "///".toList = .ok [[8, 0], [8, 0]] := by decide +kernel

/-- a trailing empty component needs two slashes; an empty component in the middle is kept -/
theorem uri_trailing_empty_component :
    Name.fromStr "/a//".toList = .ok [[8, 1, 97], [8, 0]] ∧ Name.toStr [[8, 1, 97], [8, 0]] = .ok "/a//".toList
    ∧ Name.fromStr "/a//b".toList = .ok [[8, 1, 97], [8, 0], [8, 1, 98]] := by decide +kernel

/-- one trailing slash is ignored, for any text not already ending in a slash -/
theorem uri_trailing_slash_ignored (s : Str) (h : s.getLast? ≠ some '/') :
    Name.fromStr (s ++ ['/']) = Name.fromStr s := by
  rw [fromStr_eq_finish, fromStr_eq_finish]
  cases s with
  | nil => rfl
  | cons c r =>
    by_cases hc : c = '/'
    · subst hc
      have hr : r ≠ [] := by intro e; subst e; exact h rfl
      rw [List.getLast?_cons_of_ne_nil hr] at h
      show finish (Name.stripTrail (r ++ ['/'], 1)) = finish (Name.stripTrail (r, 1))
      rw [stripTrail_snoc, stripTrail_of_ne (r, 1) h]
      exact finish_succ r 1 (Or.inl hr)
    · rw [List.cons_append, stripLead_ne c _ hc, stripLead_ne c r hc, ← List.cons_append, stripTrail_snoc,
        stripTrail_of_ne (c :: r, 0) h]
      exact finish_succ _ 0 (Or.inr rfl)

/-- the leading slash is optional, for any text that does not itself start with a slash -/
theorem uri_leading_slash_optional (s : Str) (h : s.head? ≠ some '/') :
    Name.fromStr ('/' :: s) = Name.fromStr s := by
  rw [fromStr_eq_finish, fromStr_eq_finish, show Name.stripLead ('/' :: s) = (s, 1) from rfl]
  cases s with
  | nil => rfl
  | cons c r =>
    have hc : c ≠ '/' := fun e => h (by rw [e]; rfl)
    rw [stripLead_ne c r hc, stripTrail_succ]
    apply finish_succ
    unfold Name.stripTrail
    split
    · -- a text that ends in `/` and does not start with one has two characters at least
      rename_i hl
      cases r with
      | nil => exact absurd (Option.some.inj hl) hc
      | cons d r => exact Or.inl (by simp [List.dropLast])
    · exact Or.inr rfl
end Ndn.C09
