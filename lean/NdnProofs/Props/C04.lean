import NdnProofs.Lemmas.Fib
/-!
# C04 — Incoming Interests reach exactly the handler of their longest attached prefix

Theorems about `Ndn.Fib` (model of `attach_handler` / `detach_handler` / `_on_interest` + `reply` of appv2 and of
`set_interest_filter` / `unset_interest_filter` / `_on_interest` of the legacy front-end; `Dispatcher.register` /
`unregister` are the same `Fib.attach` / `Fib.detach`), for every attach/detach history (`List Op`) and every Interest
name.  The theorems speak of `Fib.step` and `Fib.onInterest`.  `Fib.dispatcherDispatch` (`Dispatcher.dispatch`, which
calls a `None` callback), `Fib.unregisterV1` and `Fib.putRawPacket` are in the model and run by the driver; here only the
table entries they were written from are asserted (`gen_detach`, `gen_dispatch`, `gen_reply_send`).

The specification (`Lemmas/Fib`) does not mention the implementation's data structure: `Table = Name → Option Hid` and
`specStep` (what an operation means), `attached ops` (the table a history denotes), `IsLongestAttached a n p` (`p` is an
attached prefix of `n` and no attached prefix of `n` is longer).  `Proper ops` = every attach of the history carries a
handler: attaching `None` is not attaching a handler, and the node it leaves masks the shorter prefixes
(`Dispatch.noCallback`, as in the code; example below).
-/
namespace Ndn.C04
open Ndn Ndn.Fib

/-- The specification is well defined: a name has at most one longest attached prefix. -/
theorem longest_attached_unique (a : Table) (n p p' : Name)
    (h : IsLongestAttached a n p) (h' : IsLongestAttached a n p') : p = p' :=
  h.unique h'

/-- After any history the handler table of the model holds, at every prefix,
    exactly the handler the history denotes. -/
theorem table_refines (ops : List Op) (p : Name) : cbOf (fibAfter ops) p = attached ops p := by
  unfold fibAfter attached
  rw [cbOf_run_eq_foldl]
  rfl

theorem fibAfter_snoc (ops : List Op) (op : Op) : fibAfter (ops ++ [op]) = (step (fibAfter ops) op).1 := by
  unfold fibAfter
  rw [run_append]
  rfl

theorem allCb_after (ops : List Op) (hp : Proper ops) : AllCb (fibAfter ops) :=
  allCb_run_of_proper [] ops allCb_nil hp

theorem proper_snoc_detach (ops : List Op) (p : Name) (hp : Proper ops) : Proper (ops ++ [.detach p]) := by
  intro q hm
  rw [List.mem_append] at hm
  rcases hm with hm | hm
  · exact hp q hm
  · simp at hm

/-- Every Interest is either delivered to exactly one handler - the one at
    its longest attached prefix - or, when no attached prefix matches, to none. -/
theorem dispatch_exactly_one (ops : List Op) (hp : Proper ops) (n : Name) :
    (∃ p h, onInterest (fibAfter ops) n = .deliver p h ∧
        IsLongestAttached (attached ops) n p ∧ attached ops p = some h) ∨
    (onInterest (fibAfter ops) n = .noRoute ∧ ∀ q, q <+: n → attached ops q = none) := by
  have h := onInterest_spec _ (allCb_after ops hp) n
  rwa [show cbOf (fibAfter ops) = attached ops from funext (table_refines ops)] at h

/-- For every attach/detach history and every Interest name: the handler `h`
    is invoked (for the prefix `p`) iff `p` is the longest attached prefix of the name and `h` is the
    handler attached there. -/
theorem dispatch_longest (ops : List Op) (hp : Proper ops) (n p : Name) (h : Hid) :
    onInterest (fibAfter ops) n = .deliver p h ↔
      IsLongestAttached (attached ops) n p ∧ attached ops p = some h := by
  rcases dispatch_exactly_one ops hp n with ⟨p', h', ho, hl, hc⟩ | ⟨ho, hnone⟩ <;> rw [ho]
  · constructor
    · intro e; cases e; exact ⟨hl, hc⟩
    · rintro ⟨hl', hc'⟩
      obtain rfl := hl.unique hl'
      rw [hc] at hc'; cases hc'; rfl
  · exact ⟨fun e => (nomatch e), fun ⟨hl, hc⟩ => by rw [hnone p hl.1] at hc; cases hc⟩

/-- No handler is invoked iff no attached prefix matches the name. -/
theorem dispatch_none (ops : List Op) (hp : Proper ops) (n : Name) :
    onInterest (fibAfter ops) n = .noRoute ↔ ∀ q, q <+: n → attached ops q = none := by
  rcases dispatch_exactly_one ops hp n with ⟨p, h, ho, hl, hc⟩ | ⟨ho, hnone⟩ <;> rw [ho]
  · exact ⟨fun e => (nomatch e), fun hn => by rw [hn p hl.1] at hc; cases hc⟩
  · exact ⟨fun _ => hnone, fun _ => rfl⟩

/-- The "node without callback" branch is unreachable by histories that attach handlers. -/
theorem dispatch_never_blank (ops : List Op) (hp : Proper ops) (n p : Name) :
    onInterest (fibAfter ops) n ≠ .noCallback p := by
  rcases dispatch_exactly_one ops hp n with ⟨_, _, ho, _⟩ | ⟨ho, _⟩ <;> rw [ho] <;> exact fun e => nomatch e

/-- Attaching (anything) to an occupied prefix raises `ValueError` and leaves
    the table exactly as it was. -/
theorem attach_dup_refused (ops : List Op) (p : Name) (h' : Option Hid)
    (hocc : (attached ops p).isSome) :
    step (fibAfter ops) (.attach p h') = (fibAfter ops, .err .valueError) := by
  rw [step_attach, table_refines, if_pos hocc]

/-- Attaching a handler to a free prefix succeeds and binds it. -/
theorem attach_free_accepted (ops : List Op) (p : Name) (h : Hid) (hfree : attached ops p = none) :
    (step (fibAfter ops) (.attach p (some h))).2 = .ok ∧
      attached (ops ++ [.attach p (some h)]) p = some h := by
  constructor
  · rw [step_attach, table_refines, hfree]; rfl
  · rw [attached_snoc]; simp [specStep, hfree]

theorem attached_detach (ops : List Op) (p q : Name) :
    attached (ops ++ [.detach p]) q = if q = p then none else attached ops q := by
  rw [attached_snoc]; rfl

/-- After `p` is detached, dispatch is longest-prefix dispatch over the
    remaining attachments: `q` serves `n` iff `q ≠ p` is attached, is a prefix of `n`, and is at least
    as long as every other remaining attached prefix of `n`. -/
theorem detach_falls_back (ops : List Op) (hp : Proper ops) (p n q : Name) (h : Hid) :
    onInterest (fibAfter (ops ++ [.detach p])) n = .deliver q h ↔
      (q <+: n ∧ q ≠ p ∧ attached ops q = some h ∧
        ∀ r, r <+: n → r ≠ p → (attached ops r).isSome → r.length ≤ q.length) := by
  rw [dispatch_longest _ (proper_snoc_detach ops p hp)]
  unfold IsLongestAttached
  constructor
  · rintro ⟨⟨hpre, _, hmax⟩, hq⟩
    rw [attached_detach] at hq
    split at hq
    · cases hq
    · rename_i hqp
      refine ⟨hpre, hqp, hq, ?_⟩
      intro r hr hrp hrs
      apply hmax r hr
      rw [attached_detach]; simpa [hrp] using hrs
  · rintro ⟨hpre, hqp, hq, hmax⟩
    refine ⟨⟨hpre, ?_, ?_⟩, ?_⟩
    · rw [attached_detach]; simp [hqp, hq]
    · intro r hr hrs
      rw [attached_detach] at hrs
      split at hrs
      · simp at hrs
      · rename_i hrp; exact hmax r hr hrp hrs
    · rw [attached_detach]; simp [hqp, hq]

/-- After `p` is detached, the handler that was at `p` is not invoked
    (for `p`) by any Interest. -/
theorem detach_receives_nothing (ops : List Op) (hp : Proper ops) (p n : Name) (h : Hid) :
    onInterest (fibAfter (ops ++ [.detach p])) n ≠ .deliver p h :=
  fun ho => ((detach_falls_back ops hp p n p h).mp ho).2.1 rfl

/-- Detaching `p` changes the dispatch of a name only if `p` was its longest
    attached prefix: every other name - in particular names served by shorter or by longer attached
    prefixes - is dispatched exactly as before. -/
theorem detach_frame (ops : List Op) (hp : Proper ops) (p n : Name)
    (hother : ∀ h, onInterest (fibAfter ops) n ≠ .deliver p h) :
    onInterest (fibAfter (ops ++ [.detach p])) n = onInterest (fibAfter ops) n := by
  cases ho : onInterest (fibAfter ops) n with
  | noRoute =>
    rw [dispatch_none _ (proper_snoc_detach ops p hp)]
    intro q hq
    rw [attached_detach]
    split
    · rfl
    · exact (dispatch_none ops hp n).mp ho q hq
  | noCallback q => exact absurd ho (dispatch_never_blank ops hp n q)
  | deliver q h =>
    obtain ⟨⟨hpre, _, hmax⟩, hq⟩ := (dispatch_longest ops hp n q h).mp ho
    exact (detach_falls_back ops hp p n q h).mpr
      ⟨hpre, fun e => hother h (e ▸ ho), hq, fun r hr _ hrs => hmax r hr hrs⟩

/-- Detaching a prefix that holds no handler raises `KeyError` and changes nothing; detaching an
    attached prefix succeeds (the second conjunct). -/
theorem detach_absent_keyerror (ops : List Op) (hp : Proper ops) (p : Name) :
    (attached ops p = none → step (fibAfter ops) (.detach p) = (fibAfter ops, .err .keyError)) ∧
    ((attached ops p).isSome → (step (fibAfter ops) (.detach p)).2 = .ok) := by
  rw [step_detach, (allCb_after ops hp).contains_eq, table_refines]
  constructor
  · intro hfree; rw [hfree]; rfl
  · intro hocc; rw [if_pos hocc]

/-- With the face up, `reply` returns `True` iff it wrote a packet iff the clock
    has not passed the deadline. -/
theorem reply_truthful (pd : Pending) (now : Nat) (data : Bytes) :
    ∃ r sent, reply true pd now data = .ok (r, sent) ∧
      (r = true ↔ sent ≠ []) ∧ (r = true ↔ now ≤ pd.deadline) := by
  rw [reply_eq]
  by_cases hlate : now > pd.deadline
  · exact ⟨false, [], by simp [hlate], by simp, by simp; omega⟩
  · cases ht : pd.pitToken with
    | none => exact ⟨true, [data], by simp [hlate], by simp, by simp; omega⟩
    | some t => exact ⟨true, [lpWrap t data], by simp [hlate], by simp, by simp; omega⟩

/-- What is written is the packet itself, or the packet in an LpPacket carrying the Interest's PIT
    token; exactly one packet. With the face down nothing is ever written. -/
theorem reply_payload (pd : Pending) (now : Nat) (data : Bytes) :
    (now ≤ pd.deadline → reply true pd now data =
        .ok (true, [match pd.pitToken with | none => data | some t => lpWrap t data])) ∧
    (∀ r sent, reply false pd now data = .ok (r, sent) → r = false ∧ sent = []) := by
  constructor
  · intro h
    have : ¬ now > pd.deadline := by omega
    rw [reply_eq]
    cases pd.pitToken <;> simp [this]
  · intro r sent h
    rw [reply_eq] at h
    split at h
    · cases h; exact ⟨rfl, rfl⟩
    · simp at h

/-- The deadline is arrival + InterestLifetime (4000 ms when the Interest carries none): a reply
    `off` ms after arrival is transmitted iff `off ≤ lifetime`. -/
theorem reply_deadline_is_lifetime (arrival off : Nat) (lifetime : Option Nat) (tok : Option Bytes)
    (data : Bytes) :
    (∃ sent, reply true (mkPending arrival lifetime tok) (arrival + off) data = .ok (true, sent)) ↔
      off ≤ (match lifetime with | some l => l | none => 4000) := by
  have key : ∀ l, (mkPending arrival lifetime tok).deadline = arrival + l →
      ((∃ sent, reply true (mkPending arrival lifetime tok) (arrival + off) data = .ok (true, sent)) ↔ off ≤ l) := by
    intro l hd
    obtain ⟨r, sent, he, _, hr⟩ := reply_truthful (mkPending arrival lifetime tok) (arrival + off) data
    rw [he]
    constructor
    · rintro ⟨s, hs⟩
      cases hs
      have := hr.mp rfl
      omega
    · intro h
      have : r = true := hr.mpr (by omega)
      exact ⟨sent, by rw [this]⟩
  cases lifetime with
  | some l => exact key l (by rw [mkPending_eq])
  | none => exact key 4000 (by rw [mkPending_eq])

/-- `NameTrie._path_from_key` makes the trie path depend only on the
    content of the components, not on the buffer class (bytes / bytearray / memoryview) the caller
    used, and every stored step is immutable and hashable. -/
theorem key_repr_irrelevant (key : List Buf) :
    trieKey key = key.map (·.data) ∧ ∀ b ∈ pathFromKey key, stepHashable b = true := by
  constructor
  · unfold trieKey pathFromKey
    rw [List.map_map]
    apply List.map_congr_left
    intro b _
    simp only [Function.comp]
    split <;> rfl
  · intro b hb
    unfold pathFromKey at hb
    rw [List.mem_map] at hb
    obtain ⟨x, _, rfl⟩ := hb
    unfold stepHashable
    split <;> simp_all


private def cA : Bytes := [8, 1, 0x61]
private def cB : Bytes := [8, 1, 0x62]
private def cC : Bytes := [8, 1, 0x63]
/-- `/a ↦ 1`, `/a/b ↦ 2`, duplicate attach at `/a` (refused), `/c ↦ 4` then detached -/
private def demo : List Op :=
  [.attach [cA] (some 1), .attach [cA, cB] (some 2), .attach [cA] (some 3), .attach [cC] (some 4), .detach [cC]]

private theorem demo_proper : Proper demo := by
  intro p h; simp [demo] at h

example : onInterest (fibAfter demo) [cA, cB, cC] = .deliver [cA, cB] 2 := by decide +kernel
example : onInterest (fibAfter demo) [cA, cC] = .deliver [cA] 1 := by decide +kernel
example : onInterest (fibAfter demo) [cC, cA] = .noRoute := by decide +kernel
example : IsLongestAttached (attached demo) [cA, cB, cC] [cA, cB] ∧ attached demo [cA, cB] = some 2 :=
  (dispatch_longest demo demo_proper _ _ _).mp (by decide +kernel)
example : (run [] demo).2 = [.ok, .ok, .err .valueError, .ok, .ok] := by decide +kernel
example : (attached demo [cA]).isSome := by
  rw [← table_refines]; decide +kernel
example : step (fibAfter demo) (.attach [cA] (some 9)) = (fibAfter demo, .err .valueError) :=
  attach_dup_refused demo _ _ (by rw [← table_refines]; decide +kernel)
example : attached demo [cC] = none := by
  rw [← table_refines]; decide +kernel
example : (step (fibAfter demo) (.detach [cC])).2 = .err .keyError := by decide +kernel
/-- detaching `/a/b`: `/a/b/c` falls back to `/a`, while `/a/c` (served by the shorter prefix) is untouched -/
example : onInterest (fibAfter (demo ++ [.detach [cA, cB]])) [cA, cB, cC] = .deliver [cA] 1 := by decide +kernel
example : onInterest (fibAfter (demo ++ [.detach [cA, cB]])) [cA, cC] = onInterest (fibAfter demo) [cA, cC] :=
  detach_frame demo demo_proper _ _ (by
    intro h e
    rw [show onInterest (fibAfter demo) [cA, cC] = .deliver [cA] 1 by decide +kernel] at e
    simp at e)
/-- detaching `/a`: names under the longer prefix `/a/b` are untouched -/
example : onInterest (fibAfter (demo ++ [.detach [cA]])) [cA, cB, cC] = .deliver [cA, cB] 2 := by decide +kernel
/-- a `None` handler masks shorter prefixes (why `Proper` is a hypothesis) -/
example : onInterest (fibAfter [.attach [cA] (some 1), .attach [cA, cB] none]) [cA, cB, cC] = .noCallback [cA, cB] := by
  decide +kernel
example : reply true (mkPending 1000 (some 100) none) 1100 [6, 0] = .ok (true, [[6, 0]]) := by rfl
example : reply true (mkPending 1000 (some 100) none) 1101 [6, 0] = .ok (false, []) := by rfl
example : reply true (mkPending 1000 none (some [0xab])) 5000 [6, 0] = .ok (true, [[0x64, 7, 0x62, 1, 0xab, 0x50, 2, 6, 0]]) := by
  rfl
example : trieKey [⟨.bytearray, cA⟩, ⟨.rwView, cB⟩] = trieKey [⟨.roView, cA⟩, ⟨.bytes, cB⟩] := by decide +kernel
example : pathFromKey [⟨.roMutView, cA⟩] = [⟨.bytes, cA⟩] := by decide +kernel

/-! ### what the model takes from the source text

`Ndn.Gen.C04` (lean/NdnGen/C04.lean) is regenerated from `src/ndn/appv2.py`, `src/ndn/app.py`,
`src/ndn/app_support/dispatcher.py` and `src/ndn/name_tree.py` by every check run (`harness/props/pit_extract.py`, `ast`
only).  `Fib.mkPending` and `Fib.reply` compute with its default lifetime, default-substitution shape and comparison
operator (asserted equal to literals by `gen_reply_deadline` in `NdnProofs/Lemmas/Fib.lean`); the shapes the model mirrors
structurally are asserted here, entry by entry, equal to the text the model was written from. -/

/-- a late reply returns `False`, a transmitted one `True` (finding F7) -/
theorem gen_reply_returns :
    Gen.C04.reply.lateReturns = "False" ∧ Gen.C04.reply.successReturns = "True" := ⟨rfl, rfl⟩

/-- what `reply` writes: the packet, or `_put_raw_packet_with_pit_token` when the Interest carried a PIT token; both
    raise NetworkError while the face is down -/
theorem gen_reply_send :
    Gen.C04.reply.send = "{if pit_token is None: self._put_raw_packet(data) else: self._put_raw_packet_with_pit_token(data, pit_token)}" ∧
    Gen.C04.reply.sendRequiresRunning = true := ⟨rfl, rfl⟩

/-- attach (`Fib.attach`): `setdefault` of a fresh node, refused with ValueError iff `node.callback` is truthy -
    `attach_handler`, `set_interest_filter` and `Dispatcher.register` alike -/
theorem gen_attach :
    Gen.C04.v2.attach = "setdefault(PrefixTreeNode()); if node.callback: raise ValueError; node.callback = arg" ∧
    Gen.C04.v1.attach = Gen.C04.v2.attach ∧ Gen.C04.disp.attach = Gen.C04.v2.attach := by
  and_intros <;> rfl

/-- detach (`Fib.detach`) is a plain `del` (KeyError when absent); the legacy `unregister` coroutine ignores that
    KeyError (`Fib.unregisterV1`) -/
theorem gen_detach :
    Gen.C04.v2.detach = "del" ∧ Gen.C04.v1.detach = "del" ∧ Gen.C04.disp.detach = "del" ∧
    Gen.C04.unregisterV1 = "del ignoring keyError" := by
  and_intros <;> rfl

/-- dispatch (`Fib.onInterest`, `Fib.dispatcherDispatch`): nothing happens without a route; a node whose callback is
    `None` is skipped by the applications and called by the Dispatcher -/
theorem gen_dispatch :
    Gen.C04.v2.noRoute = "not STEP" ∧ Gen.C04.v1.noRoute = "not STEP" ∧ Gen.C04.disp.noRoute = "not STEP" ∧
    Gen.C04.v2.noCallback = "node.callback is None" ∧ Gen.C04.v1.noCallback = "node.callback is None" ∧
    Gen.C04.disp.noCallback = "none" := by
  and_intros <;> rfl

/-- `NameTrie._path_from_key` (`Fib.pathFromKey`): read-only memoryviews of `bytes` objects are kept, everything else
    becomes `bytes` -/
theorem gen_path_from_key :
    Gen.C04.pathFromKey = "X if X.readonly and isinstance(X, memoryview) and isinstance(X.obj, bytes) else bytes(X)" := rfl

end Ndn.C04
