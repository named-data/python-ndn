import NdnGen.TlvModelFields
import NdnProofs.Props.TlvVarGen
import NdnProofs.Lemmas.Codec
/-!
  The methods `encoded_length`, `encode_into`, `parse_from` of the leaf field classes of
  `src/ndn/encoding/tlv_model.py` - `UintField`, `BoolField`, `BytesField` (on byte strings and on text) - TRANSLATED
  from the source text on every run (`harness/py2lean.py` -> `lean/NdnGen/TlvModelFields.lean`), are equal, for ALL
  inputs, to the corresponding clauses of the hand-written generic codec (`NdnModel/Codec.lean`: `encLen`, `enc`,
  `leafCheck` + `parseValue`); the rest of that codec is tied to the code by differential execution only.

  A method is translated as a function of the attributes of `self` it reads (`self.type_num`, `self.fixed_len`,
  `self.name`) and of its parameters, under the types the field class documents for its value (`None` or an int / a
  bool / a byte string / a str); the `markers` dict is the association list of its int entries and is returned when
  written; writes into `wire` are list updates.  NameField, ModelField and RepeatedField are asked for as well and are
  reported by the translator as outside its subset (the generated file gives its reason for each): no theorem here
  mentions them.
-/
namespace Ndn.TlvModelGen
open Ndn Ndn.Py Ndn.TlvVarGen Ndn.Codec

theorem all_translated :
    Gen.TlvModelFields.UintField_encoded_length_translated = true ∧ Gen.TlvModelFields.UintField_encode_into_translated = true ∧
    Gen.TlvModelFields.BoolField_encoded_length_translated = true ∧ Gen.TlvModelFields.BoolField_encode_into_translated = true ∧
    Gen.TlvModelFields.BytesField_encoded_length_bytes_translated = true ∧
    Gen.TlvModelFields.BytesField_encode_into_bytes_translated = true ∧
    Gen.TlvModelFields.BytesField_encoded_length_str_translated = true ∧
    Gen.TlvModelFields.BytesField_encode_into_str_translated = true := by decide

/-- the four branches of the source for a field without `fixed_len` run the code of the `fixed_len` case -/
theorem uint_encoded_length_none_eq (t : Int) (v : Nat) (nm : String) (m : Dict) :
    Gen.TlvModelFields.UintField_encoded_length t none nm (some (v : Int)) m
      = Gen.TlvModelFields.UintField_encoded_length t (some ((uintWidth none v : Nat) : Int)) nm (some (v : Int)) m := by
  simp only [Gen.TlvModelFields.UintField_encoded_length, uintWidth, lit_natCast, Int.ofNat_le]
  by_cases h1 : v ≤ 255
  · simp only [h1, if_true]
  by_cases h2 : v ≤ 65535
  · simp only [h1, h2, if_true, if_false]
  by_cases h3 : v ≤ 4294967295
  · simp only [h1, h2, h3, if_true, if_false]
  · simp only [h1, h2, h3, if_false]

/-- **UintField.encoded_length**, every Type, value `≥ 0`, `fixed_len` and markers dict: `ValueError` included (the value
    does not fit the width); the width is recorded under `<name>##encoded_length`. -/
theorem uint_encoded_length_eq (t v : Nat) (fl : Option Nat) (nm : String) (m : Dict) :
    Gen.TlvModelFields.UintField_encoded_length t (fl.map fun w => ((w : Nat) : Int)) nm (some (v : Int)) m
      = match encLen (.uint t fl) (.uint v) with
        | .ok n => .ok (((n : Nat) : Int), dictSet m (nm ++ "##encoded_length") ((uintWidth fl v : Nat) : Int))
        | .error e => .error e := by
  have fixed (w : Nat) : Gen.TlvModelFields.UintField_encoded_length t (some (w : Int)) nm (some (v : Int)) m
      = match encLen (.uint t (some w)) (.uint v) with
        | .ok n => .ok (((n : Nat) : Int), dictSet m (nm ++ "##encoded_length") ((w : Nat) : Int))
        | .error e => .error e := by
    simp only [Gen.TlvModelFields.UintField_encoded_length, encLen, get_tl_num_size_eq, ok_bind, lit_natCast, Int.ofNat_lt,
      Nat.not_lt_zero, if_false, powLit_natCast, ge_iff_le, Int.ofNat_le, add_natCast, show uintWidth (some w) v = w from rfl]
    split
    · rfl
    · rw [Nat.add_comm w]; rfl
  cases fl with
  | none => rw [Option.map_none, uint_encoded_length_none_eq]; exact fixed (uintWidth none v)
  | some w => exact fixed w

/-- an absent value (`None`): as `encLen _ .none = 0` -/
theorem uint_encoded_length_none (t : Int) (fl : Option Int) (nm : String) (m : Dict) :
    Gen.TlvModelFields.UintField_encoded_length t fl nm none m = .ok (0, m) := rfl

/-- a negative int is `TypeError` (as every value that is not a legal uint is in the model) -/
theorem uint_encoded_length_neg (t : Int) (fl : Option Int) (nm : String) (m : Dict) (v : Int) (hv : v < 0) :
    Gen.TlvModelFields.UintField_encoded_length t fl nm (some v) m = .error .typeError := by
  simp only [Gen.TlvModelFields.UintField_encoded_length]
  rw [if_pos hv]

theorem beBytes_eq_beN {w : Nat} (hw : w = 1 ∨ w = 2 ∨ w = 4 ∨ w = 8) (v : Nat) : beBytes w v = beN w v := by
  rcases hw with rfl | rfl | rfl | rfl
  · rfl
  · rfl
  · exact beBytes_four v
  · exact beBytes_eight v

/-- the `!BB` / `!BH` / `!BI` / `!BQ` record of `UintField.encode_into`: its first byte, the width, is the TLV Length -/
theorem uint_body (w v : Nat) (hw : w = 1 ∨ w = 2 ∨ w = 4 ∨ w = 8) (hv : v < 256 ^ w) :
    pack [1, w] [((w : Nat) : Int), (v : Int)] = .ok (writeTlNum (beN w v).length ++ beN w v) := by
  rw [pack_marker w w v (by omega), if_pos hv, beN_length w v hw, writeTlNum_eq_be1 (by omega), beBytes_eq_beN hw]
  rfl

/-- **UintField.encode_into**, every Type, value, legal `fixed_len`, buffer and offset: given the width `encoded_length`
    recorded, the bytes of `Codec.enc` are written at `offset`, the rest of the buffer is left alone, their number returned. -/
theorem uint_encode_into_eq (t v : Nat) (fl : Option Nat) (hfl : wfS (.uint t fl) = true) (nm : String) (m : Dict)
    (wire bs : Bytes) (off : Nat)
    (hm : dictGet m (nm ++ "##encoded_length") = .ok ((uintWidth fl v : Nat) : Int))
    (henc : enc (.uint t fl) (.uint v) = .ok bs) (hoff : off + bs.length < 2 ^ 63) (hfit : off + bs.length ≤ wire.length) :
    Gen.TlvModelFields.UintField_encode_into t nm (some (v : Int)) m wire off
      = .ok (((bs.length : Nat) : Int), wire.take off ++ bs ++ wire.drop (off + bs.length)) := by
  obtain ⟨hv, ht, rfl⟩ := enc_uint_ok henc
  have hw := uintWidth_legal (t := t) fl v hfl
  have hlen : (tlv t (beN (uintWidth fl v) v)).length = uintWidth fl v + (tlNumSize t + 1) := by
    rw [tlv_length, beN_length _ _ hw, tlNumSize_eq_one (v := uintWidth fl v) (by omega)]; omega
  simp only [Gen.TlvModelFields.UintField_encode_into, get_tl_num_size_eq, ok_bind, hm, lit_natCast, add_natCast,
    Int.natCast_inj, write_tl_num_blit ht (show off < 2 ^ 63 by omega), except_bind_map]
  generalize uintWidth fl v = w at *
  -- whichever branch runs, it packs the marker `w` and the value after the Type, and returns `w + tl_size`
  have hstep : (blit wire off (writeTlNum t) >>= fun a =>
      packInto [1, w] [((w : Nat) : Int), (v : Int)] a ((off + tlNumSize t : Nat) : Int) >>= fun wire =>
        (pure (((w + (tlNumSize t + 1) : Nat) : Int), wire) : Except PyErr (Int × Bytes)))
      = .ok ((((tlv t (beN w v)).length : Nat) : Int), List.take off wire ++ tlv t (beN w v)
          ++ List.drop (off + (tlv t (beN w v)).length) wire) := by
    simp only [packInto_natCast _ _ _ _ (show off + tlNumSize t < 2 ^ 63 by omega), uint_body w v hw hv, ok_bind]
    rw [blit_bind_blit _ _ _ _ _ _ (by rw [writeTlNum_length]), ← List.append_assoc,
      show writeTlNum t ++ writeTlNum (beN w v).length ++ beN w v = tlv t (beN w v) from rfl, blit_ok _ _ _ hfit, hlen]
    rfl
  rcases hw with rfl | rfl | rfl | rfl <;> exact hstep

theorem uint_encode_into_none (t : Int) (nm : String) (m : Dict) (wire : Bytes) (off : Int) :
    Gen.TlvModelFields.UintField_encode_into t nm none m wire off = .ok (0, wire) := rfl

/-- `encoded_length` followed by `encode_into` with the markers it left -/
theorem uint_two_pass (t v : Nat) (fl : Option Nat) (hfl : wfS (.uint t fl) = true) (nm : String) (m : Dict)
    (wire bs : Bytes) (off : Nat) (henc : enc (.uint t fl) (.uint v) = .ok bs)
    (hoff : off + bs.length < 2 ^ 63) (hfit : off + bs.length ≤ wire.length) :
    ∃ m', Gen.TlvModelFields.UintField_encoded_length t (fl.map fun w => ((w : Nat) : Int)) nm (some (v : Int)) m
        = .ok (((bs.length : Nat) : Int), m') ∧
      Gen.TlvModelFields.UintField_encode_into t nm (some (v : Int)) m' wire off
        = .ok (((bs.length : Nat) : Int), wire.take off ++ bs ++ wire.drop (off + bs.length)) := by
  refine ⟨dictSet m (nm ++ "##encoded_length") ((uintWidth fl v : Nat) : Int), ?_, ?_⟩
  · rw [uint_encoded_length_eq, encLen_enc _ _ _ hfl henc]
  · exact uint_encode_into_eq t v fl hfl nm _ wire bs off (dictGet_dictSet _ _ _) henc hoff hfit

/-- what a Python value of a BoolField stands for in the codec model: only `True` is encoded -/
def boolValue (b : Option Bool) : Value := if b = some true then .bool else .none

/-- **BoolField.encoded_length**: Type + a zero Length for `True`, nothing for `None` / `False`. -/
theorem bool_encoded_length_eq (t : Nat) (b : Option Bool) (m : Dict) :
    Gen.TlvModelFields.BoolField_encoded_length t b m
      = match encLen (.bool t) (boolValue b) with
        | .ok n => .ok ((n : Nat) : Int)
        | .error e => .error e := by
  simp only [Gen.TlvModelFields.BoolField_encoded_length, get_tl_num_size_eq, ok_bind, lit_natCast, add_natCast]
  -- None, True, False
  rcases b with _ | _ | _ <;> rfl

/-- **BoolField.encode_into** for `True`. -/
theorem bool_encode_into_eq (t : Nat) (m : Dict) (wire bs : Bytes) (off : Nat)
    (henc : enc (.bool t) .bool = .ok bs) (hoff : off + bs.length < 2 ^ 63) (hfit : off + bs.length ≤ wire.length) :
    Gen.TlvModelFields.BoolField_encode_into t (some true) m wire off
      = .ok (((bs.length : Nat) : Int), wire.take off ++ bs ++ wire.drop (off + bs.length)) := by
  simp only [enc] at henc
  obtain ⟨rfl, ht, _⟩ := tlvE_ok henc
  have hlen : (tlv t []).length = tlNumSize t + 1 := tlv_length t []
  simp only [Gen.TlvModelFields.BoolField_encode_into, get_tl_num_size_eq, ok_bind, if_true, lit_natCast, add_natCast,
    write_tl_num_blit ht (show off < 2 ^ 63 by omega), except_bind_map]
  -- the byte `wire[offset] = 0` is the Length of the empty Value
  rw [blit_bind_op (c := [UInt8.ofNat 0]) (by rw [writeTlNum_length]) fun b hb => setItem_blit b _ _ (by rw [hb]; omega),
    show writeTlNum t ++ [UInt8.ofNat 0] = tlv t [] from (List.append_nil _).symm, blit_ok _ _ _ hfit, hlen]
  rfl

theorem bool_encode_into_absent (t : Int) (b : Option Bool) (hb : b ≠ some true) (m : Dict) (wire : Bytes) (off : Int) :
    Gen.TlvModelFields.BoolField_encode_into t b m wire off = .ok (0, wire) := by
  simp only [Gen.TlvModelFields.BoolField_encode_into]
  rw [if_neg hb]; rfl

/-- **BytesField.encoded_length** on a byte string. -/
theorem bytes_encoded_length_eq (t : Nat) (isStr : Bool) (b : Bytes) (m : Dict) :
    Gen.TlvModelFields.BytesField_encoded_length_bytes t (some b) m
      = match encLen (.bytes t isStr) (.bytes b) with
        | .ok n => .ok ((n : Nat) : Int)
        | .error e => .error e := by
  simp only [Gen.TlvModelFields.BytesField_encoded_length_bytes, len_eq, get_tl_num_size_eq, ok_bind, encLen, add_natCast]
  rfl

/-- **BytesField.encoded_length** on text: the same with the UTF-8 encoding of the text (not its number of characters). -/
theorem str_encoded_length_eq (t : Nat) (s : Py.Str) (m : Dict) :
    Gen.TlvModelFields.BytesField_encoded_length_str t (some s) m
      = match encLen (.bytes t true) (.bytes s.utf8) with
        | .ok n => .ok ((n : Nat) : Int)
        | .error e => .error e := by
  exact bytes_encoded_length_eq t true s.utf8 m

/-- **BytesField.encode_into** on a byte string. -/
theorem bytes_encode_into_eq (t : Nat) (isStr : Bool) (b : Bytes) (m : Dict) (wire bs : Bytes) (off : Nat)
    (henc : enc (.bytes t isStr) (.bytes b) = .ok bs) (hoff : off + bs.length < 2 ^ 63)
    (hfit : off + bs.length ≤ wire.length) :
    Gen.TlvModelFields.BytesField_encode_into_bytes t (some b) m wire off
      = .ok (((bs.length : Nat) : Int), wire.take off ++ bs ++ wire.drop (off + bs.length)) := by
  simp only [enc] at henc
  obtain ⟨rfl, ht, hb⟩ := tlvE_ok henc
  have hlen := tlv_length t b
  simp only [Gen.TlvModelFields.BytesField_encode_into_bytes, len_eq, add_natCast,
    write_tl_num_blit ht (show off < 2 ^ 63 by omega), write_tl_num_blit hb (show off + tlNumSize t < 2 ^ 63 by omega),
    except_bind_map]
  rw [blit_bind_blit _ _ _ _ _ _ (by rw [writeTlNum_length]),
    blit_bind_op (c := b) (by rw [List.length_append, writeTlNum_length, writeTlNum_length, Nat.add_assoc])
      fun a ha => setSliceSameSize_blit a b _ (by rw [ha]; omega),
    show writeTlNum t ++ writeTlNum b.length ++ b = tlv t b from rfl, blit_ok _ _ _ hfit]
  simp only [Nat.add_assoc, natCast_add_sub_cancel, hlen]
  rfl

/-- **BytesField.encode_into** on text: the same with its UTF-8 encoding. -/
theorem str_encode_into_eq (t : Nat) (s : Py.Str) (m : Dict) (wire bs : Bytes) (off : Nat)
    (henc : enc (.bytes t true) (.bytes s.utf8) = .ok bs) (hoff : off + bs.length < 2 ^ 63)
    (hfit : off + bs.length ≤ wire.length) :
    Gen.TlvModelFields.BytesField_encode_into_str t (some s) m wire off
      = .ok (((bs.length : Nat) : Int), wire.take off ++ bs ++ wire.drop (off + bs.length)) := by
  have e : Gen.TlvModelFields.BytesField_encode_into_str t (some s) m wire off
      = Gen.TlvModelFields.BytesField_encode_into_bytes t (some s.utf8) m wire off := rfl
  rw [e]
  exact bytes_encode_into_eq t true s.utf8 m wire bs off henc hoff hfit

theorem bytes_encode_into_none (t : Int) (m : Dict) (wire : Bytes) (off : Int) :
    Gen.TlvModelFields.BytesField_encode_into_bytes t none m wire off = .ok (0, wire) ∧
    Gen.TlvModelFields.BytesField_encode_into_str t none m wire off = .ok (0, wire) ∧
    Gen.TlvModelFields.BytesField_encoded_length_bytes t none m = .ok 0 ∧
    Gen.TlvModelFields.BytesField_encoded_length_str t none m = .ok 0 := ⟨rfl, rfl, rfl, rfl⟩

example : Gen.TlvModelFields.UintField_encoded_length 129 none "x" (some 300) [] = .ok (4, [("x##encoded_length", 2)]) := by
  decide +kernel
example : Gen.TlvModelFields.UintField_encode_into 129 "x" (some 300) [("x##encoded_length", 2)] [9, 9, 9, 9, 9] 1
    = .ok (4, [9, 129, 2, 1, 44]) := by decide +kernel
example : Gen.TlvModelFields.BoolField_encode_into 253 (some true) [] [9, 9, 9, 9, 9] 1 = .ok (4, [9, 253, 0, 253, 0]) := by
  decide +kernel
example : Gen.TlvModelFields.BytesField_encode_into_bytes 8 (some [7, 7]) [] [9, 9, 9, 9, 9] 1 = .ok (4, [9, 8, 2, 7, 7]) := by
  decide +kernel

end Ndn.TlvModelGen
