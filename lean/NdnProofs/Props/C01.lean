import NdnProofs.Lemmas.PacketParseInterest
import NdnProofs.Props.C08
/-!
# C01 — Interest and Data packets survive an encode/decode round trip

Model: `Ndn.Packet.makeData` / `makeInterest` (two-pass encode with reserved signature space, Length
byte patch, `shrink_length`, digest placement).  The signer is an arbitrary function: it reserved
`reserved` bytes and wrote `sig`.  The `make` theorems hold for every name, every field combination, every
payload length and every `(reserved, sig)` with `|sig| ≤ reserved` (and `reserved < 253` when shorter).
The `parse` theorems also need: every name component is one TLV element (`compOk`), none is a digest component
except the one placeholder a theorem names, the values are legal for their fields (`fitsFs`).  The packet stays
below 2^64 bytes; the constants in those bounds are slack for headers of at most 18 bytes (`tlv_length_le`).
-/
namespace Ndn.C01
open Ndn Ndn.Codec Ndn.Packet

/-- A signed Data is exactly `tlv DATA (fields ++ tlv SIGNATURE_VALUE sig)`, the reserved-but-unused bytes gone
    whatever the payload size (the 253 and 65536 crossings of a Length are cases of `shrink_spec`), and the signer
    was handed exactly `fields` (Name … SignatureInfo). -/
theorem make_data_wire (name : List Bytes) (mi content sigInfo : Value) (s : SignerOut) (p : Bytes)
    (hp : encFields [nameS, metaS, contentS, dataSigInfoS] [.name name, mi, content, sigInfo] = .ok p)
    (hle : s.sig.length ≤ s.reserved) (hflex : s.sig.length = s.reserved ∨ s.reserved < 253)
    (hsize : p.length + s.reserved + 12 < 2 ^ 64) :
    makeData name mi content sigInfo (some s) =
      .ok { wire := tlv 6 (p ++ tlv 23 s.sig), covered := [p] } := by
  obtain ⟨junk, hsv, hj⟩ := sigValueElem_tlv 23 s hle (by omega) hflex
  unfold makeData
  simp only [hp, bind, Except.bind, hsv, ← List.append_assoc]
  rw [wrapShrink_spec 6 _ junk (by decide) (by
    have := tlNumSize_cases s.sig.length
    simp only [List.length_append, tlv_length, show tlNumSize 23 = 1 from rfl]; omega)]
  rfl

theorem make_data_unsigned_wire (name : List Bytes) (mi content sigInfo : Value) (p : Bytes)
    (hp : encFields [nameS, metaS, contentS, dataSigInfoS] [.name name, mi, content, sigInfo] = .ok p)
    (hsize : p.length < 2 ^ 64) :
    makeData name mi content sigInfo none = .ok { wire := tlv 6 p, covered := [] } := by
  unfold makeData
  simp only [hp, bind, Except.bind, wrapShrink_zero 6 p (by decide) hsize]
  rfl

/-- A signer behaviour `make_*` refuses: a signature shorter than a reserved space of 253 bytes or more
    (`ValueError`). -/
theorem sig_value_elem_rejects (t : Nat) (s : SignerOut) (hlt : s.sig.length < s.reserved)
    (hbig : 253 ≤ s.reserved) (hr : s.reserved < 2 ^ 64) : sigValueElem t s = .error .valueError := by
  unfold sigValueElem
  have h1 : ¬ s.sig.length > s.reserved := Nat.not_lt.mpr (Nat.le_of_lt hlt)
  have h2 : ¬ s.reserved ≥ 2 ^ 64 := Nat.not_le.mpr hr
  have h3 : ¬ s.sig.length = s.reserved := Nat.ne_of_lt hlt
  simp [h1, h2, h3, hbig]

/-- `p ++ tlv 23 sig`, by `make_data_wire` the Value of a made Data, is a sequence of complete, exactly sized TLV
    elements. -/
theorem made_data_is_one_element (name : List Bytes) (mi content sigInfo : Value) (s : SignerOut) (p : Bytes)
    (hp : encFields [nameS, metaS, contentS, dataSigInfoS] [.name name, mi, content, sigInfo] = .ok p)
    (hsig : s.sig.length < 2 ^ 64) : C08.TlvSeq (p ++ tlv 23 s.sig) := by
  apply C08.TlvSeq.append (C08.enc_wellformed _ _ _ hp)
  simpa using C08.TlvSeq.cons 23 s.sig [] (by decide) hsig .nil

/-! a shrinking signer: reserved 8, real 5 -/
example :
    let s : SignerOut := { reserved := 8, sig := [1, 2, 3, 4, 5] }
    (makeData [[8, 1, 97]] .none (.bytes [120, 121]) (.model [.uint 3, .none, .none, .none, .none]) (some s)).map (·.wire)
      = .ok [6, 21, 7, 3, 8, 1, 97, 21, 2, 120, 121, 22, 3, 27, 1, 3, 23, 5, 1, 2, 3, 4, 5] := by
  rfl

/-- the Data Value field list without the marker pseudo-fields -/
def dataValueFs : List Schema := [nameS, metaS, contentS, dataSigInfoS, .bytes 23 false]

/-- Decoding the Value of a made Data gives back the name, MetaInfo, Content, SignatureInfo and signature that went
    in.  *Partial*: stated on the marker-free field list; with the five pseudo-fields (four ProcedureArguments and the
    OffsetMarker `_sig_cover_start`, all `Schema.marker` in the model) see `C02.parsed_cover_is_signed_portion_data`
    (signed) and `parse_make_data_unsigned`. -/
theorem parse_make_data_partial (name : List Bytes) (mi content sigInfo : Value) (sig p : Bytes)
    (hp : encFields [nameS, metaS, contentS, dataSigInfoS] [.name name, mi, content, sigInfo] = .ok p)
    (hfit : fitsFs [nameS, metaS, contentS, dataSigInfoS] [.name name, mi, content, sigInfo] = true)
    (hsig : sig.length < 2 ^ 64) :
    parse dataValueFs false (p ++ tlv 23 sig) = .ok [.name name, mi, content, sigInfo, .bytes sig] := by
  have henc : enc (.bytes 23 false) (.bytes sig) = .ok (tlv 23 sig) := enc_bytes false (by decide) hsig
  exact C08.parse_enc_roundtrip_partial dataValueFs _ _ false (by decide)
    (fitsFs_append_one _ _ (.bytes 23 false) (.bytes sig) hfit rfl)
    (encFields_append_one _ _ _ _ p _ rfl hp henc)

theorem parse_data_value (vs5 : List Value) (p5 : Bytes) (h5 : encFields dataValueFs vs5 = .ok p5)
    (hfit5 : fitsFs dataValueFs vs5 = true) (hne : p5 ≠ []) :
    parse dataFs false p5 = .ok (List.replicate 5 (Value.uint 0) ++ vs5) :=
  parse_lead_markers 5 dataValueFs vs5 p5 (by decide) (by decide) hfit5 h5 hne

/-- `sv` is the signature value (`svB` its element), or `Value.none` -/
theorem decode_data (name : List Bytes) (mi content sigInfo sv : Value) (p svB : Bytes)
    (hp : encFields [nameS, metaS, contentS, dataSigInfoS] [.name name, mi, content, sigInfo] = .ok p)
    (hfit : fitsFs [nameS, metaS, contentS, dataSigInfoS] [.name name, mi, content, sigInfo] = true)
    (hsv : enc (.bytes 23 false) sv = .ok svB) (hfsv : fits (.bytes 23 false) sv = true)
    (hsize : (p ++ svB).length < 2 ^ 64) :
    decodePacket dataFs 6 false true [] (tlv 6 (p ++ svB)) =
      .ok (List.replicate 5 (Value.uint 0) ++ [.name name, mi, content, sigInfo, sv]) := by
  -- the Name element is always there
  have hne : p ++ svB ≠ [] := by
    obtain ⟨a, _, ha, _, rfl⟩ := encFields_cons_ok.1 hp
    obtain ⟨rfl, _, _⟩ := tlvE_ok ha
    exact List.append_ne_nil_of_left_ne_nil (List.append_ne_nil_of_left_ne_nil (tlv_ne_nil 7 _) _) _
  exact decodePacket_tlv _ 6 false true _ _ (by decide) hsize
    (parse_data_value _ _ (encFields_append_one _ _ _ sv p svB rfl hp hsv)
      (fitsFs_append_one _ _ _ sv hfit hfsv) hne) rfl

/-- `parse_data(make_data(name, meta_info, content))` without a signer, on the full Data field list: the fields
    come back, the five pseudo-fields hold offset 0, no SignatureValue, all signature pointers empty. -/
theorem parse_make_data_unsigned (name : List Bytes) (mi content sigInfo : Value) (p : Bytes)
    (hp : encFields [nameS, metaS, contentS, dataSigInfoS] [.name name, mi, content, sigInfo] = .ok p)
    (hfit : fitsFs [nameS, metaS, contentS, dataSigInfoS] [.name name, mi, content, sigInfo] = true)
    (hsize : p.length < 2 ^ 64) :
    ∃ m, makeData name mi content sigInfo none = .ok m ∧ m.covered = [] ∧
      parseData m.wire =
        .ok (List.replicate 5 (Value.uint 0) ++ [.name name, mi, content, sigInfo, .none],
             { sigCovered := [], sigValue := none, digestCovered := [], digestValue := none }) := by
  refine ⟨_, make_data_unsigned_wire name mi content sigInfo p hp hsize, rfl, ?_⟩
  have hdec := decode_data name mi content sigInfo .none p [] hp hfit rfl rfl (by simpa using hsize)
  rw [List.append_nil] at hdec
  unfold parseData
  simp only [hdec, parseAndCheckTl_tlv 6 p (by decide) hsize, bind, Except.bind, pure, Except.pure]
  rfl

example :
    (do let m ← makeData [[8, 1, 97]] (.model [.uint 0, .none, .none]) (.bytes [120, 121]) .none none
        let (vs, p) ← parseData m.wire
        pure (vs, p.sigCovered, p.sigValue)) =
    .ok (List.replicate 5 (Value.uint 0) ++
           [.name [[8, 1, 97]], .model [.uint 0, .none, .none], .bytes [120, 121], .none, .none], [], none) := by
  rfl

/-- A signed Interest whose name holds a digest component at position `i` is exactly
    `tlv INTEREST (Name' ++ params ++ AppParam ++ SigInfo ++ tlv SIG_VALUE sig)`, `Name'` the given name with bytes
    2 … 34 of that component replaced by `H` of ApplicationParameters … end of the (already shrunk) value; the signer
    was handed the name without that component, then ApplicationParameters and SignatureInfo. -/
theorem make_interest_wire_at (H : Bytes → Bytes) (name : List Bytes) (i : Nat) (mid : List Value)
    (app sigInfo : Value) (s : SignerOut) (midB tailA : Bytes)
    (hmid : encFields [.bool 33, .bool 18, linksS, .uint 10 (some 4), .uint 12 none, .uint 34 (some 1)] mid = .ok midB)
    (htail : encFields [.bytes 36 false, intSigInfoS] [app, sigInfo] = .ok tailA)
    (hle : s.sig.length ≤ s.reserved) (hflex : s.sig.length = s.reserved ∨ s.reserved < 253)
    (hr : s.reserved < 2 ^ 64) :
    ∀ (digested : Bytes) (comps : List Bytes), digested = tailA ++ tlv 46 s.sig →
    comps = placeDigest name i (H digested) →
    (concatB comps).length + midB.length + tailA.length + s.reserved + 64 < 2 ^ 64 →
    interestCore H name mid app sigInfo (some s) true (some i) =
      .ok { wire := tlv 5 (tlv 7 (concatB comps) ++ midB ++ tailA ++ tlv 46 s.sig),
            covered := nameChunks comps (some i) ++ [tailA],
            finalName := comps, digestCovered := digested } := fun _ comps hd hc hcl => by
  subst hd
  obtain ⟨junk, hsv, hj⟩ := sigValueElem_tlv 46 s hle hr hflex
  have htl := tlvE_eq 7 (concatB comps) (by decide) (by omega)
  have hw := wrapShrink_spec 5 (tlv 7 (concatB comps) ++ midB ++ tailA ++ tlv 46 s.sig) junk (by decide) (by
    have h7 := tlv_length_le 7 (concatB comps)
    have h46 := tlv_length_le 46 s.sig
    simp only [List.length_append]; omega)
  unfold interestCore
  simp only [bind, Except.bind, hmid, htail, hsv, take_sub_append, pure, Except.pure, Bool.true_and,
    Option.isNone_some, Bool.false_eq_true, if_false, ← hc, htl, List.append_assoc] at hw ⊢
  rw [hw]; rfl

/-- The same without a signer: `tlv INTEREST (Name' ++ params ++ AppParam [++ SigInfo])`. -/
theorem make_interest_params_wire_at (H : Bytes → Bytes) (name : List Bytes) (i : Nat) (mid : List Value)
    (app sigInfo : Value) (midB tailA : Bytes)
    (hmid : encFields [.bool 33, .bool 18, linksS, .uint 10 (some 4), .uint 12 none, .uint 34 (some 1)] mid = .ok midB)
    (htail : encFields [.bytes 36 false, intSigInfoS] [app, sigInfo] = .ok tailA) :
    ∀ (comps : List Bytes), comps = placeDigest name i (H tailA) →
    (concatB comps).length + midB.length + tailA.length + 64 < 2 ^ 64 →
    interestCore H name mid app sigInfo none true (some i) =
      .ok { wire := tlv 5 (tlv 7 (concatB comps) ++ midB ++ tailA), covered := [],
            finalName := comps, digestCovered := tailA } := fun comps hc hcl => by
  have htl := tlvE_eq 7 (concatB comps) (by decide) (by omega)
  have hw := wrapShrink_zero 5 (tlv 7 (concatB comps) ++ midB ++ tailA) (by decide) (by
    have h7 := tlv_length_le 7 (concatB comps)
    simp only [List.length_append]; omega)
  unfold interestCore
  simp only [bind, Except.bind, hmid, htail, pure, Except.pure, Bool.true_and, List.length_nil, Nat.sub_self,
    List.take_nil, List.append_nil, Option.isNone_some, Bool.false_eq_true, if_false, ← hc, htl, hw]
  rfl

/-- `make_interest_wire_at` when `make_interest` appends the digest component itself (`interestCore_appended`): the
    final name is the given name followed by a ParametersSha256Digest component holding `H` of ApplicationParameters …
    end. -/
theorem make_interest_wire (H : Bytes → Bytes) (name : List Bytes) (mid : List Value) (app sigInfo : Value)
    (s : SignerOut) (midB tailA : Bytes)
    (hmid : encFields [.bool 33, .bool 18, linksS, .uint 10 (some 4), .uint 12 none, .uint 34 (some 1)] mid = .ok midB)
    (htail : encFields [.bytes 36 false, intSigInfoS] [app, sigInfo] = .ok tailA)
    (hle : s.sig.length ≤ s.reserved) (hflex : s.sig.length = s.reserved ∨ s.reserved < 253)
    (hr : s.reserved < 2 ^ 64) :
    ∀ (digested : Bytes) (comps : List Bytes), digested = tailA ++ tlv 46 s.sig →
    comps = placeDigest (name ++ [digestPlaceholder]) name.length (H digested) →
    (concatB comps).length + midB.length + tailA.length + s.reserved + 64 < 2 ^ 64 →
    interestCore H name mid app sigInfo (some s) true none =
      .ok { wire := tlv 5 (tlv 7 (concatB comps) ++ midB ++ tailA ++ tlv 46 s.sig),
            covered := nameChunks comps (some name.length) ++ [tailA],
            finalName := comps, digestCovered := digested } := fun digested comps hd hc hcl => by
  rw [interestCore_appended]
  exact make_interest_wire_at H _ _ mid app sigInfo s midB tailA hmid htail hle hflex hr digested comps hd hc hcl

/-- `make_interest_params_wire_at` with the digest component appended. -/
theorem make_interest_params_wire (H : Bytes → Bytes) (name : List Bytes) (mid : List Value)
    (app sigInfo : Value) (midB tailA : Bytes)
    (hmid : encFields [.bool 33, .bool 18, linksS, .uint 10 (some 4), .uint 12 none, .uint 34 (some 1)] mid = .ok midB)
    (htail : encFields [.bytes 36 false, intSigInfoS] [app, sigInfo] = .ok tailA) :
    ∀ (comps : List Bytes), comps = placeDigest (name ++ [digestPlaceholder]) name.length (H tailA) →
    (concatB comps).length + midB.length + tailA.length + 64 < 2 ^ 64 →
    interestCore H name mid app sigInfo none true none =
      .ok { wire := tlv 5 (tlv 7 (concatB comps) ++ midB ++ tailA), covered := [],
            finalName := comps, digestCovered := tailA } := fun comps hc hcl => by
  rw [interestCore_appended]
  exact make_interest_params_wire_at H _ _ mid app sigInfo midB tailA hmid htail comps hc hcl

/-- a signed Interest always carries ApplicationParameters (`effApp`: empty when none was given) -/
theorem make_interest_is_core (H : Bytes → Bytes) (name : List Bytes) (mid : List Value)
    (appParam sigInfo : Value) (s : SignerOut) (hnd : ∀ c ∈ name, isDigestComp c = false) :
    makeInterest H name mid appParam sigInfo (some s) =
      interestCore H name mid (effApp true appParam) sigInfo (some s) true none :=
  makeInterest_eq_core H name mid appParam sigInfo (some s) (not_isNone_effApp_true appParam)
    (digestPos_no_digest true none name 0 hnd)

theorem make_interest_is_core_at (H : Bytes → Bytes) (pre post : List Bytes) (c : Bytes) (mid : List Value)
    (appParam sigInfo : Value) (signer : Option SignerOut)
    (hneed : (!isNone (effApp signer.isSome appParam)) = true)
    (hpre : ∀ x ∈ pre, isDigestComp x = false) (hc : isDigestComp c = true)
    (hpost : ∀ x ∈ post, isDigestComp x = false) :
    makeInterest H (pre ++ c :: post) mid appParam sigInfo signer =
      interestCore H (pre ++ c :: post) mid (effApp signer.isSome appParam) sigInfo signer true
        (some pre.length) :=
  makeInterest_eq_core H _ mid appParam sigInfo signer hneed
    (by rw [digestPos_at pre c post 0 hpre hc hpost, Nat.zero_add])

theorem make_interest_is_core_params (H : Bytes → Bytes) (name : List Bytes) (mid : List Value)
    (appParam sigInfo : Value) (hnd : ∀ c ∈ name, isDigestComp c = false) (hp : isNone appParam = false) :
    makeInterest H name mid appParam sigInfo none = interestCore H name mid appParam sigInfo none true none :=
  makeInterest_eq_core H name mid appParam sigInfo none (need := true) (by simp [effApp, hp])
    (digestPos_no_digest true none name 0 hnd)

/-- A plain Interest (unsigned, no ApplicationParameters, no digest component in the name) is exactly
    `tlv INTEREST (Name ++ params)`. -/
theorem make_interest_plain_wire (H : Bytes → Bytes) (name : List Bytes) (mid : List Value) (midB : Bytes)
    (hmid : encFields [.bool 33, .bool 18, linksS, .uint 10 (some 4), .uint 12 none, .uint 34 (some 1)] mid = .ok midB)
    (hnd : ∀ c ∈ name, isDigestComp c = false)
    (hcl : (concatB name).length + midB.length + 64 < 2 ^ 64) :
    makeInterest H name mid .none .none none =
      .ok { wire := tlv 5 (tlv 7 (concatB name) ++ midB), covered := [], finalName := name,
            digestCovered := [] } := by
  have htl := tlvE_eq 7 (concatB name) (by decide) (by omega)
  have hw := wrapShrink_zero 5 (tlv 7 (concatB name) ++ midB) (by decide) (by
    have h7 := tlv_length_le 7 (concatB name)
    rw [List.length_append]; omega)
  have hcore : makeInterest H name mid .none .none none = interestCore H name mid .none .none none false none :=
    makeInterest_eq_core H name mid .none .none none rfl (digestPos_no_digest false none name 0 hnd)
  rw [hcore]
  unfold interestCore
  simp only [Bool.false_and, Bool.false_eq_true, if_false, bind, Except.bind, hmid, encFields, enc,
    pure, Except.pure, List.append_nil, htl, hw]

/-- `interestCore` on a name `pre ++ [02 20 x] ++ post`, and `parseInterest` of the wire it makes: the C01 and C02
    statements about a placeholder are parts of this one. -/
theorem make_parse_interest_signed (H : Bytes → Bytes) (pre post : List Bytes) (x : Bytes)
    (mid : List Value) (app sigInfo : Value) (s : SignerOut) (midB tailA : Bytes)
    (hmid : encFields midFs mid = .ok midB)
    (htail : encFields [.bytes 36 false, intSigInfoS] [app, sigInfo] = .ok tailA)
    (hle : s.sig.length ≤ s.reserved) (hflex : s.sig.length = s.reserved ∨ s.reserved < 253)
    (hr : s.reserved < 2 ^ 64) (hx : x.length = 32)
    (hpre : pre.all compOk = true) (hpost : post.all compOk = true)
    (hndpre : ∀ c ∈ pre, isDigestComp c = false) (hndpost : ∀ c ∈ post, isDigestComp c = false)
    (hfitmid : fitsFs midFs mid = true)
    (hfittail : fitsFs [.bytes 36 false, intSigInfoS] [app, sigInfo] = true)
    (digested : Bytes) (comps : List Bytes) (hd : digested = tailA ++ tlv 46 s.sig)
    (hH : (H digested).length = 32) (hc : comps = pre ++ (2 :: 32 :: H digested) :: post)
    (hcl : (concatB comps).length + midB.length + tailA.length + s.reserved + 64 < 2 ^ 64) :
    interestCore H (pre ++ (2 :: 32 :: x) :: post) mid app sigInfo (some s) true (some pre.length) =
      .ok { wire := tlv 5 (tlv 7 (concatB comps) ++ midB ++ tailA ++ tlv 46 s.sig),
            covered := nameChunks comps (some pre.length) ++ [tailA],
            finalName := comps, digestCovered := digested } ∧
    parseInterest (tlv 5 (tlv 7 (concatB comps) ++ midB ++ tailA ++ tlv 46 s.sig)) =
      .ok (List.replicate 7 (Value.uint 0) ++ (Value.name comps :: mid) ++
             List.replicate 2 (Value.uint (tlv 7 (concatB comps) ++ midB).length) ++
             [app, sigInfo, Value.bytes s.sig] ++ [Value.none],
           { sigCovered := pre ++ post ++ [tailA], sigValue := some s.sig,
             digestCovered := [digested], digestValue := some (H digested) }) := by
  have hw := make_interest_wire_at H _ pre.length mid app sigInfo s midB tailA hmid htail hle hflex hr digested comps hd
    (by rw [placeDigest_placeholder pre post x _ hx]; exact hc) hcl
  subst hd hc
  have h7 := tlv_length_le 7 (concatB (pre ++ (2 :: 32 :: H (tailA ++ tlv 46 s.sig)) :: post))
  have h46 := tlv_length_le 46 s.sig
  exact ⟨hw, parseInterest_signed_at pre post _ mid app sigInfo s.sig midB tailA hmid htail hpre hpost hndpre hndpost
    hH hfitmid hfittail (by omega) (by simp only [List.length_append]; omega)⟩

theorem make_parse_interest_params (H : Bytes → Bytes) (pre post : List Bytes) (x : Bytes)
    (mid : List Value) (app sigInfo : Value) (midB tailA : Bytes)
    (hmid : encFields midFs mid = .ok midB)
    (htail : encFields [.bytes 36 false, intSigInfoS] [app, sigInfo] = .ok tailA) (hx : x.length = 32)
    (hpre : pre.all compOk = true) (hpost : post.all compOk = true)
    (hndpre : ∀ c ∈ pre, isDigestComp c = false) (hndpost : ∀ c ∈ post, isDigestComp c = false)
    (hfitmid : fitsFs midFs mid = true)
    (hfittail : fitsFs [.bytes 36 false, intSigInfoS] [app, sigInfo] = true)
    (hne : tailA ≠ []) (hH : (H tailA).length = 32)
    (comps : List Bytes) (hc : comps = pre ++ (2 :: 32 :: H tailA) :: post)
    (hcl : (concatB comps).length + midB.length + tailA.length + 64 < 2 ^ 64) :
    interestCore H (pre ++ (2 :: 32 :: x) :: post) mid app sigInfo none true (some pre.length) =
      .ok { wire := tlv 5 (tlv 7 (concatB comps) ++ midB ++ tailA), covered := [],
            finalName := comps, digestCovered := tailA } ∧
    parseInterest (tlv 5 (tlv 7 (concatB comps) ++ midB ++ tailA)) =
      .ok (List.replicate 7 (Value.uint 0) ++ (Value.name comps :: mid) ++
             List.replicate 2 (Value.uint (tlv 7 (concatB comps) ++ midB).length) ++
             [app, sigInfo, Value.none] ++ [Value.none],
           { sigCovered := pre ++ post, sigValue := none,
             digestCovered := [tailA], digestValue := some (H tailA) }) := by
  have hw := make_interest_params_wire_at H _ pre.length mid app sigInfo midB tailA hmid htail comps
    (by rw [placeDigest_placeholder pre post x _ hx]; exact hc) hcl
  subst hc
  have h7 := tlv_length_le 7 (concatB (pre ++ (2 :: 32 :: H tailA) :: post))
  exact ⟨hw, parseInterest_params_at pre post _ mid app sigInfo midB tailA hmid htail hpre hpost hndpre hndpost
    hH hfitmid hfittail hne (by simp only [List.length_append]; omega)⟩

/-- `parse_interest(make_interest(...))` for a signed Interest whose name `pre ++ [02 20 x] ++ post` carries a
    caller-supplied digest placeholder at any position (stated on `interestCore`, see `make_interest_is_core_at`): final
    name and parsed name are both `pre ++ [02 20 H(digested)] ++ post`, `digested` = ApplicationParameters … end, the
    range the parser reports as digest-covered; the signature covers the name without the digest component, then the
    parameters. -/
theorem parse_make_interest_placeholder (H : Bytes → Bytes) (pre post : List Bytes) (x : Bytes)
    (mid : List Value) (app sigInfo : Value) (s : SignerOut) (midB tailA : Bytes)
    (hmid : encFields [.bool 33, .bool 18, linksS, .uint 10 (some 4), .uint 12 none, .uint 34 (some 1)] mid = .ok midB)
    (htail : encFields [.bytes 36 false, intSigInfoS] [app, sigInfo] = .ok tailA)
    (hle : s.sig.length ≤ s.reserved) (hflex : s.sig.length = s.reserved ∨ s.reserved < 253)
    (hr : s.reserved < 2 ^ 64) (hx : x.length = 32)
    (hpre : pre.all compOk = true) (hpost : post.all compOk = true)
    (hndpre : ∀ c ∈ pre, isDigestComp c = false) (hndpost : ∀ c ∈ post, isDigestComp c = false)
    (hfitmid : fitsFs [.bool 33, .bool 18, linksS, .uint 10 (some 4), .uint 12 none, .uint 34 (some 1)] mid = true)
    (hfittail : fitsFs [.bytes 36 false, intSigInfoS] [app, sigInfo] = true) :
    ∀ (digested : Bytes) (comps : List Bytes), digested = tailA ++ tlv 46 s.sig →
    (H digested).length = 32 → comps = pre ++ (2 :: 32 :: H digested) :: post →
    (concatB comps).length + midB.length + tailA.length + s.reserved + 64 < 2 ^ 64 →
    ∃ m, interestCore H (pre ++ (2 :: 32 :: x) :: post) mid app sigInfo (some s) true (some pre.length) = .ok m ∧
      m.finalName = comps ∧
      parseInterest m.wire =
        .ok (List.replicate 7 (Value.uint 0) ++ (Value.name comps :: mid) ++
             List.replicate 2 (Value.uint (tlv 7 (concatB comps) ++ midB).length) ++
             [app, sigInfo, Value.bytes s.sig] ++ [Value.none],
             { sigCovered := pre ++ post ++ [tailA], sigValue := some s.sig,
               digestCovered := [digested], digestValue := some (H digested) }) := fun digested comps hd hH hc hcl => by
  obtain ⟨hw, hp⟩ := make_parse_interest_signed H pre post x mid app sigInfo s midB tailA
    hmid htail hle hflex hr hx hpre hpost hndpre hndpost hfitmid hfittail digested comps hd hH hc hcl
  exact ⟨_, hw, rfl, hp⟩

/-- The same for an unsigned Interest with ApplicationParameters. -/
theorem parse_make_interest_params_placeholder (H : Bytes → Bytes) (pre post : List Bytes) (x : Bytes)
    (mid : List Value) (app sigInfo : Value) (midB tailA : Bytes)
    (hmid : encFields [.bool 33, .bool 18, linksS, .uint 10 (some 4), .uint 12 none, .uint 34 (some 1)] mid = .ok midB)
    (htail : encFields [.bytes 36 false, intSigInfoS] [app, sigInfo] = .ok tailA) (hx : x.length = 32)
    (hpre : pre.all compOk = true) (hpost : post.all compOk = true)
    (hndpre : ∀ c ∈ pre, isDigestComp c = false) (hndpost : ∀ c ∈ post, isDigestComp c = false)
    (hfitmid : fitsFs [.bool 33, .bool 18, linksS, .uint 10 (some 4), .uint 12 none, .uint 34 (some 1)] mid = true)
    (hfittail : fitsFs [.bytes 36 false, intSigInfoS] [app, sigInfo] = true)
    (hne : tailA ≠ []) (hH : (H tailA).length = 32) :
    ∀ (comps : List Bytes), comps = pre ++ (2 :: 32 :: H tailA) :: post →
    (concatB comps).length + midB.length + tailA.length + 64 < 2 ^ 64 →
    ∃ m, interestCore H (pre ++ (2 :: 32 :: x) :: post) mid app sigInfo none true (some pre.length) = .ok m ∧
      m.finalName = comps ∧
      parseInterest m.wire =
        .ok (List.replicate 7 (Value.uint 0) ++ (Value.name comps :: mid) ++
             List.replicate 2 (Value.uint (tlv 7 (concatB comps) ++ midB).length) ++
             [app, sigInfo, Value.none] ++ [Value.none],
             { sigCovered := pre ++ post, sigValue := none,
               digestCovered := [tailA], digestValue := some (H tailA) }) := fun comps hc hcl => by
  obtain ⟨hw, hp⟩ := make_parse_interest_params H pre post x mid app sigInfo midB tailA
    hmid htail hx hpre hpost hndpre hndpost hfitmid hfittail hne hH comps hc hcl
  exact ⟨_, hw, rfl, hp⟩

/-- `parse_make_interest_placeholder` at `post = []`: a signed Interest to which `make_interest` appends the digest
    component (`interestCore_appended`; stated on `interestCore`, see `make_interest_is_core`).  The fields only; the
    SignaturePtrs are in `C02.parsed_cover_is_signed_portion_interest`.  The final name is also what
    `make_interest(need_final_name=True)` returns. -/
theorem parse_make_interest (H : Bytes → Bytes) (name : List Bytes) (mid : List Value) (app sigInfo : Value)
    (s : SignerOut) (midB tailA : Bytes)
    (hmid : encFields [.bool 33, .bool 18, linksS, .uint 10 (some 4), .uint 12 none, .uint 34 (some 1)] mid = .ok midB)
    (htail : encFields [.bytes 36 false, intSigInfoS] [app, sigInfo] = .ok tailA)
    (hle : s.sig.length ≤ s.reserved) (hflex : s.sig.length = s.reserved ∨ s.reserved < 253)
    (hr : s.reserved < 2 ^ 64)
    (hname : name.all compOk = true) (hnd : ∀ c ∈ name, isDigestComp c = false)
    (hfitmid : fitsFs [.bool 33, .bool 18, linksS, .uint 10 (some 4), .uint 12 none, .uint 34 (some 1)] mid = true)
    (hfittail : fitsFs [.bytes 36 false, intSigInfoS] [app, sigInfo] = true) :
    ∀ (digested : Bytes) (comps : List Bytes), digested = tailA ++ tlv 46 s.sig →
    (H digested).length = 32 → comps = name ++ [2 :: 32 :: H digested] →
    (concatB comps).length + midB.length + tailA.length + s.reserved + 64 < 2 ^ 64 →
    ∃ m, interestCore H name mid app sigInfo (some s) true none = .ok m ∧ m.finalName = comps ∧
      (parseInterest m.wire).map (·.1) =
        .ok (List.replicate 7 (Value.uint 0) ++ (Value.name comps :: mid) ++
             List.replicate 2 (Value.uint (tlv 7 (concatB comps) ++ midB).length) ++
             [app, sigInfo, Value.bytes s.sig] ++ [Value.none]) := fun digested comps hd hH hc hcl => by
  obtain ⟨m, hw, hn, hp⟩ := parse_make_interest_placeholder H name [] (List.replicate 32 0) mid app sigInfo s midB tailA
    hmid htail hle hflex hr rfl hname rfl hnd (by simp) hfitmid hfittail digested comps hd hH hc hcl
  exact ⟨m, (interestCore_appended ..).trans hw, hn, by rw [hp]; rfl⟩

/-- The same for an unsigned Interest that carries ApplicationParameters. -/
theorem parse_make_interest_params (H : Bytes → Bytes) (name : List Bytes) (mid : List Value)
    (app sigInfo : Value) (midB tailA : Bytes)
    (hmid : encFields [.bool 33, .bool 18, linksS, .uint 10 (some 4), .uint 12 none, .uint 34 (some 1)] mid = .ok midB)
    (htail : encFields [.bytes 36 false, intSigInfoS] [app, sigInfo] = .ok tailA)
    (hname : name.all compOk = true) (hnd : ∀ c ∈ name, isDigestComp c = false)
    (hfitmid : fitsFs [.bool 33, .bool 18, linksS, .uint 10 (some 4), .uint 12 none, .uint 34 (some 1)] mid = true)
    (hfittail : fitsFs [.bytes 36 false, intSigInfoS] [app, sigInfo] = true)
    (hne : tailA ≠ []) (hH : (H tailA).length = 32) :
    ∀ (comps : List Bytes), comps = name ++ [2 :: 32 :: H tailA] →
    (concatB comps).length + midB.length + tailA.length + 64 < 2 ^ 64 →
    ∃ m, interestCore H name mid app sigInfo none true none = .ok m ∧ m.finalName = comps ∧
      (parseInterest m.wire).map (·.1) =
        .ok (List.replicate 7 (Value.uint 0) ++ (Value.name comps :: mid) ++
             List.replicate 2 (Value.uint (tlv 7 (concatB comps) ++ midB).length) ++
             [app, sigInfo, Value.none] ++ [Value.none]) := fun comps hc hcl => by
  obtain ⟨m, hw, hn, hp⟩ := parse_make_interest_params_placeholder H name [] (List.replicate 32 0) mid app sigInfo midB
    tailA hmid htail rfl hname rfl hnd (by simp) hfitmid hfittail hne hH comps hc hcl
  exact ⟨m, (interestCore_appended ..).trans hw, hn, by rw [hp]; rfl⟩

/-- `parse_interest(make_interest(name, param))` for a plain Interest: the name and every parameter value come
    back, the rest is absent. -/
theorem parse_make_interest_plain (H : Bytes → Bytes) (name : List Bytes) (mid : List Value) (midB : Bytes)
    (hmid : encFields [.bool 33, .bool 18, linksS, .uint 10 (some 4), .uint 12 none, .uint 34 (some 1)] mid = .ok midB)
    (hname : name.all compOk = true) (hnd : ∀ c ∈ name, isDigestComp c = false)
    (hfitmid : fitsFs [.bool 33, .bool 18, linksS, .uint 10 (some 4), .uint 12 none, .uint 34 (some 1)] mid = true)
    (hcl : (concatB name).length + midB.length + 64 < 2 ^ 64) :
    ∃ m, makeInterest H name mid .none .none none = .ok m ∧ m.finalName = name ∧
      (parseInterest m.wire).map (·.1) =
        .ok (List.replicate 7 (Value.uint 0) ++ (Value.name name :: mid) ++ List.replicate 6 Value.none) := by
  refine ⟨_, make_interest_plain_wire H name mid midB hmid hnd hcl, rfl, ?_⟩
  have h7 := tlv_length_le 7 (concatB name)
  rw [parseInterest_plain name mid midB hmid hname hnd hfitmid (by simp only [List.length_append]; omega)]
  rfl

example :
    (do let m ← makeInterest (fun _ => List.replicate 32 9) [[8, 1, 97]]
                  [.bool, .none, .none, .uint 7, .none, .uint 3] (.bytes [1]) .none none
        let (vs, _) ← parseInterest m.wire
        pure (m.finalName, vs)) =
    .ok ([[8, 1, 97], 2 :: 32 :: List.replicate 32 9],
         List.replicate 7 (Value.uint 0) ++
           [Value.name [[8, 1, 97], 2 :: 32 :: List.replicate 32 9], .bool, .none, .none, .uint 7, .none, .uint 3] ++
           [.uint 50, .uint 50, .bytes [1], .none, .none, .none]) := by
  rfl

/-! a placeholder in the middle of the name -/
example :
    (do let m ← makeInterest (fun _ => List.replicate 32 9) [[8, 1, 97], 2 :: 32 :: List.replicate 32 0, [8, 1, 98]]
                  [.bool, .none, .none, .uint 7, .none, .uint 3] (.bytes [1]) .none none
        let (vs, p) ← parseInterest m.wire
        pure (m.finalName, vs[7]?, p.digestValue)) =
    .ok ([[8, 1, 97], 2 :: 32 :: List.replicate 32 9, [8, 1, 98]],
         some (Value.name [[8, 1, 97], 2 :: 32 :: List.replicate 32 9, [8, 1, 98]]),
         some (List.replicate 32 9)) := by
  rfl

end Ndn.C01
