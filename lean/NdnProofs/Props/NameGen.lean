import NdnGen.NameGen
import NdnProofs.Props.ComponentGen
import NdnProofs.Lemmas.NameWire
/-!
  The wire-level functions of `src/ndn/encoding/name/Name.py` - `encoded_length`, `encode`, `decode` and the
  FormalName core of `is_prefix` - TRANSLATED from the source text on every run (`harness/py2lean.py` ->
  `lean/NdnGen/NameGen.lean`: `reduce(lambda ...)` is a left fold, `for comp in name:` is `Py.forEach`, the
  `while length > 0:` loop is a definition by recursion on a fuel argument) are equal, for ALL inputs, to the
  hand-written functions of the name model (`NdnModel/Name.lean`, namespace `Ndn.Name`) the C09 theorems are about.
-/
namespace Ndn.NameGen
open Ndn Ndn.Py Ndn.TlvVarGen Ndn.ComponentGen

theorem all_translated :
    Gen.NameGen.encoded_length_translated = true ∧ Gen.NameGen.encode_translated = true ∧
    Gen.NameGen.decode_translated = true ∧ Gen.NameGen.is_prefix_translated = true := by decide

/-- `reduce(lambda x, y: x + len(y), name, a)`, after `len_eq` -/
theorem reduce_len (n : List Bytes) (a : Nat) :
    Py.reduce (fun (x : Int) (y : Bytes) => x + ((y.length : Nat) : Int)) n (a : Int) = ((a + n.flatten.length : Nat) : Int) := by
  induction n generalizing a with
  | nil => rfl
  | cons c r ih =>
    rw [Py.reduce_cons, add_natCast, ih, List.flatten_cons, List.length_append, Nat.add_assoc]

theorem encoded_length_eq (n : List Bytes) :
    Gen.NameGen.encoded_length n = .ok (((Name.encode n).length : Nat) : Int) := by
  simp only [Gen.NameGen.encoded_length, lit_natCast, len_eq, reduce_len, Nat.zero_add, get_tl_num_size_eq, ok_bind, add_natCast,
    Name.encode_length]
  rfl

/-- **Name.is_prefix** on FormalNames (lists of byte strings, on which `normalize` returns an equal list): the last
    two lines of the source; never raises. -/
theorem is_prefix_core_eq (lhs rhs : List Bytes) :
    Gen.NameGen.is_prefix lhs rhs = .ok (Name.isPrefix lhs rhs) := by
  simp only [Gen.NameGen.is_prefix, Name.isPrefix, lit_natCast, len_eq, slice_natCast, Int.ofNat_le, pySlice, List.drop_zero,
    pure_eq_ok, Except.ok.injEq]
  rw [Bool.eq_iff_iff]
  simp only [decide_eq_true_eq, Bool.and_eq_true, beq_iff_eq]

/-- the `for comp in name:` loop of `encode`, whichever slice assignment (bytearray, memoryview) the body `f` uses:
    it writes the components one after the other, that is, their concatenation -/
theorem encode_loop (f : Bytes → Bytes × Int → Except PyErr (Bytes × Int))
    (hf : ∀ (comp buf : Bytes) (n : Nat), n + comp.length ≤ buf.length →
      f comp (buf, (n : Int)) = (blit buf n comp).map fun b => (b, ((n + comp.length : Nat) : Int)))
    (cs : List Bytes) : ∀ (buf : Bytes) (n : Nat), n + cs.flatten.length ≤ buf.length →
    Py.forEach cs (buf, (n : Int)) f = (blit buf n cs.flatten).map fun b => (b, ((n + cs.flatten.length : Nat) : Int)) := by
  induction cs with
  | nil => intro buf n hk; rw [List.flatten_nil, blit_nil buf n (by simpa using hk)]; rfl
  | cons c r ih =>
    intro buf n hk
    rw [List.flatten_cons, List.length_append] at hk
    rw [Py.forEach_cons, hf c buf n (by omega), except_bind_map, List.flatten_cons, List.length_append, ← Nat.add_assoc,
      ← blit_blit, except_map_bind]
    exact bind_congr_ok fun b hb => ih b _ (by rw [blit_length hb]; omega)

/-- **Name.encode** into a fresh buffer (`buf` omitted / `None`), every list of byte strings shorter than 2^62 bytes in
    total: exactly `Ndn.Name.encode name`; nothing raises. -/
theorem encode_eq (n : List Bytes) (hl : n.flatten.length < 2 ^ 62) :
    Gen.NameGen.encode n none 0 = .ok (Name.encode n, none) := by
  have s2 := tlNumSize_le_nine n.flatten.length
  have t7 : tlNumSize 7 = 1 := rfl
  simp only [Gen.NameGen.encode, lit_natCast, len_eq, reduce_len, Nat.zero_add, get_tl_num_size_eq, ok_bind, add_natCast,
    bytearrayOfSize_natCast (show n.flatten.length + 1 + tlNumSize n.flatten.length < 2 ^ 63 by omega),
    write_tl_num_blit (show 7 < 2 ^ 64 by decide) (show 0 < 2 ^ 63 by decide),
    write_tl_num_blit (show n.flatten.length < 2 ^ 64 by omega) (show tlNumSize 7 < 2 ^ 63 by decide), except_bind_map]
  rw [blit_bind_blit _ _ _ _ _ _ (by rw [writeTlNum_length, Nat.zero_add]),
    blit_bind_map (c := n.flatten) (by rw [List.length_append, writeTlNum_length, writeTlNum_length, Nat.zero_add])
      fun a ha => encode_loop _ ?hf n a _ (by rw [ha, List.length_replicate, t7]; omega),
    blit_all _ _ (by simp only [List.length_append, writeTlNum_length, List.length_replicate, t7]; omega)]
  rfl
  case hf =>
    intro comp buf k hc
    rw [← setSlice_blit buf comp k hc]
    rfl

/-- **Name.encode** into a buffer supplied by the caller (not empty), at an offset `0 ≤ o < 2^62`, the components
    shorter than 2^62 bytes in total: `IndexError` when the buffer is too short, otherwise the buffer - which is also
    what is returned - holds `Ndn.Name.encode name` at the offset and is unchanged elsewhere. -/
theorem encode_into_eq (n : List Bytes) (buf : Bytes) (o : Nat) (hb : buf ≠ []) (hl : n.flatten.length < 2 ^ 62)
    (ho : o < 2 ^ 62) :
    Gen.NameGen.encode n (some buf) o =
      if buf.length < (Name.encode n).length + o then .error .indexError
      else .ok (buf.take o ++ Name.encode n ++ buf.drop (o + (Name.encode n).length),
                some (buf.take o ++ Name.encode n ++ buf.drop (o + (Name.encode n).length))) := by
  have s2 := tlNumSize_le_nine n.flatten.length
  have t7 : tlNumSize 7 = 1 := rfl
  simp only [Gen.NameGen.encode, lit_natCast, len_eq, reduce_len, Nat.zero_add, get_tl_num_size_eq, ok_bind, add_natCast,
    if_pos hb, Int.ofNat_lt, ← Name.encode_length]
  split
  · rfl
  · rename_i hs
    rw [Name.encode_length] at hs
    simp only [write_tl_num_blit (show 7 < 2 ^ 64 by decide) (show o < 2 ^ 63 by omega),
      write_tl_num_blit (show n.flatten.length < 2 ^ 64 by omega) (show o + tlNumSize 7 < 2 ^ 63 by omega), except_bind_map,
      add_natCast]
    rw [blit_bind_blit _ _ _ _ _ _ (by rw [writeTlNum_length]),
      blit_bind_map (c := n.flatten) (by rw [List.length_append, writeTlNum_length, writeTlNum_length, Nat.add_assoc])
        fun a ha => encode_loop _ ?hf n a _ (by rw [ha, t7]; omega),
      show writeTlNum 7 ++ writeTlNum n.flatten.length ++ n.flatten = Name.encode n from rfl,
      blit_ok _ _ _ (by rw [Name.encode_length]; omega)]
    rfl
    case hf =>
      intro comp buf k hc
      simp only [add_natCast, setSliceSameSize_blit buf comp k hc]
      cases blit buf k comp <;> rfl

/-- an EMPTY buffer passed (`if not buf` is true for it) runs the code of `None` -/
theorem encode_empty (n : List Bytes) (o : Int) :
    Gen.NameGen.encode n (some []) o = (Gen.NameGen.encode n none o).map fun p => (p.1, some []) := by
  simp only [Gen.NameGen.encode, ne_eq, not_true_eq_false, if_false, except_map_bind]
  rfl

/-- ... so a fresh buffer is used, and the caller's stays empty -/
theorem encode_eq_empty (n : List Bytes) (hl : n.flatten.length < 2 ^ 62) :
    Gen.NameGen.encode n (some []) 0 = .ok (Name.encode n, some []) := by
  rw [encode_empty, encode_eq n hl]
  rfl

/-- the state of the translated loop at its end: `length` = 0, since it ends only when the declared Length is used up -/
def loopRes (r : List Bytes × Nat) : Int × Int × List Bytes := ((r.2 : Int), (0 : Int), r.1)

theorem loop_eq (buf : Bytes) : ∀ (fuel off length : Nat) (acc : List Bytes), length < fuel →
    Gen.NameGen.decode_loop_1 buf fuel ((off : Int), (length : Int), acc)
      = (Name.decodeLoop buf fuel off length acc).map loopRes := by
  intro fuel
  induction fuel with
  | zero => intro off length acc h; omega
  | succ f ih =>
    intro off length acc hlt
    rw [Gen.NameGen.decode_loop_1, Name.decodeLoop]
    simp only [lit_natCast, gt_iff_lt, Int.ofNat_lt, Nat.pos_iff_ne_zero, ite_not, parse_tl_num_eq, except_bind_map, castPair,
      add_natCast, except_map_bind, apply_ite (Except.map loopRes), Nat.add_assoc, natCast_add_sub_cancel,
      Nat.add_sub_cancel_left, slice_natCast]
    split
    · subst length; rfl
    refine bind_congr_pair fun t st h1 => bind_congr_pair fun lc sl _ => ?_
    dsimp only
    split
    · rfl
    · rename_i h
      have p1 := (parseTlNum_pos h1).1
      rw [sub_natCast (Nat.le_of_not_lt h), ih _ _ _ (by omega)]

def castRes (r : List Bytes × Nat) : List Bytes × Int := (r.1, ((r.2 : Nat) : Int))

theorem decode_at_natCast (buf : Bytes) (off : Nat) :
    Gen.NameGen.decode buf (off : Int) = (Name.decodeAt buf off).map castRes := by
  simp only [Gen.NameGen.decode, Name.decodeAt, lit_natCast, parse_tl_num_eq, except_bind_map, castPair, add_natCast, len_eq,
    Int.natCast_inj, ne_eq, except_map_bind, apply_ite (Except.map castRes), show Name.TYPE_NAME = 7 from rfl]
  refine bind_congr_pair fun typ st _ => ?_
  dsimp only
  split
  · rfl
  refine bind_congr_pair fun length sl h2 => ?_
  dsimp only
  have w2 := parseTlNum_le h2
  simp only [sub_natCast w2, gt_iff_lt, Int.ofNat_lt, Int.toNat_natCast]
  split
  · rfl
  · rename_i hov
    rw [loop_eq buf _ _ _ _ (Nat.lt_succ_self _), except_bind_map]
    refine bind_congr_pair fun cs used hm => ?_
    -- the loop ends exactly at the end of the declared Length, so the subtraction of the model is exact
    have hu := (decodeLoop_ok_exact buf _ _ _ _ _ _ (by omega) hm).1
    subst hu
    simp only [loopRes, Nat.add_assoc, natCast_add_sub_cancel, Nat.add_sub_cancel_left]
    rfl

/-- **Name.decode** at offset 0, EVERY byte string: the same components and number of bytes consumed as the model, the
    same exception class (`ValueError` not a Name, `IndexError` - also for a component that runs past the declared
    Length -, `struct.error`).  No fuel hypothesis: the bound `length + 1` is never exhausted (`decode_fuel_suffices`). -/
theorem decode_eq (buf : Bytes) :
    Gen.NameGen.decode buf 0 = (Name.decode buf).map castRes := by
  rw [← decodeAt_zero]; exact decode_at_natCast buf 0

theorem decode_error_class {buf : Bytes} {e : PyErr} (h : Gen.NameGen.decode buf 0 = .error e) :
    e = .valueError ∨ e = .indexError ∨ e = .structError := by
  rw [decode_eq] at h
  cases hm : Name.decode buf with
  | error e1 => rw [hm] at h; cases h; exact Name.decode_error_class hm
  | ok r => rw [hm] at h; cases h

/-- **the fuel of the translated `while` loop is never exhausted** (and nothing else "not modelled" is reached):
    `decode` never returns `PyErr.other`, the marker of both. -/
theorem decode_fuel_suffices (buf : Bytes) : Gen.NameGen.decode buf 0 ≠ .error .other := by
  intro h; have := decode_error_class h; simp at this

theorem decode_error_of_model {buf : Bytes} {e : PyErr} (h : Name.decode buf = .error e) :
    Gen.NameGen.decode buf 0 = .error e := by
  rw [decode_eq, h]; rfl

theorem decode_ok_model {buf : Bytes} {cs : List Bytes} {n : Int} (h : Gen.NameGen.decode buf 0 = .ok (cs, n)) :
    Name.decode buf = .ok (cs, n.toNat) ∧ 0 ≤ n := by
  rw [decode_eq] at h
  cases hm : Name.decode buf with
  | error e1 => rw [hm] at h; cases h
  | ok r =>
    rw [hm] at h
    cases h
    exact ⟨by simp, by simp⟩

theorem decode_ok_of_model {buf : Bytes} {cs : List Bytes} {n : Nat} (h : Name.decode buf = .ok (cs, n)) :
    Gen.NameGen.decode buf 0 = .ok (cs, (n : Int)) := by
  rw [decode_eq, h]; rfl

/-- **Name.decode at an offset**, EVERY byte string, EVERY offset `0 ≤ off`: components, bytes consumed
    (`offset - origin_offset`) and exception class are those of `Ndn.Name.decodeAt buf off`; no fuel hypothesis. -/
theorem decode_at_eq (buf : Bytes) (off : Int) (h : 0 ≤ off) :
    Gen.NameGen.decode buf off = (Name.decodeAt buf off.toNat).map castRes := by
  have := decode_at_natCast buf off.toNat
  rwa [Int.toNat_of_nonneg h] at this

/-- ... which is decoding the SUFFIX `buf[off:]` from its start, whatever the bytes before the offset are.
    `off ≥ len(buf)`: the suffix is empty, `IndexError`. -/
theorem decode_at_drop (buf : Bytes) (off : Int) (h : 0 ≤ off) :
    Gen.NameGen.decode buf off = (Name.decode (buf.drop off.toNat)).map castRes := by
  rw [decode_at_eq buf off h, decodeAt_eq_drop]

theorem decode_at_suffix (buf : Bytes) (off : Int) (h : 0 ≤ off) :
    Gen.NameGen.decode buf off = Gen.NameGen.decode (buf.drop off.toNat) 0 := by
  rw [decode_at_drop buf off h, decode_eq]

theorem decode_at_outside (buf : Bytes) (off : Int) (h : (buf.length : Int) ≤ off) :
    Gen.NameGen.decode buf off = .error .indexError := by
  rw [decode_at_eq buf off (by omega), decodeAt_outside buf _ (by omega)]; rfl

theorem decode_at_fuel_suffices (buf : Bytes) (off : Int) (h : 0 ≤ off) : Gen.NameGen.decode buf off ≠ .error .other := by
  rw [decode_at_suffix buf off h]; exact decode_fuel_suffices _

/-! NEGATIVE offsets: what the source does.
`parse_tl_num` reads `buf[offset]`, which Python indexes from the end for `offset < 0`, and its slices
`buf[offset+1:offset+3]` normalise a negative bound but NOT a bound that has reached 0; `decode` uses the number as it
is in `length > len(buf) - offset` (the test is WEAKER by `|offset|`) and in the slices `buf[st:offset]`.  So:
`offset < -len(buf)` is an `IndexError` (`decode_below`); for `-len(buf) ≤ offset < 0` the call behaves like the
equivalent offset `len(buf) + offset` as long as no offset reaches 0, i.e. when the Name element ends strictly before the
end of the buffer (`decode_neg_ok`); when it ends exactly WITH the buffer the last slice is `buf[st:0]` = empty, and an
offset that reaches 0 goes on reading at the START of the buffer (the two `example`s at the end of this file). -/

theorem loop_wrap (buf : Bytes) : ∀ (fuel a length : Nat) (acc : List Bytes) (r : List Bytes × Nat), length < fuel →
    a + length < buf.length → Name.decodeLoop buf fuel a length acc = .ok r →
    Gen.NameGen.decode_loop_1 buf fuel ((a : Int) - (buf.length : Int), (length : Int), acc)
      = .ok ((r.2 : Int) - (buf.length : Int), (0 : Int), r.1) := by
  intro fuel
  induction fuel with
  | zero => intro a length acc r h; omega
  | succ f ih =>
    intro a length acc r hlt hin h
    rw [Gen.NameGen.decode_loop_1]
    rcases decodeLoop_succ_ok h with ⟨rfl, rfl⟩ | ⟨n, hn, hle, h⟩
    · rfl
    · obtain ⟨t, st, lc, sl, h1, h2, rfl⟩ := elemLen_ok_iff.1 hn
      rw [Nat.add_assoc] at hle h
      have p1 := (parseTlNum_pos h1).1
      have p2 := (parseTlNum_pos h2).1
      rw [if_pos (Int.natCast_pos.2 (by omega)), parse_tl_num_wrap h1 (by omega)]
      simp only [ok_bind, sub_add_natCast, parse_tl_num_wrap h2 (.inl (by omega)), add_natCast, Nat.add_assoc,
        sub_sub_sub_natCast, gt_iff_lt, Int.ofNat_lt, if_neg (Nat.not_lt.2 hle), sub_natCast hle,
        slice_wrap buf (show a < buf.length by omega) (show a + (st + (sl + lc)) < buf.length by omega)]
      exact ih _ _ _ _ (by omega) (by omega) h

/-- **an offset below `-len(buf)`**: `IndexError` (the first `buf[offset]` of `parse_tl_num`) -/
theorem decode_below (buf : Bytes) (off : Int) (h : off + (buf.length : Int) < 0) :
    Gen.NameGen.decode buf off = .error .indexError := by
  simp only [Gen.NameGen.decode, Gen.TlvVar.parse_tl_num, bytesGet_below buf off h, error_bind]

theorem decode_wrap (buf : Bytes) (a : Nat) (cs : List Bytes)
    (n : Nat) (hn : a + n < buf.length) (h : Name.decodeAt buf a = .ok (cs, n)) :
    Gen.NameGen.decode buf ((a : Int) - (buf.length : Int)) = .ok (cs, (n : Int)) := by
  obtain ⟨st, length, sl, h1, h2, hfit, rfl, hm⟩ := decodeAt_ok h
  have p1 := (parseTlNum_pos h1).1
  have p2 := (parseTlNum_pos h2).1
  -- used before the arithmetic: an equation about `decodeLoop` at fuel `_ + 1` in the context makes every `omega` slow
  replace hm := loop_wrap buf _ _ _ _ _ (Nat.lt_succ_self _) (by omega) hm
  simp only [Gen.NameGen.decode, parse_tl_num_wrap h1 (.inl (by omega)), ok_bind, sub_add_natCast, lit_natCast,
    ne_eq, show Name.TYPE_NAME = 7 from rfl, not_true_eq_false, if_false,
    parse_tl_num_wrap h2 (.inl (by omega)), len_eq, add_natCast, Int.toNat_natCast, hm]
  rw [if_neg (by omega)]
  simp only [Nat.add_assoc, sub_sub_sub_natCast]
  rfl

/-- **NEGATIVE offsets `-len(buf) ≤ -k < 0`, the case in which they mean what Python users expect**: when decoding at
    the equivalent offset `len(buf) - k` succeeds and the Name element ends STRICTLY before the end of the buffer
    (`n < k`), `Name.decode(buf, -k)` returns the same components and count.  (An element that reaches the end of the
    buffer is outside this theorem and the model: TRUSTED in harness/props/c09.py.) -/
theorem decode_neg_ok (buf : Bytes) (k : Nat) (cs : List Bytes) (n : Nat) (hk : k ≤ buf.length) (hn : n < k)
    (h : Name.decodeAt buf (buf.length - k) = .ok (cs, n)) :
    Gen.NameGen.decode buf (-(k : Int)) = .ok (cs, (n : Int)) := by
  rw [show -(k : Int) = ((buf.length - k : Nat) : Int) - (buf.length : Int) by omega]
  exact decode_wrap buf (buf.length - k) cs n (by omega) h

example : Gen.NameGen.decode [7, 5, 8, 1, 0x61, 8, 0, 9] 0 = .ok ([[8, 1, 0x61], [8, 0]], 7) := by decide +kernel
/-- a component that runs past the declared Length of the Name: the source and the model raise IndexError -/
example : Gen.NameGen.decode [7, 3, 8, 5, 0x61] 0 = .error .indexError ∧ Name.decode [7, 3, 8, 5, 0x61] = .error .indexError := by
  decide +kernel
/-- also when the overrunning component lies wholly inside the buffer (Length 3, component of 4 bytes, then more bytes) -/
example : Gen.NameGen.decode [7, 3, 8, 2, 0x61, 0x62, 8, 0] 0 = .error .indexError ∧
    Name.decode [7, 3, 8, 2, 0x61, 0x62, 8, 0] = .error .indexError := by
  decide +kernel
example : Gen.NameGen.decode [6, 0] 0 = .error .valueError := by decide +kernel
example : Gen.NameGen.decode [0xAA, 7, 2, 8, 0, 0xBB] 1 = .ok ([[8, 0]], 4) := by decide +kernel
example : Gen.NameGen.decode [7, 2, 8, 0] 4 = .error .indexError := by decide +kernel
/-- negative offset, the element ends before the end of the buffer: as at offset `len(buf) - 5` -/
example : Gen.NameGen.decode [0xAA, 7, 2, 8, 0, 0xBB] (-5) = .ok ([[8, 0]], 4) := by decide +kernel
example : Gen.NameGen.decode [7, 2, 8, 0] (-5) = .error .indexError := by decide +kernel
/-- WHAT THE SOURCE DOES with a negative offset when the element ends with the buffer: the last component is the empty
    slice `buf[-2:0]` - no exception, wrong components (`[b'']` instead of `[b'\x08\x00']`) -/
example : Gen.NameGen.decode [7, 2, 8, 0] (-4) = .ok ([[]], 4) := by decide +kernel
/-- ... and when an offset reaches 0 the reading goes on at the START of the buffer: Type 7 is the LAST byte, Length and
    the component are the first three -/
example : Gen.NameGen.decode [2, 8, 0, 7] (-1) = .ok ([[8, 0]], 4) := by decide +kernel
example : Gen.NameGen.decode [7, 0xFD, 1] 0 = .error .structError := by decide +kernel
example : Gen.NameGen.encode [[8, 1, 0x61], [8, 0]] none 0 = .ok ([7, 5, 8, 1, 0x61, 8, 0], none) := by decide +kernel
example : Gen.NameGen.encode [[8, 1, 0x61]] (some [1, 2, 3, 4, 5, 6, 7]) 1 = .ok ([1, 7, 3, 8, 1, 0x61, 7], some [1, 7, 3, 8, 1, 0x61, 7]) := by
  decide +kernel
example : Gen.NameGen.encode [[8, 1, 0x61]] (some [1, 2, 3]) 0 = .error .indexError := by decide +kernel
example : Gen.NameGen.encoded_length [[8, 1, 0x61], [8, 0]] = .ok 7 := by decide +kernel
example : Gen.NameGen.is_prefix [[8, 1, 0x61]] [[8, 1, 0x61], [8, 0]] = .ok true := by decide +kernel
example : Gen.NameGen.is_prefix [[8, 1, 0x61], [8, 0]] [[8, 1, 0x61]] = .ok false := by decide +kernel
example : Gen.NameGen.is_prefix [[8, 1, 0x62]] [[8, 1, 0x61], [8, 0]] = .ok false := by decide +kernel

end Ndn.NameGen
