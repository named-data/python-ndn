import NdnModel.CertTime
import NdnProofs.Lemmas.Calendar
import NdnProofs.Lemmas.PacketEnc
import NdnProofs.Props.C08
/-!
# C16 — Issued certificates are well-formed, correctly named and verifiable

Model: `Ndn.Cert.newCert` (security_v2.new_cert: Value encoded with reserved signature space, the outer
Type/Length written by hand around the Value minus the unused reserved bytes).  For every key name,
issuer id, version, public key, validity instants and every signer behaviour.

The validity period: `Ndn.Cert.Issue.instants` / `validity` (derive_cert, sign_req, self_sign over the calendar
model `Ndn.Calendar`) and `fmtInstant` (`_fmt_time`).  The tzinfo of an aware start time is any function from
wall-clock readings (and `fold`) to UTC offsets (`Calendar.Zone`): fixed-offset and daylight-saving zones alike.
`validYmd`, `representable` and `utcAbs`, in which the calendar statements are written, are defined in `Lemmas/Calendar`.
-/
namespace Ndn.C16
open Ndn Ndn.Codec Ndn.Packet Ndn.Cert Ndn.Calendar

/-- The certificate is exactly `tlv DATA (Name ++ MetaInfo ++ Content ++ SignatureInfo ++ tlv SIGNATURE_VALUE sig)`,
    with exact, shortest Lengths, for a signature that fills the reserved space and for a shorter one where the library
    accepts that (`hflex`: reserved space below 253, so that one Length octet is patched; otherwise `ValueError`). -/
theorem cert_wire (keyName : List Bytes) (issuer version pubKey : Bytes) (signerInfo : List Value)
    (nb na : Bytes) (s : SignerOut) (p : Bytes)
    (hp : encFields [nameS, metaS, contentS, certSigInfoS]
      [.name (keyName ++ [issuer, version]), certMeta, .bytes pubKey, certSigInfo signerInfo nb na] = .ok p)
    (hle : s.sig.length ≤ s.reserved) (hflex : s.sig.length = s.reserved ∨ s.reserved < 253)
    (hsize : p.length + s.reserved + 12 < 2 ^ 64) :
    newCert keyName issuer version pubKey signerInfo nb na s =
      .ok { wire := tlv 6 (p ++ tlv 23 s.sig), covered := [p], finalName := keyName ++ [issuer, version] } := by
  obtain ⟨junk, hsv, hj⟩ := sigValueElem_tlv 23 s hle (by omega) hflex
  unfold newCert
  simp only [hp, bind, Except.bind, hsv, ← List.append_assoc, take_sub_append]
  -- the 12 of `hsize` covers the head of the SignatureValue: one byte of Type 23 and a Length of at most nine
  have hlen : ¬ (p ++ tlv 23 s.sig).length ≥ 2 ^ 64 := by
    have := tlNumSize_cases s.sig.length
    simp only [List.length_append, tlv_length, show tlNumSize 23 = 1 from rfl]; omega
  rw [if_neg hlen]
  simp only [pure, Except.pure, tlv, List.append_assoc]

/-- Every successful `newCert`, whatever the signer returned, names the certificate
    key-name / issuer-id / version. -/
theorem cert_name (keyName : List Bytes) (issuer version pubKey : Bytes) (signerInfo : List Value)
    (nb na : Bytes) (s : SignerOut) (m : Made)
    (h : newCert keyName issuer version pubKey signerInfo nb na s = .ok m) :
    m.finalName = keyName ++ [issuer, version] := by
  unfold newCert at h
  obtain ⟨p, _, h2⟩ := bind_ok h
  obtain ⟨⟨sv, shrink⟩, _, h3⟩ := bind_ok h2
  simp only [] at h3
  split at h3
  · cases h3
  · simp only [pure, Except.pure, Except.ok.injEq] at h3; subst h3; rfl

/-- The issuing signer is handed exactly the encoded Name, MetaInfo, Content and SignatureInfo: the bytes of the
    certificate that precede its SignatureValue. -/
theorem cert_signed_portion (keyName : List Bytes) (issuer version pubKey : Bytes) (signerInfo : List Value)
    (nb na : Bytes) (s : SignerOut) (a b c d : Bytes)
    (ha : enc nameS (.name (keyName ++ [issuer, version])) = .ok a) (hb : enc metaS certMeta = .ok b)
    (hc : enc contentS (.bytes pubKey) = .ok c) (hd : enc certSigInfoS (certSigInfo signerInfo nb na) = .ok d)
    (hle : s.sig.length ≤ s.reserved) (hflex : s.sig.length = s.reserved ∨ s.reserved < 253)
    (hsize : (a ++ b ++ c ++ d).length + s.reserved + 12 < 2 ^ 64) :
    newCert keyName issuer version pubKey signerInfo nb na s =
      .ok { wire := tlv 6 ((a ++ b ++ c ++ d) ++ tlv 23 s.sig), covered := [a ++ b ++ c ++ d],
            finalName := keyName ++ [issuer, version] } := by
  have hp : encFields [nameS, metaS, contentS, certSigInfoS]
      [.name (keyName ++ [issuer, version]), certMeta, .bytes pubKey, certSigInfo signerInfo nb na]
      = .ok (a ++ b ++ c ++ d) := by
    simp [encFields, ha, hb, hc, hd, bind, Except.bind, pure, Except.pure, List.append_assoc]
  exact cert_wire keyName issuer version pubKey signerInfo nb na s _ hp hle hflex hsize

/-- the certificate Value field list without the marker pseudo-fields -/
def certValueFs : List Schema := [nameS, metaS, contentS, certSigInfoS, .bytes 23 false]

/-- Decoding the Value of an issued certificate returns the fields and the signature that went in. -/
theorem parse_cert_roundtrip (name : List Bytes) (pubKey : Bytes) (signerInfo : List Value) (nb na sig p : Bytes)
    (hp : encFields [nameS, metaS, contentS, certSigInfoS]
      [.name name, certMeta, .bytes pubKey, certSigInfo signerInfo nb na] = .ok p)
    (hfit : fitsFs [nameS, metaS, contentS, certSigInfoS]
      [.name name, certMeta, .bytes pubKey, certSigInfo signerInfo nb na] = true)
    (hsig : sig.length < 2 ^ 64) :
    parse certValueFs false (p ++ tlv 23 sig) =
      .ok [.name name, certMeta, .bytes pubKey, certSigInfo signerInfo nb na, .bytes sig] := by
  have henc : enc (.bytes 23 false) (.bytes sig) = .ok (tlv 23 sig) := enc_bytes false (by decide) hsig
  exact C08.parse_enc_roundtrip_partial certValueFs _ _ false (by decide)
    (fitsFs_append_one _ _ (.bytes 23 false) (.bytes sig) hfit (by simp [fits]))
    (encFields_append_one _ _ _ _ p _ rfl hp henc)

theorem formatTime_length (y mo d h mi s : Nat) : (formatTime y mo d h mi s).length = 15 := by
  simp [formatTime, fmt4, fmt2]

theorem digit_toNat (n : Nat) : (digit n).toNat = 48 + n % 10 := by
  simp [digit, UInt8.toNat_ofNat']; omega

/-- the decimal digit at place `k` and the digits above it determine the number from that place up -/
theorem digit_step {a b k : Nat} (hd : digit (a / k) = digit (b / k)) (hq : a / (k * 10) = b / (k * 10)) :
    a / k = b / k := by
  have := congrArg UInt8.toNat hd
  rw [← Nat.div_div_eq_div_mul, ← Nat.div_div_eq_div_mul] at hq
  rw [digit_toNat, digit_toNat] at this; omega

theorem fmt2_inj {a b : Nat} (ha : a < 100) (hb : b < 100) (h : fmt2 a = fmt2 b) : a = b := by
  simp only [fmt2, List.cons.injEq, and_true] at h
  have h1 : a / 10 = b / 10 := digit_step h.1 (by rw [Nat.div_eq_of_lt ha, Nat.div_eq_of_lt hb])
  rw [← Nat.div_one a, ← Nat.div_one b] at h ⊢
  exact digit_step h.2 h1

theorem fmt4_inj {a b : Nat} (ha : a < 10000) (hb : b < 10000) (h : fmt4 a = fmt4 b) : a = b := by
  simp only [fmt4, List.cons.injEq, and_true] at h
  have h3 : a / 1000 = b / 1000 := digit_step h.1 (by rw [Nat.div_eq_of_lt ha, Nat.div_eq_of_lt hb])
  have h2 : a / 100 = b / 100 := digit_step h.2.1 h3
  have h1 : a / 10 = b / 10 := digit_step h.2.2.1 h2
  rw [← Nat.div_one a, ← Nat.div_one b] at h ⊢
  exact digit_step h.2.2.2 h1

/-- The `YYYYMMDDTHHMMSS` text loses nothing (years 0..9999, the other fields below 100). -/
theorem formatTime_inj (y mo d h mi s y' mo' d' h' mi' s' : Nat)
    (hy : y < 10000) (hy' : y' < 10000) (hmo : mo < 100) (hmo' : mo' < 100) (hd : d < 100) (hd' : d' < 100)
    (hh : h < 100) (hh' : h' < 100) (hmi : mi < 100) (hmi' : mi' < 100) (hs : s < 100) (hs' : s' < 100)
    (e : formatTime y mo d h mi s = formatTime y' mo' d' h' mi' s') :
    y = y' ∧ mo = mo' ∧ d = d' ∧ h = h' ∧ mi = mi' ∧ s = s' := by
  -- the fields have fixed widths: peel them off from the right
  unfold formatTime at e
  obtain ⟨e, es⟩ := List.append_inj' e rfl
  obtain ⟨e, emi⟩ := List.append_inj' e rfl
  obtain ⟨e, eh⟩ := List.append_inj' e rfl
  obtain ⟨e, -⟩ := List.append_inj' e rfl
  obtain ⟨e, ed⟩ := List.append_inj' e rfl
  obtain ⟨ey, emo⟩ := List.append_inj' e rfl
  exact ⟨fmt4_inj hy hy' ey, fmt2_inj hmo hmo' emo, fmt2_inj hd hd' ed, fmt2_inj hh hh' eh,
    fmt2_inj hmi hmi' emi, fmt2_inj hs hs' es⟩

theorem formatTime_form (y mo d h mi s : Nat) :
    (formatTime y mo d h mi s).length = 15 ∧ (formatTime y mo d h mi s)[8]? = some 84 ∧
    ∀ b ∈ formatTime y mo d h mi s, b = 84 ∨ (48 ≤ b.toNat ∧ b.toNat ≤ 57) := by
  have hd : ∀ n, digit n = 84 ∨ (48 ≤ (digit n).toNat ∧ (digit n).toNat ≤ 57) :=
    fun n => .inr (by rw [digit_toNat]; omega)
  refine ⟨formatTime_length _ _ _ _ _ _, rfl, ?_⟩
  simp only [formatTime, fmt4, fmt2, List.forall_mem_append, List.forall_mem_cons, hd, and_true,
    List.not_mem_nil, false_imp_iff, implies_true, true_or]

/-- CPython's `_ymd2ord` and `_ord2ymd` are inverse bijections between the valid dates and the ordinals ≥ 1, and the
    dates of the years 1..9999 are exactly the ordinals 1..`_MAXORDINAL`. -/
theorem ord_ymd_roundtrip :
    (∀ y m d, validYmd y m d → ord2ymd (ymd2ord y m d) = (y, m, d)) ∧
    (∀ n, 1 ≤ n → validYmd (ord2ymd n).1 (ord2ymd n).2.1 (ord2ymd n).2.2 ∧
      ymd2ord (ord2ymd n).1 (ord2ymd n).2.1 (ord2ymd n).2.2 = n) ∧
    (∀ y m d, validYmd y m d → y ≤ 9999 → 1 ≤ ymd2ord y m d ∧ ymd2ord y m d ≤ maxOrdinal) ∧
    (∀ n, 1 ≤ n → n ≤ maxOrdinal → (ord2ymd n).1 ≤ 9999) :=
  ⟨ord2ymd_ymd2ord, ord2ymd_sound,
   fun y m d h hy => ⟨ymd2ord_pos h, ymd2ord_le_max y m d h hy⟩,
   fun n h => (year_le_9999_iff n h).2⟩

/-- `dt + timedelta(seconds=n)`, for any integer `n`, is the instant exactly `n` seconds later, and raises
    `OverflowError` exactly when that is before 0001-01-01T00:00:00 or after 9999-12-31T23:59:59. -/
theorem addSeconds_spec (t : Instant) (n : Int) (ht : t.valid) :
    (∀ t', addSeconds t n = .ok t' ↔ t'.valid ∧ t'.abs = t.abs + n ∧ t'.us = t.us) ∧
    (∀ e, addSeconds t n = .error e ↔
      e = .overflowError ∧ (t.abs + n < 86400 ∨ (maxOrdinal + 1) * 86400 ≤ t.abs + n)) := by
  rw [addSeconds_eq t n ht]
  refine ⟨fun t' => ?_, fun e => ?_⟩
  · rw [ite_ok_iff, valid_abs_iff t' _ _ ht.2.2.2]
  · rw [ite_error_iff]
    exact and_congr_right' (by unfold representable; omega)

/-- `dt.replace(year=dt.year + k)` keeps month, day, time of day and microsecond, and raises
    `ValueError` exactly when the year would exceed 9999 or the date is 29 February and the target year is not
    a leap year. -/
theorem addYears_spec (t : Instant) (k : Nat) (ht : t.valid) :
    (∀ t', addYears t k = .ok t' ↔
      ((ord2ymd t.ord).1 + k ≤ 9999 ∧
        ¬ ((ord2ymd t.ord).2.1 = 2 ∧ (ord2ymd t.ord).2.2 = 29 ∧ isLeap ((ord2ymd t.ord).1 + k) = false)) ∧
      t'.valid ∧ ord2ymd t'.ord = ((ord2ymd t.ord).1 + k, (ord2ymd t.ord).2.1, (ord2ymd t.ord).2.2) ∧
      t'.sec = t.sec ∧ t'.us = t.us) ∧
    (∀ e, addYears t k = .error e ↔ e = .valueError ∧
      (9999 < (ord2ymd t.ord).1 + k ∨
        ((ord2ymd t.ord).2.1 = 2 ∧ (ord2ymd t.ord).2.2 = 29 ∧ isLeap ((ord2ymd t.ord).1 + k) = false))) := by
  have hv := (valid_ord2ymd t ht).1
  rw [addYears_eq t k]
  refine ⟨fun t' => ?_, fun e => ?_⟩
  · rw [ite_ok_iff, ← replace_year_valid_iff _ _ _ k hv]
    exact and_congr_right fun h => with_date_iff t t' ht h
  · rw [ite_error_iff, replace_year_invalid_iff _ _ _ k hv]

/-- `astimezone(UTC)` of a datetime whose tzinfo reports the offset `o` for it designates the same moment (a naive
    datetime is taken as it is); `OverflowError` exactly when that moment lies outside the years 1..9999. -/
theorem toUtc_spec (t : Instant) (off : Option Int) (ht : t.valid) :
    (∀ u, toUtc t off = .ok u ↔ u.valid ∧ u.abs = utcAbs t off ∧ u.us = t.us) ∧
    (∀ e, toUtc t off = .error e ↔ e = .overflowError ∧ ¬ representable (utcAbs t off)) := by
  rw [toUtc_eq t off ht]
  exact ⟨fun u => by rw [ite_ok_iff, valid_abs_iff u _ _ ht.2.2.2], fun _ => ite_error_iff⟩

theorem fields_fit (t : Instant) (ht : t.valid) :
    (fields t).1 < 10000 ∧ (fields t).2.1 < 100 ∧ (fields t).2.2.1 < 100 ∧ (fields t).2.2.2.1 < 100 ∧
    (fields t).2.2.2.2.1 < 100 ∧ (fields t).2.2.2.2.2 < 100 := by
  have := fields_range t ht
  omega

/-- The 15-character text determines a valid instant to the second. -/
theorem fmtInstant_inj (s t : Instant) (hs : s.valid) (ht : t.valid) (e : fmtInstant s = fmtInstant t) :
    s.ord = t.ord ∧ s.sec = t.sec := by
  obtain ⟨a1, a2, a3, a4, a5, a6⟩ := fields_fit s hs
  obtain ⟨b1, b2, b3, b4, b5, b6⟩ := fields_fit t ht
  obtain ⟨e1, e2, e3, e4, e5, e6⟩ := formatTime_inj _ _ _ _ _ _ _ _ _ _ _ _ a1 b1 a2 b2 a3 b3 a4 b4 a5 b5 a6 b6 e
  exact fields_inj s t hs ht (Prod.ext e1 (Prod.ext e2 (Prod.ext e3 (Prod.ext e4 (Prod.ext e5 e6)))))

theorem fmtInstant_abs_inj (s t : Instant) (hs : s.valid) (ht : t.valid) (e : fmtInstant s = fmtInstant t) :
    s.abs = t.abs := by
  obtain ⟨h1, h2⟩ := fmtInstant_inj s t hs ht e
  unfold Instant.abs; rw [h1, h2]

/-- For every `Instant` (validity is not needed) the text is fifteen octets, the ninth `T`, every one `T` or a decimal
    digit. -/
theorem fmtInstant_form (t : Instant) :
    (fmtInstant t).length = 15 ∧ (fmtInstant t)[8]? = some 84 ∧
    ∀ b ∈ fmtInstant t, b = 84 ∨ (48 ≤ b.toNat ∧ b.toNat ≤ 57) :=
  formatTime_form _ _ _ _ _ _

theorem utcPair_id (s e : Instant) (hs : s.valid) (he : e.valid) (so eo : Option Int)
    (hso : so.getD 0 = 0) (heo : eo.getD 0 = 0) : utcPair s so e eo = .ok (s, e) := by
  simp only [utcPair, toUtc_id s hs so hso, toUtc_id e he eo heo, bind, Except.bind, pure, Except.pure]

/-- the moment the `start_time` handed to `derive_cert` designates, in seconds since ordinal 0 on the UTC scale:
    a naive reading is taken as UTC, an aware one is its wall-clock reading minus the offset its tzinfo reports
    for it -/
def startUtc (start : Instant) (fold : Bool) (zone : Option Zone) : Int :=
  utcAbs start (zone.map (fun z => z start fold))

/-- `derive_cert` = convert the start to UTC, add the duration there; the second conversion in `new_cert` changes
    nothing -/
theorem derive_eq (start : Instant) (fold : Bool) (zone : Option Zone) (n : Int) (hst : start.valid) :
    (Issue.derive start fold zone n).instants =
      if representable (startUtc start fold zone) ∧ representable (startUtc start fold zone + n) then
        .ok (Instant.ofAbs (startUtc start fold zone) start.us, Instant.ofAbs (startUtc start fold zone + n) start.us)
      else .error .overflowError := by
  unfold startUtc
  simp only [Issue.instants, toUtc_eq start _ hst, bind_ite_ok]
  generalize utcAbs start (zone.map fun z => z start fold) = a
  by_cases h1 : representable a
  · obtain ⟨hs, ha⟩ := ofAbs_spec h1 hst.2.2.2
    rw [if_pos h1, addSeconds_eq _ n hs, ha, bind_ite_ok]
    by_cases h2 : representable (a + n)
    · rw [if_pos h2, if_pos ⟨h1, h2⟩]
      exact utcPair_id _ _ hs (ofAbs_spec h2 hst.2.2.2).1 _ _ (by cases zone <;> rfl) (by cases zone <;> rfl)
    · rw [if_neg h2, if_neg fun h => h2 h.2]
  · rw [if_neg h1, if_neg fun h => h1 h.1]

/-- `derive_cert(…, start_time, expire_sec)`, for a naive start or one aware in ANY tzinfo, writes a validity period
    for the UTC instants `s`, `e` iff `s` is the moment the start time designates and `e` is exactly `expire_sec`
    seconds of elapsed time later.  `OverflowError` iff one of the two lies outside the years 1..9999. -/
theorem derive_instants (start : Instant) (fold : Bool) (zone : Option Zone) (n : Int) (hst : start.valid) :
    (∀ s e, (Issue.derive start fold zone n).instants = .ok (s, e) ↔
      s.valid ∧ s.abs = startUtc start fold zone ∧ s.us = start.us ∧
      e.valid ∧ e.abs = startUtc start fold zone + n ∧ e.us = start.us) ∧
    (∀ x, (Issue.derive start fold zone n).instants = .error x ↔
      x = .overflowError ∧
        ¬ (representable (startUtc start fold zone) ∧ representable (startUtc start fold zone + n))) := by
  rw [derive_eq start fold zone n hst]
  refine ⟨fun s e => ?_, fun _ => ite_error_iff⟩
  rw [ite_ok_iff, Prod.mk.injEq, and_and_and_comm, ← valid_abs_iff s _ _ hst.2.2.2,
    ← valid_abs_iff e _ _ hst.2.2.2]
  simp only [and_assoc]

/-- Two tzinfos that report the same offset for the start reading give the same validity period.  Immediate from the
    model, where (as in `derive_cert`, which calls `start_time.utcoffset()` only) the tzinfo is asked about the start
    reading alone. -/
theorem derive_zone_independent (start : Instant) (fold : Bool) (z z' : Zone) (n : Int)
    (h : z start fold = z' start fold) :
    (Issue.derive start fold (some z) n).instants = (Issue.derive start fold (some z') n).instants := by
  simp only [Issue.instants, Option.map, h]

/-- The (NotBefore, NotAfter) that `derive_cert` writes are the texts of the moment the start time designates and of
    that moment + `expire_sec`, and any valid instants with these texts are those moments, to the second. -/
theorem validity_encodes_requested_instants (start : Instant) (fold : Bool) (zone : Option Zone) (n : Int)
    (hst : start.valid) (nb na : Bytes) (h : (Issue.derive start fold zone n).validity = .ok (nb, na)) :
    ∃ s e : Instant, s.valid ∧ e.valid ∧ s.abs = startUtc start fold zone ∧ e.abs = startUtc start fold zone + n ∧
      nb = fmtInstant s ∧ na = fmtInstant e ∧
      ∀ s' e' : Instant, s'.valid → e'.valid → fmtInstant s' = nb → fmtInstant e' = na →
        s'.abs = startUtc start fold zone ∧ e'.abs = startUtc start fold zone + n := by
  unfold Issue.validity at h
  obtain ⟨⟨s, e⟩, hi, h⟩ := bind_ok h
  simp only [pure, Except.pure, Except.ok.injEq, Prod.mk.injEq] at h
  obtain ⟨hs, hsa, _, he, hea, _⟩ := ((derive_instants start fold zone n hst).1 s e).1 hi
  refine ⟨s, e, hs, he, hsa, hea, h.1.symm, h.2.symm, fun s' e' hs' he' e1 e2 => ⟨?_, ?_⟩⟩
  · rw [← hsa]; exact fmtInstant_abs_inj s' s hs' hs (by rw [e1, h.1])
  · rw [← hea]; exact fmtInstant_abs_inj e' e he' he (by rw [e2, h.2])

/-- The validity period `derive_cert` writes spans exactly `expire_sec` seconds of elapsed time. -/
theorem validity_period_length (start : Instant) (fold : Bool) (zone : Option Zone) (n : Int) (hst : start.valid)
    (s e : Instant) (h : (Issue.derive start fold zone n).instants = .ok (s, e)) : e.abs - s.abs = n := by
  obtain ⟨_, hsa, _, _, hea, _⟩ := ((derive_instants start fold zone n hst).1 s e).1 h
  omega

/-- the sum taken on the wall clock of the start time's zone, each reading converted with the offset the zone reports
    for it; the `example`s with `springForward` below show that it differs from `Issue.derive` -/
def wallClockSum (start : Instant) (fold : Bool) (z : Zone) (n : Int) : Except PyErr (Instant × Instant) := do
  let e ← addSeconds start n
  utcPair start (some (z start fold)) e (some (z e false))

theorem req_eq (now1 now2 : Instant) (h1 : now1.valid) (h2 : now2.valid) :
    (Issue.req now1 now2).instants =
      if representable (now1.abs + 864000) then .ok (now2, Instant.ofAbs (now1.abs + 864000) now1.us)
      else .error .overflowError := by
  simp only [Issue.instants, addSeconds_eq now1 _ h1, bind_ite_ok, Int.reduceMul]
  split
  next hr => exact utcPair_id _ _ h2 (ofAbs_spec hr h1.2.2.2).1 _ _ rfl rfl
  next => rfl

/-- `sign_req` with the two clock readings `now1`, `now2` (UTC): NotBefore is `now2`, NotAfter
    exactly 10 days after `now1`; `OverflowError` iff that is after 9999-12-31. -/
theorem req_instants (now1 now2 : Instant) (h1 : now1.valid) (h2 : now2.valid) :
    (∀ s e, (Issue.req now1 now2).instants = .ok (s, e) ↔
      s = now2 ∧ e.valid ∧ e.abs = now1.abs + 864000 ∧ e.us = now1.us) ∧
    (∀ x, (Issue.req now1 now2).instants = .error x ↔
      x = .overflowError ∧ (maxOrdinal + 1) * 86400 ≤ now1.abs + 864000) := by
  rw [req_eq now1 now2 h1 h2]
  refine ⟨fun s e => ?_, fun x => ?_⟩
  · rw [ite_ok_iff, Prod.mk.injEq, valid_abs_iff e _ _ h1.2.2.2, and_left_comm]
  · rw [ite_error_iff]
    have := valid_representable now1 h1
    exact and_congr_right' (by unfold representable at *; omega)

theorem epoch_valid : epoch.valid := by decide

theorem self_eq (now : Instant) (hn : now.valid) :
    (Issue.self now).instants =
      if validDate ((ord2ymd now.ord).1 + 20) (ord2ymd now.ord).2.1 (ord2ymd now.ord).2.2 then
        .ok (epoch, { now with ord := ymd2ord ((ord2ymd now.ord).1 + 20) (ord2ymd now.ord).2.1 (ord2ymd now.ord).2.2 })
      else .error .valueError := by
  simp only [Issue.instants, addYears_eq now 20, bind_ite_ok]
  split
  next h => exact utcPair_id _ _ epoch_valid ((with_date_iff now _ hn h).1 rfl).1 _ _ rfl rfl
  next => rfl

/-- `self_sign` with the clock reading `now` (UTC): NotBefore is 1970-01-01T00:00:00, NotAfter the same month, day
    and time of day 20 years later; `ValueError` iff the year would exceed 9999, or today is 29 February and the year
    20 years on is not a leap year (2080 → 2100). -/
theorem self_instants (now : Instant) (hn : now.valid) :
    (∀ s e, (Issue.self now).instants = .ok (s, e) ↔
      s = epoch ∧ e.valid ∧
      ord2ymd e.ord = ((ord2ymd now.ord).1 + 20, (ord2ymd now.ord).2.1, (ord2ymd now.ord).2.2) ∧
      e.sec = now.sec ∧ e.us = now.us ∧
      ((ord2ymd now.ord).1 + 20 ≤ 9999 ∧
        ¬ ((ord2ymd now.ord).2.1 = 2 ∧ (ord2ymd now.ord).2.2 = 29 ∧ isLeap ((ord2ymd now.ord).1 + 20) = false))) ∧
    (∀ x, (Issue.self now).instants = .error x ↔ x = .valueError ∧
      (9999 < (ord2ymd now.ord).1 + 20 ∨
        ((ord2ymd now.ord).2.1 = 2 ∧ (ord2ymd now.ord).2.2 = 29 ∧ isLeap ((ord2ymd now.ord).1 + 20) = false))) := by
  have hv := (valid_ord2ymd now hn).1
  rw [self_eq now hn]
  refine ⟨fun s e => ?_, fun x => ?_⟩
  · rw [ite_ok_iff, Prod.mk.injEq, ← replace_year_valid_iff _ _ _ 20 hv]
    constructor
    · rintro ⟨h, rfl, he⟩
      obtain ⟨a, b, c, d⟩ := (with_date_iff now e hn h).1 he
      exact ⟨rfl, a, b, c, d, h⟩
    · rintro ⟨rfl, a, b, c, d, h⟩
      exact ⟨h, rfl, (with_date_iff now e hn h).2 ⟨a, b, c, d⟩⟩
  · rw [ite_error_iff, replace_year_invalid_iff _ _ _ 20 hv]

/-- A certificate issued by `self_sign` / `sign_req` / `derive_cert` is `new_cert` applied to the texts of the two
    instants above, and a calendar error surfaces unchanged. -/
theorem issued_validity (keyName : List Bytes) (issuer version pubKey : Bytes) (signerInfo : List Value)
    (i : Issue) (sg : SignerOut) :
    (∀ m, issueCert keyName issuer version pubKey signerInfo i sg = .ok m ↔
      ∃ s e, i.instants = .ok (s, e) ∧
        newCert keyName issuer version pubKey signerInfo (fmtInstant s) (fmtInstant e) sg = .ok m) ∧
    (∀ x, i.instants = .error x → issueCert keyName issuer version pubKey signerInfo i sg = .error x) := by
  unfold issueCert Issue.validity
  cases hi : i.instants with
  | error y => exact ⟨fun m => by simp [bind, Except.bind], fun x h => by cases h; rfl⟩
  | ok se =>
    obtain ⟨s, e⟩ := se
    refine ⟨fun m => ?_, fun x h => by cases h⟩
    simp only [bind, Except.bind, pure, Except.pure, Except.ok.injEq, Prod.mk.injEq]
    exact ⟨fun h => ⟨s, e, ⟨rfl, rfl⟩, h⟩, fun ⟨_, _, ⟨rfl, rfl⟩, h⟩ => h⟩

example : formatTime 2024 2 29 23 59 7 = [50, 48, 50, 52, 48, 50, 50, 57, 84, 50, 51, 53, 57, 48, 55] := by
  decide +kernel
example : wfTop certValueFs = true := by decide +kernel
example : ymd2ord 2024 2 29 = 738945 ∧ ord2ymd 738945 = (2024, 2, 29) := by decide +kernel
example : ord2ymd maxOrdinal = (9999, 12, 31) ∧ ord2ymd 1 = (1, 1, 1) := by decide +kernel
example : fmtInstant epoch = [49, 57, 55, 48, 48, 49, 48, 49, 84, 48, 48, 48, 48, 48, 48] := by decide +kernel
-- year 5: the year is written with four digits (0005-01-02T03:04:05)
example : fmtInstant ⟨ymd2ord 5 1 2, 11045, 0⟩ = "00050102T030405".toUTF8.toList := by decide +kernel
-- 2024-12-31T23:59:59 + 1 s = 2025-01-01T00:00:00; 23:30 at UTC+5:45 is 17:45 UTC; an hour before day 1 overflows
example : addSeconds ⟨739251, 86399, 7⟩ 1 = .ok ⟨739252, 0, 7⟩ := by decide +kernel
example : toUtc ⟨739251, 84600, 0⟩ (some 20700) = .ok ⟨739251, 63900, 0⟩ := by decide +kernel
example : addSeconds ⟨1, 0, 0⟩ (-3600) = .error .overflowError := by decide +kernel
-- a zone whose offset changes: UTC-5 until the wall clock reads 02:00 on 2024-03-10 (ordinal 738955), UTC-4 after
def springForward : Zone := fun w _ => if w.abs < 738955 * 86400 + 7200 then -18000 else -14400
-- start 2024-03-10T01:00 in that zone (= 06:00Z), 7200 s: derive_cert writes 06:00Z .. 08:00Z, two hours of elapsed
-- time; the sum on the wall clock (01:00 + 2 h = 03:00 at UTC-4) would have ended the period at 07:00Z
example : (Issue.derive ⟨738955, 3600, 0⟩ false (some springForward) 7200).instants
    = .ok (⟨738955, 21600, 0⟩, ⟨738955, 28800, 0⟩) := by decide +kernel
example : wallClockSum ⟨738955, 3600, 0⟩ false springForward 7200 = .ok (⟨738955, 21600, 0⟩, ⟨738955, 25200, 0⟩) := by
  decide +kernel
example : (Issue.derive ⟨738955, 3600, 0⟩ false (some springForward) 7200).validity
    = .ok ("20240310T060000".toUTF8.toList, "20240310T080000".toUTF8.toList) := by decide +kernel
-- a start at the very end of the calendar in a zone ahead of UTC: 9999-12-31T23:00+14:00 + 3600 s ends 10:00Z
example : (Issue.derive ⟨maxOrdinal, 82800, 0⟩ false (some fun _ _ => 50400) 3600).instants
    = .ok (⟨maxOrdinal, 32400, 0⟩, ⟨maxOrdinal, 36000, 0⟩) := by decide +kernel
-- the same reading taken as UTC: the end is past 9999-12-31T23:59:59
example : (Issue.derive ⟨maxOrdinal, 82800, 0⟩ false none 3600).instants = .error .overflowError := by decide +kernel
-- self_sign on 29 February 2080: 2100 is not a leap year
example : (Issue.self ⟨ymd2ord 2080 2 29, 0, 0⟩).instants = .error .valueError := by decide +kernel
example : (Issue.self ⟨ymd2ord 2024 2 29, 0, 0⟩).instants = .ok (epoch, ⟨ymd2ord 2044 2 29, 0, 0⟩) := by decide +kernel

end Ndn.C16
