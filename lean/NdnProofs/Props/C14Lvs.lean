import NdnProofs.Lemmas.CascadeLvs
import NdnProofs.Props.C12
import NdnProofs.Props.C14
/-!
# C14 ∘ C12 — the schema validator over a Light VerSec schema

The theorems of `Props/C14.lean` with real names (`LName` = list of TLV-encoded components) and the signing check
`allowed := Checker.check` of a Light VerSec model (`Ndn.Cascade.Inst.env`), for every model the loader accepts
(`Ndn.Lvs.sanityCheck m = .ok ()`), and the construction-time check of `lvs_validator` computed from the model
(`constructLvs`: `validate_user_fns`, `root_of_trust`, `match` on the anchor).

Hypotheses: the loader accepted the model; for the completeness directions also `VDet` (value edges deterministic, true
of compiler output: `Ndn.Lvs.compile_vdet`) and `EnvTotal` (user functions defined and not raising), as in C12; ideal
signatures as in C14.
-/
namespace Ndn.C14
open Ndn Ndn.Cascade

variable (Signed : Key → Obj LName → Prop)

/-- The validator's signing check on one link is the C12 characterisation. -/
theorem allowed_iff_schema_link (I : Inst) (hs : Lvs.sanityCheck I.model = .ok ()) (hv : Lvs.VDet I.model)
    (henv : Lvs.EnvTotal I.fns) (pkt key : LName) :
    I.env.allowed pkt key = .ok true ↔ SchemaLink I.model (Lvs.pureOf I.fns) pkt key :=
  (lvsAllowed_ok _ _ _ _ true).trans (Ndn.C12.check_iff I.model (Lvs.sane_of_sanityCheck hs) hv I.fns henv pkt key)

/-- one direction needs neither `VDet` nor anything about the user functions (raising or missing
    functions are read as false in `pureOf`) -/
theorem allowed_schema_link (I : Inst) (hs : Lvs.sanityCheck I.model = .ok ()) (pkt key : LName)
    (h : I.env.allowed pkt key = .ok true) : SchemaLink I.model (Lvs.pureOf I.fns) pkt key :=
  Ndn.C12.check_true_sound I.model (Lvs.sane_of_sanityCheck hs) I.fns pkt key
    ((lvsAllowed_ok _ _ _ _ true).mp h)

theorem chainD_of_lvsChain {I : Inst} {l : List LName} {o : Obj LName} (h : LvsChain I Signed l o)
    (hs : Lvs.sanityCheck I.model = .ok ()) (hv : Lvs.VDet I.model) (henv : Lvs.EnvTotal I.fns) :
    ∃ d, l.length = d + 1 ∧ ChainD I.env Signed d o :=
  chainD_of_chainL (fun a b => (allowed_iff_schema_link I hs hv henv a b).mpr) l o h

theorem lvsChain_iff_chain (I : Inst) (hs : Lvs.sanityCheck I.model = .ok ()) (hv : Lvs.VDet I.model)
    (henv : Lvs.EnvTotal I.fns) (o : Obj LName) : (∃ l, LvsChain I Signed l o) ↔ Chain I.env Signed o :=
  ⟨fun ⟨_, hl⟩ => have ⟨d, _, hd⟩ := chainD_of_lvsChain Signed hl hs hv henv; ⟨d, hd⟩,
   fun ⟨d, hd⟩ => have ⟨l, _, hl⟩ := chainL_of_chainD (allowed_schema_link I hs) d o hd; ⟨l, hl⟩⟩

/-- For every loader-accepted schema, whatever the user functions: if the validator accepts, there is a chain to the
    anchor in which every link is a signing relation of the schema in the sense of C12. -/
theorem validate_sound_lvs (I : Inst) (hs : Lvs.sanityCheck I.model = .ok ())
    (hu : Unforgeable I.env Signed) (fuel : Nat) (st : Cache LName) (o : Obj LName)
    (hinv : CacheInv I.env Signed st) (h : (validate I.env fuel st o).verdict = some .accept) :
    ∃ l, LvsChain I Signed l o := by
  obtain ⟨d, hd⟩ := validate_sound I.env Signed hu fuel st o hinv h
  obtain ⟨l, _, hl⟩ := chainL_of_chainD (allowed_schema_link I hs) d o hd
  exact ⟨l, hl⟩

/-- A packet with such a chain through `l` keys is accepted by any run with at
    least `l.length` units of fuel, from any storage satisfying the invariant. -/
theorem validate_complete_lvs (I : Inst) (hs : Lvs.sanityCheck I.model = .ok ()) (hv : Lvs.VDet I.model)
    (henv : Lvs.EnvTotal I.fns) (hc : Correct I.env Signed) (l : List LName) (o : Obj LName)
    (h : LvsChain I Signed l o) (fuel : Nat) (st : Cache LName) (hinv : CacheInv I.env Signed st)
    (hf : l.length ≤ fuel) : (validate I.env fuel st o).verdict = some .accept := by
  obtain ⟨d, hl, hd⟩ := chainD_of_lvsChain Signed h hs hv henv
  exact validate_complete I.env Signed hc d o hd fuel st hinv (by omega)

/-- Whenever a verdict is reached it is `accept` exactly when a chain of
    schema links exists. -/
theorem verdict_iff_chain_lvs (I : Inst) (hs : Lvs.sanityCheck I.model = .ok ()) (hv : Lvs.VDet I.model)
    (henv : Lvs.EnvTotal I.fns) (hu : Unforgeable I.env Signed) (hc : Correct I.env Signed)
    (fuel : Nat) (st : Cache LName) (o : Obj LName) (hinv : CacheInv I.env Signed st) (v : Verdict)
    (h : (validate I.env fuel st o).verdict = some v) :
    v = .accept ↔ ∃ l, LvsChain I Signed l o :=
  (verdict_iff_chain I.env Signed hu hc fuel st o hinv v h).trans (lvsChain_iff_chain Signed I hs hv henv o).symm

/-- The same for a model the Light VerSec compiler emits (`compile S = .ok (I.model, syms)`): `VDet` is then a theorem
    (`Lvs.compile_vdet`), and the hypotheses left are about the environment only. -/
theorem verdict_iff_chain_compiled (I : Inst) (S : Lvs.Schema) (syms : List String)
    (hcomp : Lvs.compile S = .ok (I.model, syms)) (hs : Lvs.sanityCheck I.model = .ok ())
    (henv : Lvs.EnvTotal I.fns) (hu : Unforgeable I.env Signed) (hc : Correct I.env Signed)
    (fuel : Nat) (st : Cache LName) (o : Obj LName) (hinv : CacheInv I.env Signed st) (v : Verdict)
    (h : (validate I.env fuel st o).verdict = some v) :
    v = .accept ↔ ∃ l, LvsChain I Signed l o :=
  verdict_iff_chain_lvs Signed I hs (Lvs.compile_vdet S I.model syms hcomp) henv hu hc fuel st o hinv v h

/-- Several instances (different schemas / anchors, private storages),
    any interleaved history from empty storages: a verdict of instance `i` is `accept` exactly when the
    packet has a chain of links of `i`'s schema to `i`'s anchor. -/
theorem system_verdict_iff_chain_lvs (insts : Nat → Inst)
    (hs : ∀ i, Lvs.sanityCheck (insts i).model = .ok ()) (hv : ∀ i, Lvs.VDet (insts i).model)
    (henv : ∀ i, Lvs.EnvTotal (insts i).fns)
    (hu : ∀ i, Unforgeable (insts i).env Signed) (hc : ∀ i, Correct (insts i).env Signed)
    (h : List (Nat × Nat × Obj LName)) (i fuel : Nat) (o : Obj LName) (v : Verdict)
    (e : (validate (insts i).env fuel (runSys (fun j => (insts j).env) (fun _ => []) h i) o).verdict = some v) :
    v = .accept ↔ ∃ l, LvsChain (insts i) Signed l o :=
  (system_verdict_iff_chain Signed (fun j => (insts j).env) hu hc h i fuel o v e).trans
    (lvsChain_iff_chain Signed (insts i) (hs i) (hv i) (henv i) o).symm

/-- If `Checker.check(name, key locator)` raises, the validation raises that exception (class mapped by `pyOfLvs`): no
    certificate is fetched, nothing is cached. -/
theorem check_raise_is_verdict_lvs (I : Inst) (fuel : Nat) (st : Cache LName) (o : Obj LName) (kn : LName)
    (e : Lvs.LvsErr) (hk : o.keyLoc = some kn) (h : Lvs.check I.model I.fns o.name kn = .error e) :
    validate I.env (fuel + 1) st o = ⟨some (.raise (pyOfLvs e)), st, []⟩ :=
  check_raise_reaches_caller I.env fuel st o kn _ hk
    ((lvsAllowed_error I.model I.fns o.name kn _).mpr ⟨e, h, rfl⟩)

/-- A Data with the empty name and a key locator name: `name[-1]` raises
    `IndexError` inside `Checker.check`, and that is what the validator raises — for every schema. -/
theorem empty_name_raises_lvs (I : Inst) (fuel : Nat) (st : Cache LName) (o : Obj LName) (kn : LName)
    (hk : o.keyLoc = some kn) (hn : o.name = []) :
    validate I.env (fuel + 1) st o = ⟨some (.raise .indexError), st, []⟩ := by
  have h : Lvs.check I.model I.fns o.name kn = .error .indexError := by rw [hn]; rfl
  exact check_raise_is_verdict_lvs I fuel st o kn .indexError hk h

/-- On a loader-accepted model with deterministic value edges and total user functions the signing check of a link
    between two names whose last component has a readable Type (`dropDigest … = some _`; an empty name has none) answers
    without raising: there a `raise` verdict can only be the `ValueError` of a key importer (`Ndn.C14.raise_has_cause`). -/
theorem link_check_total_lvs (I : Inst) (hs : Lvs.sanityCheck I.model = .ok ()) (hv : Lvs.VDet I.model)
    (henv : Lvs.EnvTotal I.fns) (pkt key p k : LName) (hp : Lvs.dropDigest pkt = some p)
    (hk : Lvs.dropDigest key = some k) : ∃ b, I.env.allowed pkt key = .ok b := by
  obtain ⟨b, hb⟩ := Ndn.C12.check_total I.model (Lvs.sane_of_sanityCheck hs) hv I.fns henv pkt key p k hp hk
  exact ⟨b, (lvsAllowed_ok _ _ _ _ b).mpr hb⟩

/-- On *every* chain of schema links, every key name (each certificate and the
    anchor) matches some node of the schema. -/
theorem lvs_chain_keys_matched (I : Inst) (l : List LName) (o : Obj LName) (h : LvsChain I Signed l o) :
    ∀ kn ∈ l, KeyMatched I.model (Lvs.pureOf I.fns) kn := by
  intro kn hm
  obtain ⟨a, ha⟩ := h.links kn hm
  exact ha.keyMatched

/-- (`check_key_must_match` along the whole chain.)  The chain that justifies an acceptance starts at the packet's key
    locator and passes only through keys whose names match a node of the schema. -/
theorem chain_never_through_unmatched_key (I : Inst) (hs : Lvs.sanityCheck I.model = .ok ())
    (hu : Unforgeable I.env Signed) (fuel : Nat) (st : Cache LName) (o : Obj LName)
    (hinv : CacheInv I.env Signed st) (h : (validate I.env fuel st o).verdict = some .accept) :
    ∃ l, LvsChain I Signed l o ∧ o.keyLoc = l.head? ∧
      ∀ kn ∈ l, KeyMatched I.model (Lvs.pureOf I.fns) kn := by
  obtain ⟨l, hl⟩ := validate_sound_lvs Signed I hs hu fuel st o hinv h
  exact ⟨l, hl, hl.head, lvs_chain_keys_matched Signed I l o hl⟩

/-- A packet whose key locator names a key that matches no node of the schema, under no bindings at all, is never
    accepted, from any reachable storage (a key cached by an earlier validation does not help). -/
theorem unmatched_key_never_accepted (I : Inst) (hs : Lvs.sanityCheck I.model = .ok ())
    (hu : Unforgeable I.env Signed) (fuel : Nat) (st : Cache LName) (o : Obj LName) (kn : LName)
    (hk : o.keyLoc = some kn) (hno : ¬ KeyMatched I.model (Lvs.pureOf I.fns) kn)
    (hinv : CacheInv I.env Signed st) : (validate I.env fuel st o).verdict ≠ some .accept := by
  intro h
  obtain ⟨l, _, hhead, hall⟩ := chain_never_through_unmatched_key Signed I hs hu fuel st o hinv h
  exact hno (hall kn (List.mem_of_mem_head? (hhead.symm.trans hk)))

/-- On a loader-accepted model `Checker.root_of_trust()` returns exactly the rule
    names (`#_<id>` for an unnamed node) of the nodes that some reachable node lists as a signer and that
    have no signer themselves. -/
theorem root_of_trust_spec (m : Lvs.Model) (hs : Lvs.sanityCheck m = .ok ()) (r : String) :
    r ∈ rootOfTrust m ↔ RootRule m r := by
  simp only [rootOfTrust, RootRule, List.mem_flatMap, mem_trustRoots_iff hs]

/-- With the construction-time check computed by the LVS matcher: the validator is built exactly when the anchor's
    name matches at least one node of the schema, every rule name of every root of trust is a rule name of a node the
    anchor's name matches, and the anchor's signature verifies under its own key. -/
theorem construct_refuses_lvs (crypto : Key → Obj LName → Bool)
    (hu : ∀ k o, crypto k o = true → Signed k o) (hc : ∀ k o, Signed k o → crypto k o = true)
    (m : Lvs.Model) (hs : Lvs.sanityCheck m = .ok ()) (hv : Lvs.VDet m)
    (env : Lvs.FnEnv) (henv : Lvs.EnvTotal env) (anchor : Obj LName) (key : Key) (n : LName) (k : Key) :
    constructLvs crypto m env anchor key = .ok (n, k) ↔
      ((∃ r, AnchorRule m (Lvs.pureOf env) anchor.name r) ∧
       (∀ r, RootRule m r → AnchorRule m (Lvs.pureOf env) anchor.name r) ∧
       Verifies Signed key anchor ∧ n = anchor.name ∧ k = key) := by
  unfold constructLvs
  rw [userFnsOk_of_total m env henv]
  simp only [Bool.true_eq_false, if_false]
  cases hd : Lvs.dropDigest anchor.name with
  | none =>
    rw [anchorMatches_none hd]
    constructor
    · intro h; cases h
    · rintro ⟨⟨r, p, _, _, hp, _⟩, _⟩
      rw [hd] at hp; cases hp
  | some p =>
    obtain ⟨l, hl, hspec⟩ := anchorMatches_spec (Lvs.sane_of_sanityCheck hs) hv env henv hd
    rw [hl]
    simp only []
    have hne : l ≠ [] ↔ ∃ r, r ∈ l := ⟨l.exists_mem_of_ne_nil, fun ⟨_, h⟩ => List.ne_nil_of_mem h⟩
    simp only [construct_refuses Signed crypto hu hc, true_and, hne, hspec, root_of_trust_spec m hs]

/-- Whatever else holds: if a user function the schema calls is
    not in the `user_fns` dictionary, construction raises `ValueError`. -/
theorem construct_refuses_missing_fns_lvs (crypto : Key → Obj LName → Bool) (m : Lvs.Model) (env : Lvs.FnEnv)
    (anchor : Obj LName) (key : Key) (id : String) (hid : id ∈ modelFns m) (hmiss : env id = none) :
    constructLvs crypto m env anchor key = .error .valueError := by
  unfold constructLvs
  have : userFnsOk m env = false := by
    unfold userFnsOk
    rw [List.all_eq_false]
    exact ⟨id, hid, by simp [hmiss]⟩
  simp [this]

/-- the link relation of instance `j`: the C12 signing relation of its schema -/
def schemaLinks (insts : Nat → Inst) : Nat → LName → LName → Prop :=
  fun j => SchemaLink (insts j).model (Lvs.pureOf (insts j).fns)

/-- instances over Light VerSec schemas, each holding the storage object `stores i` -/
def lvsCfgs (insts : Nat → Inst) (stores : Nat → StoreRef) : Nat → Cfg LName := fun i => (insts i).cfg (stores i)

/-- `accept_of_chain_now` over Light VerSec schemas: whatever the history, a packet with a chain of schema links in
    the network as it is now is accepted, provided a name denotes one key (`KeyStable`). -/
theorem accept_of_chain_now_lvs (insts : Nat → Inst) (stores : Nat → StoreRef)
    (hs : ∀ i, Lvs.sanityCheck (insts i).model = .ok ()) (hv : ∀ i, Lvs.VDet (insts i).model)
    (henv : ∀ i, Lvs.EnvTotal (insts i).fns) (hc : ∀ i k o, Signed k o → (insts i).crypto k o = true)
    (w0 : World LName) (h : List (Event LName)) (i fuel : Nat) (o : Obj LName) (l : List LName)
    (hstable : KeyStable (worldsOf w0 h) (after (lvsCfgs insts stores) w0 h).world)
    (hch : LvsChain ((insts i).at (after (lvsCfgs insts stores) w0 h).world) Signed l o) (hf : l.length ≤ fuel) :
    (validateD (lvsCfgs insts stores) (after (lvsCfgs insts stores) w0 h) i fuel o).verdict = some .accept := by
  obtain ⟨d, hl, hd⟩ := chainD_of_lvsChain Signed hch (hs i) (hv i) (henv i)
  exact accept_of_chain_now Signed (lvsCfgs insts stores) hc w0 h i fuel d o hstable hd (by omega)

/-- `accept_sound_with_cache` over Light VerSec schemas: the links of the chain, and of the chains behind the keys the
    storage object vouches for, are C12 signing relations of the schema of the instance that validated them. -/
theorem accept_sound_with_cache_lvs (insts : Nat → Inst) (stores : Nat → StoreRef)
    (hs : ∀ i, Lvs.sanityCheck (insts i).model = .ok ())
    (hu : ∀ i k o, (insts i).crypto k o = true → Signed k o)
    (w0 : World LName) (h : List (Event LName)) (i fuel : Nat) (o : Obj LName)
    (hacc : (validateD (lvsCfgs insts stores) (after (lvsCfgs insts stores) w0 h) i fuel o).verdict = some .accept) :
    ∃ d, ChainC (schemaLinks insts i) ((lvsCfgs insts stores i).env (after (lvsCfgs insts stores) w0 h).world) Signed
      (trustOf (TrustedD (schemaLinks insts) (lvsCfgs insts stores) Signed w0 noTrust h) (stores i)) d o := by
  obtain ⟨d, hd⟩ := accept_sound_with_cache Signed (lvsCfgs insts stores) hu w0 h i fuel o hacc
  have hR : ∀ j a b, allowedOf (lvsCfgs insts stores) j a b → schemaLinks insts j a b :=
    fun j a b hab => allowed_schema_link (insts j) (hs j) a b hab
  refine ⟨d, ChainC.mono (hR i) ?_ hd⟩
  show ∀ n k, trustOf _ (stores i) n k → trustOf _ (stores i) n k
  cases stores i with
  | empty => exact fun _ _ hf => hf
  | mem s => exact fun n k ht => trustedD_mono _ _ _ Signed hR h w0 _ _ (fun _ _ _ hx => hx) s n k ht

/-! ### non-vacuity: the schema `#p: "d"/x <= #k`, `#k: "k"/x <= #r`, `#r: "r"` with anchor `/r` -/

namespace LvsEx
open Ndn.Lvs.Example (cD cK cA cB allFns)

def cR : Bytes := [8, 1, 0x72]

def schema : Lvs.Model :=
  { version := some 0x00011000, startId := 0, namedCnt := 1,
    nodes := [
      { id := some 0, parent := none, ruleNames := [],
        vEdges := [⟨some 1, some cD⟩, ⟨some 3, some cK⟩, ⟨some 5, some cR⟩], pEdges := [], signCons := [] },
      { id := some 1, parent := some 0, ruleNames := [], vEdges := [],
        pEdges := [⟨some 2, some 1, []⟩], signCons := [] },
      { id := some 2, parent := some 1, ruleNames := ["#p"], vEdges := [], pEdges := [], signCons := [4] },
      { id := some 3, parent := some 0, ruleNames := [], vEdges := [],
        pEdges := [⟨some 4, some 1, []⟩], signCons := [] },
      { id := some 4, parent := some 3, ruleNames := ["#k"], vEdges := [], pEdges := [], signCons := [5] },
      { id := some 5, parent := some 0, ruleNames := ["#r"], vEdges := [], pEdges := [], signCons := [] } ] }

/-- who signed: the signature token names the signing key pair -/
def GS (k : Key) (o : Obj LName) : Prop := o.sig = some k.id
def gc (k : Key) (o : Obj LName) : Bool := o.sig == some k.id

/-- `/r` (self-signed anchor), `/k/a` (certificate issued by `/r`), `/d/a` signed by `/k/a`,
    `/d/b` signed by `/k/a` (the binding of `x` differs), `/d/a` naming the stray key `/a` -/
def anchorR : Obj LName := ⟨[cR], some [cR], .ecdsa, some 10, some ⟨.ec, 10⟩⟩
def certKA : Obj LName := ⟨[cK, cA], some [cR], .ecdsa, some 10, some ⟨.ec, 30⟩⟩
def pktDA : Obj LName := ⟨[cD, cA], some [cK, cA], .ecdsa, some 30, none⟩
def pktDB : Obj LName := ⟨[cD, cB], some [cK, cA], .ecdsa, some 30, none⟩
def pktStray : Obj LName := ⟨[cD, cA], some [cA], .ecdsa, some 30, none⟩

def I : Inst :=
  ⟨schema, allFns, gc, fun i => if i.name = [cK, cA] then some (.data certKA) else none, [cR], ⟨.ec, 10⟩⟩

theorem schema_accepted : Lvs.sanityCheck schema = .ok () := by decide +kernel
theorem schema_vdet : Lvs.VDet schema := Lvs.vdet_of_vdetB (by decide +kernel)
theorem gu : Unforgeable I.env GS := fun _ _ h => beq_iff_eq.mp h
theorem gcor : Correct I.env GS := fun _ _ h => beq_iff_eq.mpr h

/-- the explicit two-link chain  /d/a — /k/a — /r -/
theorem chainDA : LvsChain I GS [[cK, cA], [cR]] pktDA :=
  .step pktDA [cK, cA] certKA ⟨.ec, 30⟩ [[cR]] rfl (by decide +kernel)
    ((allowed_iff_schema_link I schema_accepted schema_vdet Lvs.Example.allFns_envTotal _ _).mp (by decide +kernel))
    rfl rfl rfl ⟨rfl, rfl⟩
    (.anchor certKA rfl
      ((allowed_iff_schema_link I schema_accepted schema_vdet Lvs.Example.allFns_envTotal _ _).mp (by decide +kernel))
      ⟨rfl, rfl⟩)

example : (validate I.env 2 [] pktDA).verdict = some .accept :=
  validate_complete_lvs GS I schema_accepted schema_vdet Lvs.Example.allFns_envTotal gcor _ pktDA chainDA 2 []
    (cacheInv_nil _ _) (by decide +kernel)

example : ∃ l, LvsChain I GS l pktDA :=
  validate_sound_lvs GS I schema_accepted gu 2 [] pktDA (cacheInv_nil _ _) (by decide +kernel)

theorem no_chain_pktDB : ¬ ∃ l, LvsChain I GS l pktDB := fun h =>
  nomatch (verdict_iff_chain_lvs GS I schema_accepted schema_vdet Lvs.Example.allFns_envTotal gu gcor 2 [] pktDB
    (cacheInv_nil _ _) .reject (by decide +kernel)).mpr h

/-- `/k/a` may not sign `/d/b`: rejected, hence no chain of schema links exists -/
example : ¬ ∃ l, LvsChain I GS l pktDB := no_chain_pktDB

/-- … also after any interleaved history of a system of such instances -/
example (h : List (Nat × Nat × Obj LName)) (f : Nat) (v : Verdict)
    (e : (validate I.env f (runSys (fun _ => I.env) (fun _ => []) h 0) pktDB).verdict = some v) :
    v ≠ .accept := by
  intro hv
  exact no_chain_pktDB ((system_verdict_iff_chain_lvs GS (fun _ => I) (fun _ => schema_accepted)
    (fun _ => schema_vdet) (fun _ => Lvs.Example.allFns_envTotal) (fun _ => gu) (fun _ => gcor) h 0 f pktDB v e).mp hv)

/-- a Data with the empty name that names `/k/a`: the validator raises IndexError -/
example : validate I.env 2 [] ⟨[], some [cK, cA], .ecdsa, some 30, none⟩ = ⟨some (.raise .indexError), [], []⟩ :=
  empty_name_raises_lvs I 1 [] _ [cK, cA] rfl rfl

example : ∃ b, I.env.allowed [cD, cA] [cK, cA] = .ok b :=
  link_check_total_lvs I schema_accepted schema_vdet Lvs.Example.allFns_envTotal _ _ [cD, cA] [cK, cA] (by decide +kernel)
    (by decide +kernel)

example : ∃ l, LvsChain I GS l pktDA ∧ pktDA.keyLoc = l.head? ∧
    ∀ kn ∈ l, KeyMatched schema (Lvs.pureOf allFns) kn :=
  chain_never_through_unmatched_key GS I schema_accepted gu 2 [] pktDA (cacheInv_nil _ _) (by decide +kernel)

/-- `/a` matches no node of the schema … -/
theorem stray_unmatched : ¬ KeyMatched schema (Lvs.pureOf allFns) [cA] := by
  rintro ⟨k, σ, n, σ', hk, hm⟩
  have : Lvs.dropDigest [cA] = some [cA] := by decide +kernel
  rw [this] at hk; cases hk
  cases hm with
  | value hn hve hval _ _ =>
    simp [schema] at hn; subst hn
    simp at hve
    rcases hve with rfl | rfl | rfl <;> simp [cA, cD, cK, cR] at hval
  | pattern hn hpe _ _ _ =>
    simp [schema] at hn; subst hn
    simp at hpe

/-- … so a packet naming it is never accepted, from any reachable storage -/
example : ∀ fuel st, CacheInv I.env GS st → (validate I.env fuel st pktStray).verdict ≠ some .accept :=
  fun fuel st hinv => unmatched_key_never_accepted GS I schema_accepted gu fuel st pktStray [cA] rfl stray_unmatched hinv

/-- roots of trust, construction: built for `/r`, refused for `/k/a` (matches `#k`, not the root `#r`) -/
example : rootOfTrust schema = ["#r"] ∧ RootRule schema "#r" :=
  ⟨by decide +kernel, (root_of_trust_spec schema schema_accepted "#r").mp (by decide +kernel)⟩

example : constructLvs gc schema allFns anchorR ⟨.ec, 10⟩ = .ok ([cR], ⟨.ec, 10⟩) := by decide +kernel

example : (∀ r, RootRule schema r → AnchorRule schema (Lvs.pureOf allFns) [cR] r) ∧ Verifies GS ⟨.ec, 10⟩ anchorR := by
  have := (construct_refuses_lvs GS gc gu gcor schema schema_accepted schema_vdet allFns
    Lvs.Example.allFns_envTotal anchorR ⟨.ec, 10⟩ [cR] ⟨.ec, 10⟩).mp rfl
  exact ⟨this.2.1, this.2.2.1⟩

example : constructLvs gc schema allFns { certKA with keyLoc := some [cK, cA], sig := some 30 } ⟨.ec, 30⟩
    = .error .valueError := by decide +kernel

/-- the same schema with the constraint `x: $f()` on the pattern of `#p` -/
def schemaFn : Lvs.Model :=
  { schema with nodes := schema.nodes.set 1 { (schema.nodes[1]!) with
      pEdges := [⟨some 2, some 1, [[⟨none, none, some ⟨some "$f", []⟩⟩]]⟩] } }

/-- with an empty `user_fns` dictionary its construction raises `ValueError` -/
example (anchor : Obj LName) (key : Key) :
    constructLvs gc schemaFn Lvs.Example.noFns anchor key = .error .valueError :=
  construct_refuses_missing_fns_lvs gc _ _ anchor key "$f" (by decide +kernel) rfl

/-- the certificate `/k/a` is Nacked at first, then retrievable: the instance, asked again, accepts, whatever it holds -/
def wNack : World LName := fun i => if i.name = [cK, cA] then some .nack else none

example : traceD (lvsCfgs (fun _ => I) (fun _ => .mem 0)) ⟨wNack, fun _ => []⟩
      [.validate 0 2 pktDA, .world I.world, .validate 0 2 pktDA, .world wNack, .validate 0 2 pktDA] =
    [(some .reject, [certInterest [cK, cA]]), (some .accept, [certInterest [cK, cA]]), (some .accept, [])] := by decide +kernel

example : (validateD (lvsCfgs (fun _ => I) (fun _ => .mem 0))
      (after (lvsCfgs (fun _ => I) (fun _ => .mem 0)) wNack [.validate 0 2 pktDA, .world I.world]) 0 2 pktDA).verdict
    = some .accept := by
  refine accept_of_chain_now_lvs GS (fun _ => I) (fun _ => .mem 0) (fun _ => schema_accepted) (fun _ => schema_vdet)
    (fun _ => Lvs.Example.allFns_envTotal) (fun _ => gcor) wNack _ 0 2 pktDA _ ?_ chainDA (by decide +kernel)
  show KeyStable [wNack, I.world] I.world
  exact .cons (fun i c => by unfold wNack; split <;> nofun) (.self I.world)

end LvsEx

end Ndn.C14
