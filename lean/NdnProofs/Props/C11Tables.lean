import NdnProofs.Lemmas.Lvs.Tables
import NdnProofs.Lemmas.Lvs.KeyText
import NdnGen.C11
/-!
  C11 - the tables `lean/NdnGen/C11.lean` is regenerated with from `compiler.py`, `checker.py` and `grammar.py` on every
  run, tied to the compiler / matcher models (`NdnModel/Lvs/{Compile,Match}.lean`).

  A source edit that alters one of the entries changes the generated file and the theorem stops checking, before the
  harness's correspondence run has searched for an input on which model and code differ.  The model functions named in
  the docstrings are a reading aid; the statements compare the generated text with the literal, except where a conjunct
  names the model.
-/
namespace Ndn.C11
open Ndn Ndn.Lvs

/-- **pass order**: `compile_lvs` = lark LALR parse, then `Compiler(ast).compile()`; `compile` runs
    1 `_sort_rule_references` (`sortRuleReferences`), 2 `_gen_pattern_numbers` (`genPatternNumbers`),
    3 `_replicate_rules` (`replicateRules`) [`chainsOf`], 4 `_generate_node(0, all chains, None, set())` (`genNode … 0 chains
    none [] 0 named.length`), 5 `_fix_signing_references` (`fixSigning`) [`buildModel`]; the temporary-tag counter starts
    at `len(named_pats)`, the header holds start node 0 and `len(named_pats)` (and `VERSION`: `C13.versions_table`). -/
theorem pass_order_table :
    Gen.C11.passOrder = ["_sort_rule_references()", "_gen_pattern_numbers()", "_replicate_rules()",
      "_generate_node(0, rule_chains, None, set())", "_fix_signing_references()"] ∧
    Gen.C11.compileAssigns = [("self.temp_tag_index", "len(self.named_pats)"), ("ret.version", "bny.VERSION"),
      ("ret.start_id", "start_node"), ("ret.named_pattern_cnt", "len(self.named_pats)"), ("ret.nodes", "self.node_pool")] ∧
    Gen.C11.compileLvsCalls = ["lark.Lark(lvs_grammar, parser='lalr', transformer=psr.Parser())", "parser.parse(lvs_text)",
      "Compiler(lvs_file)", "compiler.compile()"] ∧
    (∀ S, compile S = match chainsOf S with
      | .error e => .error e
      | .ok (chains, named) => match buildModel chains named with
        | .error e => .error e
        | .ok m => .ok (m, named)) ∧
    (∀ chains named m, buildModel chains named = .ok m → m.startId = 0 ∧ m.namedCnt = named.length) :=
  ⟨rfl, rfl, rfl, fun _ => rfl, fun chains named m h => (buildModel_header chains named m h).2⟩

/-- the `i`-th distinct string literal of the merge key, in order of first use in `pattern_movement` -/
def sep (i : Nat) : String := Gen.C11.keyLiterals.getD i "?"

/-- **merge key**: the literals, the operands of every concatenation and the control-flow skeleton of
    `pattern_movement` are the ones the model was written from. -/
theorem merge_key_source_table :
    Gen.C11.keyLiterals = [":", "{", "v=", "t=", "(", ")", ",", "}", ""] ∧
    Gen.C11.keyEmits = [["str(tag)", "':'"], ["'{'"], ["'v='", "opt.c.hex()"], ["'t='", "opt.id"], ["opt.fn", "'('"],
      ["'v='", "arg.c.hex()"], ["'t='", "arg.id"], ["')'"], ["','"], ["'}'"]] ∧
    Gen.C11.keyReturns = [["''"], ["str(tag)", "':'"], ["cons_set_str"]] ∧
    Gen.C11.keySkeleton = "if not isinstance(self.name[depth], psr.Pattern){R0;}if tag in prev_tags{R1;}S0;for cons in self.cons_set{if tag not in set((int(x) for x in cons.pat.id.split(' '))){continue;}E1;for opt in cons.options{if isinstance(opt, psr.ComponentValue){E2;}else{if isinstance(opt, psr.Pattern){E3;}else{if isinstance(opt, psr.FnCall){E4;for arg in opt.args{if isinstance(arg, psr.ComponentValue){E5;}else{E6;}}E7;}}}E8;}E9;}R2;" :=
  ⟨rfl, rfl, rfl, rfl⟩

/-- **the model prints the key from the generated pieces** (`sep 0` = `:`, `sep 1` = `{`, `sep 2` = `v=`, `sep 3` = `t=`,
    `sep 4` = `(`, `sep 5` = `)`, `sep 6` = `,`, `sep 7` = `}`) -/
theorem merge_key_model_table :
    (∀ v, argStr (.lit v) = sep 2 ++ toHex v) ∧ (∀ t, argStr (.pat t) = sep 3 ++ toString t) ∧
    (∀ v, optStr (.lit v) = sep 2 ++ toHex v) ∧ (∀ t, optStr (.pat t) = sep 3 ++ toString t) ∧
    (∀ f args, optStr (.fn f args) = f ++ sep 4 ++ String.join (args.map argStr) ++ sep 5) ∧
    (∀ t, termStr t = sep 1 ++ String.join (t.opts.map (fun o => optStr o ++ sep 6)) ++ sep 7) ∧
    (∀ rc tag, (pmoveB rc tag true).2 = toString tag ++ sep 0) ∧
    (∀ rc tag, (pmoveB rc tag false).2 =
      toString tag ++ sep 0 ++ String.join ((rc.cons.filter (fun t => t.pat.contains tag)).map termStr)) :=
  ⟨fun _ => rfl, fun _ => rfl, fun _ => rfl, fun _ => rfl, fun _ _ => rfl, fun _ => rfl, fun _ _ => rfl, fun _ _ => rfl⟩

/-- **what the key needs of a user-function name**: `FnNameOK f` (part of `Schema.WF`) says that none of `(` `,` `}` - the
    literals that follow a function name, an option and a constraint in the key - occurs in `f`; the grammar makes every
    function name `$` + C name. -/
theorem fn_name_table :
    (∀ f, FnNameOK f ↔ ∀ c ∈ f.toList, c ∉ (sep 4 ++ sep 6 ++ sep 7).toList) ∧
    Gen.C11.grammarTerminals = [("TAG_IDENT", "CNAME"), ("RULE_IDENT", "\"#\" CNAME"), ("FN_IDENT", "\"$\" CNAME")] ∧
    Gen.C11.grammarImports = ["common (DIGIT, LETTER, WS, CNAME, CPP_COMMENT)", "common.ESCAPED_STRING -> STR"] := by
  refine ⟨fun f => ?_, rfl, rfl⟩
  have e : (sep 4 ++ sep 6 ++ sep 7).toList = ['(', ',', '}'] := by decide +kernel
  simp only [e, FnNameOK, List.mem_cons, List.not_mem_nil, or_false, not_or]

/-- **node generation**: node ids are positions in the pool, moves are grouped by distinct sorted key, a named tag is
    kept and a temporary one takes the next number above the named patterns -/
theorem generate_node_table :
    Gen.C11.generateNodeAssigns = [("node.id", "len(self.node_pool)"), ("node.parent", "parent"),
      ("p_move_strs", "sorted(list(set((pm[2] for pm in p_moves))))"), ("edge.tag", "tag"),
      ("self.temp_tag_index", "Add 1"), ("edge.tag", "self.temp_tag_index")] ∧
    Gen.C11.generateNodeTests = ["depth == len(rc.name)", "tag >= 0"] :=
  ⟨rfl, rfl⟩

/-- **the matcher's tests**, in source order, with the model function that implements each: `_match` - the loop
    (`runG`), a complete name yields (`stepG`), value edges first (`firstV`), then the pattern edges in order, a bound
    tag must repeat its value and the constraints are checked in either case (`tryEdge`), only tags up to
    `named_pattern_cnt` are recorded (`tryEdge`: `t ≤ cnt`), backtracking pops the edge index and the binding
    (`backtrack`); `_check_cons` - value, tag (`context.get`), user function with arguments `context.get(arg.tag,
    arg.value)` in order (`evalOpt`, `argVal`), an undefined function raises, every constraint needs one option
    (`evalClause`, `checkCons`). -/
theorem matcher_tests_table :
    Gen.C11.matchTests = ["while cur is not None", "depth == len(name)", "edge_index < 0", "name[depth] == ve.value",
      "edge_index < len(node.p_edges)", "pe.tag in context and value != context[pe.tag]",
      "not self._check_cons(value, context, pe.cons_sets)", "pe.tag in context",
      "pe.tag <= self.model.named_pattern_cnt", "backtrack", "edge_indices", "matches", "last_tag >= 0"] ∧
    Gen.C11.checkConsTests = ["op.value is not None", "value == op.value", "op.tag is not None",
      "value == context.get(op.tag, None)", "fn_id not in self.user_fns", "self.user_fns[fn_id](value, args)",
      "not satisfied"] ∧
    Gen.C11.checkConsArgs = "[context.get(arg.tag, arg.value) for arg in op.fn.args]" :=
  ⟨rfl, rfl, rfl⟩

/-- **`Checker.match`**: one `if` drops the last component of `name` when its type is one of the generated types - and the
    model's `stripDigest` drops it exactly then; the search starts from the empty context; a node without rule name is
    reported under the generated prefix + its id. -/
theorem match_frontend_table :
    (∀ e ∈ Gen.C11.matchDigestStrip, e.1 = "name" ∧ e.2.1 = "if" ∧
      ∀ (n : List Bytes) (c : Bytes) (t s : Nat), parseTlNum c 0 = .ok (t, s) →
        stripDigest (n ++ [c]) = .ok (if e.2.2.contains t then n else n ++ [c])) ∧
    Gen.C11.matchDigestStrip.length = 1 ∧
    Gen.C11.matchMatchCalls = ["name, {}"] ∧
    (∀ (m : Model) (n : Nat) (node : Node), m.nodes[n]? = some node → node.ruleNames = [] →
      Gen.C11.anonymousPrefix.map (· ++ toString n) = ruleNamesOf m n) := by
  refine ⟨?_, rfl, rfl, fun m n node h he => (ruleNamesOf_anonymous m n node h he).symm⟩
  intro e he
  obtain rfl : e = ("name", "if", [1]) := List.mem_singleton.mp he
  exact ⟨rfl, rfl, fun n c t s h => by simpa using stripDigest_spec n c t s h⟩

end Ndn.C11
