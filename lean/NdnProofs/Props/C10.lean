import NdnProofs.Lemmas.LpEnvelope
import NdnProofs.Lemmas.ReceiveLp
/-!
  # C10 — link-layer envelopes are transparent: Nack, PIT token and wrapped packets

  An envelope is `tlv LpPacket (headers ++ [Fragment p])` with arbitrary header elements (`lpWrap`).  The format (field
  order, type numbers, kinds) is the table generated from the live `LpPacketValue` class (lean/NdnGen/C10.lean); facts
  about it are closed by kernel evaluation.  Interest / Data decoding is abstract (`int`, `data`), as in C06.
  `TlvModel.parse` recognises a header only at or after the position (`field_pos`) its in-order scan has reached
  (`scanPos`); the decoder's answer on an envelope is the element-level fold `collect`, then `factsOf` (`parseLp_lpWrap`).
  The vocabulary of the envelopes and what the decoder answers are in Lemmas/LpEnvelope, the envelope branch of
  `_receive` for any decoders (with `eraseRes`, `named`, `afterNack`) in Lemmas/ReceiveLp; a theorem here composes one
  of the first with one of the second.
-/
namespace Ndn.C10
open Ndn Ndn.Recv Ndn.Lp

/-- what the envelope decoder returns for an envelope of optional headers around `p`:
    no Nack, the Fragment `p` itself, and a PIT token that (if any) is the value of a PitToken header -/
theorem parseLp_wrapped (hdrs : List (Nat × Bytes)) (p : Bytes) (hs : Sized hdrs p) (hok : ∀ h ∈ hdrs, HdrOk h) :
    ∃ tok, parseLp T (lpWrap hdrs p) = .ok { nack := none, pitToken := tok, fragment := some p } ∧
      (∀ tk, tok = some tk → (T.tPitToken, tk) ∈ hdrs) ∧
      ((∀ h ∈ hdrs, h.1 ≠ T.tPitToken) → tok = none) ∧
      (∀ tk rest, hdrs = (T.tPitToken, tk) :: rest → tok = some tk) := by
  obtain ⟨fs, hc, hmem, hp⟩ := parseLp_legal hs fun h hm => (hok h hm).legal
  rw [lookup_absent hmem fun h hm => (hok h hm).2.2.2.1] at hp
  refine ⟨_, hp, fun tk htk => ?_, fun hno => by rw [lookup_absent hmem hno]; rfl, fun tk rest hr => ?_⟩
  · cases hl : lookup fs T.tPitToken with
    | none => rw [hl] at htk; cases htk
    | some x =>
      obtain ⟨v, k, hv, hk, hx⟩ := hmem _ (mem_of_lookup _ _ _ hl)
      cases token_kind _ hk rfl
      rw [parseVal_bytes] at hx
      cases hx
      rw [hl] at htk
      cases htk
      exact hv
  · subst hr
    -- the PitToken header in first position is always recognised
    obtain ⟨x, hx, hl⟩ := collect_first _ _ _ [] rest _ tk _ _ 0 [] fs (by simp) rfl token_first hc
    rw [parseVal_bytes] at hx
    cases hx
    rw [hl]
    rfl

theorem decoders_tl_tlv (int : Bytes → Except PyErr IntFacts) (data : Bytes → Except PyErr DataFacts) (t : Nat)
    (v : Bytes) (ht : t < 2^64) : (decoders T int data).tl (tlv t v) = .ok t := by
  show (parseTlNum (tlv t v) 0).map (·.1) = _
  rw [tlv, List.append_assoc, parse_write t _ ht]
  rfl

/-- Receiving an envelope of optional headers (known ones with a legal value, unknown ones with any value, in any
    order and number) around a network packet `p` does exactly what receiving `p` bare does, except that handler
    invocations capture the envelope's PIT token: the value of a PitToken header, absent without one, that header's
    value when it comes first (where forwarders put it).  The legacy front-end ignores the token, so there the two
    receptions are equal. -/
theorem lp_transparent (g : Guards) (hg : g.lpType = T.tLpPacket)
    (int : Bytes → Except PyErr IntFacts) (data : Bytes → Except PyErr DataFacts) (st : State)
    (hdrs : List (Nat × Bytes)) (t : Nat) (v : Bytes) (ht : t < 2^64) (hv : v.length < 2^64)
    (hs : Sized hdrs (tlv t v)) (hok : ∀ h ∈ hdrs, HdrOk h) (hne : t ≠ g.lpType) :
    ∃ tok,
      receive g (decoders T int data) st T.tLpPacket (lpWrap hdrs (tlv t v))
        = receiveNet g (decoders T int data) st none tok t (tlv t v) ∧
      receive g (decoders T int data) st t (tlv t v)
        = receiveNet g (decoders T int data) st none none t (tlv t v) ∧
      eraseRes (receive g (decoders T int data) st T.tLpPacket (lpWrap hdrs (tlv t v)))
        = eraseRes (receive g (decoders T int data) st t (tlv t v)) ∧
      (g.usesPitToken = false ∨ tok = none →
        receive g (decoders T int data) st T.tLpPacket (lpWrap hdrs (tlv t v))
          = receive g (decoders T int data) st t (tlv t v)) ∧
      (∀ tk, tok = some tk → (T.tPitToken, tk) ∈ hdrs) ∧
      ((∀ h ∈ hdrs, h.1 ≠ T.tPitToken) → tok = none) ∧
      (∀ tk rest, hdrs = (T.tPitToken, tk) :: rest → tok = some tk) := by
  rw [← hg]
  obtain ⟨tok, hp, h1, h2, h3⟩ := parseLp_wrapped hdrs (tlv t v) hs hok
  obtain ⟨r1, r2, r3, r4⟩ := receive_transparent g (decoders T int data) st _ _ _ t hp rfl rfl
    (decoders_tl_tlv int data t v ht) hne
  exact ⟨tok, r1, r2, r3, r4, h1, h2, h3⟩

/-- satisfiable: a PIT token, a known uint header, a CachePolicy header and an unknown header around an Interest-typed
    packet -/
example : (∀ h ∈ [(98, [1, 2, 3, 4]), (812, [1, 44]), (820, [253, 3, 53, 1, 1]), (1001, [9, 9])], HdrOk h) ∧
    Sized [(98, [1, 2, 3, 4]), (812, [1, 44]), (820, [253, 3, 53, 1, 1]), (1001, [9, 9])] (tlv 5 [7, 0]) := by
  refine ⟨?_, by decide +kernel, by decide +kernel, by decide +kernel⟩
  intro h hm
  simp only [List.mem_cons, List.not_mem_nil, or_false] at hm
  rcases hm with rfl | rfl | rfl | rfl
  · exact hdrOk_of_kind (.flat .bytes) (by decide) (by decide) trivial
  · exact hdrOk_of_kind (.flat .uint) (by decide) (by decide) (Or.inr (Or.inl rfl))
  · exact hdrOk_of_kind (.model [(821, .uint)] false) (by decide) (by decide)
      ⟨[(821, .uint 1)], by decide +kernel⟩
  · exact hdrOk_unknown (by decide) (unknown_of (by decide))

/-- The bytes written by `_put_raw_packet_with_pit_token` decode, with the library's own envelope decoder, to an
    envelope without Nack whose PIT token is exactly that token (the empty one included) and whose Fragment is exactly
    the reply bytes. -/
theorem token_roundtrip (d tok : Bytes) (htok : tok.length < 2^64) (hd : d.length < 2^64)
    (hlen : (wireOf [(T.tPitToken, tok), (T.tFragment, d)]).length < 2^64) :
    parseLp T (putWithPitToken T d tok) = .ok { nack := none, pitToken := some tok, fragment := some d } := by
  rw [putWithPitToken_eq]
  have hs : Sized [(T.tPitToken, tok)] d :=
    ⟨List.forall_mem_singleton.2 ⟨(by decide : T.tPitToken < 2^64), htok⟩, hd, hlen⟩
  obtain ⟨t', hp, _, _, h3⟩ := parseLp_wrapped _ d hs (List.forall_mem_singleton.2 (hdrOk_token tok))
  rw [h3 tok [] rfl] at hp
  exact hp

example : parseLp T (putWithPitToken T [6, 0] []) = .ok { nack := none, pitToken := some [], fragment := some [6, 0] } :=
  token_roundtrip _ _ (by decide +kernel) (by decide +kernel) (by decide +kernel)

/-- A reply to an Interest that arrived without PIT token is sent bare. -/
theorem no_token_bare (d : Bytes) : reply T none d = d := rfl

/-- the tokens the Interests of a history arrived with, in arrival order -/
def tokensOf : List Ev → List (Option Bytes)
  | [] => []
  | .interest tok :: r => tok :: tokensOf r
  | .reply _ _ :: r => tokensOf r

def repliesOf : List Ev → List (Nat × Bytes)
  | [] => []
  | .interest _ :: r => repliesOf r
  | .reply i d :: r => (i, d) :: repliesOf r

/-- a reply can only be made through a closure that already exists (`n` = Interests so far) -/
def WfHist : Nat → List Ev → Prop
  | _, [] => True
  | n, .interest _ :: r => WfHist (n + 1) r
  | n, .reply i _ :: r => i < n ∧ WfHist n r

theorem runReplies_spec (evs : List Ev) : ∀ (cl : List (Option Bytes)), WfHist cl.length evs →
    runReplies T cl evs = (repliesOf evs).map fun q => reply T ((cl ++ tokensOf evs)[q.1]?).join q.2 := by
  induction evs with
  | nil => intro cl _; rfl
  | cons e r ih =>
    intro cl h
    cases e with
    | interest tok =>
      simp only [runReplies, repliesOf, tokensOf]
      have := ih (cl ++ [tok]) (by simpa [WfHist] using h)
      rw [this]
      simp [List.append_assoc]
    | reply i d =>
      obtain ⟨hi, hr⟩ := h
      have hget : cl[i]? = some cl[i] := List.getElem?_eq_getElem hi
      simp only [runReplies, repliesOf, tokensOf, hget, List.map_cons]
      rw [ih cl hr]
      congr 1
      rw [List.getElem?_append_left hi, hget]
      rfl

/-- Over every history of incoming Interests and replies made through the handlers' reply closures (any order and
    number, also after later Interests arrived): the k-th thing written to the face is the k-th reply, wrapped with the
    token of the Interest whose closure was called (bare if it had none) - never with the token of another Interest. -/
theorem reply_uses_own_token (evs : List Ev) (h : WfHist 0 evs) :
    runReplies T [] evs = (repliesOf evs).map fun q => reply T ((tokensOf evs)[q.1]?).join q.2 := by
  have := runReplies_spec evs [] h
  simpa using this

example : runReplies T [] [.interest (some [1]), .interest none, .interest (some [2]), .reply 2 [6, 0],
    .reply 0 [6, 0], .reply 1 [6, 0]] = [putWithPitToken T [6, 0] [2], putWithPitToken T [6, 0] [1], [6, 0]] := by
  rfl

/-- the envelope decoder returns the value of the PitToken header as the token whenever only headers unknown to
    the format precede it -/
theorem parseLp_token_general (pre rest : List (Nat × Bytes)) (tk p : Bytes)
    (hs : Sized (pre ++ (T.tPitToken, tk) :: rest) p)
    (hpre : ∀ h ∈ pre, Unknown h.1) (hok : ∀ h ∈ rest, HdrOk h) :
    parseLp T (lpWrap (pre ++ (T.tPitToken, tk) :: rest) p)
      = .ok { nack := none, pitToken := some tk, fragment := some p } := by
  rw [parseLp_skip_unknown pre _ p hs hpre]
  obtain ⟨tok, hp, _, _, h3⟩ := parseLp_wrapped _ p (hs.sublist (List.sublist_append_right ..))
    fun h hm => by
      rcases List.mem_cons.1 hm with rfl | hm
      · exact hdrOk_token tk
      · exact hok h hm
  rw [h3 tk rest rfl] at hp
  exact hp

/-- A PitToken header preceded only by headers of types the format does not have (Sequence, HopCount, …) and followed
    by any optional headers: reception is that of the bare packet with that header's value as the PIT token handed to
    the handler's reply closure. -/
theorem token_general (g : Guards) (hg : g.lpType = T.tLpPacket)
    (int : Bytes → Except PyErr IntFacts) (data : Bytes → Except PyErr DataFacts) (st : State)
    (pre rest : List (Nat × Bytes)) (tk : Bytes) (t : Nat) (v : Bytes) (ht : t < 2^64)
    (hs : Sized (pre ++ (T.tPitToken, tk) :: rest) (tlv t v))
    (hpre : ∀ h ∈ pre, Unknown h.1) (hok : ∀ h ∈ rest, HdrOk h) :
    receive g (decoders T int data) st T.tLpPacket (lpWrap (pre ++ (T.tPitToken, tk) :: rest) (tlv t v))
      = receiveNet g (decoders T int data) st none (some tk) t (tlv t v) := by
  -- `Dc` is given: left to unification, Lean compares `Dc.lp ?w` with the envelope by unfolding the encoder
  rw [← hg, receive_lp g (decoders T int data) st _ _ _ (parseLp_token_general pre rest tk _ hs hpre hok) rfl,
    decoders_tl_tlv int data t v ht]
  rfl

/-- In increasing type-number order only headers unknown to the format can precede the first PitToken header, so its
    value is the token.  (Without a PitToken header there is no token: `lp_transparent`.) -/
theorem token_ascending (g : Guards) (hg : g.lpType = T.tLpPacket)
    (int : Bytes → Except PyErr IntFacts) (data : Bytes → Except PyErr DataFacts) (st : State)
    (pre rest : List (Nat × Bytes)) (tk : Bytes) (t : Nat) (v : Bytes) (ht : t < 2^64)
    (hs : Sized (pre ++ (T.tPitToken, tk) :: rest) (tlv t v))
    (hasc : Ascending (pre ++ (T.tPitToken, tk) :: rest))
    (hfirst : ∀ h ∈ pre, h.1 ≠ T.tPitToken)
    (hok : ∀ h ∈ pre ++ rest, HdrOk h) :
    receive g (decoders T int data) st T.tLpPacket (lpWrap (pre ++ (T.tPitToken, tk) :: rest) (tlv t v))
      = receiveNet g (decoders T int data) st none (some tk) t (tlv t v) := by
  apply token_general g hg int data st pre rest tk t v ht hs _ (fun h hm => hok h (List.mem_append_right _ hm))
  intro h hm k hk
  have hh := hok h (List.mem_append_left _ hm)
  rcases low_fields_token (h.1, k) hk (hasc.le_of_mem h hm) with h1 | h1 | h1 | h1
  · exact hh.1 h1
  · exact hh.2.1 h1
  · exact hh.2.2.1 h1
  · exact hfirst h hm h1

/-- Sequence and HopCount before the token; CongestionMark, Ack, TxSequence and an unknown header after it -/
example : Ascending ([(81, [0, 0, 0, 0, 0, 0, 0, 1]), (84, [2])] ++ (T.tPitToken, [1, 2, 3]) :: [(832, [1]), (836, [1]), (840, [2]), (1000, [9])]) ∧
    (∀ h ∈ [((81 : Nat), ([0, 0, 0, 0, 0, 0, 0, 1] : Bytes)), (84, [2])], Unknown h.1) ∧
    parseLp T (lpWrap ([(81, [0, 0, 0, 0, 0, 0, 0, 1]), (84, [2])] ++ (T.tPitToken, [1, 2, 3]) ::
      [(832, [1]), (836, [1]), (840, [2]), (1000, [9])]) [5, 0])
      = .ok { nack := none, pitToken := some [1, 2, 3], fragment := some [5, 0] } := by
  exact ⟨by decide +kernel, fun h hm => unknown_of ((by decide +kernel :
    ∀ h ∈ [((81 : Nat), ([0, 0, 0, 0, 0, 0, 0, 1] : Bytes)), (84, [2])], ∀ f ∈ T.fields, f.1 ≠ h.1) h hm), by decide +kernel⟩

/-- The in-order scan recognises a Nack header behind the optional headers `before` iff none of them is a header of a
    field the format declares after Nack. -/
theorem nack_recognised_iff (before : List (Nat × Bytes)) (hok : ∀ h ∈ before, HdrOk h) :
    (findFrom T.fields (scanPos T.fields (before.map (·.1)) 0) T.tNack).isSome = true ↔
      ∀ h ∈ before, ¬ AfterNack h.1 := by
  constructor
  · intro h b hb ha
    rw [findFrom_none_of_drop T.fields 4 _ _ nack_not_after (scan_past_nack before ⟨b, hb, Or.inr ha⟩ 0)] at h
    cases h
  · intro h
    rw [nack_found _ (scan_before_nack before hok h)]
    rfl

/-- what the envelope decoder returns for an envelope with a Nack header among optional headers, none of the
    preceding ones being a header of a field declared after Nack; without a PitToken header the token is none -/
theorem parseLp_nack_layout (before after : List (Nat × Bytes)) (nv : Bytes) (ro : Option Nat) (p : Bytes)
    (hs : Sized (before ++ (T.tNack, nv) :: after) p)
    (hb : ∀ h ∈ before, HdrOk h) (ha : ∀ h ∈ after, HdrOk h)
    (hord : ∀ h ∈ before, ¬ AfterNack h.1) (hnv : NackVal nv ro) :
    ∃ tok, parseLp T (lpWrap (before ++ (T.tNack, nv) :: after) p)
        = .ok { nack := some ro, pitToken := tok, fragment := some p } ∧
      ((∀ h ∈ before ++ after, h.1 ≠ T.tPitToken) → tok = none) := by
  have hl : ∀ h ∈ before ++ (T.tNack, nv) :: after, Legal h := by
    simp only [List.forall_mem_append, List.forall_mem_cons]
    refine ⟨fun h hm => (hb h hm).legal, ⟨(by decide : T.tNack ≠ T.tFragment), (by decide : T.tNack ≠ T.tFragIndex),
      (by decide : T.tNack ≠ T.tFragCount), fun k hk => ?_⟩, fun h hm => (ha h hm).legal⟩
    cases nack_kind _ hk rfl
    exact ⟨_, parseFlat_nackVal nv ro hnv⟩
  obtain ⟨fs, hc, hmem, hp⟩ := parseLp_legal hs hl
  -- no Nack header and no header of a later field in front of it: the scan recognises the Nack header
  obtain ⟨x, hx, hn⟩ := collect_first _ _ _ before after _ nv _ _ 0 [] fs (fun h hm => (hb h hm).2.2.2.1) rfl
    (nack_found _ (scan_before_nack before hb hord)) hc
  simp only [parseVal, List.take_length, parseFlat_nackVal nv ro hnv, Except.map] at hx
  cases hx
  rw [hn, nackOf_nackFields] at hp
  refine ⟨_, hp, fun hno => ?_⟩
  rw [lookup_absent hmem]
  · rfl
  · simp only [List.forall_mem_append, List.forall_mem_cons] at hno ⊢
    exact ⟨hno.1, (by decide : T.tNack ≠ T.tPitToken), hno.2⟩

/-- `parseLp_nack_layout` without the token clause -/
theorem parseLp_nack_general (before after : List (Nat × Bytes)) (nv : Bytes) (ro : Option Nat) (p : Bytes)
    (hs : Sized (before ++ (T.tNack, nv) :: after) p)
    (hb : ∀ h ∈ before, HdrOk h) (ha : ∀ h ∈ after, HdrOk h)
    (hord : ∀ h ∈ before, ¬ AfterNack h.1) (hnv : NackVal nv ro) :
    ∃ tok, parseLp T (lpWrap (before ++ (T.tNack, nv) :: after) p)
      = .ok { nack := some ro, pitToken := tok, fragment := some p } :=
  let ⟨tok, h, _⟩ := parseLp_nack_layout before after nv ro p hs hb ha hord hnv
  ⟨tok, h⟩

theorem receive_nack (g : Guards) (hg : g.lpType = T.tLpPacket) (hdg : g.nackByDigest = true)
    (hk : PyErr.keyError ∈ g.caughtNackLookup)
    (int : Bytes → Except PyErr IntFacts) (data : Bytes → Except PyErr DataFacts)
    (st : State) (t : Nat) (v : Bytes) (ht : t < 2^64) (w : Bytes) (ro : Option Nat) (tok : Option Bytes)
    (hp : parseLp T w = .ok { nack := some ro, pitToken := tok, fragment := some (tlv t v) })
    (facts : IntFacts) (hint : int (tlv t v) = .ok facts) :
    receive g (decoders T int data) st T.tLpPacket w =
      .ok (afterNack st facts.name, (named st facts.name).map fun p => Effect.nacked p.id (ro.getD 0)) := by
  rw [← hg, receive_lp g (decoders T int data) st w _ _ hp rfl, decoders_tl_tlv int data t v ht]
  show receiveNet g _ st (some (ro.getD 0)) tok t _ = _
  rw [receiveNet_nack g hdg hk]
  show guarded _ st (int (tlv t v)) _ = _
  rw [hint]
  rfl

/-- An envelope with a Nack header among optional headers (a PitToken included: a Nack with a token is still a Nack),
    no header of a field declared after Nack in front of it (`nack_recognised_iff`), and any well-formed Nack value:
    reception completes exactly the pending Interests named by the enclosed Interest, each with `InterestNack(reason)`
    (0 when the header carries no NackReason), removes exactly those entries and touches nothing else. -/
theorem lp_nack_general (g : Guards) (hg : g.lpType = T.tLpPacket) (hdg : g.nackByDigest = true)
    (hk : PyErr.keyError ∈ g.caughtNackLookup)
    (int : Bytes → Except PyErr IntFacts) (data : Bytes → Except PyErr DataFacts)
    (st : State) (t : Nat) (v : Bytes) (ht : t < 2^64)
    (before after : List (Nat × Bytes)) (nv : Bytes) (ro : Option Nat)
    (hs : Sized (before ++ (T.tNack, nv) :: after) (tlv t v))
    (hb : ∀ h ∈ before, HdrOk h) (ha : ∀ h ∈ after, HdrOk h)
    (hord : ∀ h ∈ before, ¬ AfterNack h.1) (hnv : NackVal nv ro)
    (facts : IntFacts) (hint : int (tlv t v) = .ok facts) :
    receive g (decoders T int data) st T.tLpPacket (lpWrap (before ++ (T.tNack, nv) :: after) (tlv t v)) =
      .ok (afterNack st facts.name, (named st facts.name).map fun p => Effect.nacked p.id (ro.getD 0)) := by
  obtain ⟨tok, hp⟩ := parseLp_nack_general before after nv ro (tlv t v) hs hb ha hord hnv
  exact receive_nack g hg hdg hk int data st t v ht _ ro tok hp facts hint

/-- In increasing type-number order nothing the format declares after Nack can precede the Nack header, so every such
    envelope is handled as a Nack per `lp_nack_general`. -/
theorem lp_nack_ascending (g : Guards) (hg : g.lpType = T.tLpPacket) (hdg : g.nackByDigest = true)
    (hk : PyErr.keyError ∈ g.caughtNackLookup)
    (int : Bytes → Except PyErr IntFacts) (data : Bytes → Except PyErr DataFacts)
    (st : State) (t : Nat) (v : Bytes) (ht : t < 2^64)
    (before after : List (Nat × Bytes)) (nv : Bytes) (ro : Option Nat)
    (hs : Sized (before ++ (T.tNack, nv) :: after) (tlv t v))
    (hb : ∀ h ∈ before, HdrOk h) (ha : ∀ h ∈ after, HdrOk h)
    (hasc : Ascending (before ++ (T.tNack, nv) :: after)) (hnv : NackVal nv ro)
    (facts : IntFacts) (hint : int (tlv t v) = .ok facts) :
    receive g (decoders T int data) st T.tLpPacket (lpWrap (before ++ (T.tNack, nv) :: after) (tlv t v)) =
      .ok (afterNack st facts.name, (named st facts.name).map fun p => Effect.nacked p.id (ro.getD 0)) := by
  apply lp_nack_general g hg hdg hk int data st t v ht before after nv ro hs hb ha _ hnv facts hint
  intro h hm ⟨f, hf, hft⟩
  have hle : h.1 ≤ T.tNack := hasc.le_of_mem h hm
  rcases after_above f hf with h1 | h1
  · exact (hb h hm).1 (hft ▸ h1)
  · omega

/-- what the envelope decoder returns for the envelope built by `make_network_nack` -/
theorem parseLp_nack (i : Bytes) (r : Nat) (hr : r < 2^64) (hi : i.length < 2^64)
    (hlen : (wireOf [(T.tNack, wireOf [(T.tNackReason, packUint r)]), (T.tFragment, i)]).length < 2^64) :
    parseLp T (makeNetworkNack T i r) = .ok { nack := some (some r), pitToken := none, fragment := some i } := by
  have hnv : (wireOf [(T.tNackReason, packUint r)]).length < 2^64 := by
    have := tlv_length_le T.tNackReason (packUint r)
    have := packUint_length_le r
    simp only [wireOf_cons, wireOf_nil, List.append_nil]
    omega
  have hs : Sized ([] ++ (T.tNack, wireOf [(T.tNackReason, packUint r)]) :: []) i :=
    ⟨List.forall_mem_singleton.2 ⟨(by decide : T.tNack < 2^64), hnv⟩, hi, hlen⟩
  obtain ⟨tok, hp, hnone⟩ := parseLp_nack_layout [] [] _ (some r) i hs (by simp) (by simp) (by simp)
    ⟨[], [], by simp, Or.inr ⟨packUint r, packUint_length r, by rw [beVal_packUint r hr], rfl⟩⟩
  rw [hnone (by simp)] at hp
  rw [makeNetworkNack_eq]
  exact hp

/-- Receiving the envelope of `make_network_nack` completes exactly the pending Interests named like the enclosed
    Interest (same name, same implicit digest or none), each with `InterestNack(reason)`, removes exactly those entries
    and touches nothing else.  Needs what `frontends` checks on the generated table: `_on_nack` matches the implicit
    digest, and its lookup is guarded against `KeyError`. -/
theorem lp_nack (g : Guards) (hg : g.lpType = T.tLpPacket) (hdg : g.nackByDigest = true)
    (hk : PyErr.keyError ∈ g.caughtNackLookup)
    (int : Bytes → Except PyErr IntFacts) (data : Bytes → Except PyErr DataFacts)
    (st : State) (t : Nat) (v : Bytes) (ht : t < 2^64) (hv : v.length < 2^64) (r : Nat) (hr : r < 2^64)
    (hi : (tlv t v).length < 2^64)
    (hlen : (wireOf [(T.tNack, wireOf [(T.tNackReason, packUint r)]), (T.tFragment, tlv t v)]).length < 2^64)
    (facts : IntFacts) (hint : int (tlv t v) = .ok facts) :
    receive g (decoders T int data) st T.tLpPacket (makeNetworkNack T (tlv t v) r) =
      .ok (afterNack st facts.name, (named st facts.name).map fun p => Effect.nacked p.id r) :=
  receive_nack g hg hdg hk int data st t v ht _ (some r) none (parseLp_nack _ r hr hi hlen) facts hint

/-- the envelope a forwarder may send for a Nack without a reason: `LpPacket{ Nack{}, Fragment }` -/
def bareNack (i : Bytes) : Bytes := tlv T.tLpPacket (wireOf [(T.tNack, []), (T.tFragment, i)])

/-- a Nack header without NackReason: the header is present, its reason absent -/
theorem parseLp_nack_bare (i : Bytes) (hi : i.length < 2^64)
    (hlen : (wireOf [(T.tNack, ([] : Bytes)), (T.tFragment, i)]).length < 2^64) :
    parseLp T (bareNack i) = .ok { nack := some none, pitToken := none, fragment := some i } := by
  have hs : Sized ([] ++ (T.tNack, []) :: []) i :=
    ⟨List.forall_mem_singleton.2 ⟨(by decide : T.tNack < 2^64), Nat.two_pow_pos 64⟩, hi, hlen⟩
  obtain ⟨tok, hp, hnone⟩ := parseLp_nack_layout [] [] _ none i hs (by simp) (by simp) (by simp)
    ⟨[], [], by simp, Or.inl ⟨rfl, rfl⟩⟩
  rw [hnone (by simp)] at hp
  exact hp

/-- NDNLPv2 makes NackReason optional: `LpPacket{ Nack{}, Fragment = i }` is a Nack with reason None (0), not handed
    to the incoming-Interest path (candidate_fixes/C03-nack-without-reason.md). -/
theorem lp_nack_bare (g : Guards) (hg : g.lpType = T.tLpPacket) (hdg : g.nackByDigest = true)
    (hk : PyErr.keyError ∈ g.caughtNackLookup)
    (int : Bytes → Except PyErr IntFacts) (data : Bytes → Except PyErr DataFacts)
    (st : State) (t : Nat) (v : Bytes) (ht : t < 2^64) (hv : v.length < 2^64)
    (hi : (tlv t v).length < 2^64)
    (hlen : (wireOf [(T.tNack, ([] : Bytes)), (T.tFragment, tlv t v)]).length < 2^64)
    (facts : IntFacts) (hint : int (tlv t v) = .ok facts) :
    receive g (decoders T int data) st T.tLpPacket (bareNack (tlv t v)) =
      .ok (afterNack st facts.name, (named st facts.name).map fun p => Effect.nacked p.id 0) :=
  receive_nack g hg hdg hk int data st t v ht _ none none (parseLp_nack_bare _ hi hlen) facts hint

/-- two Interests pending on /a, one of them asking for an implicit digest; a Nack for /a completes only the one
    without digest -/
example : named ⟨[([[8, 1, 97]], [⟨0, false, []⟩, ⟨1, false, List.replicate 32 7⟩])], []⟩ [[8, 1, 97]] = [⟨0, false, []⟩] ∧
    named ⟨[([[8, 1, 97]], [⟨0, false, []⟩, ⟨1, false, List.replicate 32 7⟩])], []⟩
      [[8, 1, 97], 1 :: 32 :: List.replicate 32 7] = [⟨1, false, List.replicate 32 7⟩] := by
  decide

/-- a Type-1 component that is not 32 bytes long is not an implicit digest: a Nack for `/a/<empty Type-1 component>`
    names nobody (candidate_fixes/C10-nack-implicit-digest.md) -/
example : named ⟨[([[8, 1, 97]], [⟨0, false, []⟩, ⟨1, false, List.replicate 32 7⟩])], []⟩ [[8, 1, 97], [1, 0]] = [] ∧
    named ⟨[([[8, 1, 97]], [⟨0, false, []⟩])], []⟩ [[8, 1, 97], [1, 2, 7, 7]] = [] := by
  decide

/-- Sequence, PitToken, an unknown header, then a Nack whose value has unknown sub-elements around a 2-byte NackReason,
    then IncomingFaceId, Ack, TxSequence (increasing type order although the format declares TxSequence before Ack) -/
example : NackVal (wireOf [(802, [1]), (801, [0, 150]), (804, [])]) (some 150) ∧
    Ascending ([(81, [0, 0, 0, 0, 0, 0, 0, 1]), (98, [170]), (300, [1])] ++
      (T.tNack, wireOf [(802, [1]), (801, [0, 150]), (804, [])]) :: [(812, [7]), (836, [1]), (840, [2])]) ∧
    (∀ h ∈ [(81, [0, 0, 0, 0, 0, 0, 0, 1]), ((98 : Nat), ([170] : Bytes)), (300, [1])], ¬ AfterNack h.1) ∧
    parseLp T (lpWrap ([(81, [0, 0, 0, 0, 0, 0, 0, 1]), (98, [170]), (300, [1])] ++
      (T.tNack, wireOf [(802, [1]), (801, [0, 150]), (804, [])]) :: [(812, [7]), (836, [1]), (840, [2])]) [5, 0])
      = .ok { nack := some (some 150), pitToken := some [170], fragment := some [5, 0] } := by
  exact ⟨⟨[(802, [1])], [(804, [])], by decide +kernel, Or.inr ⟨[0, 150], by decide, by decide, rfl⟩⟩, by decide +kernel,
    by decide +kernel, by decide +kernel⟩

/-- a Nack header the scan does not recognise: the result is that of the envelope without it, whatever its value -/
theorem parseLp_nack_out_of_order (before after : List (Nat × Bytes)) (nv p : Bytes)
    (hs : Sized (before ++ (T.tNack, nv) :: after) p) (hex : ∃ h ∈ before, AfterNack h.1) :
    Sized (before ++ after) p ∧
    parseLp T (lpWrap (before ++ (T.tNack, nv) :: after) p) = parseLp T (lpWrap (before ++ after) p) :=
  let ⟨h, hm, ha⟩ := hex
  parseLp_nack_unrecognised before after nv p hs ⟨h, hm, Or.inr ha⟩

/-- As the code behaves: when a header of a field the format declares after Nack precedes the Nack header
    (`nack_recognised_iff`), the envelope is processed as a plain envelope around the enclosed packet - an enclosed
    Interest goes to the incoming-Interest path and no pending Interest is nacked.  Such an envelope violates the
    NDNLPv2 field order (`lp_nack_ascending`). -/
theorem lp_nack_out_of_order (g : Guards) (hg : g.lpType = T.tLpPacket)
    (int : Bytes → Except PyErr IntFacts) (data : Bytes → Except PyErr DataFacts)
    (st : State) (before after : List (Nat × Bytes)) (nv : Bytes) (t : Nat) (v : Bytes)
    (ht : t < 2^64) (hv : v.length < 2^64)
    (hs : Sized (before ++ (T.tNack, nv) :: after) (tlv t v))
    (hb : ∀ h ∈ before, HdrOk h) (ha : ∀ h ∈ after, HdrOk h) (hne : t ≠ g.lpType)
    (hex : ∃ h ∈ before, AfterNack h.1) :
    ∃ tok,
      receive g (decoders T int data) st T.tLpPacket (lpWrap (before ++ (T.tNack, nv) :: after) (tlv t v))
        = receiveNet g (decoders T int data) st none tok t (tlv t v) ∧
      eraseRes (receive g (decoders T int data) st T.tLpPacket (lpWrap (before ++ (T.tNack, nv) :: after) (tlv t v)))
        = eraseRes (receive g (decoders T int data) st t (tlv t v)) := by
  obtain ⟨hs', hparse⟩ := parseLp_nack_out_of_order before after nv (tlv t v) hs hex
  obtain ⟨tok, h1, _, h3, _⟩ := lp_transparent g hg int data st (before ++ after) t v ht hv hs'
    (fun h hm => (List.mem_append.1 hm).elim (hb h) (ha h)) hne
  have heq : receive g (decoders T int data) st T.tLpPacket (lpWrap (before ++ (T.tNack, nv) :: after) (tlv t v))
      = receive g (decoders T int data) st T.tLpPacket (lpWrap (before ++ after) (tlv t v)) := by
    rw [← hg]
    simp only [receive, if_true, decoders, hparse]
  exact ⟨tok, by rw [heq, h1], by rw [heq, h3]⟩

/-- IncomingFaceId before the Nack header: decoded as no Nack -/
example : AfterNack 812 ∧ parseLp T (lpWrap ([(812, [7])] ++ (T.tNack, wireOf [(801, [50])]) :: []) [5, 0])
    = .ok { nack := none, pitToken := none, fragment := some [5, 0] } :=
  ⟨by decide +kernel, by decide +kernel⟩

/-- the decoder never accepts an envelope whose first recognised header is FragIndex or FragCount (what precedes it is
    unknown to the format, e.g. Sequence; what follows is arbitrary) -/
theorem parseLp_fragmented (pre post : List (Nat × Bytes)) (ft : Nat) (fv : Bytes)
    (hft : ft = T.tFragIndex ∨ ft = T.tFragCount)
    (hpre : ∀ h ∈ pre, ∀ k, (h.1, k) ∉ T.fields)
    (hsz : ∀ e ∈ pre ++ (ft, fv) :: post, e.1 < 2^64 ∧ e.2.length < 2^64)
    (hlen : (wireOf (pre ++ (ft, fv) :: post)).length < 2^64) :
    ∃ e, parseLp T (tlv T.tLpPacket (wireOf (pre ++ (ft, fv) :: post))) = .error e := by
  rw [parseLp_elems _ hsz hlen, collect_skip_unknown _ _ _ pre fun h hm => ⟨hpre h hm, Or.inr rfl⟩]
  obtain ⟨i, hi⟩ : ∃ i, findFrom T.fields 0 ft = some (i, .flat .uint) := by
    rcases hft with rfl | rfl
    · exact ⟨0, frag_fields_at.1⟩
    · exact ⟨1, frag_fields_at.2⟩
  cases hc : collect T.fields (parseVal T.lengthCheck) true ((ft, fv) :: post) 0 [] with
  | error e => exact ⟨e, rfl⟩
  | ok fs =>
    -- the field stays set, so the fragmentation check fails
    obtain ⟨x, -, hl⟩ := collect_first _ _ _ [] post _ fv _ _ 0 [] fs (by simp) rfl hi hc
    exact ⟨.decodeError, factsOf_fragmented hft hl⟩

/-- Such an envelope never reaches the tables: reception drops it without any effect (or fails, only if the `except`
    tuple of the source were insufficient, which C06 excludes). -/
theorem lp_fragment_rejected (g : Guards) (hg : g.lpType = T.tLpPacket) (int : Bytes → Except PyErr IntFacts)
    (data : Bytes → Except PyErr DataFacts) (st : State) (pre post : List (Nat × Bytes)) (ft : Nat) (fv : Bytes)
    (hft : ft = T.tFragIndex ∨ ft = T.tFragCount)
    (hpre : ∀ h ∈ pre, ∀ k, (h.1, k) ∉ T.fields)
    (hsz : ∀ e ∈ pre ++ (ft, fv) :: post, e.1 < 2^64 ∧ e.2.length < 2^64)
    (hlen : (wireOf (pre ++ (ft, fv) :: post)).length < 2^64) :
    ∀ res, receive g (decoders T int data) st T.tLpPacket (tlv T.tLpPacket (wireOf (pre ++ (ft, fv) :: post))) = .ok res →
      res = (st, []) := by
  obtain ⟨e, he⟩ := parseLp_fragmented pre post ft fv hft hpre hsz hlen
  have := receive_lp_error_dropped g (decoders T int data) st _ e he
  rwa [hg] at this

/-- a real fragment as a forwarder sends it: Sequence, FragIndex, FragCount, Fragment -/
example : parseLp T (tlv 100 (wireOf ([(81, [0, 0, 0, 0, 0, 0, 0, 1])] ++ (82, [0]) :: [(83, [2]), (80, [6, 3, 7])])))
    = .error .decodeError := by decide +kernel

theorem split_first_frag (hdrs : List (Nat × Bytes))
    (hex : ∃ h ∈ hdrs, h.1 = T.tFragIndex ∨ h.1 = T.tFragCount) :
    ∃ pre ft fv post, hdrs = pre ++ (ft, fv) :: post ∧ (ft = T.tFragIndex ∨ ft = T.tFragCount) ∧
      ∀ h ∈ pre, h.1 ≠ T.tFragIndex ∧ h.1 ≠ T.tFragCount := by
  cases hf : hdrs.find? fun h => h.1 == T.tFragIndex || h.1 == T.tFragCount with
  | none =>
    obtain ⟨h, hm, hh⟩ := hex
    have := List.find?_eq_none.1 hf h hm
    simp [hh] at this
  | some b =>
    obtain ⟨hb, pre, post, rfl, hpre⟩ := List.find?_eq_some_iff_append.1 hf
    refine ⟨pre, b.1, b.2, post, rfl, by simpa using hb, fun h hm => ?_⟩
    simpa using hpre h hm

/-- the same for headers in increasing type-number order one of which is FragIndex or FragCount, whatever the other
    headers are and whatever follows them -/
theorem parseLp_fragmented_general (hdrs rest : List (Nat × Bytes))
    (hasc : Ascending hdrs) (hnf : ∀ h ∈ hdrs, h.1 ≠ T.tFragment)
    (hex : ∃ h ∈ hdrs, h.1 = T.tFragIndex ∨ h.1 = T.tFragCount)
    (hsz : ∀ e ∈ hdrs ++ rest, e.1 < 2^64 ∧ e.2.length < 2^64)
    (hlen : (wireOf (hdrs ++ rest)).length < 2^64) :
    ∃ e, parseLp T (tlv T.tLpPacket (wireOf (hdrs ++ rest))) = .error e := by
  obtain ⟨pre, ft, fv, post, he, hft, hpre⟩ := split_first_frag hdrs hex
  subst he
  -- in increasing order, whatever precedes the first fragmentation header is unknown to the format
  have hunk : ∀ h ∈ pre, ∀ k, (h.1, k) ∉ T.fields := by
    intro h hm k hk
    have hle : h.1 ≤ T.tFragCount := by
      have : h.1 ≤ ft := hasc.le_of_mem h hm
      rcases hft with rfl | rfl
      · exact Nat.le_trans this (by decide)
      · exact this
    rcases low_fields_token (h.1, k) hk (Nat.le_trans hle (by decide)) with h1 | h1 | h1 | h1
    · exact hnf h (by simp [hm]) h1
    · exact (hpre h hm).1 h1
    · exact (hpre h hm).2 h1
    · exact absurd (h1 ▸ hle) (by decide)
  have e1 : (pre ++ (ft, fv) :: post) ++ rest = pre ++ (ft, fv) :: (post ++ rest) := by simp
  rw [e1] at hsz hlen ⊢
  exact parseLp_fragmented pre (post ++ rest) ft fv hft hunk hsz hlen

/-- Every envelope whose headers are in increasing type-number order and include a FragIndex or a FragCount header
    (whatever the other headers are, with or without Fragment) never reaches the tables: reception drops it without any
    effect (or fails, only if the `except` tuple of the source were insufficient, which C06 excludes). -/
theorem lp_fragment_rejected_general (g : Guards) (hg : g.lpType = T.tLpPacket) (int : Bytes → Except PyErr IntFacts)
    (data : Bytes → Except PyErr DataFacts) (st : State) (hdrs rest : List (Nat × Bytes))
    (hasc : Ascending hdrs) (hnf : ∀ h ∈ hdrs, h.1 ≠ T.tFragment)
    (hex : ∃ h ∈ hdrs, h.1 = T.tFragIndex ∨ h.1 = T.tFragCount)
    (hsz : ∀ e ∈ hdrs ++ rest, e.1 < 2^64 ∧ e.2.length < 2^64)
    (hlen : (wireOf (hdrs ++ rest)).length < 2^64) :
    ∀ res, receive g (decoders T int data) st T.tLpPacket (tlv T.tLpPacket (wireOf (hdrs ++ rest))) = .ok res →
      res = (st, []) := by
  obtain ⟨e, he⟩ := parseLp_fragmented_general hdrs rest hasc hnf hex hsz hlen
  have := receive_lp_error_dropped g (decoders T int data) st _ e he
  rwa [hg] at this

/-- Sequence, FragCount (no FragIndex), HopCount, PitToken, Nack, CongestionMark, then the Fragment -/
example : Ascending [(81, [0, 0, 0, 0, 0, 0, 0, 1]), (83, [2]), (84, [1]), (98, [170]), (800, [253, 3, 33, 1, 50]), (832, [1])] ∧
    parseLp T (tlv T.tLpPacket (wireOf ([(81, [0, 0, 0, 0, 0, 0, 0, 1]), (83, [2]), (84, [1]), (98, [170]),
      (800, [253, 3, 33, 1, 50]), (832, [1])] ++ [(80, [5, 0])]))) = .error .decodeError :=
  ⟨by decide +kernel, by decide +kernel⟩

/-- The generated tables `Gen.C10.v2` / `Gen.C10.v1`: both front-ends recognise the envelope type of the generated
    format; appv2 hands the PIT token to the handler's reply closure, the legacy front-end ignores PIT tokens by design
    (so `token_roundtrip`, `reply_uses_own_token`, `no_token_bare` concern appv2 only); both match the implicit digest in
    `_on_nack` and guard its lookup, as `lp_nack` assumes. -/
theorem frontends : Gen.C10.v2.lpType = T.tLpPacket ∧ Gen.C10.v1.lpType = T.tLpPacket ∧
    Gen.C10.v2.usesPitToken = true ∧ Gen.C10.v1.usesPitToken = false ∧
    Gen.C10.v2.nackByDigest = true ∧ Gen.C10.v1.nackByDigest = true ∧
    PyErr.keyError ∈ Gen.C10.v2.caughtNackLookup ∧ PyErr.keyError ∈ Gen.C10.v1.caughtNackLookup := by decide +kernel

end Ndn.C10
