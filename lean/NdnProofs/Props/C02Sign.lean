import NdnProofs.Props.C02
import NdnProofs.Lemmas.Sha256Eval
/-!
# C02 (signers in the model) — DigestSha256 and HMAC-SHA256: signer, checker, and the whole round trip

`Ndn.Sign` models `DigestSha256Signer`, `HmacSha256Signer`, `sha256_digest_checker`, `params_sha256_checker`,
`union_checker`, `verify_hmac` and `HmacChecker.from_key`.  For these two schemes no ideal-scheme hypothesis is
needed: a checker's verdict is an equation between the signature value and a hash of the covered bytes, so
acceptance of a tampered copy is stated as what it is — a collision of the hash function.

`H` is SHA-256, a parameter; the round-trip theorems need only that it yields 32 bytes (`hH`), which the executable
`Sha256.sha256` does (`Sha256.sha256_length`): the `_sha256` corollaries have no hypothesis on it.

Size bounds: both signers reserve 32 bytes; `+ 64` is the slack `C01` asks for; `+ 96` = 32 + 64; `+ 128` = 64 + the
34-byte digest component and its share of the headers; `+ 160` = 32 + 128.
-/
namespace Ndn.C02
open Ndn Ndn.Codec Ndn.Packet Ndn.Sign Ndn.Hmac

theorem digest_checker_iff (H : Bytes → Bytes) (si : Value) (p : Ptrs) (ht : sigTypeOf si = some 0) :
    digestChecker H si p = true ↔
      ∃ s, p.sigValue = some s ∧ s ≠ [] ∧ p.sigCovered ≠ [] ∧ s = H (concatB p.sigCovered) := by
  unfold digestChecker
  cases p.sigValue with
  | none => simp [ht]
  | some s =>
    simp only [ht, if_true, covered_hash_iff, Option.some.injEq, exists_eq_left']
    constructor <;> exact fun ⟨a, b, c⟩ => ⟨a, b, c.symm⟩

/-- as the code does: `sha256_digest_checker` is meant to sit in a `union_checker` -/
theorem digest_checker_other_type (H : Bytes → Bytes) (si : Value) (p : Ptrs) (ht : sigTypeOf si ≠ some 0) :
    digestChecker H si p = true := by
  unfold digestChecker
  simp [ht]

theorem verify_hmac_iff (H : Bytes → Bytes) (key : Bytes) (p : Ptrs) :
    verifyHmac H key p = true ↔ ∃ s, p.sigValue = some s ∧ s = hmac H key (concatB p.sigCovered) :=
  (hmacScheme_recomputes H key).verifyPtrs_iff p

theorem hmac_checker_iff (H : Bytes → Bytes) (keyName : List Bytes) (key : Bytes) (si : Value) (p : Ptrs) :
    hmacChecker H keyName key si p = true ↔
      (∃ n, klNameOf si = some n ∧ n ≠ [] ∧ keyName <+: n) ∧ sigTypeOf si = some 4 ∧
        verifyHmac H key p = true := by
  unfold hmacChecker
  cases hk : klNameOf si with
  | none => simp
  | some n =>
    simp only [Bool.and_eq_true, Bool.not_eq_true', List.isPrefixOf_iff_prefix, beq_iff_eq, Option.some.injEq,
      exists_eq_left']
    constructor
    · rintro ⟨⟨⟨h1, h2⟩, h3⟩, h4⟩
      exact ⟨⟨by intro e; simp [e] at h1, h2⟩, h3, h4⟩
    · rintro ⟨⟨h1, h2⟩, h3, h4⟩
      refine ⟨⟨⟨?_, h2⟩, h3⟩, h4⟩
      cases n with
      | nil => exact absurd rfl h1
      | cons _ _ => rfl

theorem union_checker_iff (cs : List (Value → Ptrs → Bool)) (si : Value) (p : Ptrs) :
    unionChecker cs si p = true ↔ ∀ c ∈ cs, c si p = true := by
  simp [unionChecker, List.all_eq_true]

/-- `verify_hmac` is `verifyPtrs` of the HMAC scheme, and both schemes are `Correct`: they meet the hypothesis of
    `C02.verify_own` / `own_interest_verifies`. -/
theorem verify_hmac_is_scheme (H : Bytes → Bytes) (key : Bytes) (p : Ptrs) :
    verifyHmac H key p = verifyPtrs (hmacScheme H key) p := rfl

theorem hmac_scheme_correct (H : Bytes → Bytes) (key : Bytes) : Correct (hmacScheme H key) :=
  fun _ => (hmacScheme_recomputes H key _ _).mpr rfl

theorem digest_scheme_correct (H : Bytes → Bytes) : Correct (digestScheme H) :=
  fun _ => (digestScheme_recomputes H _ _).mpr rfl

/-- `sha256_digest_checker` accepts the value `DigestSha256Signer` wrote for the covered parts. -/
theorem digest_checker_accepts_signer (H : Bytes → Bytes) (tn : Option (Nat × Nat)) (parts : List Bytes) (p : Ptrs)
    (hne : parts ≠ []) (hH : H (concatB parts) ≠ [])
    (hc : p.sigCovered = parts) (hv : p.sigValue = some ((digestSigner H tn).value parts)) :
    digestChecker H (digestSigner H tn).sigInfo p = true := by
  have ht : sigTypeOf (digestSigner H tn).sigInfo = some 0 := by
    cases tn with
    | none => rfl
    | some tn => rfl
  rw [digest_checker_iff H _ p ht]
  exact ⟨_, hv, hH, by rw [hc]; exact hne, by rw [hc]; rfl⟩

/-- `verify_hmac(key, .)` accepts the value `HmacSha256Signer(kl, key)` wrote for the covered parts, and so does
    `HmacChecker.from_key(key_name, key)` whenever `kl` is non-empty and under `key_name`. -/
theorem hmac_checker_accepts_signer (H : Bytes → Bytes) (klName keyName : List Bytes) (key : Bytes)
    (parts : List Bytes) (p : Ptrs)
    (hc : p.sigCovered = parts) (hv : p.sigValue = some ((hmacSigner H klName key).value parts)) :
    verifyHmac H key p = true ∧
    (klName ≠ [] → keyName <+: klName → hmacChecker H keyName key (hmacSigner H klName key).sigInfo p = true) := by
  have hver : verifyHmac H key p = true := by
    rw [verify_hmac_iff]; exact ⟨_, hv, by rw [hc]; rfl⟩
  refine ⟨hver, fun hne hpre => ?_⟩
  rw [hmac_checker_iff]
  exact ⟨⟨klName, rfl, hne, hpre⟩, rfl, hver⟩

theorem digestChecker_verifies {H : Bytes → Bytes} {si : Value} {p : Ptrs} (ht : sigTypeOf si = some 0)
    (h : digestChecker H si p = true) : verifyPtrs (digestScheme H) p = true := by
  obtain ⟨s, h1, _, _, h4⟩ := (digest_checker_iff H si p ht).mp h
  exact ((digestScheme_recomputes H).verifyPtrs_iff p).mpr ⟨s, h1, h4⟩

/-- A DigestSha256 packet that carries the signature value of an accepted packet but other covered bytes is accepted
    only if SHA-256 collides on the two byte strings (the first conjunct is `hdiff` again, so that the conclusion
    reads as a collision). -/
theorem digest_tamper_needs_collision (H : Bytes → Bytes) (si si' : Value) (p p' : Ptrs)
    (ht : sigTypeOf si = some 0) (ht' : sigTypeOf si' = some 0)
    (hacc : digestChecker H si p = true) (hacc' : digestChecker H si' p' = true)
    (hsv : p'.sigValue = p.sigValue) (hdiff : concatB p'.sigCovered ≠ concatB p.sigCovered) :
    concatB p'.sigCovered ≠ concatB p.sigCovered ∧ H (concatB p'.sigCovered) = H (concatB p.sigCovered) :=
  ⟨hdiff, (digestScheme_recomputes H).same_value (digestChecker_verifies ht hacc) (digestChecker_verifies ht' hacc') hsv⟩

theorem digest_tamper_value_rejected (H : Bytes → Bytes) (si si' : Value) (p p' : Ptrs)
    (ht : sigTypeOf si = some 0) (ht' : sigTypeOf si' = some 0)
    (hacc : digestChecker H si p = true)
    (hcov : concatB p'.sigCovered = concatB p.sigCovered) (hsv : p'.sigValue ≠ p.sigValue) :
    digestChecker H si' p' = false := by
  have hrej := (digestScheme_recomputes H).other_value (digestChecker_verifies ht hacc) hcov hsv
  exact Bool.eq_false_iff.mpr fun hd => Bool.false_ne_true (hrej.symm.trans (digestChecker_verifies ht' hd))

/-- the same for `verify_hmac`: SHA-256 collides on the two inner HMAC inputs, or on two different outer inputs -/
theorem hmac_tamper_needs_collision (H : Bytes → Bytes) (key : Bytes) (p p' : Ptrs)
    (hacc : verifyHmac H key p = true) (hacc' : verifyHmac H key p' = true)
    (hsv : p'.sigValue = p.sigValue) (hdiff : concatB p'.sigCovered ≠ concatB p.sigCovered) :
    ∃ x y, x ≠ y ∧ H x = H y :=
  hmac_collision H key _ _ hdiff ((hmacScheme_recomputes H key).same_value hacc hacc' hsv)

theorem hmac_tamper_value_rejected (H : Bytes → Bytes) (keyName : List Bytes) (key : Bytes) (si' : Value)
    (p p' : Ptrs) (hacc : verifyHmac H key p = true)
    (hcov : concatB p'.sigCovered = concatB p.sigCovered) (hsv : p'.sigValue ≠ p.sigValue) :
    verifyHmac H key p' = false ∧ hmacChecker H keyName key si' p' = false := by
  have hrej : verifyHmac H key p' = false := (hmacScheme_recomputes H key).other_value hacc hcov hsv
  exact ⟨hrej, Bool.eq_false_iff.mpr fun hd =>
    Bool.false_ne_true (hrej.symm.trans ((hmac_checker_iff H keyName key si' p').mp hd).2.2)⟩

theorem checkData_made (x : Except PyErr Made) (m : Made) (vals : List Value) (ptrs : Ptrs)
    (chk : Value → Ptrs → Bool) (hm : x = .ok m) (hp : parseData m.wire = .ok (vals, ptrs)) :
    (x >>= fun m => checkData chk m.wire) = .ok (chk (vals[8]?.getD .none) ptrs) := by
  simp only [hm, bind, Except.bind, checkData, hp, pure, Except.pure]

theorem checkInterest_made (x : Except PyErr Made) (m : Made) (vals : List Value) (ptrs : Ptrs)
    (chk : Value → Ptrs → Bool) (hm : x = .ok m) (hp : parseInterest m.wire = .ok (vals, ptrs)) :
    (x >>= fun m => checkInterest chk m.wire) = .ok (chk (vals[17]?.getD .none) ptrs) := by
  simp only [hm, bind, Except.bind, checkInterest, hp, pure, Except.pure]

/-- `make_data` with a signer object whose value always fills the reserved space: the value is computed over exactly
    the bytes `p` that end up in front of it, and `parse_data` of that wire reports `[p]` as covered, that value as
    signature value, and returns the signer's SignatureInfo. -/
theorem sign_data_parse (sg : Signer) (name : List Bytes) (mi content : Value) (p : Bytes)
    (hp : encFields [nameS, metaS, contentS, dataSigInfoS] [.name name, mi, content, sg.sigInfo] = .ok p)
    (hfit : fitsFs [nameS, metaS, contentS, dataSigInfoS] [.name name, mi, content, sg.sigInfo] = true)
    (hlen : ∀ parts, (sg.value parts).length = sg.reserved)
    (hsize : p.length + sg.reserved + 64 < 2 ^ 64) :
    makeDataS sg name mi content = .ok { wire := tlv 6 (p ++ tlv 23 (sg.value [p])), covered := [p] } ∧
    parseData (tlv 6 (p ++ tlv 23 (sg.value [p]))) =
      .ok (List.replicate 5 (Value.uint 0) ++ [.name name, mi, content, sg.sigInfo, .bytes (sg.value [p])],
           { sigCovered := [p], sigValue := some (sg.value [p]), digestCovered := [], digestValue := none }) := by
  refine ⟨signWith_eq sg _ (fun sig => { wire := tlv 6 (p ++ tlv 23 sig), covered := [p] }) [p] hlen
    (fun sig hs => C01.make_data_wire name mi content sg.sigInfo { reserved := sg.reserved, sig := sig } p hp
      (Nat.le_of_eq hs) (.inl hs) (by simp only []; omega)) fun _ => rfl, ?_⟩
  · have := tlv_length_le 23 (sg.value [p])
    exact parsed_cover_is_signed_portion_data name mi content sg.sigInfo (sg.value [p]) p hp hfit
      (by rw [List.length_append]; rw [hlen] at this; omega) (by rw [hlen]; omega)

/-- `make_data` with a `DigestSha256Signer`, then `parse_data`, then `sha256_digest_checker` = accept. -/
theorem digest_signed_data_accepted (H : Bytes → Bytes) (hH : ∀ x, (H x).length = 32) (tn : Option (Nat × Nat))
    (name : List Bytes) (mi content : Value) (p : Bytes)
    (hp : encFields [nameS, metaS, contentS, dataSigInfoS]
      [.name name, mi, content, (digestSigner H tn).sigInfo] = .ok p)
    (hfit : fitsFs [nameS, metaS, contentS, dataSigInfoS]
      [.name name, mi, content, (digestSigner H tn).sigInfo] = true)
    (hsize : p.length + 96 < 2 ^ 64) :
    (makeDataS (digestSigner H tn) name mi content >>= fun m => checkData (digestChecker H) m.wire) = .ok true := by
  obtain ⟨hm, hparse⟩ := sign_data_parse (digestSigner H tn) name mi content p hp hfit
    (fun parts => hH _) (by simp only [digestSigner]; omega)
  rw [checkData_made _ _ _ _ _ hm hparse]
  exact congrArg _ (digest_checker_accepts_signer H tn [p] _ (by simp)
    (List.ne_nil_of_length_pos (by rw [hH]; decide)) rfl rfl)

/-- `make_data` with an `HmacSha256Signer(kl, key)`, then `parse_data`, then `HmacChecker.from_key(key_name, key)` —
    alone, and behind `union_checker(sha256_digest_checker, .)` as an application installs it — = accept. -/
theorem hmac_signed_data_accepted (H : Bytes → Bytes) (hH : ∀ x, (H x).length = 32) (klName keyName : List Bytes)
    (key : Bytes) (name : List Bytes) (mi content : Value) (p : Bytes)
    (hp : encFields [nameS, metaS, contentS, dataSigInfoS]
      [.name name, mi, content, (hmacSigner H klName key).sigInfo] = .ok p)
    (hfit : fitsFs [nameS, metaS, contentS, dataSigInfoS]
      [.name name, mi, content, (hmacSigner H klName key).sigInfo] = true)
    (hne : klName ≠ []) (hpre : keyName <+: klName)
    (hsize : p.length + 96 < 2 ^ 64) :
    (makeDataS (hmacSigner H klName key) name mi content >>= fun m =>
      checkData (hmacChecker H keyName key) m.wire) = .ok true ∧
    (makeDataS (hmacSigner H klName key) name mi content >>= fun m =>
      checkData (unionChecker [digestChecker H, hmacChecker H keyName key]) m.wire) = .ok true := by
  obtain ⟨hm, hparse⟩ := sign_data_parse (hmacSigner H klName key) name mi content p hp hfit
    (fun parts => hH _) (by simp only [hmacSigner]; omega)
  have hacc := (hmac_checker_accepts_signer H klName keyName key [p]
    { sigCovered := [p], sigValue := some ((hmacSigner H klName key).value [p]), digestCovered := [],
      digestValue := none } rfl rfl).2 hne hpre
  rw [checkData_made _ _ _ _ _ hm hparse, checkData_made _ _ _ _ _ hm hparse]
  refine ⟨congrArg _ hacc, congrArg _ ?_⟩
  rw [union_checker_iff]
  intro c hc
  simp only [List.mem_cons, List.mem_nil_iff, or_false] at hc
  rcases hc with rfl | rfl
  · exact digest_checker_other_type H _ _ (by simp [hmacSigner, sigTypeOf])
  · exact hacc

/-- what one `make_interest` call with signer output `sig` yields on a name whose digest component (appended by the
    call, or a caller-supplied placeholder) sits between `pre` and `post`; `covN` are the name chunks handed to the
    signer (they do not depend on `sig`) -/
def InterestShape (H : Bytes → Bytes) (mk : Option SignerOut → Except PyErr Made) (R : Nat) (pre post : List Bytes)
    (midB tailA : Bytes) (covN : List Bytes) : Prop :=
  ∀ sig : Bytes, sig.length = R →
    mk (some { reserved := R, sig := sig }) =
      .ok { wire := tlv 5 (tlv 7 (concatB (pre ++ (2 :: 32 :: H (tailA ++ tlv 46 sig)) :: post)) ++ midB ++ tailA ++
              tlv 46 sig),
            covered := covN ++ [tailA],
            finalName := pre ++ (2 :: 32 :: H (tailA ++ tlv 46 sig)) :: post,
            digestCovered := tailA ++ tlv 46 sig }

theorem shape_placeholder (H : Bytes → Bytes) (hH : ∀ x, (H x).length = 32) (pre post : List Bytes) (x : Bytes)
    (mid : List Value) (appParam sigInfo : Value) (R : Nat) (midB tailA : Bytes)
    (hmid : encFields [.bool 33, .bool 18, linksS, .uint 10 (some 4), .uint 12 none, .uint 34 (some 1)] mid = .ok midB)
    (htail : encFields [.bytes 36 false, intSigInfoS] [effApp true appParam, sigInfo] = .ok tailA)
    (hx : x.length = 32)
    (hndpre : ∀ c ∈ pre, isDigestComp c = false) (hndpost : ∀ c ∈ post, isDigestComp c = false)
    (hsize : (concatB pre).length + (concatB post).length + midB.length + tailA.length + R + 128 < 2 ^ 64) :
    InterestShape H (fun s => makeInterest H (pre ++ (2 :: 32 :: x) :: post) mid appParam sigInfo s) R pre post
      midB tailA (nameChunks (pre ++ (2 :: 32 :: x) :: post) (some pre.length)) := by
  intro sig hsig
  have hw := C01.make_interest_wire_at H (pre ++ (2 :: 32 :: x) :: post) pre.length mid (effApp true appParam) sigInfo
    { reserved := R, sig := sig } midB tailA hmid htail (by simp [hsig]) (by simp [hsig]) (by simp; omega) _ _ rfl rfl
    (by rw [placeDigest_placeholder pre post x _ hx, concatB_at_length]
        simp only [List.length_cons, hH]; omega)
  rw [nameChunks_placeDigest, placeDigest_placeholder pre post x _ hx] at hw
  exact (C01.make_interest_is_core_at H pre post (2 :: 32 :: x) mid appParam sigInfo (some _)
    (not_isNone_effApp_true appParam) hndpre (digestComp_isDigest x hx) hndpost).trans hw

theorem shape_appended (H : Bytes → Bytes) (hH : ∀ x, (H x).length = 32) (name : List Bytes) (mid : List Value)
    (appParam sigInfo : Value) (R : Nat) (midB tailA : Bytes)
    (hmid : encFields [.bool 33, .bool 18, linksS, .uint 10 (some 4), .uint 12 none, .uint 34 (some 1)] mid = .ok midB)
    (htail : encFields [.bytes 36 false, intSigInfoS] [effApp true appParam, sigInfo] = .ok tailA)
    (hnd : ∀ c ∈ name, isDigestComp c = false)
    (hsize : (concatB name).length + midB.length + tailA.length + R + 128 < 2 ^ 64) :
    InterestShape H (fun s => makeInterest H name mid appParam sigInfo s) R name [] midB tailA
      (nameChunks (name ++ [digestPlaceholder]) (some name.length)) := fun sig hsig =>
  (makeInterest_appended H name mid appParam sigInfo (some _) hnd (not_isNone_effApp_true appParam)).trans
    (shape_placeholder H hH name [] (List.replicate 32 0) mid appParam sigInfo R midB tailA hmid htail rfl hnd (by simp)
      (by simp only [concatB, List.length_nil]; omega) sig hsig)

/-- One `make_interest` call with a signer object whose value always fills the reserved space, on either name shape:
    `parse_interest` of the made wire returns the signer's SignatureInfo, reports as signature value the value computed
    over the very bytes the signer was handed and as covered parts the same bytes, as digest value the hash of
    ApplicationParameters … end — also the digest component of the final name; `params_sha256_checker` accepts. -/
theorem sign_interest_parse (H : Bytes → Bytes) (hH : ∀ x, (H x).length = 32) (sg : Signer)
    (mk : Value → Option SignerOut → Except PyErr Made) (pre post : List Bytes) (mid : List Value) (app : Value)
    (midB tailA : Bytes) (covN : List Bytes)
    (hmid : encFields [.bool 33, .bool 18, linksS, .uint 10 (some 4), .uint 12 none, .uint 34 (some 1)] mid = .ok midB)
    (htail : encFields [.bytes 36 false, intSigInfoS] [app, sg.sigInfo] = .ok tailA)
    (hlen : ∀ parts, (sg.value parts).length = sg.reserved)
    (hpre : pre.all compOk = true) (hpost : post.all compOk = true)
    (hndpre : ∀ c ∈ pre, isDigestComp c = false) (hndpost : ∀ c ∈ post, isDigestComp c = false)
    (hfitmid : fitsFs [.bool 33, .bool 18, linksS, .uint 10 (some 4), .uint 12 none, .uint 34 (some 1)] mid = true)
    (hfittail : fitsFs [.bytes 36 false, intSigInfoS] [app, sg.sigInfo] = true)
    (hsize : (concatB pre).length + (concatB post).length + midB.length + tailA.length + sg.reserved + 128 < 2 ^ 64)
    (hcovN : concatB covN = concatB pre ++ concatB post)
    (hmk : InterestShape H (mk sg.sigInfo) sg.reserved pre post midB tailA covN) :
    ∃ m vals ptrs, signWith sg mk = .ok m ∧ parseInterest m.wire = .ok (vals, ptrs) ∧
      m.covered = covN ++ [tailA] ∧
      concatB m.covered = concatB pre ++ concatB post ++ tailA ∧
      vals[17]? = some sg.sigInfo ∧
      ptrs.sigValue = some (sg.value m.covered) ∧
      ptrs.sigCovered = pre ++ post ++ [tailA] ∧
      concatB ptrs.sigCovered = concatB m.covered ∧
      ptrs.digestCovered = [m.digestCovered] ∧
      ptrs.digestValue = some (H m.digestCovered) ∧
      m.finalName = pre ++ (2 :: 32 :: H m.digestCovered) :: post ∧
      paramsCheck H ptrs = true := by
  have hmade := signWith_eq sg mk _ (covN ++ [tailA]) hlen hmk fun _ => rfl
  generalize hsig : sg.value (covN ++ [tailA]) = sig at hmade
  have hsl : sig.length = sg.reserved := by rw [← hsig]; exact hlen _
  have hd := hH (tailA ++ tlv 46 sig)
  have h46 := tlv_length_le 46 sig
  have hwl : (tlv 7 (concatB (pre ++ (2 :: 32 :: H (tailA ++ tlv 46 sig)) :: post)) ++ midB ++ tailA ++
      tlv 46 sig).length < 2 ^ 64 := by
    have h7 := tlv_length_le 7 (concatB (pre ++ (2 :: 32 :: H (tailA ++ tlv 46 sig)) :: post))
    rw [concatB_at_length] at h7
    simp only [List.length_cons, hd] at h7
    simp only [List.length_append]
    omega
  have hparse := parseInterest_signed_at pre post _ mid app sg.sigInfo sig midB tailA hmid htail hpre hpost
    hndpre hndpost hd hfitmid hfittail (by omega) hwl
  have hcov : concatB (covN ++ [tailA]) = concatB pre ++ concatB post ++ tailA := by
    rw [concatB_app, hcovN]; simp [concatB]
  refine ⟨_, _, _, hmade, hparse, rfl, hcov, (interestVals_get mid (fitsFs_length _ _ hfitmid) _ _ _ _ _ _).2.2.2.1,
    by simp only [hsig], rfl, ?_, rfl, rfl, rfl, paramsCheck_own H _ _ rfl rfl hd⟩
  rw [hcov]; simp only [concatB_app, concatB, List.append_nil, List.append_assoc]

/-- either name shape, any signer object, any list of checkers that accept SignaturePtrs reporting the signer's value
    over the bytes it was handed -/
theorem signed_interest_accepted (H : Bytes → Bytes) (hH : ∀ x, (H x).length = 32) (sg : Signer)
    (cs : List (Value → Ptrs → Bool)) (mk : Value → Option SignerOut → Except PyErr Made) (pre post : List Bytes)
    (mid : List Value) (app : Value) (midB tailA : Bytes) (covN : List Bytes)
    (hmid : encFields midFs mid = .ok midB)
    (htail : encFields [.bytes 36 false, intSigInfoS] [app, sg.sigInfo] = .ok tailA)
    (hlen : ∀ parts, (sg.value parts).length = sg.reserved)
    (hpre : pre.all compOk = true) (hpost : post.all compOk = true)
    (hndpre : ∀ c ∈ pre, isDigestComp c = false) (hndpost : ∀ c ∈ post, isDigestComp c = false)
    (hfitmid : fitsFs midFs mid = true)
    (hfittail : fitsFs [.bytes 36 false, intSigInfoS] [app, sg.sigInfo] = true)
    (hsize : (concatB pre).length + (concatB post).length + midB.length + tailA.length + sg.reserved + 128 < 2 ^ 64)
    (hcovN : concatB covN = concatB pre ++ concatB post)
    (hmk : InterestShape H (mk sg.sigInfo) sg.reserved pre post midB tailA covN)
    (hcs : ∀ p : Ptrs, p.sigValue = some (sg.value (covN ++ [tailA])) → p.sigCovered ≠ [] →
      concatB p.sigCovered = concatB (covN ++ [tailA]) → paramsCheck H p = true → ∀ c ∈ cs, c sg.sigInfo p = true) :
    (signWith sg mk >>= fun m => checkInterest (unionChecker cs) m.wire) = .ok true := by
  obtain ⟨m, vals, ptrs, hm, hparse, hmc, _, hsi, hsv, hsc, hcc, _, _, _, hpc⟩ :=
    sign_interest_parse H hH sg mk pre post mid app midB tailA covN hmid htail hlen hpre hpost hndpre hndpost
      hfitmid hfittail hsize hcovN hmk
  rw [checkInterest_made _ _ _ _ _ hm hparse, hsi, Option.getD_some]
  exact congrArg _ ((union_checker_iff ..).mpr
    (hcs ptrs (hmc ▸ hsv) (by rw [hsc]; simp) (hmc ▸ hcc) hpc))

theorem digest_checkers_accept (H : Bytes → Bytes) (hH : ∀ x, (H x).length = 32) (tn : Option (Nat × Nat))
    (parts : List Bytes) (p : Ptrs) (hsv : p.sigValue = some ((digestSigner H tn).value parts))
    (hne : p.sigCovered ≠ []) (hcc : concatB p.sigCovered = concatB parts) (hpc : paramsCheck H p = true) :
    ∀ c ∈ [digestChecker H, paramsChecker H], c (digestSigner H tn).sigInfo p = true := by
  intro c hc
  simp only [List.mem_cons, List.mem_nil_iff, or_false] at hc
  rcases hc with rfl | rfl
  · exact digest_checker_accepts_signer H tn p.sigCovered p hne (List.ne_nil_of_length_pos (by rw [hH]; decide)) rfl
      (hsv.trans (congrArg (fun m => some (H m)) hcc.symm))
  · exact hpc

theorem hmac_checkers_accept (H : Bytes → Bytes) (klName keyName : List Bytes) (key : Bytes)
    (hne : klName ≠ []) (hkn : keyName <+: klName) (parts : List Bytes) (p : Ptrs)
    (hsv : p.sigValue = some ((hmacSigner H klName key).value parts))
    (hcc : concatB p.sigCovered = concatB parts) (hpc : paramsCheck H p = true) :
    ∀ c ∈ [digestChecker H, hmacChecker H keyName key, paramsChecker H],
      c (hmacSigner H klName key).sigInfo p = true := by
  intro c hc
  simp only [List.mem_cons, List.mem_nil_iff, or_false] at hc
  rcases hc with rfl | rfl | rfl
  · exact digest_checker_other_type H _ _ (by simp [hmacSigner, sigTypeOf])
  · exact (hmac_checker_accepts_signer H klName keyName key p.sigCovered p rfl
      (hsv.trans (congrArg (fun m => some (hmac H key m)) hcc.symm))).2 hne hkn
  · exact hpc

/-- `make_interest` with a `DigestSha256Signer` on a name with a digest placeholder at any position, then
    `parse_interest`, then `sha256_digest_checker` and `params_sha256_checker` = accept. -/
theorem digest_signed_interest_placeholder_accepted (H : Bytes → Bytes) (hH : ∀ x, (H x).length = 32)
    (tn : Option (Nat × Nat)) (pre post : List Bytes) (x : Bytes) (mid : List Value) (appParam : Value)
    (midB tailA : Bytes)
    (hmid : encFields [.bool 33, .bool 18, linksS, .uint 10 (some 4), .uint 12 none, .uint 34 (some 1)] mid = .ok midB)
    (htail : encFields [.bytes 36 false, intSigInfoS] [effApp true appParam, (digestSigner H tn).sigInfo] = .ok tailA)
    (hx : x.length = 32) (hpre : pre.all compOk = true) (hpost : post.all compOk = true)
    (hndpre : ∀ c ∈ pre, isDigestComp c = false) (hndpost : ∀ c ∈ post, isDigestComp c = false)
    (hfitmid : fitsFs [.bool 33, .bool 18, linksS, .uint 10 (some 4), .uint 12 none, .uint 34 (some 1)] mid = true)
    (hfittail : fitsFs [.bytes 36 false, intSigInfoS] [effApp true appParam, (digestSigner H tn).sigInfo] = true)
    (hsize : (concatB pre).length + (concatB post).length + midB.length + tailA.length + 160 < 2 ^ 64) :
    (makeInterestS H (digestSigner H tn) (pre ++ (2 :: 32 :: x) :: post) mid appParam >>= fun m =>
      checkInterest (unionChecker [digestChecker H, paramsChecker H]) m.wire) = .ok true :=
  -- the size bounds asked for are `hsize` with 160 split into the 32 reserved bytes + 128
  signed_interest_accepted H hH (digestSigner H tn) _ _ pre post mid _ midB tailA _ hmid htail (fun _ => hH _) hpre
    hpost hndpre hndpost hfitmid hfittail (by rw [Nat.add_assoc]; exact hsize) (concatB_nameChunks_at pre post _)
    (shape_placeholder H hH pre post x mid appParam _ 32 midB tailA hmid htail hx hndpre hndpost
      (by rw [Nat.add_assoc]; exact hsize))
    (fun p h1 h2 h3 h4 => digest_checkers_accept H hH tn _ p h1 h2 h3 h4)

/-- The same for a name without digest component (`makeInterestS_appended`). -/
theorem digest_signed_interest_accepted (H : Bytes → Bytes) (hH : ∀ x, (H x).length = 32) (tn : Option (Nat × Nat))
    (name : List Bytes) (mid : List Value) (appParam : Value) (midB tailA : Bytes)
    (hmid : encFields [.bool 33, .bool 18, linksS, .uint 10 (some 4), .uint 12 none, .uint 34 (some 1)] mid = .ok midB)
    (htail : encFields [.bytes 36 false, intSigInfoS] [effApp true appParam, (digestSigner H tn).sigInfo] = .ok tailA)
    (hname : name.all compOk = true) (hnd : ∀ c ∈ name, isDigestComp c = false)
    (hfitmid : fitsFs [.bool 33, .bool 18, linksS, .uint 10 (some 4), .uint 12 none, .uint 34 (some 1)] mid = true)
    (hfittail : fitsFs [.bytes 36 false, intSigInfoS] [effApp true appParam, (digestSigner H tn).sigInfo] = true)
    (hsize : (concatB name).length + midB.length + tailA.length + 160 < 2 ^ 64) :
    (makeInterestS H (digestSigner H tn) name mid appParam >>= fun m =>
      checkInterest (unionChecker [digestChecker H, paramsChecker H]) m.wire) = .ok true := by
  rw [makeInterestS_appended H _ name mid appParam hnd]
  exact digest_signed_interest_placeholder_accepted H hH tn name [] (List.replicate 32 0) mid appParam midB tailA hmid htail
    rfl hname rfl hnd (by simp) hfitmid hfittail (by simpa only [concatB, List.length_nil, Nat.add_zero] using hsize)

/-- `make_interest` with an `HmacSha256Signer(kl, key)` on a name with a digest placeholder at any position, then
    `parse_interest`, then `union_checker(sha256_digest_checker, HmacChecker.from_key(key_name, key))` and
    `params_sha256_checker` = accept. -/
theorem hmac_signed_interest_placeholder_accepted (H : Bytes → Bytes) (hH : ∀ x, (H x).length = 32)
    (klName keyName : List Bytes) (key : Bytes) (pre post : List Bytes) (x : Bytes) (mid : List Value)
    (appParam : Value) (midB tailA : Bytes)
    (hmid : encFields [.bool 33, .bool 18, linksS, .uint 10 (some 4), .uint 12 none, .uint 34 (some 1)] mid = .ok midB)
    (htail : encFields [.bytes 36 false, intSigInfoS]
      [effApp true appParam, (hmacSigner H klName key).sigInfo] = .ok tailA)
    (hx : x.length = 32) (hpre : pre.all compOk = true) (hpost : post.all compOk = true)
    (hndpre : ∀ c ∈ pre, isDigestComp c = false) (hndpost : ∀ c ∈ post, isDigestComp c = false)
    (hfitmid : fitsFs [.bool 33, .bool 18, linksS, .uint 10 (some 4), .uint 12 none, .uint 34 (some 1)] mid = true)
    (hfittail : fitsFs [.bytes 36 false, intSigInfoS]
      [effApp true appParam, (hmacSigner H klName key).sigInfo] = true)
    (hne : klName ≠ []) (hkn : keyName <+: klName)
    (hsize : (concatB pre).length + (concatB post).length + midB.length + tailA.length + 160 < 2 ^ 64) :
    (makeInterestS H (hmacSigner H klName key) (pre ++ (2 :: 32 :: x) :: post) mid appParam >>= fun m =>
      checkInterest (unionChecker [digestChecker H, hmacChecker H keyName key, paramsChecker H]) m.wire)
      = .ok true :=
  signed_interest_accepted H hH (hmacSigner H klName key) _ _ pre post mid _ midB tailA _ hmid htail (fun _ => hH _)
    hpre hpost hndpre hndpost hfitmid hfittail (by rw [Nat.add_assoc]; exact hsize) (concatB_nameChunks_at pre post _)
    (shape_placeholder H hH pre post x mid appParam _ 32 midB tailA hmid htail hx hndpre hndpost
      (by rw [Nat.add_assoc]; exact hsize))
    (fun p h1 _ h3 h4 => hmac_checkers_accept H klName keyName key hne hkn _ p h1 h3 h4)

/-- The same for a name without digest component. -/
theorem hmac_signed_interest_accepted (H : Bytes → Bytes) (hH : ∀ x, (H x).length = 32) (klName keyName : List Bytes)
    (key : Bytes) (name : List Bytes) (mid : List Value) (appParam : Value) (midB tailA : Bytes)
    (hmid : encFields [.bool 33, .bool 18, linksS, .uint 10 (some 4), .uint 12 none, .uint 34 (some 1)] mid = .ok midB)
    (htail : encFields [.bytes 36 false, intSigInfoS]
      [effApp true appParam, (hmacSigner H klName key).sigInfo] = .ok tailA)
    (hname : name.all compOk = true) (hnd : ∀ c ∈ name, isDigestComp c = false)
    (hfitmid : fitsFs [.bool 33, .bool 18, linksS, .uint 10 (some 4), .uint 12 none, .uint 34 (some 1)] mid = true)
    (hfittail : fitsFs [.bytes 36 false, intSigInfoS]
      [effApp true appParam, (hmacSigner H klName key).sigInfo] = true)
    (hne : klName ≠ []) (hkn : keyName <+: klName)
    (hsize : (concatB name).length + midB.length + tailA.length + 160 < 2 ^ 64) :
    (makeInterestS H (hmacSigner H klName key) name mid appParam >>= fun m =>
      checkInterest (unionChecker [digestChecker H, hmacChecker H keyName key, paramsChecker H]) m.wire)
      = .ok true := by
  rw [makeInterestS_appended H _ name mid appParam hnd]
  exact hmac_signed_interest_placeholder_accepted H hH klName keyName key name [] (List.replicate 32 0) mid appParam midB
    tailA hmid htail rfl hname rfl hnd (by simp) hfitmid hfittail hne hkn
    (by simpa only [concatB, List.length_nil, Nat.add_zero] using hsize)

/-- for the executable SHA-256 of the model (the function the driver runs and the check compares with hashlib) -/
theorem digest_signed_data_accepted_sha256 (tn : Option (Nat × Nat)) (name : List Bytes) (mi content : Value)
    (p : Bytes)
    (hp : encFields [nameS, metaS, contentS, dataSigInfoS]
      [.name name, mi, content, (digestSigner Sha256.sha256 tn).sigInfo] = .ok p)
    (hfit : fitsFs [nameS, metaS, contentS, dataSigInfoS]
      [.name name, mi, content, (digestSigner Sha256.sha256 tn).sigInfo] = true)
    (hsize : p.length + 96 < 2 ^ 64) :
    (makeDataS (digestSigner Sha256.sha256 tn) name mi content >>= fun m =>
      checkData (digestChecker Sha256.sha256) m.wire) = .ok true :=
  digest_signed_data_accepted _ Sha256.sha256_length tn name mi content p hp hfit hsize

/-- The `union_checker` form of `hmac_signed_data_accepted` for the executable HMAC-SHA256. -/
theorem hmac_signed_data_accepted_sha256 (klName keyName : List Bytes) (key : Bytes) (name : List Bytes)
    (mi content : Value) (p : Bytes)
    (hp : encFields [nameS, metaS, contentS, dataSigInfoS]
      [.name name, mi, content, (hmacSigner Sha256.sha256 klName key).sigInfo] = .ok p)
    (hfit : fitsFs [nameS, metaS, contentS, dataSigInfoS]
      [.name name, mi, content, (hmacSigner Sha256.sha256 klName key).sigInfo] = true)
    (hne : klName ≠ []) (hpre : keyName <+: klName) (hsize : p.length + 96 < 2 ^ 64) :
    (makeDataS (hmacSigner Sha256.sha256 klName key) name mi content >>= fun m =>
      checkData (unionChecker [digestChecker Sha256.sha256, hmacChecker Sha256.sha256 keyName key]) m.wire)
      = .ok true :=
  (hmac_signed_data_accepted _ Sha256.sha256_length klName keyName key name mi content p hp hfit hne hpre hsize).2

/-- Both name shapes at once: `ph = none` (`post = []`, the component is appended) or a placeholder `02 20 x`. -/
theorem digest_signed_interest_accepted_sha256 (tn : Option (Nat × Nat)) (pre post : List Bytes)
    (ph : Option Bytes) (mid : List Value) (appParam : Value) (midB tailA : Bytes)
    (hmid : encFields [.bool 33, .bool 18, linksS, .uint 10 (some 4), .uint 12 none, .uint 34 (some 1)] mid = .ok midB)
    (htail : encFields [.bytes 36 false, intSigInfoS]
      [effApp true appParam, (digestSigner Sha256.sha256 tn).sigInfo] = .ok tailA)
    (hph : match ph with | none => post = [] | some x => x.length = 32)
    (hpre : pre.all compOk = true) (hpost : post.all compOk = true)
    (hndpre : ∀ c ∈ pre, isDigestComp c = false) (hndpost : ∀ c ∈ post, isDigestComp c = false)
    (hfitmid : fitsFs [.bool 33, .bool 18, linksS, .uint 10 (some 4), .uint 12 none, .uint 34 (some 1)] mid = true)
    (hfittail : fitsFs [.bytes 36 false, intSigInfoS]
      [effApp true appParam, (digestSigner Sha256.sha256 tn).sigInfo] = true)
    (hsize : (concatB pre).length + (concatB post).length + midB.length + tailA.length + 160 < 2 ^ 64) :
    (makeInterestS Sha256.sha256 (digestSigner Sha256.sha256 tn)
        (match ph with | none => pre | some x => pre ++ (2 :: 32 :: x) :: post) mid appParam >>= fun m =>
      checkInterest (unionChecker [digestChecker Sha256.sha256, paramsChecker Sha256.sha256]) m.wire) = .ok true := by
  cases ph with
  | none =>
    subst hph
    exact digest_signed_interest_accepted _ Sha256.sha256_length tn pre mid appParam midB tailA hmid htail hpre hndpre
      hfitmid hfittail (by simp only [concatB, List.length_nil] at hsize; omega)
  | some x =>
    exact digest_signed_interest_placeholder_accepted _ Sha256.sha256_length tn pre post x mid appParam midB tailA
      hmid htail hph hpre hpost hndpre hndpost hfitmid hfittail hsize

theorem hmac_signed_interest_accepted_sha256 (klName keyName : List Bytes) (key : Bytes) (pre post : List Bytes)
    (ph : Option Bytes) (mid : List Value) (appParam : Value) (midB tailA : Bytes)
    (hmid : encFields [.bool 33, .bool 18, linksS, .uint 10 (some 4), .uint 12 none, .uint 34 (some 1)] mid = .ok midB)
    (htail : encFields [.bytes 36 false, intSigInfoS]
      [effApp true appParam, (hmacSigner Sha256.sha256 klName key).sigInfo] = .ok tailA)
    (hph : match ph with | none => post = [] | some x => x.length = 32)
    (hpre : pre.all compOk = true) (hpost : post.all compOk = true)
    (hndpre : ∀ c ∈ pre, isDigestComp c = false) (hndpost : ∀ c ∈ post, isDigestComp c = false)
    (hfitmid : fitsFs [.bool 33, .bool 18, linksS, .uint 10 (some 4), .uint 12 none, .uint 34 (some 1)] mid = true)
    (hfittail : fitsFs [.bytes 36 false, intSigInfoS]
      [effApp true appParam, (hmacSigner Sha256.sha256 klName key).sigInfo] = true)
    (hne : klName ≠ []) (hkn : keyName <+: klName)
    (hsize : (concatB pre).length + (concatB post).length + midB.length + tailA.length + 160 < 2 ^ 64) :
    (makeInterestS Sha256.sha256 (hmacSigner Sha256.sha256 klName key)
        (match ph with | none => pre | some x => pre ++ (2 :: 32 :: x) :: post) mid appParam >>= fun m =>
      checkInterest (unionChecker [digestChecker Sha256.sha256, hmacChecker Sha256.sha256 keyName key,
        paramsChecker Sha256.sha256]) m.wire) = .ok true := by
  cases ph with
  | none =>
    subst hph
    exact hmac_signed_interest_accepted _ Sha256.sha256_length klName keyName key pre mid appParam midB tailA hmid htail
      hpre hndpre hfitmid hfittail hne hkn (by simp only [concatB, List.length_nil] at hsize; omega)
  | some x =>
    exact hmac_signed_interest_placeholder_accepted _ Sha256.sha256_length klName keyName key pre post x mid appParam
      midB tailA hmid htail hph hpre hpost hndpre hndpost hfitmid hfittail hne hkn hsize

private def okTrue : Except PyErr Bool → Bool
  | .ok true => true
  | _ => false
private def okFalse : Except PyErr Bool → Bool
  | .ok false => true
  | _ => false

/-- a DigestSha256-signed Data is accepted; the same wire with one Content byte changed is rejected -/
example :
    okTrue (makeDataS (digestSigner Sha256.sha256 none) [[8, 1, 97]] .none (.bytes [120, 121]) >>= fun m =>
      checkData (digestChecker Sha256.sha256) m.wire) = true ∧
    okFalse (makeDataS (digestSigner Sha256.sha256 none) [[8, 1, 97]] .none (.bytes [120, 121]) >>= fun m =>
      checkData (digestChecker Sha256.sha256) (m.wire.set 9 122)) = true := by
  rw [Sha256.sha256_eq_sha256N]
  decide +kernel

/-- an HMAC-signed Interest whose name carries a placeholder in the MIDDLE (key of 3 bytes, KeyLocator /k/h, checker
    for /k) is accepted by union_checker(sha256_digest_checker, HmacChecker) + params_sha256_checker; with another
    key it is rejected -/
example :
    okTrue (makeInterestS Sha256.sha256 (hmacSigner Sha256.sha256 [[8, 1, 107], [8, 1, 104]] [1, 2, 3])
        [[8, 1, 97], 2 :: 32 :: List.replicate 32 0, [8, 1, 98]]
        [.none, .bool, .none, .uint 5, .uint 4000, .none] (.bytes [120, 121]) >>= fun m =>
      checkInterest (unionChecker [digestChecker Sha256.sha256, hmacChecker Sha256.sha256 [[8, 1, 107]] [1, 2, 3],
        paramsChecker Sha256.sha256]) m.wire) = true ∧
    okFalse (makeInterestS Sha256.sha256 (hmacSigner Sha256.sha256 [[8, 1, 107], [8, 1, 104]] [1, 2, 3])
        [[8, 1, 97], 2 :: 32 :: List.replicate 32 0, [8, 1, 98]]
        [.none, .bool, .none, .uint 5, .uint 4000, .none] (.bytes [120, 121]) >>= fun m =>
      checkInterest (hmacChecker Sha256.sha256 [[8, 1, 107]] [1, 2, 4]) m.wire) = true := by
  rw [Sha256.sha256_eq_sha256N]
  decide +kernel

end Ndn.C02
