import NdnProofs.Lemmas.PitTies
import NdnModel.Gate
import NdnProofs.Lemmas.GateTimedTable
/-!
# C05 — nothing that requires validation reaches the application unvalidated

**Data side.** Theorems about `Ndn.Pit.run` (the pending-Interest model of C03, which carries the validator supplied with
each Interest as a script `(verdict, latency)`), for every event history and both front-ends.  Vocabulary: `Accepting`,
`reported`; `TakenAt`, `NoTie` from `Lemmas/PitSpec`.

**Interest side.** Theorems about `Ndn.Gate.onInterest` (model of `_on_interest` / `submit_interest` after route lookup)
for every combination of ApplicationParameters / signature presence / digest correctness, every route and every scripted
validator answer.

**Interest side, timed.** Theorems about `Ndn.GateTimed.run`: validation takes time and the routing table may change
meanwhile (`timed_*`, `arrival_registration`, `gen_timed`).
-/
namespace Ndn.C05
open Ndn Ndn.Pit Ndn.Gate

/-- the verdicts that accept a packet: `PASS`, `ALLOW_BYPASS`; legacy: a true value -/
def Accepting : Verdict → Prop
  | .pass => True
  | .allowBypass => True
  | _ => False

instance : DecidablePred Accepting := fun v => by cases v <;> unfold Accepting <;> infer_instance

/-- the verdict a validation failure carries: the validator's own verdict in the current front-end
    (a validator that raised `TimeoutError` counts as `TIMEOUT`); the legacy `ValidationFailure` always says `FAIL` -/
def reported (fe : FrontEnd) (v : Verdict) : Verdict :=
  match fe, v with
  | .v1, _ => .fail
  | .v2, .raiseTimeout => .timeout
  | .v2, v => v

theorem outcome_verdict (fe : FrontEnd) (v : Verdict) (d : Nat) (o : Outcome) (h : validatorOutcome fe v d = some o) :
    (∀ d', o = .data d' ↔ d' = d ∧ Accepting v) ∧
    (∀ d' v', o = .valFail d' v' → d' = d ∧ ¬ Accepting v ∧ v' = reported fe v) := by
  rw [validatorOutcome_eq_ref] at h
  cases fe <;> cases v <;> cases h <;> simp [Accepting, reported, eq_comm]

/-- If the awaitable returned the content of Data `d` then, in every history, a Data with that content matching the
    Interest arrived while it was waiting and not after its deadline (`TakenAt`), the validator supplied with the Interest
    accepted it, and the caller had the payload at `max t0 awaitAt`, `t0` = validator start + latency (current front-end:
    before the deadline, or in the instant the Data came).  Without ties the Data came strictly before the deadline and
    (current front-end only: finding F15, counterexample below) so did the validator's answer. -/
theorem data_only_if_accepted (fe : FrontEnd) (evs : List Ev) (i : Nat) (I : Interest)
    (d t : Nat) (hi : (run fe evs).ints[i]? = some I) (hs : (run fe evs).sts[i]? = some (.done (.data d) t)) :
    Accepting I.verdict ∧ ∃ at_ t0, TakenAt fe evs i I.toReq d at_ ∧ t0 = vstart fe at_ I.toReq + I.lat ∧
      t = max t0 I.awaitAt ∧ (fe = .v2 → t0 < I.deadline ∨ I.lat = 0) ∧
      (NoTie evs → at_ < I.deadline ∧ (fe = .v2 → t0 < I.deadline)) := by
  have hr := run_req fe evs hi
  obtain ⟨t0, ⟨d', a, h1, h2, h3, h4⟩, ht⟩ := run_justified fe evs i I _ hi hs
  obtain ⟨h5, h6⟩ := ((outcome_verdict fe _ d' _ h3).1 d).mp rfl
  subst h5
  refine ⟨h6, a, t0, h1, h2, ht, h4, fun hn => ?_⟩
  have hlt := taken_before_deadline fe evs hn hr h1
  refine ⟨hlt, fun hfe => ?_⟩
  rcases h4 hfe with h | h
  · exact h
  · subst hfe
    have h' : I.lat = 0 := h
    have : vstart .v2 a I.toReq = a := rfl
    have hlt' : a < I.deadline := hlt
    omega

/-- What a validation failure carries: the Data that was taken for this Interest and the verdict of the supplied
    validator, which was not an accepting one; timing as in `data_only_if_accepted`. -/
theorem other_verdict_failure (fe : FrontEnd) (evs : List Ev) (i : Nat) (I : Interest)
    (d t : Nat) (v' : Verdict) (hi : (run fe evs).ints[i]? = some I)
    (hs : (run fe evs).sts[i]? = some (.done (.valFail d v') t)) :
    ¬ Accepting I.verdict ∧ v' = reported fe I.verdict ∧
    ∃ at_ t0, TakenAt fe evs i I.toReq d at_ ∧ t0 = vstart fe at_ I.toReq + I.lat ∧ t = max t0 I.awaitAt ∧
      (fe = .v2 → t0 < I.deadline ∨ I.lat = 0) ∧ (NoTie evs → at_ < I.deadline) := by
  have hr := run_req fe evs hi
  obtain ⟨t0, ⟨d', a, h1, h2, h3, h4⟩, ht⟩ := run_justified fe evs i I _ hi hs
  obtain ⟨h5, h6, h7⟩ := (outcome_verdict fe _ d' _ h3).2 d v' rfl
  subst h5
  exact ⟨h6, h7, a, t0, h1, h2, ht, h4, fun hn => taken_before_deadline fe evs hn hr h1⟩

/-- Current front-end, a matching Data reaches a waiting Interest whose validator answers at once: the future is
    resolved in that instant, with the payload for `PASS` / `ALLOW_BYPASS`, with a validation failure carrying this Data
    and this verdict for `FAIL` / `TIMEOUT` / `SILENCE` and for anything else a validator may hand back (`other`). -/
theorem every_verdict_decides (evs : List Ev) (nm : Name) (dg d : Nat) (i : Nat) (I : Interest)
    (hi : (run .v2 evs).ints[i]? = some I) (hs : (run .v2 evs).sts[i]? = some .waiting)
    (hm : Matches I.toReq nm dg) (hl : I.lat = 0) :
    (I.verdict = .pass ∨ I.verdict = .allowBypass →
      (run .v2 (evs ++ [.data nm dg d])).sts[i]? = some (resolve (run .v2 evs).clock I.toReq (.data d))) ∧
    (I.verdict = .fail ∨ I.verdict = .timeout ∨ I.verdict = .silence ∨ I.verdict = .other →
      (run .v2 (evs ++ [.data nm dg d])).sts[i]? =
        some (resolve (run .v2 evs).clock I.toReq (.valFail d I.verdict))) := by
  have h := run_step .v2 evs (.data nm dg d) hi hs
  have hl' : I.toReq.lat = 0 := hl
  simp only [specReact, hm, and_self, if_true, taken, hl', vstart, Nat.le_refl] at h
  constructor
  · intro hv
    rcases hv with hv | hv <;>
    · have hv' : I.toReq.verdict = _ := hv
      rw [h, hv']; rfl
  · intro hv
    rcases hv with hv | hv | hv | hv <;>
    · have hv' : I.toReq.verdict = _ := hv
      rw [h, hv']; rfl

theorem resolve_awaited (now : Nat) (r : Req) (o : Outcome) (h : r.awaitAt ≤ now) : resolve now r o = .done o now := by
  simp [resolve, h]

/-- Current front-end: an Interest whose validator would finish at or after the deadline times out at the deadline;
    the later answer is discarded. -/
theorem validator_late_timeout (evs : List Ev) (t : Nat) (i : Nat) (I : Interest) (d fin : Nat)
    (hi : (run .v2 evs).ints[i]? = some I) (hs : (run .v2 evs).sts[i]? = some (.validating d fin))
    (hlate : I.deadline ≤ fin) (hd : I.deadline ≤ max (run .v2 evs).clock t) (evs' : List Ev) :
    (run .v2 (evs ++ [.tick t] ++ evs')).sts[i]? = some (.done .timeout I.deadline) := by
  have h := run_step .v2 evs (.tick t) hi hs
  have h2 : (run .v2 (evs ++ [.tick t])).sts[i]? = some (.done .timeout I.deadline) := by
    rw [h]
    simp only [specReact, specFire]
    cases validatorOutcome .v2 I.toReq.verdict d with
    | none => exact congrArg some (if_pos hd)
    | some o => exact congrArg some ((if_neg fun hf => Nat.not_lt.mpr hlate hf.2).trans (if_pos hd))
  exact done_stable _ _ _ _ _ _ h2

/-- **ties.** In every state `reachable` over a history of turns, i.e. in every linearisation: a payload only if the
    supplied validator accepted that Data, a validation failure only if it did not. -/
theorem tie_data_only_if_accepted (fe : FrontEnd) (h : List Turn) : ∀ σ ∈ reachable fe h,
    ∀ (i : Nat) (I : Interest) (d t : Nat), σ.ints[i]? = some I →
      (σ.sts[i]? = some (IState.done (.data d) t) → Accepting I.verdict) ∧
      (∀ v', σ.sts[i]? = some (IState.done (.valFail d v') t) → ¬ Accepting I.verdict ∧ v' = reported fe I.verdict) := by
  refine forall_reachable fun l _ i I d t hi => ?_
  exact ⟨fun hs => (data_only_if_accepted fe l i I d t hi hs).1,
    fun v' hs => ⟨(other_verdict_failure fe l i I d t v' hi hs).1, (other_verdict_failure fe l i I d t v' hi hs).2.1⟩⟩

/-- Finding F15 (legacy front-end): the validator runs after `wait_for`, so a validator that outlives the lifetime
    still returns the payload - lifetime 100, validator latency 300, payload returned at 300. -/
example : (run .v1 [.express [1] none false 100 .pass 300 0 false, .data [1] 1 0, .tick 1000]).sts =
    [.done (.data 0) 300] := by decide +kernel
/-- the same history in the current front-end: timeout at the deadline -/
example : (run .v2 [.express [1] none false 100 .pass 300 0 false, .data [1] 1 0, .tick 1000]).sts =
    [.done .timeout 100] := by decide +kernel

/-- the verdicts that reach the handler (`lets_eq_ref`: what the generated `delivers` entries come to) -/
def letsRef : Verdict → Bool
  | .pass => true
  | .allowBypass => true
  | _ => false

theorem lets_eq_ref (fe : FrontEnd) (v : Verdict) : Gate.lets fe v = letsRef v := by cases fe <;> cases v <;> rfl

theorem letsRef_iff (v : Verdict) : letsRef v = true ↔ Accepting v := by cases v <;> simp [letsRef, Accepting]

theorem digestWhen_eq (fe : FrontEnd) (a b : Bool) : (Gate.shape fe).digestWhen.holds a b = (a || b) := by
  cases fe <;> rfl

theorem validateWhen_eq (fe : FrontEnd) (a b : Bool) :
    (Gate.shape fe).validateWhen.holds a b = match fe with | .v2 => a || b | .v1 => b := by
  cases fe <;> rfl

theorem noValidatorAs_eq (fe : FrontEnd) :
    (Gate.shape fe).noValidatorAs = match fe with | .v2 => some .fail | .v1 => none := by
  cases fe <;> rfl

theorem plain_eq (fe : FrontEnd) : (Gate.shape fe).plain = .pass := by cases fe <;> rfl

/-- the gate with the values of the generated table `Gen.C05.v1/v2` written out -/
def onInterestRef (fe : FrontEnd) (dflt : Verdict) (p : IntPkt) : Route → List Act
  | .none => []
  | .noCallback => []
  | .handler val =>
    let sigRequired := p.hasParams || p.hasSig
    if sigRequired && !p.digestOk then [.digestCheck]
    else
      let pre := if sigRequired then [Act.digestCheck] else []
      match fe with
      | .v2 =>
        if sigRequired then
          match val with
          | some v => pre ++ [.validate] ++ (if letsRef v then [.handle] else [])
          | none => pre
        else pre ++ [.handle]
      | .v1 =>
        if p.hasSig then
          let v := match val with | some v => v | none => dflt
          pre ++ [.validate] ++ (if letsRef v then [.handle] else [])
        else pre ++ [.handle]

/-- evaluation of the generated gate table: a source edit that changes `digestWhen` / `validateWhen` / `noValidatorAs` /
    `plain` / `delivers` stops this, and every theorem below, from checking -/
theorem onInterest_eq_ref (fe : FrontEnd) (dflt : Verdict) (p : IntPkt) (r : Route) :
    onInterest fe dflt p r = onInterestRef fe dflt p r := by
  cases r with
  | none => rfl
  | noCallback => rfl
  | handler val =>
    simp only [onInterest, onInterestRef, digestWhen_eq, validateWhen_eq, noValidatorAs_eq, plain_eq, lets_eq_ref]
    cases fe <;> cases val <;> simp [letsRef, Verdict.ofVR]

/-- An Interest that carries ApplicationParameters or a signature and whose parameters digest is wrong is dropped right
    after the digest check: no validator, no handler (both front-ends, every route). -/
theorem interest_digest_gate (fe : FrontEnd) (dflt : Verdict) (p : IntPkt) (r : Route)
    (hreq : p.hasParams = true ∨ p.hasSig = true) (hbad : p.digestOk = false) :
    Act.validate ∉ onInterest fe dflt p r ∧ Act.handle ∉ onInterest fe dflt p r := by
  cases r with
  | none => simp [onInterest_eq_ref, onInterestRef]
  | noCallback => simp [onInterest_eq_ref, onInterestRef]
  | handler val =>
    have : (p.hasParams || p.hasSig) = true := (Bool.or_eq_true _ _).mpr hreq
    simp [onInterest_eq_ref, onInterestRef, this, hbad]

/-- Current front-end: an Interest that carries ApplicationParameters or a signature reaches its handler only if the
    route has a validator and that validator accepted it, after the digest check.  A missing validator means rejection. -/
theorem interest_validated_before_handler_v2 (dflt : Verdict) (p : IntPkt) (r : Route)
    (hreq : p.hasParams = true ∨ p.hasSig = true) (hh : Act.handle ∈ onInterest .v2 dflt p r) :
    p.digestOk = true ∧ (∃ v, r = .handler (some v) ∧ Accepting v) ∧
    onInterest .v2 dflt p r = [.digestCheck, .validate, .handle] := by
  have hreq' : (p.hasParams || p.hasSig) = true := (Bool.or_eq_true _ _).mpr hreq
  rw [onInterest_eq_ref] at hh ⊢
  cases r with
  | none | noCallback => cases hh
  | handler val =>
    cases hd : p.digestOk with
    | false => simp [onInterestRef, hreq', hd] at hh
    | true =>
      cases val with
      | none => simp [onInterestRef, hreq', hd] at hh
      | some v =>
        cases hl : letsRef v with
        | false => simp [onInterestRef, hreq', hd, hl] at hh
        | true => exact ⟨rfl, ⟨v, rfl, (letsRef_iff v).mp hl⟩, by simp [onInterestRef, hreq', hd, hl]⟩

/-- Legacy front-end: a *signed* Interest reaches its handler only if the validator in force - the route's, else the
    application-wide default - returned a true value, after the digest check. -/
theorem interest_validated_before_handler_v1 (dflt : Verdict) (p : IntPkt) (r : Route)
    (hsig : p.hasSig = true) (hh : Act.handle ∈ onInterest .v1 dflt p r) :
    p.digestOk = true ∧
    (∃ val, r = .handler val ∧ Accepting (match val with | some v => v | none => dflt)) ∧
    onInterest .v1 dflt p r = [.digestCheck, .validate, .handle] := by
  rw [onInterest_eq_ref] at hh ⊢
  cases r with
  | none | noCallback => cases hh
  | handler val =>
    cases hd : p.digestOk with
    | false => simp [onInterestRef, hsig, hd] at hh
    | true =>
      cases hl : letsRef (match (generalizing := false) val with | some v => v | none => dflt) with
      | false => simp [onInterestRef, hsig, hd, hl] at hh
      | true => exact ⟨rfl, ⟨val, rfl, (letsRef_iff _).mp hl⟩, by simp [onInterestRef, hsig, hd, hl]⟩

/-- current front-end, a route with a validator of its own: every non-accepting answer keeps the Interest from the
    handler -/
theorem interest_rejected_by_verdict (dflt : Verdict) (p : IntPkt) (v : Verdict)
    (hreq : p.hasParams = true ∨ p.hasSig = true) (hv : ¬ Accepting v) :
    Act.handle ∉ onInterest .v2 dflt p (.handler (some v)) := by
  intro hh
  obtain ⟨_, ⟨v', hr, hacc⟩, _⟩ := interest_validated_before_handler_v2 dflt p _ hreq hh
  cases hr
  exact hv hacc

/-- An Interest without ApplicationParameters and signature goes to the handler of its route without digest check and
    without any validator (both front-ends). -/
theorem plain_interest_no_validator (fe : FrontEnd) (dflt : Verdict) (p : IntPkt) (val : Option Verdict)
    (h1 : p.hasParams = false) (h2 : p.hasSig = false) :
    onInterest fe dflt p (.handler val) = [.handle] := by
  cases fe <;> simp [onInterest_eq_ref, onInterestRef, h1, h2]


example : Act.handle ∈ onInterest .v2 .fail ⟨true, true, true⟩ (.handler (some .allowBypass)) := by decide +kernel
-- a route validator that hands back a non-`ValidResult` value (`False`, `None`, ...) keeps the Interest out
example : onInterest .v2 .pass ⟨true, true, true⟩ (.handler (some .other)) = [.digestCheck, .validate] := by decide +kernel
example : (run .v2 [.express [1] none false 100 .other 0 0 false, .data [1] 1 5]).sts = [.done (.valFail 5 .other) 0] := by
  decide +kernel
example : Act.handle ∈ onInterest .v1 .pass ⟨true, true, true⟩ (.handler none) := by decide +kernel
example : onInterest .v2 .pass ⟨true, false, true⟩ (.handler none) = [.digestCheck] := by decide +kernel
example : onInterest .v1 .fail ⟨true, false, true⟩ (.handler none) = [.digestCheck, .handle] := by decide +kernel
example : (run .v2 [.express [1] none false 100 .silence 0 0 false, .data [1] 1 5]).sts = [.done (.valFail 5 .silence) 0] := by
  decide +kernel
example : (run .v2 [.express [1] none false 100 .raiseTimeout 20 0 false, .data [1] 1 5, .tick 50]).sts =
    [.done (.valFail 5 .timeout) 20] := by decide +kernel
example : (run .v2 [.express [1] none false 100 .pass 300 0 false, .data [1] 1 0]).sts = [.validating 0 300] := by decide +kernel
-- a late await does not let a rejected Data through: the failure is held and raised at the first await
example : (run .v2 [.express [1] none false 100 .fail 0 60 false, .tick 20, .data [1] 1 5, .tick 500]).sts =
    [.done (.valFail 5 .fail) 60] := by decide +kernel
-- legacy, late await: the validator is consulted at the first await, and its verdict decides
example : (run .v1 [.express [1] none false 100 .fail 0 60 false, .tick 20, .data [1] 1 5, .tick 500]).sts =
    [.done (.valFail 5 .fail) 60] ∧
    (run .v1 [.express [1] none false 100 .fail 0 60 false, .tick 20, .data [1] 1 5, .tick 500]).vcalls = [(0, 5, 60)] := by
  decide +kernel
-- a tie (Data in the turn of the deadline): the payload is allowed only through the validator
example : allowed .v2 [⟨0, [.express [1] none false 100 .fail 0 0 false]⟩, ⟨100, [.data [1] 1 5]⟩] =
    [[.done .timeout 100], [.done (.valFail 5 .fail) 100], [.done .timeout 100], [.done (.valFail 5 .fail) 100]] := by
  decide +kernel

/-! ### what the models take from the source text

`Ndn.Gen.C05` and the verdict part of `Ndn.Gen.C03` are regenerated from the source by every check run
(`harness/props/pit_extract.py`, `ast` only).  `Gate.onInterest` and `Pit.validatorOutcome` compute with them
(`onInterest_eq_ref`, `validatorOutcome_eq_ref` evaluate them); the remaining shapes are asserted, entry by entry, equal
to the text the models were written from. -/

/-- `class ValidResult(Enum)`: exactly these five members with these values; `ValidationFailure` defaults to `FAIL` -/
theorem gen_valid_result :
    Gen.C05.validResult = [(.fail, -2), (.timeout, -1), (.silence, 0), (.pass, 1), (.allowBypass, 2)] ∧
    Gen.C05.validResultNames = ["FAIL", "TIMEOUT", "SILENCE", "PASS", "ALLOW_BYPASS"] ∧
    Gen.C05.failureDefault = .fail := by
  and_intros <;> rfl

/-- Data: only `PASS` and `ALLOW_BYPASS` reach `set_result` (current); a true value (legacy).  `TimeoutError` /
    `CancelledError` of the validator read as `TIMEOUT`, nothing else is caught; the "future already done" guard sits
    between the validator call and completing the future -/
theorem gen_data_delivers :
    Gen.C03.v2.dataDelivers = .only [.pass, .allowBypass] ∧ Gen.C03.v1.dataDelivers = .truthy ∧
    Gen.C03.v2.dataCaught = [.timeoutError, .cancelledError] ∧ Gen.C03.v2.dataCaughtAs = .timeout ∧
    Gen.C03.v1.dataCaught = [] ∧ Gen.C03.v2.dataNoValidator = "valid = ValidResult.FAIL" ∧
    Gen.C03.v1.dataNoValidator = "validator = self.data_validator" ∧
    Gen.C03.nodeV2.satisfyDone = "if self.future.cancelled() or self.future.done(): return" ∧
    Pit.tableOk = true := by
  and_intros <;> rfl

/-- Interests: only `PASS` and `ALLOW_BYPASS` reach the handler (current); a true value (legacy).  A route without
    validator is `FAIL` without consulting anything (current) / falls back to the application-wide validator (legacy);
    an Interest that needs no validation is `PASS` / `True` -/
theorem gen_interest_delivers :
    Gen.C05.v2.delivers = .only [.pass, .allowBypass] ∧ Gen.C05.v1.delivers = .truthy ∧
    Gen.C05.v2.noValidatorAs = some .fail ∧ Gen.C05.v2.noValidator = "valid = ValidResult.FAIL" ∧
    Gen.C05.v1.noValidatorAs = none ∧
    Gen.C05.v1.noValidator = "validator = node.validator if node.validator else self.int_validator" ∧
    Gen.C05.v2.plain = .pass ∧ Gen.C05.v1.plain = .pass ∧ Gate.tableOk = true := by
  and_intros <;> rfl

/-- the order of the gate: route lookup, callback test, digest check, validator, handler - in both front-ends -/
theorem gen_gate_order :
    Gen.C05.v2.order = ["route", "callback", "digest", "validate", "handle"] ∧
    Gen.C05.v1.order = ["route", "callback", "digest", "validate", "handle"] := ⟨rfl, rfl⟩

/-- when the steps are required: the digest check for ApplicationParameters or a signature (both); the validator for
    the same (current) / for a signature only (legacy); a failed digest check returns at once -/
theorem gen_gate_when :
    Gen.C05.v2.digestWhen = .paramsOrSig ∧ Gen.C05.v1.digestWhen = .paramsOrSig ∧
    Gen.C05.v2.validateWhen = .paramsOrSig ∧ Gen.C05.v1.validateWhen = .sigOnly ∧
    Gen.C05.v2.digestFail = "if not await params_sha256_checker(name, sig): return" ∧
    Gen.C05.v1.digestFail = Gen.C05.v2.digestFail ∧
    Gen.C05.v2.validatorArgs = "name, sig, context" ∧ Gen.C05.v1.validatorArgs = "name, sig" := by
  and_intros <;> rfl

/-- `params_sha256_checker` / `sha256_digest_checker`: the computed SHA-256 is compared with `==` against the whole
    value in the packet, an empty covered part or value fails, over these `SignaturePtrs` fields; the legacy default
    validators are `sha256_digest_checker`, which passes every packet that is not DigestSha256-signed -/
theorem gen_digest_checkers :
    Gen.C05.paramsCmp = .fullEq ∧ Gen.C05.digestCmp = .fullEq ∧
    Gen.C05.paramsEmpty = "if not covered_part or not sig_value: ret = False" ∧ Gen.C05.digestEmpty = Gen.C05.paramsEmpty ∧
    Gen.C05.paramsFields = ["sig.digest_covered_part", "sig.digest_value_buf"] ∧
    Gen.C05.digestFields = ["sig.signature_covered_part", "sig.signature_info", "sig.signature_value_buf"] ∧
    Gen.C05.digestScope = "checks when SignatureType.DIGEST_SHA256 == sig_info.signature_type and sig_info; otherwise: return True" ∧
    Gen.C05.legacyDefaults = ["self.data_validator = sha256_digest_checker", "self.int_validator = sha256_digest_checker"] := by
  and_intros <;> rfl

/-- `params_sha256_checker` accepts a computed digest exactly when it equals the ParametersSha256DigestComponent value,
    not a prefix of it (what `IntPkt.digestOk` stands for in `interest_digest_gate`). -/
theorem digest_check_exact (computed value : Bytes) : paramsChecker computed value = true ↔ computed = value := by
  show Src.BytesCmp.holds .fullEq computed value = true ↔ _
  simp [Src.BytesCmp.holds]

example : paramsChecker [1, 2, 3] [1, 2] = false := by decide +kernel
-- what the table entry rules out: a comparison over `zip` stops at the shorter string
example : Src.BytesCmp.holds .zipAll [1, 2, 3] [1, 2] = true := by decide +kernel

/-! ### incoming Interests, timed

Theorems about `Ndn.GateTimed.run` (events attach / detach / arrive / start / done / deadline, node objects on a heap,
Interests in flight holding the node object `_on_interest` kept), for every history and both front-ends.  Vocabulary:
`obsAfter`, `toksIn` / `started` / `answer` (the Interest's own events), `captured` (what the table held for its name at
arrival), `registered` / `C04.attached` / `C04.IsLongestAttached`.
The letters used below: (a) an Interest that requires validation is delivered only through the validator registered with
its handler at the instant of arrival, after that validator accepted it; (b) a wrong parameters digest stops it before any
validator; (c) a plain Interest meets no validator; (d) at most one delivery; (e) a validator that does not accept, or
raises, delivers nothing; (f) the steps observed are those of `Gate.onInterest` on the table as it was at arrival. -/

open Ndn.GateTimed (Obs Tok obsOf arrivals captured registered ops tokOf started answer life TNode ProperT Iid Vid Phase
  arrivalF startF doneF conclude tshape)

/-- calling `node.callback` (a `None` callback would be a TypeError inside the task; `GateTimed.captured_callback`:
    unreachable) -/
def deliverRef (i : Iid) (nd : TNode) : List Obs :=
  match nd.callback with
  | some h => [.handle i h]
  | none => [.died i .typeError]

def finRef (i : Iid) (nd : TNode) : Verdict → List Obs
  | .raiseTimeout => [.died i .timeoutError]
  | .raiseOther => [.died i .scripted]
  | v => if letsRef v then deliverRef i nd else []

theorem conclude_eq_ref (fe : FrontEnd) (i : Iid) (nd : TNode) (v : Verdict) :
    conclude fe i nd v = (.finished, if letsRef v then deliverRef i nd else []) := by
  unfold conclude deliverRef
  rw [lets_eq_ref]
  cases letsRef v <;> cases nd.callback <;> rfl

theorem doneF_eq_ref (fe : FrontEnd) (i : Iid) (nd : TNode) (v : Verdict) :
    doneF fe i nd v = (.finished, finRef i nd v) := by
  cases fe <;> cases v <;> first | rfl | exact conclude_eq_ref _ i nd _

/-- the validator `submit_interest` consults: the node's, else (legacy only) the application-wide one -/
def inForce (fe : FrontEnd) (av : Vid) (nd : TNode) : Option Vid :=
  match nd.validator, fe with
  | some vid, _ => some vid
  | none, .v1 => some av
  | none, .v2 => none

/-- `life` with the values of `Gen.C05T.v1/v2` written out: `st` = the task has started, `ans` = the validator's answer -/
def lifeRef (fe : FrontEnd) (av : Vid) (i : Iid) (pkt : IntPkt) (nd : TNode) (st : Bool) (ans : Option Verdict) :
    Phase × List Obs :=
  let needs := pkt.hasParams || pkt.hasSig
  let pre := if needs then [Obs.digest i] else []
  if needs && !pkt.digestOk then (.finished, pre)
  else if !st then (.queued, pre)
  else
    let validates := match fe with | .v2 => needs | .v1 => pkt.hasSig
    if validates then
      match inForce fe av nd with
      | none => (.finished, pre)
      | some vid =>
        match ans with
        | none => (.validating vid, pre ++ [.validate i vid])
        | some v => (.finished, pre ++ [.validate i vid] ++ finRef i nd v)
    else (.finished, pre ++ deliverRef i nd)

theorem startF_eq_ref (fe : FrontEnd) (av : Vid) (i : Iid) (pkt : IntPkt) (nd : TNode) :
    startF fe av i pkt nd =
      if (match fe with | .v2 => pkt.hasParams || pkt.hasSig | .v1 => pkt.hasSig) then
        match inForce fe av nd with
        | none => (.finished, [])
        | some vid => (.validating vid, [.validate i vid])
      else (.finished, deliverRef i nd) := by
  obtain ⟨cb, val⟩ := nd
  simp only [startF, validateWhen_eq, noValidatorAs_eq, plain_eq, conclude_eq_ref]
  cases fe <;> cases val <;> simp [inForce, letsRef, Verdict.ofVR]

/-- evaluation of the generated tables: a source edit that changes when digest check / validator are required, what
    stands in for a missing validator, the delivering verdicts or the `except` clauses around the validator call stops
    this, and every `timed_*` theorem, from checking -/
theorem life_eq_ref (fe : FrontEnd) (av : Vid) (i : Iid) (pkt : IntPkt) (nd : TNode) (toks : List Tok) :
    life fe av i pkt (some nd) toks = lifeRef fe av i pkt nd (started toks) (answer toks) := by
  simp only [life, lifeRef, arrivalF, digestWhen_eq]
  cases (pkt.hasParams || pkt.hasSig) && !pkt.digestOk
  case true => exact GateTimed.react_finished ..
  simp only [Bool.false_eq_true, if_false]
  rw [GateTimed.foldl_queued]
  cases started toks
  case false => rfl
  simp only [if_true, Bool.not_true, Bool.false_eq_true, if_false, startF_eq_ref]
  generalize (match fe with | .v2 => pkt.hasParams || pkt.hasSig | .v1 => pkt.hasSig) = validates
  cases validates
  case false => exact GateTimed.react_finished ..
  cases inForce fe av nd with
  | none => simp only [if_true, List.append_nil]; exact GateTimed.react_finished ..
  | some vid =>
    simp only [if_true, GateTimed.foldl_validating, doneF_eq_ref, answer]
    cases GateTimed.firstDone (GateTimed.afterStart toks) <;> rfl

def obsAfter (fe : FrontEnd) (av : Vid) (pre : List GateTimed.Ev) (n : GateTimed.Name) (pkt : IntPkt)
    (post : List GateTimed.Ev) : List Obs :=
  obsOf (arrivals pre) (GateTimed.run fe av (pre ++ .arrive n pkt :: post)).log

def toksIn (pre post : List GateTimed.Ev) : List Tok := post.filterMap (tokOf (arrivals pre))

/-- One Interest, every history: in `pre ++ [arrive n pkt] ++ post`, what is observed about the arriving Interest
    (`obsAfter`) is `life` of the node object found for its name AT THE INSTANT OF ARRIVAL (`captured`) and of its own
    `start` / `done` events in `post`.  Nothing else of the history matters: a node object that carries a callback is
    never written again (`GateTimed.heap_frozen`). -/
theorem timed_flight (fe : FrontEnd) (av : Vid) (pre post : List GateTimed.Ev) (n : GateTimed.Name) (pkt : IntPkt) :
    obsAfter fe av pre n pkt post =
      (life fe av (arrivals pre) pkt (captured (GateTimed.run fe av pre) n) (toksIn pre post)).2 :=
  GateTimed.run_flight_obs fe av pre post n pkt

theorem timed_flight_ref (fe : FrontEnd) (av : Vid) (pre post : List GateTimed.Ev) (n : GateTimed.Name) (pkt : IntPkt) :
    obsAfter fe av pre n pkt post =
      match captured (GateTimed.run fe av pre) n with
      | none => []
      | some nd => (lifeRef fe av (arrivals pre) pkt nd (started (toksIn pre post)) (answer (toksIn pre post))).2 := by
  rw [timed_flight]
  cases captured (GateTimed.run fe av pre) n with
  | none => rfl
  | some nd => simp only [life_eq_ref]

/-- Two continuations that agree on the Interest's own `start` / `done` events lead to the same observations about it.
    In particular a raising validator of ANOTHER Interest changes nothing here. -/
theorem timed_only_own_events (fe : FrontEnd) (av : Vid) (pre post post' : List GateTimed.Ev) (n : GateTimed.Name)
    (pkt : IntPkt) (h : toksIn pre post' = toksIn pre post) :
    obsAfter fe av pre n pkt post' = obsAfter fe av pre n pkt post := by
  rw [timed_flight, timed_flight, h]

/-- validation is required: ApplicationParameters (also empty) or a signature in the current front-end, a signature in
    the legacy one -/
def Validates (fe : FrontEnd) (pkt : IntPkt) : Prop :=
  match fe with
  | .v2 => pkt.hasParams = true ∨ pkt.hasSig = true
  | .v1 => pkt.hasSig = true

theorem validates_tests {fe : FrontEnd} {pkt : IntPkt} (h : Validates fe pkt) :
    (pkt.hasParams || pkt.hasSig) = true ∧
      (match (generalizing := false) fe with | .v2 => pkt.hasParams || pkt.hasSig | .v1 => pkt.hasSig) = true := by
  cases fe with
  | v1 => have : pkt.hasSig = true := h; simp [this]
  | v2 => have : pkt.hasParams = true ∨ pkt.hasSig = true := h; simpa using this

theorem finRef_handle {i : Iid} {nd : TNode} {v : Verdict} {h : GateTimed.Hid} (hh : Obs.handle i h ∈ finRef i nd v) :
    Accepting v ∧ nd.callback = some h ∧ finRef i nd v = [.handle i h] := by
  obtain ⟨cb, val⟩ := nd
  cases v <;> cases cb <;> simp [finRef, deliverRef, letsRef, Accepting] at hh ⊢ <;> exact hh.symm

/-- (a) for both front-ends at once: `inForce` names the validator that is consulted -/
theorem timed_validated_before_handler (fe : FrontEnd) (av : Vid) (pre post : List GateTimed.Ev) (n : GateTimed.Name)
    (pkt : IntPkt) (h : GateTimed.Hid) (hval : Validates fe pkt)
    (hh : Obs.handle (arrivals pre) h ∈ obsAfter fe av pre n pkt post) :
    pkt.digestOk = true ∧ ∃ val vid v, captured (GateTimed.run fe av pre) n = some ⟨some h, val⟩ ∧
      inForce fe av ⟨some h, val⟩ = some vid ∧
      started (toksIn pre post) = true ∧ answer (toksIn pre post) = some v ∧ Accepting v ∧
      obsAfter fe av pre n pkt post =
        [.digest (arrivals pre), .validate (arrivals pre) vid, .handle (arrivals pre) h] := by
  obtain ⟨hneeds, hvalidates⟩ := validates_tests hval
  rw [timed_flight_ref] at hh ⊢
  cases hc : captured (GateTimed.run fe av pre) n with
  | none => rw [hc] at hh; cases hh
  | some nd =>
    rw [hc] at hh
    simp only [lifeRef, hvalidates, if_true] at hh ⊢
    simp only [hneeds, if_true, Bool.true_and] at hh ⊢
    cases hd : pkt.digestOk
    case false => simp [hd] at hh
    cases hs : started (toksIn pre post)
    case false => simp [hd, hs] at hh
    cases hin : inForce fe av nd
    case none => simp [hd, hs, hin] at hh
    cases ha : answer (toksIn pre post)
    case none => simp [hd, hs, hin, ha] at hh
    rename_i vid v
    simp only [hd, hs, hin, ha, Bool.not_true, Bool.false_eq_true, if_false, List.mem_append, List.mem_singleton,
      reduceCtorEq, false_or] at hh ⊢
    obtain ⟨hacc, hcb, hfin⟩ := finRef_handle hh
    obtain ⟨cb, val⟩ := nd
    cases hcb
    exact ⟨trivial, val, vid, v, rfl, hin, trivial, rfl, hacc, by rw [hfin]; rfl⟩

/-- **(a) current front-end.**  An Interest that requires validation is handed to a handler `h` only if the node found
    at arrival held `h` TOGETHER WITH a validator `vid`, its digest was right, its task started, and the first `done`
    after the `start` was accepting; observed in this order: digest check, `vid` called, `h` called. -/
theorem timed_validated_before_handler_v2 (av : Vid) (pre post : List GateTimed.Ev) (n : GateTimed.Name) (pkt : IntPkt)
    (h : GateTimed.Hid) (hreq : pkt.hasParams = true ∨ pkt.hasSig = true)
    (hh : Obs.handle (arrivals pre) h ∈ obsAfter .v2 av pre n pkt post) :
    pkt.digestOk = true ∧ ∃ vid v, captured (GateTimed.run .v2 av pre) n = some ⟨some h, some vid⟩ ∧
      started (toksIn pre post) = true ∧ answer (toksIn pre post) = some v ∧ Accepting v ∧
      obsAfter .v2 av pre n pkt post =
        [.digest (arrivals pre), .validate (arrivals pre) vid, .handle (arrivals pre) h] := by
  obtain ⟨hd, val, vid, v, hc, hin, hs, ha, hacc, hobs⟩ := timed_validated_before_handler .v2 av pre post n pkt h hreq hh
  cases val with
  | none => cases hin
  | some vid' => cases hin; exact ⟨hd, vid, v, hc, hs, ha, hacc, hobs⟩

/-- **(a) legacy front-end**: the same for SIGNED Interests; the validator is the one registered with the handler, or
    the application-wide `int_validator` (`av`) when there is none. -/
theorem timed_validated_before_handler_v1 (av : Vid) (pre post : List GateTimed.Ev) (n : GateTimed.Name) (pkt : IntPkt)
    (h : GateTimed.Hid) (hsig : pkt.hasSig = true)
    (hh : Obs.handle (arrivals pre) h ∈ obsAfter .v1 av pre n pkt post) :
    pkt.digestOk = true ∧ ∃ val v, captured (GateTimed.run .v1 av pre) n = some ⟨some h, val⟩ ∧
      started (toksIn pre post) = true ∧ answer (toksIn pre post) = some v ∧ Accepting v ∧
      obsAfter .v1 av pre n pkt post =
        [.digest (arrivals pre), .validate (arrivals pre) (val.getD av), .handle (arrivals pre) h] := by
  obtain ⟨hd, val, vid, v, hc, hin, hs, ha, hacc, hobs⟩ := timed_validated_before_handler .v1 av pre post n pkt h hsig hh
  cases val <;> cases hin <;> exact ⟨hd, _, v, hc, hs, ha, hacc, hobs⟩

/-- **(b) digest gate.** `digestOk = false`: nothing but the digest check is ever observed about the Interest. -/
theorem timed_digest_gate (fe : FrontEnd) (av : Vid) (pre post : List GateTimed.Ev) (n : GateTimed.Name) (pkt : IntPkt)
    (hreq : pkt.hasParams = true ∨ pkt.hasSig = true) (hbad : pkt.digestOk = false) :
    ∀ o ∈ obsAfter fe av pre n pkt post, o = .digest (arrivals pre) := by
  have hreq' : (pkt.hasParams || pkt.hasSig) = true := (Bool.or_eq_true _ _).mpr hreq
  intro o ho
  rw [timed_flight_ref] at ho
  cases hc : captured (GateTimed.run fe av pre) n with
  | none => rw [hc] at ho; cases ho
  | some nd =>
    rw [hc] at ho
    simpa [lifeRef, hreq', hbad] using ho

/-- **(c) plain Interests.** No digest check, no validator call; the handler found at arrival is called as soon as the
    task starts. -/
theorem timed_plain (fe : FrontEnd) (av : Vid) (pre post : List GateTimed.Ev) (n : GateTimed.Name) (pkt : IntPkt)
    (h1 : pkt.hasParams = false) (h2 : pkt.hasSig = false) :
    (captured (GateTimed.run fe av pre) n = none ∧ obsAfter fe av pre n pkt post = []) ∨
    ∃ h val, captured (GateTimed.run fe av pre) n = some ⟨some h, val⟩ ∧
      obsAfter fe av pre n pkt post = if started (toksIn pre post) then [.handle (arrivals pre) h] else [] := by
  rw [timed_flight_ref]
  cases hc : captured (GateTimed.run fe av pre) n with
  | none => exact .inl ⟨rfl, rfl⟩
  | some nd =>
    have hcb := GateTimed.captured_callback hc
    obtain ⟨cb, val⟩ := nd
    cases cb with
    | none => cases hcb
    | some h =>
      refine .inr ⟨h, val, rfl, ?_⟩
      cases fe <;> cases started (toksIn pre post) <;> simp [lifeRef, h1, h2, deliverRef]

def isHandle : Obs → Bool
  | .handle _ _ => true
  | _ => false

theorem filter_deliverRef (i : Iid) (nd : TNode) : ((deliverRef i nd).filter isHandle).length ≤ 1 := by
  unfold deliverRef; split <;> simp [List.filter, isHandle]

theorem filter_finRef (i : Iid) (nd : TNode) (v : Verdict) : ((finRef i nd v).filter isHandle).length ≤ 1 := by
  cases v <;> simp [finRef, letsRef, List.filter, isHandle] <;> exact filter_deliverRef i nd

/-- **(d) at most one delivery per Interest**, however many `start` / `done` events the history holds for it. -/
theorem timed_at_most_once (fe : FrontEnd) (av : Vid) (pre post : List GateTimed.Ev) (n : GateTimed.Name) (pkt : IntPkt) :
    ((obsAfter fe av pre n pkt post).filter isHandle).length ≤ 1 := by
  rw [timed_flight_ref]
  cases captured (GateTimed.run fe av pre) n with
  | none => simp
  | some nd =>
    -- every branch of `lifeRef` is the digest check, possibly a validator call, and then `deliverRef` or `finRef`
    simp only [lifeRef]
    generalize (match fe with | .v2 => pkt.hasParams || pkt.hasSig | .v1 => pkt.hasSig) = validates
    generalize hdg : (if (pkt.hasParams || pkt.hasSig) = true then [Obs.digest (arrivals pre)] else []) = dg
    have hpre : dg.filter isHandle = [] := by subst hdg; split <;> rfl
    split
    · simp [hpre]
    split
    · simp [hpre]
    split
    · split
      · simp [hpre]
      split
      · simp [hpre, isHandle]
      · simpa [hpre, isHandle] using filter_finRef _ nd _
    · simpa [hpre] using filter_deliverRef _ nd

/-- **(e)** if the validator answered anything but an accepting verdict for this Interest (an exception included), no
    handler is ever called with it, whatever happens to the table afterwards. -/
theorem timed_rejected (fe : FrontEnd) (av : Vid) (pre post : List GateTimed.Ev) (n : GateTimed.Name) (pkt : IntPkt)
    (v : Verdict) (hval : Validates fe pkt) (ha : answer (toksIn pre post) = some v) (hv : ¬ Accepting v) :
    ∀ h, Obs.handle (arrivals pre) h ∉ obsAfter fe av pre n pkt post := by
  intro h hh
  obtain ⟨_, _, _, v', _, _, _, ha', hacc, _⟩ := timed_validated_before_handler fe av pre post n pkt h hval hh
  rw [ha] at ha'; cases ha'; exact hv hacc

theorem timed_not_before_verdict (fe : FrontEnd) (av : Vid) (pre post : List GateTimed.Ev) (n : GateTimed.Name)
    (pkt : IntPkt) (hval : Validates fe pkt) (hn : answer (toksIn pre post) = none) :
    ∀ h, Obs.handle (arrivals pre) h ∉ obsAfter fe av pre n pkt post := by
  intro h hh
  obtain ⟨_, _, _, v', _, _, _, ha', _⟩ := timed_validated_before_handler fe av pre post n pkt h hval hh
  rw [hn] at ha'; cases ha'

/-- **(e) a validator that raises** (nothing in `submit_interest` catches anything, `gen_timed`): the task of this
    Interest ends with that exception right after the validator call, nothing is delivered.  The task is nobody's child
    (`aio.create_task`, never awaited): the exception reaches the loop's exception handler and nothing else. -/
theorem timed_validator_raises (fe : FrontEnd) (av : Vid) (pre post : List GateTimed.Ev) (n : GateTimed.Name)
    (pkt : IntPkt) (h : GateTimed.Hid) (val : Option Vid) (vid : Vid) (v : Verdict)
    (hc : captured (GateTimed.run fe av pre) n = some ⟨some h, val⟩) (hval : Validates fe pkt)
    (hd : pkt.digestOk = true) (hin : inForce fe av ⟨some h, val⟩ = some vid)
    (hs : started (toksIn pre post) = true) (ha : answer (toksIn pre post) = some v)
    (hr : v = .raiseTimeout ∨ v = .raiseOther) :
    obsAfter fe av pre n pkt post =
      [.digest (arrivals pre), .validate (arrivals pre) vid, .died (arrivals pre) (GateTimed.excOf v)] := by
  obtain ⟨hneeds, hvalidates⟩ := validates_tests hval
  rw [timed_flight_ref, hc]
  simp only [lifeRef, hvalidates, hin]
  rcases hr with rfl | rfl <;> simp [hneeds, hd, hs, ha, finRef, GateTimed.excOf]

def actOf : Obs → Option Act
  | .digest _ => some .digestCheck
  | .validate _ _ => some .validate
  | .handle _ _ => some .handle
  | .died _ _ => none

/-- the route of the atomic model: what was captured, with the validator's answer as its script -/
def gateRoute (c : Option TNode) (v : Verdict) : Route :=
  match c with
  | none => .none
  | some nd =>
    match nd.callback with
    | none => .noCallback
    | some _ => .handler (nd.validator.map fun _ => v)

theorem actOf_finRef (i : Iid) (h : GateTimed.Hid) (val : Option Vid) (v : Verdict) :
    (finRef i ⟨some h, val⟩ v).filterMap actOf = if letsRef v then [.handle] else [] := by
  cases v <;> rfl

/-- **(f) refinement.** Once the task has started and the validator has answered `v`, the steps observed are those of
    `Gate.onInterest` on the table AS IT WAS AT ARRIVAL with `v` as the validator's script; so the theorems about
    `Gate.onInterest` above describe these timed runs. -/
theorem timed_refines_atomic (fe : FrontEnd) (av : Vid) (pre post : List GateTimed.Ev) (n : GateTimed.Name)
    (pkt : IntPkt) (v : Verdict) (hs : started (toksIn pre post) = true) (ha : answer (toksIn pre post) = some v) :
    (obsAfter fe av pre n pkt post).filterMap actOf =
      onInterest fe v pkt (gateRoute (captured (GateTimed.run fe av pre) n) v) := by
  rw [timed_flight_ref, onInterest_eq_ref]
  cases hc : captured (GateTimed.run fe av pre) n with
  | none => rfl
  | some nd =>
    have hcb := GateTimed.captured_callback hc
    obtain ⟨cb, val⟩ := nd
    cases cb with
    | none => cases hcb
    | some h =>
      simp only [lifeRef, onInterestRef, gateRoute, hs, ha, Bool.not_true, Bool.false_eq_true, if_false]
      obtain ⟨a, b, c⟩ := pkt
      cases fe <;> cases val <;> cases a <;> cases b <;> cases c <;> simp [inForce, deliverRef, actOf, actOf_finRef]

theorem timed_atomic_when_undisturbed (fe : FrontEnd) (av : Vid) (pre rest : List GateTimed.Ev) (n : GateTimed.Name)
    (pkt : IntPkt) (v : Verdict) :
    (obsAfter fe av pre n pkt (.start (arrivals pre) :: .done (arrivals pre) v :: rest)).filterMap actOf =
      onInterest fe v pkt (gateRoute (captured (GateTimed.run fe av pre) n) v) := by
  apply timed_refines_atomic <;> simp [toksIn, tokOf, started, answer, GateTimed.afterStart, GateTimed.firstDone]

/-- After any history in which every attach carries a handler: `_on_interest` keeps handler `h` and validator `val` iff
    `(h, val)` is the registration in force (`registered`) at the longest attached prefix of the name -
    `IsLongestAttached` over `attached`, the specification of C04 (same table: `GateTimed.cbOf_run`). -/
theorem arrival_registration (fe : FrontEnd) (av : Vid) (pre : List GateTimed.Ev) (hp : ProperT pre) (n : GateTimed.Name)
    (h : GateTimed.Hid) (val : Option Vid) :
    captured (GateTimed.run fe av pre) n = some ⟨some h, val⟩ ↔
      ∃ p, C04.IsLongestAttached (C04.attached (ops pre)) n p ∧ registered pre p = some (h, val) := by
  rcases GateTimed.arrival_spec fe av pre hp n with ⟨p, h', val', hc, hl, hr⟩ | ⟨hc, hnone⟩ <;> rw [hc]
  · constructor
    · intro e; cases e; exact ⟨p, hl, hr⟩
    · rintro ⟨p', hl', hr'⟩
      obtain rfl := hl.unique hl'
      rw [hr] at hr'; cases hr'; rfl
  · refine ⟨fun e => (nomatch e), fun ⟨p, hl, _⟩ => ?_⟩
    have := hl.2.1
    rw [hnone p hl.1] at this
    cases this

theorem arrival_no_route (fe : FrontEnd) (av : Vid) (pre : List GateTimed.Ev) (hp : ProperT pre) (n : GateTimed.Name) :
    captured (GateTimed.run fe av pre) n = none ↔ ∀ q, q <+: n → C04.attached (ops pre) q = none := by
  rcases GateTimed.arrival_spec fe av pre hp n with ⟨p, _, _, hc, hl, _⟩ | ⟨hc, hnone⟩ <;> rw [hc]
  · refine ⟨fun e => (nomatch e), fun hn => ?_⟩
    have := hl.2.1
    rw [hn p hl.1] at this
    cases this
  · exact ⟨fun _ => hnone, fun _ => rfl⟩

/-- **(a), in specification terms (current front-end).**  An Interest that requires validation reaches a handler `h`
    only if, at the instant it arrived, `h` was registered at the longest attached prefix of its name together with a
    validator `vid`, and `vid` accepted it before `h` was called.  What happened to that registration in the meantime has
    no influence. -/
theorem timed_handler_only_with_its_validator (av : Vid) (pre post : List GateTimed.Ev) (hp : ProperT pre)
    (n : GateTimed.Name) (pkt : IntPkt) (h : GateTimed.Hid) (hreq : pkt.hasParams = true ∨ pkt.hasSig = true)
    (hh : Obs.handle (arrivals pre) h ∈ obsAfter .v2 av pre n pkt post) :
    ∃ p vid v, C04.IsLongestAttached (C04.attached (ops pre)) n p ∧ registered pre p = some (h, some vid) ∧
      answer (toksIn pre post) = some v ∧ Accepting v ∧
      obsAfter .v2 av pre n pkt post =
        [.digest (arrivals pre), .validate (arrivals pre) vid, .handle (arrivals pre) h] := by
  obtain ⟨_, vid, v, hc, _, ha, hacc, hl⟩ := timed_validated_before_handler_v2 av pre post n pkt h hreq hh
  obtain ⟨p, h1, h2⟩ := (arrival_registration .v2 av pre hp n h (some vid)).mp hc
  exact ⟨p, vid, v, h1, h2, ha, hacc, hl⟩

/-- the same for signed Interests in the legacy front-end (`val = none`: the application-wide validator decided) -/
theorem timed_handler_only_with_its_validator_v1 (av : Vid) (pre post : List GateTimed.Ev) (hp : ProperT pre)
    (n : GateTimed.Name) (pkt : IntPkt) (h : GateTimed.Hid) (hsig : pkt.hasSig = true)
    (hh : Obs.handle (arrivals pre) h ∈ obsAfter .v1 av pre n pkt post) :
    ∃ p val v, C04.IsLongestAttached (C04.attached (ops pre)) n p ∧ registered pre p = some (h, val) ∧
      answer (toksIn pre post) = some v ∧ Accepting v ∧
      obsAfter .v1 av pre n pkt post =
        [.digest (arrivals pre), .validate (arrivals pre) (val.getD av), .handle (arrivals pre) h] := by
  obtain ⟨_, val, v, hc, _, ha, hacc, hl⟩ := timed_validated_before_handler_v1 av pre post n pkt h hsig hh
  obtain ⟨p, h1, h2⟩ := (arrival_registration .v1 av pre hp n h val).mp hc
  exact ⟨p, val, v, h1, h2, ha, hacc, hl⟩

/-- the deadline of an Interest plays no part in the gate (it only bounds `reply`, C04) -/
theorem timed_deadline_irrelevant (fe : FrontEnd) (av : Vid) (s : GateTimed.St) (i : Iid) :
    GateTimed.step fe av s (.deadline i) = s := rfl

/-- What the timed model mirrors of `_on_interest` (lean/NdnGen/C05T.lean): ONE `longest_prefix` call and ONE binding
    of `node` in the whole function, the nested `submit_interest` included; `submit_interest` is spawned as a task, reads
    `node.validator` and calls `node.callback`; no `except` around the validator call; the only `await` before the spawn
    is the digest check; attach writes the validator always (current) / when one is given (legacy). -/
theorem gen_timed :
    Gen.C05T.v2.lookups = 1 ∧ Gen.C05T.v1.lookups = 1 ∧
    Gen.C05T.v2.nodeBinds = ["node: PrefixTreeNode = trie_step.value"] ∧ Gen.C05T.v1.nodeBinds = ["node = trie_step.value"] ∧
    Gen.C05T.v2.spawn = "aio.create_task(submit_interest())" ∧ Gen.C05T.v1.spawn = Gen.C05T.v2.spawn ∧
    Gen.C05T.v2.validatorRead = "node.validator" ∧ Gen.C05T.v1.validatorRead = "node.validator" ∧
    Gen.C05T.v2.callbackCall = "node.callback" ∧ Gen.C05T.v1.callbackCall = "node.callback" ∧
    Gen.C05T.v2.validatorCaught = [] ∧ Gen.C05T.v1.validatorCaught = [] ∧
    Gen.C05T.v2.awaitsBefore = ["await sec.params_sha256_checker(name, sig)"] ∧
    Gen.C05T.v1.awaitsBefore = ["await params_sha256_checker(name, sig)"] ∧
    Gen.C05T.v2.valWrite = .always ∧ Gen.C05T.v1.valWrite = .ifTruthy ∧ GateTimed.tableOk = true := by
  and_intros <;> rfl


-- the prefix is detached and attached again (other handler, other validator) while validator 10 decides; a handler
-- without validator sits on the shorter prefix: the Interest stays with the pair it found
example : (GateTimed.run .v2 0 [.attach [[103]] (some 1) (some 10), .attach [] (some 2) none,
    .arrive [[103], [120]] ⟨true, false, true⟩, .start 0, .detach [[103]], .attach [[103]] (some 3) (some 11),
    .done 0 .pass]).log = [.digest 0, .validate 0 10, .handle 0 1] := by decide +kernel
-- ... and an Interest that arrives after the swap gets the new pair
example : (GateTimed.run .v2 0 [.attach [[103]] (some 1) (some 10), .detach [[103]], .attach [[103]] (some 3) (some 11),
    .arrive [[103], [120]] ⟨true, false, true⟩, .start 0, .done 0 .allowBypass]).log =
    [.digest 0, .validate 0 11, .handle 0 3] := by decide +kernel
-- two Interests in flight on one prefix with different verdicts, answers in the opposite order
example : (GateTimed.run .v2 0 [.attach [[103]] (some 1) (some 10), .arrive [[103], [1]] ⟨true, true, true⟩, .start 0,
    .arrive [[103], [2]] ⟨true, true, true⟩, .start 1, .done 1 .pass, .done 0 .fail]).log =
    [.digest 0, .validate 0 10, .digest 1, .validate 1 10, .handle 1 1] := by decide +kernel
-- legacy: a signed Interest on a route without validator: the application-wide validator (7) is consulted; it raises
example : (GateTimed.run .v1 7 [.attach [[103]] (some 1) none, .arrive [[103], [120]] ⟨true, true, true⟩,
    .start 0, .detach [[103]], .done 0 .raiseOther]).log = [.digest 0, .validate 0 7, .died 0 .scripted] := by decide +kernel
-- current front-end: the validator-less handler on the shorter prefix takes over after the detach - for LATER Interests
example : (GateTimed.run .v2 0 [.attach [[103]] (some 1) (some 10), .attach [] (some 2) none, .detach [[103]],
    .arrive [[103], [120]] ⟨true, false, true⟩, .start 0]).log = [.digest 0] := by decide +kernel
example : toksIn [] [GateTimed.Ev.start 0, .detach [[103]], .done 0 .pass, .done 0 .fail] = [.start, .done .pass, .done .fail] ∧
    answer [.start, .done .pass, .done .fail] = some .pass := by decide +kernel

end Ndn.C05
