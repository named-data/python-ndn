import NdnProofs.Lemmas.ClientConf
import NdnGen.C20
/-!
# C20 — Client configuration resolves with environment over file over platform default

Theorems about `Ndn.ClientConf.readClientConf` / `resolveLocation` / `defaultFace` (models of `read_client_conf`, its inner
`resolve_location`, and `default_face`) for every environment, file-system predicate, configuration-file content and URI
text.  For the configuration file the vocabulary of the statements (`FileSets`, `FileSilent` here; `assignments`, `headers`,
`qualified`, `hasBogus` in `Lemmas/ClientConf`) is relative to the model's first pass `scan` (the grouping of physical lines
into logical items, `logical`), which is not specified further here and is compared with the real parser by the harness.
-/
namespace Ndn.C20
open Ndn Ndn.ClientConf

def FirstExisting (paths : List Str) (ex : Str → Bool) (p : Str) : Prop :=
  ∃ pre post, paths = pre ++ p :: post ∧ ex p = true ∧ ∀ q ∈ pre, ex q = false

def NoneExisting (paths : List Str) (ex : Str → Bool) : Prop := ∀ q ∈ paths, ex q = false

def FileSets (ls : List Str) (key v : Str) : Prop :=
  ∃ pre post k, assignments ls = pre ++ (k, v) :: post ∧ lower k = key ∧
    ∀ k' v', (k', v') ∈ pre → lower k' ≠ key

def FileSilent (ls : List Str) (key : Str) : Prop := ∀ k v, (k, v) ∈ assignments ls → lower k ≠ key

/-- The value a setting must have: the environment override if present, else the value in the first
    existing configuration file, else the platform default `dflt`. -/
inductive Setting (paths : List Str) (W : World) (key : Str) (envv : Option Str) (dflt : Str) : Str → Prop
  | env (v) : envv = some v → Setting paths W key envv dflt v
  | file (p v) : envv = none → FirstExisting paths W.exist p → FileSets (W.files p) key v →
      Setting paths W key envv dflt v
  | defaultNoFile : envv = none → NoneExisting paths W.exist → Setting paths W key envv dflt dflt
  | defaultSilent (p) : envv = none → FirstExisting paths W.exist p → FileSilent (W.files p) key →
      Setting paths W key envv dflt dflt

/-- the configuration file in effect: the first existing candidate, `''` when there is none -/
def ConfFile (paths : List Str) (ex : Str → Bool) (p : Str) : Prop :=
  FirstExisting paths ex p ∨ (NoneExisting paths ex ∧ p = [])

/-- When the file is read without error, `parser['DEFAULT']` is the list of option assignments standing under
    `[DEFAULT]` (the implicit one at the top, or a later explicit one), names lower-cased; so the value of a key is that
    of its first assignment, and a key without assignment is absent. -/
theorem conf_value_is_first_assignment (ls : List Str) (d : PyDict Str Str) (h : parseConf ls = .ok d) :
    d = (assignments ls).map (fun p => (lower p.1, p.2)) ∧
    (∀ key v, PyDict.get? d key = some v → FileSets ls key v) ∧
    (∀ key, PyDict.get? d key = none → FileSilent ls key) := by
  have hc := parseConf_cases ls
  simp only [h, Except.ok.injEq, reduceCtorEq, and_false, or_false] at hc
  obtain ⟨-, -, -, hd⟩ := hc
  refine ⟨hd, fun key v hg => ?_, fun key hg => ?_⟩ <;> rw [hd, PyDict.get?_map_fst] at hg
  · obtain ⟨⟨k, _⟩, hf, rfl⟩ := Option.map_eq_some_iff.1 hg
    obtain ⟨h2, pre, post, h1, h3⟩ := List.find?_eq_some_iff_append.1 hf
    exact ⟨pre, post, k, h1, by simpa using h2, fun k' v' hm => by simpa using h3 _ hm⟩
  · intro k v hm
    simpa using List.find?_eq_none.1 (Option.map_eq_none_iff.1 hg) _ hm

/-- Which texts raise, and what, in terms of `logical ls` (the items of `'[DEFAULT]\n' + text`).  The text is read
    without error iff no section name other than DEFAULT is opened twice, no option name (case-insensitively) is assigned
    twice under the same section name, and every other line is `name <=|:> value` with a non-empty name; `ParsingError`
    iff only the third fails (it is raised at the end of the file, so a duplicate anywhere wins); `Duplicate*Error` only
    if there is such a duplicate; `MissingSectionHeaderError` never. -/
theorem conf_errors (ls : List Str) :
    ((∃ d, parseConf ls = .ok d) ↔
      (headers (logical ls)).Nodup ∧ (qualified none (logical ls)).Nodup ∧ hasBogus (logical ls) = false) ∧
    (parseConf ls = .error .parsing ↔
      (headers (logical ls)).Nodup ∧ (qualified none (logical ls)).Nodup ∧ hasBogus (logical ls) = true) ∧
    (parseConf ls = .error .duplicateSection → ¬ (headers (logical ls)).Nodup) ∧
    (parseConf ls = .error .duplicateOption → ¬ (qualified none (logical ls)).Nodup) ∧
    parseConf ls ≠ .error .missingSectionHeader := by
  rcases parseConf_cases ls with ⟨n1, n2, ⟨b, h⟩ | ⟨b, h⟩⟩ | ⟨n, h⟩ | ⟨n, h⟩ <;> simp [*]

theorem firstExisting_iff (paths : List Str) (ex : Str → Bool) (p : Str) :
    FirstExisting paths ex p ↔ paths.find? ex = some p := by
  rw [List.find?_eq_some_iff_append]
  constructor
  · rintro ⟨pre, post, h1, h2, h3⟩
    exact ⟨h2, pre, post, h1, by simpa using h3⟩
  · rintro ⟨h2, pre, post, h1, h3⟩
    exact ⟨pre, post, h1, h2, by simpa using h3⟩

theorem confFile_getPath (paths : List Str) (ex : Str → Bool) :
    ConfFile paths ex (getPath paths ex) := by
  unfold getPath
  cases hf : paths.find? ex with
  | none => exact .inr ⟨fun q hq => by simpa using List.find?_eq_none.1 hf q hq, rfl⟩
  | some p => exact .inl ((firstExisting_iff paths ex p).2 hf)

theorem fileGet_cases (ls : List Str) (key : Str) (h : confFails ls = false) :
    (∃ v, fileGet ls key = some v ∧ FileSets ls key v) ∨ (fileGet ls key = none ∧ FileSilent ls key) := by
  unfold confFails at h
  unfold fileGet
  cases hd : parseConf ls with
  | error e => simp [hd] at h
  | ok d =>
    obtain ⟨-, hsome, hnone⟩ := conf_value_is_first_assignment ls d hd
    cases hg : PyDict.get? d key with
    | none => exact .inr ⟨hg, hnone key hg⟩
    | some v => exact .inl ⟨v, hg, hsome key v hg⟩

theorem layer_setting (paths : List Str) (W : World) (hne : [] ∉ paths) (key : Str) (envv : Option Str)
    (dflt : Str) (hok : getPath paths W.exist ≠ [] → confFails (W.files (getPath paths W.exist)) = false) :
    Setting paths W key envv dflt
      (layer dflt (if getPath paths W.exist = [] then none else fileGet (W.files (getPath paths W.exist)) key) envv) := by
  cases envv with
  | some v => exact .env v rfl
  | none =>
    rcases confFile_getPath paths W.exist with hfirst | ⟨hnone, hnil⟩
    · generalize getPath paths W.exist = p at hok hfirst ⊢
      have hp : p ≠ [] := by
        obtain ⟨pre, post, h1, -⟩ := hfirst
        exact fun e => hne (by simp [h1, e])
      rw [if_neg hp]
      rcases fileGet_cases (W.files p) key (hok hp) with ⟨v, hv, hs⟩ | ⟨hv, hs⟩ <;> rw [hv]
      · exact .file p v rfl hfirst hs
      · exact .defaultSilent p rfl hfirst hs
    · rw [if_pos hnil]
      exact .defaultNoFile rfl hnone

theorem rawConf_ok (P : Platform) (W : World) (path : Str) (raw : Conf) (h : rawConf P W = .ok (path, raw)) :
    ∃ dt, defaultTransport P W.exist = .ok dt ∧ path = getPath P.confPaths W.exist ∧
      (path ≠ [] → confFails (W.files path) = false) ∧
      raw = { transport := layer dt (if path = [] then none else fileGet (W.files path) "transport".toList) W.env.transport
              pib := layer P.pibScheme (if path = [] then none else fileGet (W.files path) "pib".toList) W.env.pib
              tpm := layer P.tpmScheme (if path = [] then none else fileGet (W.files path) "tpm".toList) W.env.tpm } := by
  revert h
  fun_cases rawConf P W with
  | case1 | case2 => exact nofun
  | case3 p dt hd ls hf f =>
    intro h
    obtain ⟨rfl, rfl⟩ := Prod.mk.inj (Except.ok.inj h)
    refine ⟨dt, hd, rfl, fun hp => ?_, ?_⟩
    · simpa [ls, hp] using hf
    · by_cases hp : p = [] <;> simp [f, ls, hp]

theorem read_ok (P : Platform) (W : World) (c : Conf) (h : readClientConf P W = .ok c) :
    ∃ dt, defaultTransport P W.exist = .ok dt ∧
      let path := getPath P.confPaths W.exist
      let f := fun k => if path = [] then none else fileGet (W.files path) k
      (path ≠ [] → confFails (W.files path) = false) ∧
      c.transport = layer dt (f "transport".toList) W.env.transport ∧
      resolveLocation path P.pibPaths W.exist (layer P.pibScheme (f "pib".toList) W.env.pib) = .ok c.pib ∧
      resolveLocation path P.tpmPaths W.exist (layer P.tpmScheme (f "tpm".toList) W.env.tpm) = .ok c.tpm := by
  revert h
  fun_cases readClientConf P W with
  | case1 | case2 | case3 => exact nofun
  | case4 path raw hr pib h1 tpm h2 =>
    intro h
    cases h
    obtain ⟨dt, hd, rfl, hokf, rfl⟩ := rawConf_ok P W path raw hr
    exact ⟨dt, hd, hokf, rfl, h1, h2⟩

/-- **precedence (transport).** The transport used is the environment override if present, else the value
    in the first existing configuration file, else the platform default. -/
theorem precedence_transport (P : Platform) (W : World) (c : Conf) (hne : [] ∉ P.confPaths)
    (h : readClientConf P W = .ok c) :
    ∃ dt, defaultTransport P W.exist = .ok dt ∧
      Setting P.confPaths W "transport".toList W.env.transport dt c.transport := by
  obtain ⟨dt, hd, hok, ht, _, _⟩ := read_ok P W c h
  exact ⟨dt, hd, ht ▸ layer_setting P.confPaths W hne _ _ _ hok⟩

/-- **precedence (public-information store).** The store setting `v` that is resolved is chosen by the same
    rule, and the result is `resolveLocation` of it relative to the configuration file in effect
    (see `location_*`). -/
theorem precedence_pib (P : Platform) (W : World) (c : Conf) (hne : [] ∉ P.confPaths)
    (h : readClientConf P W = .ok c) :
    ∃ v conf, Setting P.confPaths W "pib".toList W.env.pib P.pibScheme v ∧ ConfFile P.confPaths W.exist conf ∧
      resolveLocation conf P.pibPaths W.exist v = .ok c.pib := by
  obtain ⟨_, _, hok, _, hp, _⟩ := read_ok P W c h
  exact ⟨_, _, layer_setting P.confPaths W hne _ _ _ hok, confFile_getPath _ _, hp⟩

/-- **precedence (private-key store).** As `precedence_pib`, for the `tpm` setting. -/
theorem precedence_tpm (P : Platform) (W : World) (c : Conf) (hne : [] ∉ P.confPaths)
    (h : readClientConf P W = .ok c) :
    ∃ v conf, Setting P.confPaths W "tpm".toList W.env.tpm P.tpmScheme v ∧ ConfFile P.confPaths W.exist conf ∧
      resolveLocation conf P.tpmPaths W.exist v = .ok c.tpm := by
  obtain ⟨_, _, hok, _, _, hp⟩ := read_ok P W c h
  exact ⟨_, _, layer_setting P.confPaths W hne _ _ _ hok, confFile_getPath _ _, hp⟩

/-- A store location that exists is used as given. -/
theorem location_existing_as_given (conf : Str) (defaults : List Str) (ex : Str → Bool) (scheme loc : Str)
    (hs : ':' ∉ scheme) (hl : ':' ∉ loc) (hne : loc ≠ []) (hex : ex loc = true) :
    resolveLocation conf defaults ex (scheme ++ ':' :: loc) = .ok (scheme ++ ':' :: loc) := by
  simp [resolveLocation_scheme_loc _ _ _ _ _ hs hl, resolveLocation.finish, hne, hex]

/-- A location that does not exist as given but exists relative to the
    configuration file `dir/base` is resolved against `dir`. -/
theorem location_relative_to_conf (dir base : Str) (defaults : List Str) (ex : Str → Bool) (scheme loc : Str)
    (hs : ':' ∉ scheme) (hl : ':' ∉ loc) (hne : loc ≠ []) (hrel : loc.head? ≠ some '/')
    (hb : '/' ∉ base) (hd : dir ≠ []) (hdl : dir.getLast? ≠ some '/')
    (hnex : ex loc = false) (hex : ex (dir ++ '/' :: loc) = true) :
    resolveLocation (dir ++ '/' :: base) defaults ex (scheme ++ ':' :: loc)
      = .ok (scheme ++ ':' :: (dir ++ '/' :: loc)) := by
  simp [resolveLocation_scheme_loc _ _ _ _ _ hs hl, resolveLocation.finish, hne, hnex,
    dirname_file dir base hb hd hdl, join_relative dir loc hd hdl hrel, hex]

/-- A setting without location, or whose location exists neither as given nor
    relative to the configuration file, falls back to the first existing platform default location. -/
theorem location_fallback (conf : Str) (defaults : List Str) (ex : Str → Bool) (scheme loc d : Str)
    (hs : ':' ∉ scheme) (hl : ':' ∉ loc)
    (hmiss : loc = [] ∨ (ex loc = false ∧ ex (join (dirname conf) loc) = false))
    (hd : FirstExisting defaults ex d) :
    resolveLocation conf defaults ex (scheme ++ ':' :: loc) = .ok (scheme ++ ':' :: d) ∧
    (loc = [] → resolveLocation conf defaults ex scheme = .ok (scheme ++ ':' :: d)) := by
  have hf := (firstExisting_iff defaults ex d).1 hd
  have hnil : resolveLocation.finish conf defaults ex [] = d := by simp [resolveLocation.finish, hf]
  refine ⟨?_, fun _ => by rw [resolveLocation_scheme _ _ _ _ hs, hnil]⟩
  rw [resolveLocation_scheme_loc _ _ _ _ _ hs hl]
  rcases hmiss with rfl | ⟨ha, hb⟩
  · rw [hnil]
  · by_cases hne : loc = []
    · rw [hne, hnil]
    · simp [resolveLocation.finish, hne, ha, hb, hf]

/-- characters of a host name or IPv4 literal -/
def hostChar (c : Char) : Bool := c.isAlphanum || c = '.' || c = '-' || c = '_'

/-- the face a URI `scheme://host[:port]` denotes -/
def denotes (scheme host : Str) (port : Nat) : Face :=
  if scheme ∈ tcpSchemes then .tcp host port else .udp (some host) port

def portText : Option Str → Str
  | none => []
  | some d => ':' :: d

theorem netloc_chars (host : Str) (ds : Option Str)
    (hh : ∀ c ∈ host, hostChar c = true) (hd : ∀ d, ds = some d → d ≠ [] ∧ ∀ c ∈ d, c.isDigit = true)
    (c : Char) (hc : (hostChar c || c = ':') = false) : c ∉ host ++ portText ds := by
  obtain ⟨hnot, hcolon⟩ : hostChar c = false ∧ c ≠ ':' := by simpa using hc
  intro hm
  rcases List.mem_append.mp hm with h | h
  · simp [hh c h] at hnot
  · cases ds with
    | none => cases h
    | some d =>
      rcases List.mem_cons.mp h with e | e
      · exact hcolon e
      · -- a digit is a host character
        simp [hostChar, Char.isAlphanum, (hd d rfl).2 c e] at hnot

theorem hostinfo_simple (host : Str) (ds : Option Str)
    (hh : ∀ c ∈ host, hostChar c = true) (hd : ∀ d, ds = some d → d ≠ [] ∧ ∀ c ∈ d, c.isDigit = true) :
    hostinfo (host ++ portText ds) = (host, ds) := by
  have hn := netloc_chars host ds hh hd
  have hco : ':' ∉ host := fun hm => by simpa [hostChar] using hh _ hm
  unfold hostinfo
  simp only [afterLast_none _ _ (hn '@' (by decide)), part_none _ _ (hn '[' (by decide))]
  cases ds with
  | none => simp [portText, part_none _ _ hco]
  | some d => simp [portText, part_append _ _ _ hco, (hd d rfl).1]

theorem hostname_simple (host : Str) (ds : Option Str) (hne : host ≠ [])
    (hh : ∀ c ∈ host, hostChar c = true) (hd : ∀ d, ds = some d → d ≠ [] ∧ ∀ c ∈ d, c.isDigit = true) :
    hostname (host ++ portText ds) = some (lower host) := by
  have hpc : '%' ∉ host := fun hm => by simpa [hostChar] using hh _ hm
  simp [hostname, hostinfo_simple host ds hh hd, hne, part_none _ _ hpc]

theorem port_simple (host : Str) (ds : Option Str) (hh : ∀ c ∈ host, hostChar c = true)
    (hd : ∀ d, ds = some d → d ≠ [] ∧ ∀ c ∈ d, c.isDigit = true) (hp : ∀ d, ds = some d → decVal d ≤ 65535) :
    port (host ++ portText ds) = .ok (ds.map decVal) := by
  unfold port
  rw [hostinfo_simple host ds hh hd]
  cases ds with
  | none => rfl
  | some d => simp [List.all_eq_true.mpr (hd d rfl).2, hp d rfl]

def knownSchemes : List Str := "unix".toList :: (tcpSchemes ++ udpSchemes)

theorem knownSchemes_ok : (∀ s ∈ knownSchemes, s.head?.map Char.isAlpha = some true ∧
    s.all schemeChar = true ∧ lower s = s) ∧ "unix".toList ∉ tcpSchemes ++ udpSchemes := by
  unfold knownSchemes tcpSchemes udpSchemes
  repeat rw [String.toList_ofList]
  decide +kernel

/-- Shape lemma for `face_of_unix_uri`, for `unix://[authority]path`: the authority is ignored; the class default path
    stands in for an empty one. -/
theorem defaultFace_unix (D : FaceDefaults) (nl path : Str) (b : Bool)
    (hx : ∀ c ∈ ['/', '?', '#', '[', ']'], c ∉ nl) (hp : ∀ c, path.head? = some c → c = '/')
    (hq : ∀ c ∈ path, c ≠ '?' ∧ c ≠ '#') :
    defaultFace D ("unix".toList ++ ':' :: '/' :: '/' :: (nl ++ path)) b
      = .ok (.unix (if path = [] then D.unixPath else path)) := by
  obtain ⟨u3, u4, u5⟩ := knownSchemes_ok.1 "unix".toList List.mem_cons_self
  rw [defaultFace, urlsplit_simple _ nl path b u3 u4 hx fun c hc => by rw [hp c hc]; rfl, u5, stripQF_id path hq]
  -- not `simp only [if_true]`: unifying `{ scheme := "unix".toList, .. }.scheme = "unix".toList` with `?a = ?a` unfolds the
  -- literal on the right before it reduces the projection on the left, and `whnf` then decodes it (18 M heartbeats)
  exact if_pos rfl

/-- `unix://<absolute path>` selects a Unix-socket face on that path. -/
theorem face_of_unix_uri (D : FaceDefaults) (p : Str) (b : Bool)
    (hp : ∀ c ∈ p, c ≠ '?' ∧ c ≠ '#') (hne : p ≠ []) (habs : p.head? = some '/') :
    defaultFace D ("unix://".toList ++ p) b = .ok (.unix p) := by
  have hshape : "unix://".toList ++ p = "unix".toList ++ ':' :: '/' :: '/' :: ([] ++ p) := by
    repeat rw [String.toList_ofList]
    rfl
  rw [hshape, defaultFace_unix D [] p b (by simp) (fun c hc => by simpa [habs] using hc.symm) hp, if_neg hne]

/-- `scheme://host[:port]` with a supported TCP/UDP scheme, a host name / IPv4 literal and
    an optional decimal port 1..65535 selects that face type, that address (lower-cased) and that port, and
    port 6363 when none is given. -/
theorem face_of_uri (D : FaceDefaults) (scheme host : Str) (ds : Option Str) (b : Bool)
    (hs : scheme ∈ tcpSchemes ∨ scheme ∈ udpSchemes) (hne : host ≠ [])
    (hh : ∀ c ∈ host, hostChar c = true)
    (hd : ∀ d, ds = some d → d ≠ [] ∧ (∀ c ∈ d, c.isDigit = true) ∧ decVal d ≠ 0 ∧ decVal d ≤ 65535) :
    defaultFace D (scheme ++ "://".toList ++ host ++ portText ds) b
      = .ok (denotes scheme (lower host) (match ds with | none => 6363 | some d => decVal d)) := by
  have hshape : scheme ++ "://".toList ++ host ++ portText ds
      = scheme ++ ':' :: '/' :: '/' :: (host ++ portText ds ++ []) := by simp
  have hmem : scheme ∈ tcpSchemes ++ udpSchemes := List.mem_append.mpr hs
  obtain ⟨s3, s4, s5⟩ := knownSchemes_ok.1 scheme (List.mem_cons_of_mem _ hmem)
  have s6 : scheme ≠ "unix".toList := fun e => knownSchemes_ok.2 (e ▸ hmem)
  have hdig : ∀ d, ds = some d → d ≠ [] ∧ ∀ c ∈ d, c.isDigit = true := fun d e => ⟨(hd d e).1, (hd d e).2.1⟩
  have hsplit := urlsplit_simple scheme (host ++ portText ds) [] b s3 s4 (fun c hc =>
    netloc_chars host ds hh hdig c
      ((by decide : ∀ c ∈ ['/', '?', '#', '[', ']'], (hostChar c || c = ':') = false) c hc)) (by simp)
  unfold defaultFace
  rw [hshape, hsplit]
  simp only [s5, s6, if_false, hostname_simple host ds hne hh hdig,
    port_simple host ds hh hdig fun d e => (hd d e).2.2.2]
  have hface : ∀ p, (if tcpSchemes.contains scheme then Except.ok (Face.tcp (lower host) p)
      else if udpSchemes.contains scheme then .ok (.udp (some (lower host)) p) else .error PyErr.valueError)
      = .ok (denotes scheme (lower host) p) := fun p => by
    by_cases ht : scheme ∈ tcpSchemes
    · simp [denotes, ht]
    · simp [denotes, ht, hs.resolve_left ht]
  rw [hface]
  cases ds with
  | none => rfl
  | some d => simp only [Option.map_some, (hd d rfl).2.2.1, if_false]

/-- Whatever the text, when its scheme is none of unix/tcp/tcp4/tcp6/udp/udp4/udp6
    no face is produced: the call fails with `ValueError` (never a silently substituted transport). -/
theorem unknown_scheme_error (D : FaceDefaults) (s : Str) (b : Bool)
    (h : (splitScheme s).1 ∉ knownSchemes) : defaultFace D s b = .error .valueError := by
  unfold defaultFace
  rcases urlsplit_cases s b with hu | ⟨u, hu, hsch⟩ <;> rw [hu]
  rw [← hsch] at h
  simp only [knownSchemes, List.mem_cons, List.mem_append, not_or] at h
  rcases port_cases u.netloc with hp | ⟨p, hp⟩ <;>
    simp only [if_neg h.1, hp, List.contains_iff_mem, h.2.1, h.2.2, if_false]

/-- String-level form: a syntactically valid scheme name outside the supported set is refused whatever
    follows the colon. -/
theorem unknown_scheme_uri_error (D : FaceDefaults) (sch rest : Str) (b : Bool)
    (h1 : ':' ∉ sch) (h2 : sch ≠ []) (h3 : sch.head?.map Char.isAlpha = some true)
    (h4 : sch.all schemeChar = true) (hk : lower sch ∉ knownSchemes) :
    defaultFace D (sch ++ ':' :: rest) b = .error .valueError :=
  unknown_scheme_error D _ b (by rw [splitScheme_ok sch rest h3 h4]; exact hk)

def isUnixFace : Except PyErr Face → Bool
  | .ok (.unix _) => true
  | _ => false

/-- For the platform table generated from `ndn/platform/linux.py` on every run: no candidate configuration path is
    empty (so the precedence theorems apply), `default_transport` is defined for every file system, every default transport
    is a Unix-socket URI that `default_face` accepts, and the default store schemes are constructible by
    `default_keychain`. -/
theorem platform_table_sane (home : Str) :
    [] ∉ (Gen.C20.platform home).confPaths ∧
    (∀ ex, ∃ v, defaultTransport (Gen.C20.platform home) ex = .ok v) ∧
    (∀ row ∈ (Gen.C20.platform home).transportTable,
        isUnixFace (defaultFace Gen.C20.faceDefaults row.2 true) = true) ∧
    (∀ x y, ∃ k, defaultKeychain ((Gen.C20.platform home).pibScheme ++ ':' :: x)
        ((Gen.C20.platform home).tpmScheme ++ ':' :: y) = .ok k) := by
  refine ⟨?_, fun ex => defaultTransport_total _ ?_ ex, ?_, fun x y => ⟨_, defaultKeychain_sqlite x y⟩⟩
  · -- a literal is non-empty because it is not `""`; its characters are not computed
    simp only [Gen.C20.platform, List.mem_cons, List.not_mem_nil, List.nil_eq, List.append_eq_nil_iff,
      String.toList_eq_nil_iff, String.reduceEq, and_false, or_self, not_false_eq_true]
  · -- probes and table do not mention `home`
    show tableTotal (Gen.C20.platform []).transportProbes (Gen.C20.platform []).transportTable = true
    decide +kernel
  · show ∀ row ∈ (Gen.C20.platform []).transportTable, _
    unfold Gen.C20.platform
    repeat rw [String.toList_ofList]
    decide +kernel

/-- On the generated platform every successful `read_client_conf` obeys environment > first existing candidate
    file > platform default, for all three settings. -/
theorem precedence_on_platform (home : Str) (W : World) (c : Conf)
    (h : readClientConf (Gen.C20.platform home) W = .ok c) :
    let P := Gen.C20.platform home
    (∃ dt, defaultTransport P W.exist = .ok dt ∧
      Setting P.confPaths W "transport".toList W.env.transport dt c.transport) ∧
    (∃ v conf, Setting P.confPaths W "pib".toList W.env.pib P.pibScheme v ∧ ConfFile P.confPaths W.exist conf ∧
      resolveLocation conf P.pibPaths W.exist v = .ok c.pib) ∧
    (∃ v conf, Setting P.confPaths W "tpm".toList W.env.tpm P.tpmScheme v ∧ ConfFile P.confPaths W.exist conf ∧
      resolveLocation conf P.tpmPaths W.exist v = .ok c.tpm) :=
  have hne := (platform_table_sane home).1
  ⟨precedence_transport _ W c hne h, precedence_pib _ W c hne h, precedence_tpm _ W c hne h⟩

section Examples
def exWorld : World :=
  { exist := fun p => p = "/etc/ndn/client.conf".toList ∨ p = "/etc/ndn/keys".toList
    files := fun p => if p = "/etc/ndn/client.conf".toList then
      ["# client.conf".toList, "PIB = pib-sqlite3:keys".toList, "".toList, "transport: tcp://h:1".toList,
       "[extra]".toList, "tpm=tpm-file:/not/looked/at".toList] else []
    env := { transport := none, pib := none, tpm := some "tpm-file".toList } }

/-- precedence_*: a world where a file provides two settings, the environment one, and a relative store path -/
example : readClientConf (Gen.C20.platform "/home/u".toList) exWorld =
    .ok { transport := "tcp://h:1".toList, pib := "pib-sqlite3:/etc/ndn/keys".toList, tpm := "tpm-file:".toList } := by
  unfold exWorld Gen.C20.platform
  repeat rw [String.toList_ofList]
  decide +kernel

/-- conf_value_is_first_assignment / conf_errors: comments, both delimiters, upper-case names, a value
    continued on indented lines (a blank line in between is kept), an empty value, a section that hides its
    options, a second `[DEFAULT]` that shows them again -/
example : parseConf ["# c".toList, "Transport = unix:///a".toList, "  ; also a comment".toList,
      "pib: pib-sqlite3:/x".toList, "   y".toList, "".toList, "   z".toList, "tpm=".toList, "[other]".toList,
      "transport=tcp://hidden".toList, "[DEFAULT]".toList, "extra = 1".toList]
    = .ok [("transport".toList, "unix:///a".toList), ("pib".toList, "pib-sqlite3:/x\ny\n\nz".toList),
           ("tpm".toList, []), ("extra".toList, "1".toList)] := by
  -- `logical_cons`: the line `"[DEFAULT]".toList` that `logical` puts in front is not scanned again by the kernel
  rw [parseConf, logical_cons]
  repeat rw [String.toList_ofList]
  decide +kernel
example : parseConf ["pib=a".toList, "PIB=b".toList] = .error .duplicateOption := by
  rw [parseConf, logical_cons]
  repeat rw [String.toList_ofList]
  decide +kernel
example : parseConf ["[s]".toList, "pib=a".toList, "[s]".toList] = .error .duplicateSection := by
  rw [parseConf, logical_cons]
  repeat rw [String.toList_ofList]
  decide +kernel
example : parseConf ["pib=a".toList, "no delimiter here".toList] = .error .parsing := by
  rw [parseConf, logical_cons]
  repeat rw [String.toList_ofList]
  decide +kernel
example : parseConf ["= v".toList] = .error .parsing := by
  rw [parseConf, logical_cons]
  repeat rw [String.toList_ofList]
  decide +kernel
/-- a duplicate wins over a stray line, wherever it stands -/
example : parseConf ["stray".toList, "pib=a".toList, "pib=b".toList] = .error .duplicateOption := by
  rw [parseConf, logical_cons]
  repeat rw [String.toList_ofList]
  decide +kernel
/-- an indented first line is an ordinary option (there is nothing to continue) -/
example : parseConf ["   pib = a".toList, "tpm = b".toList] = .ok [("pib".toList, "a".toList), ("tpm".toList, "b".toList)] := by
  rw [parseConf, logical_cons]
  repeat rw [String.toList_ofList]
  decide +kernel

/-- location_* -/
example : resolveLocation [] [] (fun p => p = "/k".toList) "s:/k".toList = .ok "s:/k".toList := by
  repeat rw [String.toList_ofList]
  decide +kernel
example : resolveLocation "/etc/ndn/client.conf".toList [] (fun p => p = "/etc/ndn/keys".toList) "s:keys".toList
    = .ok "s:/etc/ndn/keys".toList := by
  repeat rw [String.toList_ofList]
  decide +kernel
example : FirstExisting ["/a".toList, "/b".toList] (fun p => p = "/b".toList) "/b".toList :=
  ⟨["/a".toList], [], rfl, by decide +kernel, by decide +kernel⟩

/-- face_of_uri -/
example : defaultFace Gen.C20.faceDefaults "udp4://Router.example:9000".toList true
    = .ok (.udp (some "router.example".toList) 9000) := by
  repeat rw [String.toList_ofList]
  decide +kernel
example : defaultFace Gen.C20.faceDefaults "tcp://localhost".toList true = .ok (.tcp "localhost".toList 6363) := by
  repeat rw [String.toList_ofList]
  decide +kernel
/-- unknown_scheme_error -/
example : defaultFace Gen.C20.faceDefaults "ws://localhost:9696".toList true = .error .valueError := by
  repeat rw [String.toList_ofList]
  decide +kernel
example : "ws".toList ∉ knownSchemes := by
  unfold knownSchemes tcpSchemes udpSchemes
  repeat rw [String.toList_ofList]
  decide +kernel
end Examples

end Ndn.C20
