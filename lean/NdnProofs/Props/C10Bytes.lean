import NdnProofs.Props.C10
import NdnProofs.Props.C06
import NdnProofs.Lemmas.LpAgree
/-!
  # C10 at byte level - composed with the packet decoders of the receive pipeline (C06 / C07)

  `Ndn.RecvBytes.receiveBytes` (NdnModel/ReceiveBytes.lean) is `_receive` with all four decoders computed from the
  delivered bytes by the codec models of C07.  Its envelope decoder `lpDec` and the `parseLp T` of the C10 theorems are
  two independently written models of `parse_lp_packet_v2`, equal on every byte string
  (`Ndn.LpCodec.parseLp_eq_lpDec`).  So what follows is about `receiveBytes`: the enclosed packet is an arbitrary byte
  string, and headers with illegal values, repeated Nack headers, nested envelopes are covered as the code behaves.
-/
namespace Ndn.C10
open Ndn Ndn.Recv Ndn.Lp Ndn.RecvBytes

/-- the byte-level decoders of C06 are the C10 decoders with the Interest / Data decoders made concrete -/
theorem decoders_agree (H : Bytes → Bytes) : bytesDecoders H = decoders T (intDec H) (dataDec H) := by
  unfold bytesDecoders decoders
  simp only [Decoders.mk.injEq]
  exact ⟨funext fun w => (LpCodec.parseLp_eq_lpDec w).symm, rfl, trivial, trivial⟩

theorem receiveBytes_eq (g : Guards) (H : Bytes → Bytes) (st : State) (typ : Nat) (w : Bytes) :
    receiveBytes g H st typ w = receive g (decoders T (intDec H) (dataDec H)) st typ w := by
  unfold receiveBytes; rw [decoders_agree]

/-- every documented decoding error is named by the `except` tuple of each decoding step of `_receive` -/
def Swallows (g : Guards) : Prop :=
  ∀ e ∈ C06.raisable, e ∈ g.caughtLp ∧ e ∈ g.caughtFragTl ∧ e ∈ g.caughtNackInterest ∧ e ∈ g.caughtInterest ∧
    e ∈ g.caughtData

/-- both generated front-end tables satisfy `Swallows`; in both the envelope type differs from the Interest and Data
    types -/
theorem frontends_swallow : Swallows Gen.C10.v2 ∧ Swallows Gen.C10.v1 ∧
    Gen.C10.v2.lpType ≠ Gen.C10.v2.interestType ∧ Gen.C10.v2.lpType ≠ Gen.C10.v2.dataType ∧
    Gen.C10.v1.lpType ≠ Gen.C10.v1.interestType ∧ Gen.C10.v1.lpType ≠ Gen.C10.v1.dataType := by
  unfold Swallows; decide +kernel

theorem bytes_tl {H : Bytes → Bytes} {p : Bytes} {r : Except PyErr (Nat × Nat)} (h : parseTlNum p 0 = r) :
    (bytesDecoders H).tl p = r.map (·.1) := by
  rw [← h]; rfl

/-- `receive_lp` with the byte-level decoders written out -/
theorem receiveBytes_lp (g : Guards) (H : Bytes → Bytes) (st : State) (e p : Bytes) (facts : LpFacts)
    (hacc : lpDec e = .ok facts) (hf : facts.fragment = some p) :
    receiveBytes g H st g.lpType e = guarded g.caughtFragTl st ((parseTlNum p 0).map (·.1)) fun t =>
      receiveNet g (bytesDecoders H) st (nackReasonOf facts.nack) facts.pitToken t p :=
  receive_lp g _ st e p facts hacc hf

/-- For every byte string `e` the envelope decoder accepts as an envelope without fragmentation fields and without
    Nack header (whatever else it contains: unknown headers, non-minimal Type / Length encodings, overrunning elements
    the decoder truncates, …) and every byte string `p` it yields as Fragment whose first bytes read as a type number
    other than LpPacket: receiving `e` is receiving `p` bare - same change of the tables, same completions, same
    handlers invoked, same drop when `p` does not decode - except that handler invocations capture the envelope's PIT
    token. -/
theorem bytes_accepted_transparent (g : Guards) (H : Bytes → Bytes) (st : State) (e p : Bytes) (facts : LpFacts)
    (hacc : lpDec e = .ok facts) (hn : facts.nack = none) (hf : facts.fragment = some p)
    (t n : Nat) (htl : parseTlNum p 0 = .ok (t, n)) (hne : t ≠ g.lpType) :
    receiveBytes g H st g.lpType e = receiveNet g (bytesDecoders H) st none facts.pitToken t p ∧
    receiveBytes g H st t p = receiveNet g (bytesDecoders H) st none none t p ∧
    eraseRes (receiveBytes g H st g.lpType e) = eraseRes (receiveBytes g H st t p) ∧
    (g.usesPitToken = false ∨ facts.pitToken = none →
      receiveBytes g H st g.lpType e = receiveBytes g H st t p) := by
  exact receive_transparent g (bytesDecoders H) st e p facts t hacc hn hf (bytes_tl htl) hne

/-- A Fragment whose beginning does not read as a type number makes the envelope a dropped packet; so does a Fragment
    that is itself an LpPacket - the library does not unwrap twice. -/
theorem bytes_accepted_dropped (g : Guards) (hsw : Swallows g) (hnI : g.lpType ≠ g.interestType)
    (hnD : g.lpType ≠ g.dataType) (H : Bytes → Bytes) (st : State) (e p : Bytes) (facts : LpFacts)
    (hacc : lpDec e = .ok facts) (hn : facts.nack = none) (hf : facts.fragment = some p)
    (hbad : (∃ err, parseTlNum p 0 = .error err) ∨ ∃ n, parseTlNum p 0 = .ok (g.lpType, n)) :
    receiveBytes g H st g.lpType e = .ok (st, []) := by
  rw [receiveBytes_lp g H st e p facts hacc hf]
  rcases hbad with ⟨err, herr⟩ | ⟨n, htl⟩
  · rw [herr]
    exact if_pos (hsw err ((C06.bytes_decoders_raise_only H).2.1 p err (bytes_tl herr))).2.1
  · rw [htl, hn]
    simp [guarded, Except.map, receiveNet, nackReasonOf, hnI, hnD]

/-- an envelope the decoder rejects - whatever the exception class - is dropped without any effect -/
theorem bytes_rejected_dropped (g : Guards) (hsw : Swallows g) (H : Bytes → Bytes) (st : State) (e : Bytes) (err : PyErr)
    (hrej : lpDec e = .error err) : receiveBytes g H st g.lpType e = .ok (st, []) := by
  exact (receive_lp_error g (bytesDecoders H) st e err hrej).trans
    (if_pos (hsw err ((C06.bytes_decoders_raise_only H).1 e err hrej)).1)

/-- `lp_transparent` for every byte string `p` (a well-formed packet or not), with the byte-level Interest and Data
    decoders - so also the same drop when `p` is malformed; when `p` is empty, its type number unreadable, or `p` itself
    an LpPacket, the envelope is dropped. -/
theorem bytes_transparent (g : Guards) (hg : g.lpType = T.tLpPacket) (hsw : Swallows g)
    (hnI : g.lpType ≠ g.interestType) (hnD : g.lpType ≠ g.dataType) (H : Bytes → Bytes) (st : State)
    (hdrs : List (Nat × Bytes)) (p : Bytes) (hs : Sized hdrs p) (hok : ∀ h ∈ hdrs, HdrOk h) :
    ∃ tok,
      lpDec (lpWrap hdrs p) = .ok { nack := none, pitToken := tok, fragment := some p } ∧
      (∀ tk, tok = some tk → (T.tPitToken, tk) ∈ hdrs) ∧
      ((∀ h ∈ hdrs, h.1 ≠ T.tPitToken) → tok = none) ∧
      (∀ tk rest, hdrs = (T.tPitToken, tk) :: rest → tok = some tk) ∧
      (∀ t n, parseTlNum p 0 = .ok (t, n) → t ≠ T.tLpPacket →
        receiveBytes g H st T.tLpPacket (lpWrap hdrs p) = receiveNet g (bytesDecoders H) st none tok t p ∧
        receiveBytes g H st t p = receiveNet g (bytesDecoders H) st none none t p ∧
        eraseRes (receiveBytes g H st T.tLpPacket (lpWrap hdrs p)) = eraseRes (receiveBytes g H st t p) ∧
        (g.usesPitToken = false ∨ tok = none →
          receiveBytes g H st T.tLpPacket (lpWrap hdrs p) = receiveBytes g H st t p)) ∧
      (((∃ err, parseTlNum p 0 = .error err) ∨ ∃ n, parseTlNum p 0 = .ok (T.tLpPacket, n)) →
        receiveBytes g H st T.tLpPacket (lpWrap hdrs p) = .ok (st, [])) := by
  obtain ⟨tok, hp, h1, h2, h3⟩ := parseLp_wrapped hdrs p hs hok
  rw [LpCodec.parseLp_eq_lpDec] at hp
  refine ⟨tok, hp, h1, h2, h3, ?_, ?_⟩
  · intro t n htl hne
    rw [← hg] at hne ⊢
    exact bytes_accepted_transparent g H st _ p _ hp rfl rfl t n htl hne
  · intro hbad
    rw [← hg] at hbad ⊢
    exact bytes_accepted_dropped g hsw hnI hnD H st _ p _ hp rfl rfl hbad

/-- an envelope (PitToken, CongestionMark, a critical unknown header) around bytes that are not a packet at all and
    around an Interest without Name; of a nested envelope `[100, 0]` only the Type and Length are read -/
example : (∀ h ∈ [((98 : Nat), ([1, 2] : Bytes)), (832, [7]), (1001, [9])], HdrOk h) ∧
    Sized [(98, [1, 2]), (832, [7]), (1001, [9])] [253] ∧ Sized [(98, [1, 2]), (832, [7]), (1001, [9])] [5, 0] ∧
    parseTlNum [253] 0 = .error .structError ∧ parseTlNum [5, 0] 0 = .ok (5, 1) ∧ parseTlNum [100, 0] 0 = .ok (100, 1) := by
  refine ⟨?_, ⟨by decide +kernel, by decide +kernel, by decide +kernel⟩,
    ⟨by decide +kernel, by decide +kernel, by decide +kernel⟩, by decide +kernel, by decide +kernel, by decide +kernel⟩
  intro h hm
  simp only [List.mem_cons, List.not_mem_nil, or_false] at hm
  rcases hm with rfl | rfl | rfl
  · exact hdrOk_of_kind (.flat .bytes) (by decide) (by decide) trivial
  · exact hdrOk_of_kind (.flat .uint) (by decide) (by decide) (Or.inl rfl)
  · exact hdrOk_unknown (by decide) (unknown_of (by decide))

/-- `lp_nack_general` around every byte string `i`: when `i` decodes as an Interest (byte-level decoder of C07) with name
    `N`, exactly the pending Interests named `N` are completed, each with `InterestNack(reason)` for the reason the
    header bytes carry (0 when they carry none); when `i` does not decode, or its type number is unreadable, the
    envelope is dropped.  No handler is ever invoked. -/
theorem bytes_nack (g : Guards) (hg : g.lpType = T.tLpPacket) (hdg : g.nackByDigest = true)
    (hk : PyErr.keyError ∈ g.caughtNackLookup) (hsw : Swallows g) (H : Bytes → Bytes) (st : State)
    (before after : List (Nat × Bytes)) (nv : Bytes) (ro : Option Nat) (i : Bytes)
    (hs : Sized (before ++ (T.tNack, nv) :: after) i)
    (hb : ∀ h ∈ before, HdrOk h) (ha : ∀ h ∈ after, HdrOk h)
    (hord : ∀ h ∈ before, ¬ AfterNack h.1) (hnv : NackVal nv ro) :
    receiveBytes g H st T.tLpPacket (lpWrap (before ++ (T.tNack, nv) :: after) i) =
      match parseTlNum i 0, intDec H i with
      | .ok _, .ok facts =>
        .ok (afterNack st facts.name, (named st facts.name).map fun p => Effect.nacked p.id (ro.getD 0))
      | _, _ => .ok (st, []) := by
  obtain ⟨tok, hp⟩ := parseLp_nack_general before after nv ro i hs hb ha hord hnv
  rw [LpCodec.parseLp_eq_lpDec] at hp
  rw [← hg, receiveBytes_lp g H st _ i _ hp rfl]
  cases htl : parseTlNum i 0 with
  | error err => exact if_pos (hsw err ((C06.bytes_decoders_raise_only H).2.1 i err (bytes_tl htl))).2.1
  | ok tn =>
    show receiveNet g _ st (some (ro.getD 0)) tok tn.1 i = _
    rw [receiveNet_nack g hdg hk]
    show guarded _ st (intDec H i) _ = _
    cases hint : intDec H i with
    | error err => exact if_pos (hsw err ((C06.bytes_decoders_raise_only H).2.2.1 i err hint)).2.2.1
    | ok facts => rfl

/-- every reason below 2^64 in every legal width is a `NackVal`, and so is the empty Nack header -/
theorem nackVal_reason (r w : Nat) (hw : w = 1 ∨ w = 2 ∨ w = 4 ∨ w = 8) (hr : r < 256 ^ w) :
    NackVal (tlv T.tNackReason (Codec.beN w r)) (some r) := by
  refine ⟨[], [], by simp, Or.inr ⟨Codec.beN w r, ?_, ?_, by simp⟩⟩
  · rw [Codec.beN_length w r hw]; exact hw
  · rw [Codec.beVal_beN w r hw hr]

theorem nackVal_empty : NackVal [] none := ⟨[], [], by simp, Or.inl ⟨rfl, rfl⟩⟩

/-- The first header with an illegal value decides: when the header `(t, v)` behind optional headers `pre` is one the
    in-order scan recognises as a field of kind `k` and `parseVal` raises `e` on `v`, the envelope decoder raises
    exactly `e`, whatever follows. -/
theorem parseLp_illegal_header (pre post : List (Nat × Bytes)) (t : Nat) (v : Bytes) (hpre : ∀ h ∈ pre, HdrOk h)
    (i : Nat) (k : Kind) (hf : findFrom T.fields (scanPos T.fields (pre.map (·.1)) 0) t = some (i, k))
    (e : PyErr) (hv : parseVal T.lengthCheck k v v.length = .error e)
    (hsz : ∀ x ∈ pre ++ (t, v) :: post, x.1 < 2^64 ∧ x.2.length < 2^64)
    (hlen : (wireOf (pre ++ (t, v) :: post)).length < 2^64) :
    parseLp T (tlv T.tLpPacket (wireOf (pre ++ (t, v) :: post))) = .error e := by
  obtain ⟨ext, hc⟩ := collect_ok T.fields (parseVal T.lengthCheck) pre
    (fun h hm k hk => wf_parse k h.2 ((hpre h hm).2.2.2.2 k hk)) 0 []
  rw [parseLp_elems _ hsz hlen, collect_append, hc]
  show collect T.fields (parseVal T.lengthCheck) true ((t, v) :: post) _ _ >>= factsOf = _
  simp only [collect, hf, hv]
  rfl

/-- a NonNegativeInteger header (FragIndex, FragCount, IncomingFaceId, NextHopFaceId, CongestionMark) whose value is
    not 1, 2, 4 or 8 bytes long: `ValueError` -/
theorem illegal_uint_width (chk : Bool) (v : Bytes) (hw : ¬ (v.length = 1 ∨ v.length = 2 ∨ v.length = 4 ∨ v.length = 8)) :
    parseVal chk (.flat .uint) v v.length = .error .valueError := by
  simp [parseVal, parseFVal, hw, Except.map]

/-- a nested header (Nack, CachePolicy: `ModelField` without `ignore_critical`) whose value has, behind unknown
    non-critical sub-elements, an unknown sub-element with a critical (odd) type: `DecodeError` -/
theorem illegal_nested_critical (chk : Bool) (sub : List (Nat × FKind)) (u1 u2 : List (Nat × Bytes)) (tc : Nat) (x : Bytes)
    (hu1 : ∀ h ∈ u1, (∀ k, (h.1, k) ∉ sub) ∧ h.1 % 2 = 0) (hunk : ∀ k, (tc, k) ∉ sub) (hodd : tc % 2 = 1)
    (hsz : ∀ e ∈ u1 ++ (tc, x) :: u2, e.1 < 2^64 ∧ e.2.length < 2^64) :
    parseVal chk (.model sub false) (wireOf (u1 ++ (tc, x) :: u2)) (wireOf (u1 ++ (tc, x) :: u2)).length
      = .error .decodeError := by
  simp only [parseVal, List.take_length]
  rw [parseFlat_elems _ _ _ _ hsz, collect_skip_unknown _ _ _ u1 (fun h hm => ⟨(hu1 h hm).1, Or.inl (hu1 h hm).2⟩)]
  simp [collect, findFrom_unknown _ _ _ hunk, hodd, Except.map]

/-- a nested header whose value has, behind unknown skippable sub-elements, a known NonNegativeInteger sub-element
    (NackReason, CachePolicyType) of a width other than 1/2/4/8: `ValueError` -/
theorem illegal_nested_width (chk ic : Bool) (sub : List (Nat × FKind)) (u1 u2 : List (Nat × Bytes)) (tr j : Nat) (rv : Bytes)
    (hu1 : ∀ h ∈ u1, (∀ k, (h.1, k) ∉ sub) ∧ (h.1 % 2 = 0 ∨ ic = true)) (hfound : findFrom sub 0 tr = some (j, .uint))
    (hw : ¬ (rv.length = 1 ∨ rv.length = 2 ∨ rv.length = 4 ∨ rv.length = 8))
    (hsz : ∀ e ∈ u1 ++ (tr, rv) :: u2, e.1 < 2^64 ∧ e.2.length < 2^64) :
    parseVal chk (.model sub ic) (wireOf (u1 ++ (tr, rv) :: u2)) (wireOf (u1 ++ (tr, rv) :: u2)).length
      = .error .valueError := by
  simp only [parseVal, List.take_length]
  rw [parseFlat_elems _ _ _ _ hsz, collect_skip_unknown _ _ _ u1 hu1]
  simp [collect, hfound, parseFVal, hw, Except.map]

/-- Both front-ends drop an envelope as in `parseLp_illegal_header` without any effect: no pending Interest is
    completed (a Nack header behind the illegal header included), no handler is invoked. -/
theorem bytes_illegal_header_dropped (g : Guards) (hg : g.lpType = T.tLpPacket) (hsw : Swallows g) (H : Bytes → Bytes)
    (st : State) (pre post : List (Nat × Bytes)) (t : Nat) (v : Bytes) (hpre : ∀ h ∈ pre, HdrOk h)
    (i : Nat) (k : Kind) (hf : findFrom T.fields (scanPos T.fields (pre.map (·.1)) 0) t = some (i, k))
    (e : PyErr) (hv : parseVal T.lengthCheck k v v.length = .error e)
    (hsz : ∀ x ∈ pre ++ (t, v) :: post, x.1 < 2^64 ∧ x.2.length < 2^64)
    (hlen : (wireOf (pre ++ (t, v) :: post)).length < 2^64) :
    lpDec (tlv T.tLpPacket (wireOf (pre ++ (t, v) :: post))) = .error e ∧
    receiveBytes g H st T.tLpPacket (tlv T.tLpPacket (wireOf (pre ++ (t, v) :: post))) = .ok (st, []) := by
  have h := parseLp_illegal_header pre post t v hpre i k hf e hv hsz hlen
  rw [LpCodec.parseLp_eq_lpDec] at h
  have h2 := bytes_rejected_dropped g hsw H st _ e h
  rw [hg] at h2
  exact ⟨h, h2⟩

/-- the cases: a 3-byte CongestionMark behind a PitToken (`ValueError`); a Nack header whose NackReason is 3 bytes
    long (`ValueError`); a Nack header with a critical unknown sub-element (`DecodeError`); a CachePolicy with an
    empty CachePolicyType (`ValueError`) - each in front of a Fragment that would otherwise be processed.  At the
    top level a critical unknown header is NOT illegal (the envelope is parsed with `ignore_critical=True`). -/
example : lpDec (tlv 100 (wireOf [(98, [1]), (832, [0, 0, 1]), (80, [5, 0])])) = .error .valueError ∧
    lpDec (tlv 100 (wireOf [(800, wireOf [(801, [0, 0, 150])]), (80, [5, 0])])) = .error .valueError ∧
    lpDec (tlv 100 (wireOf [(800, wireOf [(801, [150]), (803, [])]), (80, [5, 0])])) = .error .decodeError ∧
    lpDec (tlv 100 (wireOf [(820, wireOf [(821, [])]), (80, [5, 0])])) = .error .valueError ∧
    lpDec (tlv 100 (wireOf [(803, []), (80, [5, 0])])) = .ok ⟨none, none, some [5, 0]⟩ := by
  decide +kernel

/-- `lp_fragment_rejected_general` on bytes: the envelope is dropped by both front-ends.  (The library rejects the
    presence of either field, not only FragCount > 1.) -/
theorem bytes_fragment_dropped (g : Guards) (hg : g.lpType = T.tLpPacket) (hsw : Swallows g) (H : Bytes → Bytes)
    (st : State) (hdrs rest : List (Nat × Bytes))
    (hasc : Ascending hdrs) (hnf : ∀ h ∈ hdrs, h.1 ≠ T.tFragment)
    (hex : ∃ h ∈ hdrs, h.1 = T.tFragIndex ∨ h.1 = T.tFragCount)
    (hsz : ∀ e ∈ hdrs ++ rest, e.1 < 2^64 ∧ e.2.length < 2^64)
    (hlen : (wireOf (hdrs ++ rest)).length < 2^64) :
    receiveBytes g H st T.tLpPacket (tlv T.tLpPacket (wireOf (hdrs ++ rest))) = .ok (st, []) := by
  obtain ⟨e, he⟩ := parseLp_fragmented_general hdrs rest hasc hnf hex hsz hlen
  rw [LpCodec.parseLp_eq_lpDec] at he
  have h2 := bytes_rejected_dropped g hsw H st _ e he
  rw [hg] at h2
  exact h2

/-- `TlvModel.parse` looks a non-repeatable field up only behind the position of the previous hit, so once one header
    of type Nack has been seen - recognised or not - every later Nack header is an unknown non-critical element and is
    skipped, whatever its value: the envelope decodes exactly as it does without the later header. -/
theorem parseLp_nack_repeated (pre post : List (Nat × Bytes)) (nv2 p : Bytes)
    (hs : Sized (pre ++ (T.tNack, nv2) :: post) p) (hex : ∃ h ∈ pre, h.1 = T.tNack) :
    Sized (pre ++ post) p ∧
    parseLp T (lpWrap (pre ++ (T.tNack, nv2) :: post) p) = parseLp T (lpWrap (pre ++ post) p) :=
  let ⟨h, hm, ht⟩ := hex
  parseLp_nack_unrecognised pre post nv2 p hs ⟨h, hm, Or.inl ht⟩

/-- Hence an envelope with several Nack headers is received exactly as the envelope with only the first one, legal
    or not (for an illegal first one see `parseLp_illegal_header`). -/
theorem bytes_nack_repeated (g : Guards) (H : Bytes → Bytes) (st : State)
    (pre post : List (Nat × Bytes)) (nv2 p : Bytes)
    (hs : Sized (pre ++ (T.tNack, nv2) :: post) p) (hex : ∃ h ∈ pre, h.1 = T.tNack) :
    lpDec (lpWrap (pre ++ (T.tNack, nv2) :: post) p) = lpDec (lpWrap (pre ++ post) p) ∧
    receiveBytes g H st g.lpType (lpWrap (pre ++ (T.tNack, nv2) :: post) p)
      = receiveBytes g H st g.lpType (lpWrap (pre ++ post) p) := by
  have h := (parseLp_nack_repeated pre post nv2 p hs hex).2
  rw [LpCodec.parseLp_eq_lpDec, LpCodec.parseLp_eq_lpDec] at h
  refine ⟨h, ?_⟩
  simp only [receiveBytes, receive, if_true, bytesDecoders, h]

/-- two Nack headers with different reasons, CongestionMark in between: the first one's reason (50) is the Nack's;
    a later Nack header may even be undecodable (3-byte NackReason) without the envelope being rejected; but an
    undecodable FIRST Nack header rejects the envelope -/
example : lpDec (lpWrap [(800, wireOf [(801, [50])]), (832, [1]), (800, wireOf [(801, [150])])] [5, 0])
      = .ok ⟨some (some 50), none, some [5, 0]⟩ ∧
    lpDec (lpWrap [(800, wireOf [(801, [50])]), (800, wireOf [(801, [0, 0, 150])])] [5, 0])
      = .ok ⟨some (some 50), none, some [5, 0]⟩ ∧
    lpDec (lpWrap [(800, wireOf [(801, [0, 0, 150])]), (800, wireOf [(801, [50])])] [5, 0]) = .error .valueError := by
  decide +kernel

/-- The reply closure of an Interest that arrived with PIT token `tok` writes exactly
    `LpPacket{ PitToken = tok, Fragment = r }`; without a token exactly `r`. -/
theorem reply_bytes (tok r : Bytes) :
    reply T (some tok) r = tlv T.tLpPacket (tlv T.tPitToken tok ++ tlv T.tFragment r) ∧ reply T none r = r := by
  refine ⟨?_, rfl⟩
  show putWithPitToken T r tok = _
  rw [putWithPitToken_eq]
  simp [lpWrap, wireOf]

/-- the values `_put_raw_packet_with_pit_token` assigns: `LpPacketValue(pit_token = tok, fragment = r)` -/
def tokenVals (tok r : Bytes) : List Codec.Value :=
  [.none, .none, .bytes tok, .none, .none, .none, .none, .none, .none, .none, .none, .none, .bytes r]

/-- the values `make_network_nack` assigns: `LpPacketValue(nack = NetworkNack(nack_reason = reason), fragment = i)` -/
def nackVals (reason : Nat) (i : Bytes) : List Codec.Value :=
  [.none, .none, .none, .model [.uint reason], .none, .none, .none, .none, .none, .none, .none, .none, .bytes i]

/-- The PIT-token encoder of C10 is `TlvModel.encode` of the generic codec (C08) over the schema generated from
    `LpPacket` / `LpPacketValue`: `LpPacket(lp_packet = <values>).encode()` yields exactly the bytes of
    `putWithPitToken` (sizes that do not fit the 64-bit TL encoding: `struct.error`). -/
theorem encoders_are_codec (tok r : Bytes) (htok : tok.length < 2^64) (hr : r.length < 2^64)
    (hlen : (tlv T.tPitToken tok ++ tlv T.tFragment r).length < 2^64) :
    Codec.enc (.model 100 Gen.C07.lp false) (.model (tokenVals tok r)) = .ok (putWithPitToken T r tok) := by
  have hl : (tlv 98 tok ++ tlv 80 r).length < 2^64 := hlen
  show _ = Except.ok (reply T (some tok) r)
  rw [(reply_bytes tok r).1]
  simp [Codec.enc, Codec.encFields, Gen.C07.lp, tokenVals, Codec.tlvE, htok, hr, bind, Except.bind, pure, Except.pure, T,
    Gen.C10.table]
  simpa using hl

/-- the same for `makeNetworkNack`, for every Interest wire and every reason below 2^64 -/
theorem nack_encoder_is_codec (reason : Nat) (i : Bytes) (hreason : reason < 2^64) (hi : i.length < 2^64)
    (hlen : (tlv T.tNack (tlv T.tNackReason (packUint reason)) ++ tlv T.tFragment i).length < 2^64) :
    Codec.enc (.model 100 Gen.C07.lp false) (.model (nackVals reason i)) = .ok (makeNetworkNack T i reason) := by
  have hl : (tlv 800 (tlv 801 (packUint reason)) ++ tlv 80 i).length < 2^64 := hlen
  have hp : (packUint reason).length < 2^64 := by have := packUint_length_le reason; omega
  have hn : (tlv 801 (packUint reason)).length < 2^64 := by
    have := tlv_length_le 801 (packUint reason); have := packUint_length_le reason; omega
  rw [makeNetworkNack_eq]
  simp [Codec.enc, Codec.encFields, Gen.C07.lp, nackVals, Codec.tlvE, hi, bind, Except.bind, pure, Except.pure, T,
    Gen.C10.table, Nat.not_le.2 (Codec.uintWidth_none_fits reason hreason), Codec.beN_uintWidth, hp, hn, lpWrap, wireOf]
  simpa using hl

/-- the bytes of a reply parse back, with the envelope decoder of the byte-level pipeline, to no Nack, PIT token `tok`,
    Fragment `r` -/
theorem reply_parses_back (tok r : Bytes) (htok : tok.length < 2^64) (hr : r.length < 2^64)
    (hlen : (wireOf [(T.tPitToken, tok), (T.tFragment, r)]).length < 2^64) :
    lpDec (reply T (some tok) r) = .ok { nack := none, pitToken := some tok, fragment := some r } := by
  rw [← LpCodec.parseLp_eq_lpDec]
  exact token_roundtrip r tok htok hr hlen

/-- without a Nack (`nr = none`) the Data path only completes, so a handler is invoked only by the Interest path, and
    the token in its reply closure is the one `_receive` read off the envelope (appv2) or none (legacy) -/
theorem receiveNet_invoke_token (g : Guards) (Dc : Decoders) (st st' : State) (tok : Option Bytes) (t : Nat) (p : Bytes)
    (effs : List Effect) (h : receiveNet g Dc st none tok t p = .ok (st', effs)) (pfx : NameKey) (tok' : Option Bytes)
    (hm : Effect.invoke pfx tok' ∈ effs) : tok' = if g.usesPitToken then tok else none :=
  receiveNet_cases (g := g) (D := Dc) (nr := none)
    (P := fun r => ∀ res, r = .ok res → Effect.invoke pfx tok' ∈ res.2 → tok' = if g.usesPitToken then tok else none)
    (drop := fun _ h hm => by cases h; cases hm) (leak := fun _ _ _ h => nomatch h) (nack := fun _ _ h => nomatch h)
    (int := fun i _ _ h hm => by cases h; exact onInterest_invoke hm)
    (data := fun d _ _ h hm => by cases h; exact absurd hm onData_no_invoke) _ h hm

theorem invoke_token_of_envelope (g : Guards) (H : Bytes → Bytes) (st st' : State) (w p : Bytes) (tok0 : Option Bytes)
    (effs : List Effect) (hp : lpDec w = .ok { nack := none, pitToken := tok0, fragment := some p })
    (hrecv : receiveBytes g H st g.lpType w = .ok (st', effs)) (pfx : NameKey) (tok : Option Bytes)
    (hm : Effect.invoke pfx tok ∈ effs) : tok = if g.usesPitToken then tok0 else none := by
  rw [receiveBytes_lp g H st w p _ hp rfl] at hrecv
  exact guarded_cases
    (P := fun r => ∀ res, r = .ok res → Effect.invoke pfx tok ∈ res.2 → tok = if g.usesPitToken then tok0 else none)
    (drop := fun _ h hm => by cases h; cases hm) (leak := fun _ _ _ _ h => nomatch h)
    (go := fun t _ res h hm => receiveNet_invoke_token g _ st res.1 tok0 t p res.2 h pfx tok hm) _ hrecv hm

/-- End to end, on bytes: for every envelope carrying a PitToken header `tk` (preceded only by headers of types the
    format does not have) around every byte string `p`, every handler invocation its reception (appv2) causes has a
    reply closure that writes exactly `LpPacket{ PitToken = tk, Fragment = r }` - bytes that parse back to `(tk, r)`. -/
theorem token_echo (g : Guards) (hg : g.lpType = T.tLpPacket) (hv2 : g.usesPitToken = true) (H : Bytes → Bytes)
    (st st' : State) (pre rest : List (Nat × Bytes)) (tk p : Bytes) (effs : List Effect)
    (hs : Sized (pre ++ (T.tPitToken, tk) :: rest) p)
    (hpre : ∀ h ∈ pre, Unknown h.1) (hok : ∀ h ∈ rest, HdrOk h)
    (hrecv : receiveBytes g H st T.tLpPacket (lpWrap (pre ++ (T.tPitToken, tk) :: rest) p) = .ok (st', effs))
    (pfx : NameKey) (tok : Option Bytes) (hm : Effect.invoke pfx tok ∈ effs) (r : Bytes) :
    tok = some tk ∧ reply T tok r = tlv T.tLpPacket (tlv T.tPitToken tk ++ tlv T.tFragment r) ∧
    (tk.length < 2^64 → r.length < 2^64 → (wireOf [(T.tPitToken, tk), (T.tFragment, r)]).length < 2^64 →
      lpDec (reply T tok r) = .ok { nack := none, pitToken := some tk, fragment := some r }) := by
  have hp := parseLp_token_general pre rest tk p hs hpre hok
  rw [LpCodec.parseLp_eq_lpDec] at hp
  rw [← hg] at hrecv
  have htok : tok = some tk := by
    simpa [hv2] using invoke_token_of_envelope g H st st' _ p _ effs hp hrecv pfx tok hm
  subst htok
  exact ⟨rfl, (reply_bytes tk r).1, fun h1 h2 h3 => reply_parses_back tk r h1 h2 h3⟩

/-- Without a PitToken header every handler invocation has no token and its reply closure writes exactly the reply
    bytes. -/
theorem no_token_echo (g : Guards) (hg : g.lpType = T.tLpPacket) (H : Bytes → Bytes)
    (st st' : State) (hdrs : List (Nat × Bytes)) (p : Bytes) (effs : List Effect)
    (hs : Sized hdrs p) (hok : ∀ h ∈ hdrs, HdrOk h) (hno : ∀ h ∈ hdrs, h.1 ≠ T.tPitToken)
    (hrecv : receiveBytes g H st T.tLpPacket (lpWrap hdrs p) = .ok (st', effs))
    (pfx : NameKey) (tok : Option Bytes) (hm : Effect.invoke pfx tok ∈ effs) (r : Bytes) :
    tok = none ∧ reply T tok r = r := by
  obtain ⟨tok0, hp, _, h2, _⟩ := parseLp_wrapped hdrs p hs hok
  rw [h2 hno, LpCodec.parseLp_eq_lpDec] at hp
  rw [← hg] at hrecv
  have htok : tok = none := by
    simpa using invoke_token_of_envelope g H st st' _ p _ effs hp hrecv pfx tok hm
  subst htok
  exact ⟨rfl, rfl⟩

/-- On real bytes (Interest `/a/b` made by the library's encoder, handler at `/a`, one Interest pending on `/a/b`):
    Sequence + PitToken 01020304 + CongestionMark around the Interest invokes the handler with exactly that token;
    without PitToken header: no token; a Nack header with a 2-byte reason 0x0096 behind a PitToken nacks the pending
    Interest with 150; the same envelope with a FragCount header is dropped. -/
example :
    receiveBytes Gen.C10.v2 (fun _ => []) ⟨[], [[[8, 1, 97]]]⟩ 100
      (lpWrap [(81, [0, 0, 0, 0, 0, 0, 0, 1]), (98, [1, 2, 3, 4]), (832, [1])]
        [5, 18, 7, 6, 8, 1, 97, 8, 1, 98, 10, 4, 1, 2, 3, 4, 12, 2, 15, 160])
      = .ok (⟨[], [[[8, 1, 97]]]⟩, [.invoke [[8, 1, 97]] (some [1, 2, 3, 4])]) ∧
    receiveBytes Gen.C10.v2 (fun _ => []) ⟨[], [[[8, 1, 97]]]⟩ 100
      (lpWrap [(832, [1]), (1001, [7])] [5, 18, 7, 6, 8, 1, 97, 8, 1, 98, 10, 4, 1, 2, 3, 4, 12, 2, 15, 160])
      = .ok (⟨[], [[[8, 1, 97]]]⟩, [.invoke [[8, 1, 97]] none]) ∧
    receiveBytes Gen.C10.v2 (fun _ => []) ⟨[([[8, 1, 97], [8, 1, 98]], [⟨0, false, []⟩])], [[[8, 1, 97]]]⟩ 100
      (lpWrap [(98, [9]), (800, wireOf [(801, [0, 150])])] [5, 18, 7, 6, 8, 1, 97, 8, 1, 98, 10, 4, 1, 2, 3, 4, 12, 2, 15, 160])
      = .ok (⟨[], [[[8, 1, 97]]]⟩, [.nacked 0 150]) ∧
    receiveBytes Gen.C10.v2 (fun _ => []) ⟨[([[8, 1, 97], [8, 1, 98]], [⟨0, false, []⟩])], [[[8, 1, 97]]]⟩ 100
      (lpWrap [(83, [1]), (98, [9]), (800, wireOf [(801, [0, 150])])] [5, 18, 7, 6, 8, 1, 97, 8, 1, 98, 10, 4, 1, 2, 3, 4, 12, 2, 15, 160])
      = .ok (⟨[([[8, 1, 97], [8, 1, 98]], [⟨0, false, []⟩])], [[[8, 1, 97]]]⟩, []) := by
  decide +kernel

/-- The Fragment is the last field of the format, so behind a Fragment element the in-order scan recognises nothing any
    more: every sequence of elements written after it - also a late PitToken, Nack, FragIndex, a second Fragment - is
    skipped.  Holds for arbitrary elements `els` before it. -/
theorem parseLp_after_fragment (els tail : List (Nat × Bytes)) (p : Bytes)
    (hsz : ∀ e ∈ els ++ (T.tFragment, p) :: tail, e.1 < 2^64 ∧ e.2.length < 2^64)
    (hlen : (wireOf (els ++ (T.tFragment, p) :: tail)).length < 2^64) :
    parseLp T (tlv T.tLpPacket (wireOf (els ++ (T.tFragment, p) :: tail)))
      = parseLp T (tlv T.tLpPacket (wireOf (els ++ [(T.tFragment, p)]))) := by
  have hsub : (els ++ [(T.tFragment, p)]).Sublist (els ++ (T.tFragment, p) :: tail) :=
    (List.Sublist.cons_cons _ (List.nil_sublist tail)).append_left els
  -- behind the Fragment, found at the last field or not at all, the scan stands beyond the last field
  have key : ∀ pos, collect T.fields (parseVal T.lengthCheck) true ((T.tFragment, p) :: tail) pos
      = collect T.fields (parseVal T.lengthCheck) true [(T.tFragment, p)] pos := by
    intro pos
    funext acc
    rcases Nat.lt_or_ge pos 13 with h | h
    · simp only [collect, frag_last pos (Nat.le_of_lt_succ h), parseVal_bytes]
      exact collect_past_end _ _ tail _ _ (Nat.le_refl _)
    · rw [collect_past_end T.fields _ _ pos acc h, collect_past_end T.fields _ _ pos acc h]
  rw [parseLp_elems _ hsz hlen, parseLp_elems _ (fun e he => hsz e (hsub.subset he))
    (Nat.lt_of_le_of_lt (wireOf_length_le_of_sublist hsub) hlen), collect_append, collect_append, key]

/-- Hence `LpPacket{ els…, Fragment = p, tail… }` is received exactly as `LpPacket{ els…, Fragment = p }`: `tail` has
    no effect on the network packet handed on. -/
theorem bytes_after_fragment_ignored (g : Guards) (H : Bytes → Bytes) (st : State) (els tail : List (Nat × Bytes)) (p : Bytes)
    (hsz : ∀ e ∈ els ++ (T.tFragment, p) :: tail, e.1 < 2^64 ∧ e.2.length < 2^64)
    (hlen : (wireOf (els ++ (T.tFragment, p) :: tail)).length < 2^64) :
    lpDec (tlv T.tLpPacket (wireOf (els ++ (T.tFragment, p) :: tail))) = lpDec (lpWrap els p) ∧
    receiveBytes g H st g.lpType (tlv T.tLpPacket (wireOf (els ++ (T.tFragment, p) :: tail)))
      = receiveBytes g H st g.lpType (lpWrap els p) := by
  have h := parseLp_after_fragment els tail p hsz hlen
  rw [LpCodec.parseLp_eq_lpDec, LpCodec.parseLp_eq_lpDec] at h
  refine ⟨h, ?_⟩
  simp only [receiveBytes, receive, if_true, bytesDecoders, lpWrap, h]

/-- a Sequence header, a PitToken and even a Nack header AFTER the Fragment: all ignored (not a Nack, no token) -/
example : lpDec (tlv 100 (wireOf ([(832, [1])] ++ (80, [5, 0]) :: [(81, [0, 0, 0, 0, 0, 0, 0, 7]), (98, [1, 2]),
    (800, wireOf [(801, [150])]), (1001, [3])]))) = .ok ⟨none, none, some [5, 0]⟩ := by decide +kernel

/-- For every sequence of TLV elements `els` (any types, values, order, repetition - Fragment anywhere or absent) the
    answer of the envelope decoder to `LpPacket{ els }` is the element-level fold `collect` over the format table
    followed by the fragmentation check.  (Byte strings that are not a sequence of well-formed elements:
    `bytes_rejected_dropped`, `Ndn.C06.receive_bytes_total`.) -/
theorem lpDec_elems (els : List (Nat × Bytes)) (hsz : ∀ e ∈ els, e.1 < 2^64 ∧ e.2.length < 2^64)
    (hlen : (wireOf els).length < 2^64) :
    lpDec (tlv T.tLpPacket (wireOf els)) =
      match collect T.fields (parseVal T.lengthCheck) true els 0 [] with
      | .error e => .error e
      | .ok fs =>
        if (lookup fs T.tFragIndex).isSome || (lookup fs T.tFragCount).isSome then .error .decodeError
        else .ok { nack := nackOf T (lookup fs T.tNack), pitToken := bytesOf (lookup fs T.tPitToken),
                   fragment := bytesOf (lookup fs T.tFragment) } := by
  rw [← LpCodec.parseLp_eq_lpDec, parseLp_elems _ hsz hlen]
  cases collect T.fields (parseVal T.lengthCheck) true els 0 [] <;> rfl

end Ndn.C10
