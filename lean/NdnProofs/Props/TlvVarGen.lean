import NdnGen.TlvVar
import NdnProofs.Lemmas.PySem
/-!
  The helpers of `src/ndn/encoding/tlv_var.py`, TRANSLATED from the source text on every run
  (`harness/py2lean.py` -> `lean/NdnGen/TlvVar.lean`), are equal - for ALL inputs - to the hand-written model functions
  the theorems of C01 / C07 / C08 / C09 are about (`NdnModel/TlNum.lean`, `NdnModel/Shrink.lean`).

  Python ints are `Int` in the translation; the models are over `Nat`, so every statement quantifies over the
  non-negative arguments the library passes (Type numbers, lengths, offsets).  An edit of the source that changes what
  a helper computes makes the equality stop checking; one that leaves the translator's subset makes the generated
  definition disappear (`<fn>_translated = false`).

  The proofs pull the casts outward (`Lemmas/PySem`): the tests of the translated code then ARE the tests of the model, and
  no case is split to find out which branch runs.  Ranges are argued only where source and model differ in shape (`struct`
  tests `v < 256^w` field by field, the model `v < 2^64` once).
-/
namespace Ndn.TlvVarGen
open Ndn Ndn.Py

theorem all_translated :
    Gen.TlvVar.get_tl_num_size_translated = true ∧ Gen.TlvVar.write_tl_num_translated = true ∧
    Gen.TlvVar.pack_uint_bytes_translated = true ∧ Gen.TlvVar.parse_tl_num_translated = true ∧
    Gen.TlvVar.parse_and_check_tl_translated = true ∧ Gen.TlvVar.shrink_length_translated = true := by decide

theorem ok_bind {α β} (x : α) (f : α → Except PyErr β) : (Except.ok x >>= f) = f x := rfl

theorem error_bind {α β} (e : PyErr) (f : α → Except PyErr β) : ((Except.error e : Except PyErr α) >>= f) = .error e := rfl

/-- **get_tl_num_size**, every `val ≥ 0`: never raises. -/
theorem get_tl_num_size_eq (v : Nat) : Gen.TlvVar.get_tl_num_size v = .ok ((tlNumSize v : Nat) : Int) := by
  simp only [Gen.TlvVar.get_tl_num_size, tlNumSize, lit_natCast, Int.ofNat_le,
    apply_ite fun n : Nat => (Except.ok (n : Int) : Except PyErr Int)]
  rfl

/-- **pack_uint_bytes**, every `val ≥ 0`: `struct.error` comes from the `!Q` field. -/
theorem pack_uint_bytes_eq (v : Nat) :
    Gen.TlvVar.pack_uint_bytes v = if v < 2 ^ 64 then .ok (packUint v) else .error .structError := by
  simp only [Gen.TlvVar.pack_uint_bytes, packUint, lit_natCast, Int.ofNat_le, pack_one, beBytes_one, beBytes_two,
    beBytes_four, beBytes_eight]
  -- a value that passed the test of its rung fits the field of that rung
  by_cases h1 : v ≤ 255
  · simp only [h1, if_true, show v < 256 ^ 1 by omega, show v < 2 ^ 64 by omega]
  by_cases h2 : v ≤ 65535
  · simp only [h1, h2, if_true, if_false, show v < 256 ^ 2 by omega, show v < 2 ^ 64 by omega]
  by_cases h3 : v ≤ 4294967295
  · simp only [h1, h2, h3, if_true, if_false, show v < 256 ^ 4 by omega, show v < 2 ^ 64 by omega]
  · simp only [h1, h2, h3, if_false, show (256 : Nat) ^ 8 = 2 ^ 64 by decide]

theorem pack_uint_bytes_neg (v : Int) (hv : v < 0) : Gen.TlvVar.pack_uint_bytes v = .error .structError := by
  simp only [Gen.TlvVar.pack_uint_bytes, pack, packField_neg _ v hv]
  rw [if_pos (by omega)]

/-- `write_tl_num` returns the size; the translation pairs it with the buffer afterwards -/
def swapCast (p : Bytes × Nat) : Int × Bytes := ((p.2 : Int), p.1)

/-- **write_tl_num**, every value `≥ 0`, every buffer, every offset `0 ≤ off < 2^63` (beyond that CPython raises
    `IndexError` before anything else): size returned, bytes written and `struct.error` (no room, or `v ≥ 2^64`) are
    those of `Ndn.writeTlNumInto`. -/
theorem write_tl_num_eq (v : Nat) (buf : Bytes) (off : Nat) (hoff : off < 2 ^ 63) :
    Gen.TlvVar.write_tl_num v buf off = (writeTlNumInto v buf off).map swapCast := by
  simp only [Gen.TlvVar.write_tl_num, writeTlNumInto, writeTlNum, tlNumSize, lit_natCast, Int.ofNat_le,
    packInto_natCast _ _ _ _ hoff, pack_one, pack_marker 253 2 v (by decide), pack_marker 254 4 v (by decide),
    pack_marker 255 8 v (by decide), beBytes_one, beBytes_two, beBytes_four, beBytes_eight, pure_eq_ok]
  by_cases h1 : v ≤ 252
  · simp only [h1, if_true, show v < 256 ^ 1 by omega, show v < 2 ^ 64 by omega, ok_bind, except_map_bind, map_ok]
    rfl
  by_cases h2 : v ≤ 65535
  · simp only [h1, h2, if_true, if_false, show v < 256 ^ 2 by omega, show v < 2 ^ 64 by omega, ok_bind, except_map_bind,
      map_ok]
    rfl
  by_cases h3 : v ≤ 4294967295
  · simp only [h1, h2, h3, if_true, if_false, show v < 256 ^ 4 by omega, show v < 2 ^ 64 by omega, ok_bind,
      except_map_bind, map_ok]
    rfl
  · simp only [h1, h2, h3, if_false, show (256 : Nat) ^ 8 = 2 ^ 64 by decide, ite_bind, ok_bind, error_bind,
      apply_ite (Except.map _), except_map_bind, map_ok, map_error]
    rfl

theorem write_tl_num_blit {v off : Nat} (hv : v < 2 ^ 64) (hoff : off < 2 ^ 63) (buf : Bytes) :
    Gen.TlvVar.write_tl_num v buf off = (blit buf off (writeTlNum v)).map fun b => (((tlNumSize v : Nat) : Int), b) := by
  rw [write_tl_num_eq v buf off hoff, writeTlNumInto_blit hv]
  cases blit buf off (writeTlNum v) <;> rfl

/-- **write_tl_num** of a negative value raises `struct.error` (the `!B` field), whatever the buffer. -/
theorem write_tl_num_neg (v : Int) (hv : v < 0) (buf : Bytes) (off : Nat) (hoff : off < 2 ^ 63) :
    Gen.TlvVar.write_tl_num v buf off = .error .structError := by
  simp only [Gen.TlvVar.write_tl_num, packInto_natCast _ _ _ _ hoff, pack, packField_neg _ v hv]
  rw [if_pos (by omega)]
  rfl

def castPair (p : Nat × Nat) : Int × Int := ((p.1 : Int), (p.2 : Int))

/-- **parse_tl_num**, every buffer, every offset `≥ 0`: value and size read, `IndexError` outside the buffer,
    `struct.error` on a short tail. -/
theorem parse_tl_num_eq (buf : Bytes) (off : Nat) :
    Gen.TlvVar.parse_tl_num buf off = (parseTlNum buf off).map castPair := by
  simp only [Gen.TlvVar.parse_tl_num, parseTlNum, bytesGet_natCast]
  cases buf[off]? with
  | none => rfl
  | some b =>
    -- `off + 1 + 2` of the model is `off + 3` of the source
    simp only [ok_bind, lit_natCast, add_natCast, Int.ofNat_le, Int.natCast_inj, slice_natCast, unpack_one, unpackAt,
      Nat.add_assoc, Nat.reduceAdd, apply_ite (Except.map castPair), ite_bind, error_bind, pure_eq_ok, map_ok, map_error,
      castPair, List.getD_cons_zero]

theorem parse_tl_num_ok {buf : Bytes} {off v n : Nat} (x : Int) (hx : x = (off : Int))
    (h : parseTlNum buf off = .ok (v, n)) : Gen.TlvVar.parse_tl_num buf x = .ok ((v : Int), (n : Int)) := by
  rw [hx, parse_tl_num_eq, h]; rfl

theorem parse_tl_num_error {buf : Bytes} {off : Nat} {e : PyErr} (x : Int) (hx : x = (off : Int))
    (h : parseTlNum buf off = .error e) : Gen.TlvVar.parse_tl_num buf x = .error e := by
  rw [hx, parse_tl_num_eq, h]; rfl

/-- the multi-byte forms: the `k` bytes after the first one, read through a slice whose bounds are both still negative -/
theorem unpack_slice_wrap {buf : Bytes} {a k v e : Nat} (hu : unpackAt buf (a + 1) k = .ok v) (he : e = a + 1 + k)
    (hlt : e < buf.length) :
    unpack [k] (slice buf (((a + 1 : Nat) : Int) - (buf.length : Int)) ((e : Int) - (buf.length : Int))) = .ok [(v : Int)] := by
  subst he
  obtain ⟨hl, rfl⟩ := unpackAt_ok hu
  rw [slice_wrap buf (by omega) hlt, unpack_one, if_pos hl]

/-- **parse_tl_num** at a negative offset `a - len(buf)`: what a successful read at `a` gives.  The bytes read must end
    strictly before the end of the buffer, so that no slice bound reaches 0; a one-byte number needs no slice. -/
theorem parse_tl_num_wrap {buf : Bytes} {a v n : Nat} (h : parseTlNum buf a = .ok (v, n))
    (hn : a + n < buf.length ∨ n = 1) :
    Gen.TlvVar.parse_tl_num buf ((a : Int) - (buf.length : Int)) = .ok ((v : Int), (n : Int)) := by
  obtain ⟨b, hb, hcase⟩ := parseTlNum_ok_iff.1 h
  have hlt := (parseTlNum_pos h).2
  simp only [Gen.TlvVar.parse_tl_num, bytesGet_wrap buf hlt, bytesGet_natCast, hb, ok_bind, lit_natCast, sub_add_natCast,
    Int.ofNat_le, Int.natCast_inj]
  rcases hcase with ⟨hc, rfl, rfl⟩ | ⟨hc, hu, rfl⟩ | ⟨hc, hu, rfl⟩ | ⟨hc, hu, rfl⟩
  · rw [if_pos hc]; rfl
  · simp only [hc, Nat.reduceLeDiff, Nat.reduceEqDiff, if_true, if_false, unpack_slice_wrap hu rfl (by omega), ok_bind]
    rfl
  · simp only [hc, Nat.reduceLeDiff, Nat.reduceEqDiff, if_true, if_false, unpack_slice_wrap hu rfl (by omega), ok_bind]
    rfl
  · simp only [hc, Nat.reduceLeDiff, Nat.reduceEqDiff, if_false, unpack_slice_wrap hu rfl (by omega), ok_bind]
    rfl

/-- **parse_and_check_tl**, every buffer and expected Type `≥ 0`. -/
theorem parse_and_check_tl_eq (wire : Bytes) (t : Nat) :
    Gen.TlvVar.parse_and_check_tl wire t = parseAndCheckTl wire t := by
  simp only [Gen.TlvVar.parse_and_check_tl, parseAndCheckTl, lit_natCast, parse_tl_num_eq, except_bind_map, castPair, len_eq,
    add_natCast, Int.natCast_inj, ne_eq, slice_natCast]

/-- **shrink_length**, every buffer and every `val ≥ 0`: the view returned, error classes included; the writes through
    the memoryview are list updates. -/
theorem shrink_length_eq (wire : Bytes) (val : Nat) :
    (Gen.TlvVar.shrink_length wire val).map Prod.fst = shrinkLength wire val := by
  simp only [Gen.TlvVar.shrink_length, shrinkLength, lit_natCast, parse_tl_num_eq, except_bind_map, except_map_bind, castPair]
  refine bind_congr_pair fun typ tl h1 => bind_congr_pair fun size sl h2 => ?_
  have b1 := parseTlNum_size_ge h1
  have b2 := parseTlNum_size_ge h2
  have t64 : typ < 2 ^ 64 := by have := parseTlNum_bounds h1; omega
  dsimp only
  by_cases hneg : size < val
  · rw [write_tl_num_neg _ (by omega) _ tl (by omega), if_pos hneg]; rfl
  · have hle : val ≤ size := Nat.le_of_not_lt hneg
    rw [if_neg hneg, sub_natCast hle, write_tl_num_eq _ _ _ (by omega)]
    simp only [except_bind_map, swapCast]
    refine bind_congr_pair fun w1 nsl h3 => ?_
    -- the new Length is not longer than the old one, so the offsets of the second and third write are natural numbers
    have hd : nsl ≤ sl := by
      have := writeTlNumInto_size h3
      have := tlNumSize_mono (Nat.sub_le size val)
      omega
    simp only [Int.natCast_inj, sub_natCast hd, add_natCast, slice_negCast, write_tl_num_eq _ _ _ (show sl - nsl < 2 ^ 63 by omega),
      write_tl_num_eq _ _ _ (show tl + (sl - nsl) < 2 ^ 63 by omega), except_bind_map, swapCast,
      apply_ite (Except.map Prod.fst), except_map_bind]
    rfl

example : Gen.TlvVar.get_tl_num_size 65536 = .ok 5 := by decide +kernel
example : Gen.TlvVar.pack_uint_bytes 258 = .ok [1, 2] := by decide +kernel
example : Gen.TlvVar.parse_tl_num [7, 0xFD, 1, 0] 1 = .ok (256, 3) := by decide +kernel
example : Gen.TlvVar.write_tl_num 300 [9, 9, 9, 9, 9] 1 = .ok (3, [9, 0xFD, 1, 44, 9]) := by decide +kernel
example : Gen.TlvVar.write_tl_num 300 [9, 9, 9] 1 = .error .structError := by decide +kernel
/-- Length 253 (three bytes) shrunk by 1 becomes one byte: the Type moves right by two and the view starts there -/
example : (Gen.TlvVar.shrink_length ([6, 0xFD, 0, 3] ++ [1, 2, 3]) 1).map Prod.fst = .ok [6, 2, 1, 2] := by decide +kernel

end Ndn.TlvVarGen
