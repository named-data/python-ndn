import NdnProofs.Lemmas.Lvs.Sanity
import NdnProofs.Lemmas.Lvs.Sem
import NdnProofs.Lemmas.Lvs.Tables
import NdnProofs.Lemmas.Lvs.Example
import NdnProofs.Lemmas.Lvs.CtxFree
import NdnProofs.Lemmas.Lvs.CompileSane
/-!
# C12 — the signing check holds exactly when the schema lets that key sign that packet

Model: `Ndn.Lvs.check` (`Checker.check`: implicit-digest stripping, `_match` on the packet name, then
`_match` on the key name with the packet's bindings carried over, membership in `sign_cons`); the constraints
of a pattern edge are evaluated also when its tag is already bound by the packet (finding F9).
Specification (`NdnModel/Lvs/Sem.lean`): `Signs m fns pkt key` — some node matched by `pkt` (bindings σ)
lists as signer a node matched by `key` starting from σ, where *matching* is the denotation `Path`:
bound tags must repeat their value and **every** constraint of every edge on the way must hold.
Hypotheses: the model passed the loader (`Sane`), value edges are deterministic (`VDet`, true of compiler
output), the user functions are defined and do not raise (`EnvTotal`).
-/
namespace Ndn.C12
open Ndn Ndn.Lvs

/-- `check` answers yes iff, after dropping a trailing implicit digest from both names, the schema lets the key sign the
    packet (`Signs`). -/
theorem check_iff (m : Model) (hs : Sane m) (hv : VDet m) (env : FnEnv) (henv : EnvTotal env)
    (pkt key : List Bytes) :
    check m env pkt key = .ok true ↔
      ∃ p k, dropDigest pkt = some p ∧ dropDigest key = some k ∧ Signs m (pureOf env) p k := by
  rw [check_true_iff]
  refine exists_congr fun p => exists_congr fun k => and_congr_right fun _ => and_congr_right fun _ => ?_
  obtain ⟨b, hb, hiff⟩ := checkCore_iff m hs hv env henv p k
  rw [hb, ← hiff]
  exact ⟨Except.ok.inj, congrArg Except.ok⟩

/-- Whatever the `user_fns` dictionary: a yes is justified by the signing relation, raising / missing functions read as
    false.  Only the loader's structural check is assumed. -/
theorem check_true_sound (m : Model) (hs : Sane m) (env : FnEnv) (pkt key : List Bytes)
    (h : check m env pkt key = .ok true) :
    ∃ p k, dropDigest pkt = some p ∧ dropDigest key = some k ∧ Signs m (pureOf env) p k := by
  obtain ⟨p, k, hp, hk, h⟩ := (check_true_iff m env pkt key).mp h
  exact ⟨p, k, hp, hk, checkCore_true_sound m hs env p k h⟩

/-- `check` gives an answer (no exception) on names whose last component has a readable Type (`dropDigest … = some _`). -/
theorem check_total (m : Model) (hs : Sane m) (hv : VDet m) (env : FnEnv) (henv : EnvTotal env)
    (pkt key p k : List Bytes) (hp : dropDigest pkt = some p) (hk : dropDigest key = some k) :
    ∃ b, check m env pkt key = .ok b := by
  rw [check_eq, hp, hk]
  obtain ⟨b, hb, _⟩ := checkCore_iff m hs hv env henv p k
  exact ⟨b, hb⟩

/-- A key name that matches no node of the schema, under no bindings at all, is never accepted. -/
theorem check_key_must_match (m : Model) (hs : Sane m) (hv : VDet m) (env : FnEnv) (henv : EnvTotal env)
    (pkt key k : List Bytes) (hk : dropDigest key = some k)
    (hno : ∀ σ n σ', ¬ Matches m (pureOf env) σ k n σ') :
    check m env pkt key ≠ .ok true := by
  intro h
  obtain ⟨p, k', _, hk', pn, σ, pnode, kn, σ', _, _, hkm, _⟩ := (check_iff m hs hv env henv pkt key).mp h
  rw [hk] at hk'; cases hk'
  exact hno σ kn σ' hkm

/-- When no constraint of the schema refers to another pattern (`CtxFree`), a key name for which `Checker.match` on its own
    finds no node is never accepted.  (With constraints that refer to patterns bound by the packet, lvs.rst documents that
    a key rule may match *only* in the context of the packet; then `check_key_must_match` is the statement that holds.) -/
theorem check_key_must_match_alone (m : Model) (hs : Sane m) (hv : VDet m) (hcf : CtxFree m)
    (env : FnEnv) (henv : EnvTotal env) (pkt key k : List Bytes) (hk : dropDigest key = some k)
    (hno : matchTree m env k m.startId [] = []) :
    check m env pkt key ≠ .ok true := by
  apply check_key_must_match m hs hv env henv pkt key k hk
  intro σ n σ' hm
  obtain ⟨σb', hp', _⟩ := path_weaken m hcf (pureOf env) hm [] (subCtx_nil σ)
  have := (mem_matchTree_iff hs hv henv).mpr hp'
  rw [hno] at this
  cases this

/-- a component whose type is ImplicitSha256Digest -/
def IsDigest (d : Bytes) : Prop := ∃ sz, parseTlNum d 0 = .ok (1, sz)
/-- a component of any other (readable) type -/
def NotDigest (c : Bytes) : Prop := ∃ t sz, parseTlNum c 0 = .ok (t, sz) ∧ t ≠ 1

theorem dropDigest_snoc_digest (nm : List Bytes) (d : Bytes) (hd : IsDigest d) :
    dropDigest (nm ++ [d]) = some nm := by
  obtain ⟨sz, hsz⟩ := hd
  rw [dropDigest_snoc nm d 1 sz hsz, if_pos rfl]

theorem dropDigest_plain (nm : List Bytes) (c : Bytes) (hc : NotDigest c) :
    dropDigest (nm ++ [c]) = some (nm ++ [c]) := by
  obtain ⟨t, sz, hsz, ht⟩ := hc
  rw [dropDigest_snoc nm c t sz hsz, if_neg ht]

/-- A trailing ImplicitSha256Digest component on the packet name, on the key name or on both does not change the answer.
    `NotDigest cp`, `NotDigest ck`: `check` drops one component only, so the name below the digest must not end in another. -/
theorem check_ignores_implicit_digest (m : Model) (env : FnEnv) (p k : List Bytes) (cp ck dp dk : Bytes)
    (hcp : NotDigest cp) (hck : NotDigest ck) (hdp : IsDigest dp) (hdk : IsDigest dk) :
    check m env (p ++ [cp] ++ [dp]) (k ++ [ck] ++ [dk]) = check m env (p ++ [cp]) (k ++ [ck]) ∧
    check m env (p ++ [cp] ++ [dp]) (k ++ [ck]) = check m env (p ++ [cp]) (k ++ [ck]) ∧
    check m env (p ++ [cp]) (k ++ [ck] ++ [dk]) = check m env (p ++ [cp]) (k ++ [ck]) := by
  simp only [check_eq, dropDigest_snoc_digest _ _ hdp, dropDigest_snoc_digest _ _ hdk,
    dropDigest_plain _ _ hcp, dropDigest_plain _ _ hck, and_self]

/-- `check_iff` for the compiler's output on any AST the parser can produce: `Sane` and `VDet` are theorems about the
    compiler, so no side condition on the model is left. -/
theorem check_iff_compiled (S : Schema) (hwf : S.WF) (m : Model) (syms : List String)
    (h : compile S = .ok (m, syms)) (env : FnEnv) (henv : EnvTotal env) (pkt key : List Bytes) :
    check m env pkt key = .ok true ↔
      ∃ p k, dropDigest pkt = some p ∧ dropDigest key = some k ∧ Signs m (pureOf env) p k :=
  check_iff m (compile_built S hwf m syms h).sane (compile_vdet S m syms h) env henv pkt key

/-! ### non-vacuity (schema `#p: "d"/x <= #k`, `#k: "k"/x & {x: "a"|"b"}`) -/

open Example in
example : Sane model ∧ VDet model ∧ EnvTotal allFns :=
  ⟨Ndn.Lvs.sane_of_structCheck _ (by decide +kernel), vdet_of_vdetB (by decide +kernel), Example.allFns_envTotal⟩

open Example in
example : CtxFree model ∧ matchTree model allFns [cK, cE] 0 [] = [] := by
  have hval : ∀ node ∈ model.nodes, ∀ pe ∈ node.pEdges, ∀ cl ∈ pe.cons, ∀ o ∈ cl, o.value.isSome := by
    decide +kernel
  exact ⟨fun n node hn pe hpe cl hcl o ho =>
    Or.inl (Option.isSome_iff_exists.mp (hval node (List.mem_of_getElem? hn) pe hpe cl hcl o ho)), by decide +kernel⟩

open Example in
/-- `/k/a` may sign `/d/a` … -/
example : check model allFns [cD, cA] [cK, cA] = .ok true := by rfl
open Example in
/-- … but `/k/e` may not sign `/d/e` (finding F9: `e` violates the constraint on `x`, which is bound by the packet), -/
example : check model allFns [cD, cE] [cK, cE] = .ok false := by rfl
open Example in
/-- nor may `/k/b` sign `/d/a` (the binding of `x` is carried over) -/
example : check model allFns [cD, cA] [cK, cB] = .ok false := by rfl
open Example in
example : IsDigest cDigest ∧ NotDigest cA := ⟨⟨1, by rfl⟩, ⟨8, 1, by rfl, by decide⟩⟩

end Ndn.C12
