import NdnProofs.Lemmas.SvsBytes
import NdnProofs.Lemmas.SvsX
import NdnProofs.Props.C07
import NdnProofs.Props.C08
/-!
# C18 — State-vector sync merges monotonically and announces exactly when needed

Theorems about `Ndn.Svs.step` / `run` (model of `SvsInst.sync_handler`, `aggregate`, `on_timer`, `new_data`) for every
state, received vector and event history, in a vocabulary that does not mention the implementation: `vecOf` (the vector
decoded entries denote) and `overclaims` of `Lemmas/Svs`, `accepted`, the ghost `heardStep`. Then the byte level
(`stepBytes` / `stepB` / `runB`, assuming the local vector well-formed: `WfVec`), that well-formedness as an invariant
of every history of byte-level events from `start()` (`Reachable`), and the statement-level model `stepX` from a state
at rest (`park`), with `raises` as the specification of "the callback must fire".
-/
namespace Ndn.Svs
open Ndn Ndn.Codec

/-! The two facts about the decoder the byte-level half takes from the codec properties. -/

theorem decodeVectorE_cases (comp : Bytes) :
    (∃ es, decodeVectorE comp = .ok es) ∨
    (∃ e, decodeVectorE comp = .error e ∧ (e = .decodeError ∨ e = .indexError) ∧ caught e = true) ∨
    (∃ e, decodeVectorE comp = .error e ∧ (e = .structError ∨ e = .valueError ∨ e = .typeError) ∧
      caught e = false) := by
  cases hd : decodeVectorE comp with
  | ok es => exact .inl ⟨es, rfl⟩
  | error e =>
    have hdoc : docErr e = true :=
      C07.parse_total wrapperSchema false comp wrapper_p e (decodeVectorE_error hd)
    have hc : (e = .decodeError ∨ e = .indexError) ∨ (e = .structError ∨ e = .valueError ∨ e = .typeError) := by
      revert hdoc; cases e <;> decide
    rcases hc with hc | hc
    · exact .inr (.inl ⟨e, rfl, hc, (caught_iff e).mpr hc⟩)
    · exact .inr (.inr ⟨e, rfl, hc, by rcases hc with rfl | rfl | rfl <;> rfl⟩)

/-- **every entry the decoder delivers is well-formed**, whatever the bytes of the component were -/
theorem decodeVector_entries_wf {comp : Bytes} {es : List Entry} (hlen : comp.length < 2 ^ 64)
    (h : decodeVector comp = some es) : ∀ e ∈ es, EntryWf e := by
  rw [decodeVector_some] at h
  unfold decodeVectorE at h
  obtain ⟨vs, hp, h2⟩ := bind_ok h
  simp only [pure, Except.pure, Except.ok.injEq] at h2
  subst h2
  obtain ⟨hfit, hbd⟩ := Ndn.C08.parse_wf wrapperSchema false comp vs wrapper_wf hp
  rw [wrapperSchema_eq] at hfit
  intro e he
  unfold entriesOfParsed at he
  split at he
  · rename_i zs
    simp only [fitsFs, fits, Bool.and_eq_true] at hfit
    simp only [boundedL, bounded, Bool.and_eq_true] at hbd
    exact fitsList_entries_wf comp.length hlen zs hfit.1.1 hbd.1.1 e he
  · simp at he

end Ndn.Svs

namespace Ndn.C18
open Ndn Ndn.Svs

/-- well-formedness of a state: the local vector is a dict (unique keys) and never claims more for
    this node than it has produced -/
def WF (s : State) : Prop := (PyDict.keys s.loc).Nodup ∧ vget s.loc s.selfId ≤ s.selfSeq

def accepted (s : State) (es : List Entry) : Prop :=
  es ≠ [] ∧ ¬ overclaims s.selfId s.selfSeq es

/-- After an accepted vector the local vector is the entry-wise maximum of its
    previous value and the received vector. -/
theorem local_is_max (s : State) (es : List Entry) (h : accepted s es) (k : Bytes) :
    vget (step s (.recv es)).1.loc k = max (vget s.loc k) (vecOf es k) := by
  obtain ⟨_, _, _, _, hs, hl, _⟩ := step_recv_merged s es h.1 h.2
  rw [hs]; exact hl k

/-- A vector that is not accepted changes nothing and triggers nothing. -/
theorem rejected_unchanged (s : State) (es : List Entry) (h : ¬ accepted s es) :
    step s (.recv es) = (s, []) :=
  step_recv_dropped s es (Classical.or_iff_not_imp_left.mpr fun he => Classical.not_not.mp fun ho => h ⟨he, ho⟩)

/-- A vector claiming more data for this node than it has produced is ignored entirely. -/
theorem overclaim_ignored_entirely (s : State) (es : List Entry)
    (h : overclaims s.selfId s.selfSeq es) : step s (.recv es) = (s, []) :=
  step_recv_dropped s es (.inr h)

theorem wf_init (selfId : Bytes) (seq0 : Nat) : WF (init selfId seq0) :=
  ⟨List.pairwise_singleton _ _, Nat.le_of_eq ((vget_cons ..).trans (if_pos rfl))⟩

theorem wf_step (s : State) (e : Ev) (h : WF s) : WF (step s e).1 := by
  refine ⟨step_loc_inv (fun d => (PyDict.keys d).Nodup) s e h.1 (fun _ => PyDict.nodup_keys_set _ _ _ h.1)
    fun _ _ _ _ p _ d => PyDict.nodup_keys_set d p.1 p.2, ?_⟩
  rw [(step_self s e).1, (step_self s e).2]
  cases e with
  | undecodable => exact h.2
  | timer => rw [step_timer_fst]; exact h.2
  | publish => exact Nat.le_of_eq ((vget_set ..).trans (if_pos rfl))
  | recv es =>
    by_cases ha : accepted s es
    · rw [local_is_max s es ha]; exact Nat.max_le.mpr ⟨h.2, vecOf_self_le ha.2⟩
    · rw [rejected_unchanged s es ha]; exact h.2

/-- No event ever decreases an entry of the local vector. -/
theorem local_monotone (s : State) (e : Ev) (h : WF s) (k : Bytes) :
    vget s.loc k ≤ vget (step s e).1.loc k := by
  cases e with
  | undecodable => exact Nat.le_refl _
  | timer => rw [step_timer_fst]; exact Nat.le_refl _
  | publish =>
    simp only [step]; rw [vget_set]; split
    · subst_vars; exact Nat.le_succ_of_le h.2
    · exact Nat.le_refl _
  | recv es =>
    by_cases ha : accepted s es
    · rw [local_is_max s es ha]; exact Nat.le_max_left ..
    · rw [rejected_unchanged s es ha]; exact Nat.le_refl _

theorem wf_run (s : State) (evs : List Ev) (h : WF s) : WF (run s evs).1 := run_inv WF wf_step s evs h

/-- Over any event history the local vector never decreases. -/
theorem run_monotone (s : State) (evs : List Ev) (h : WF s) (k : Bytes) :
    vget s.loc k ≤ vget (run s evs).1.loc k :=
  (run_inv (fun s' => WF s' ∧ vget s.loc k ≤ vget s'.loc k)
    (fun s' e h' => ⟨wf_step s' e h'.1, Nat.le_trans h'.2 (local_monotone s' e h'.1 k)⟩)
    s evs ⟨h, Nat.le_refl _⟩).2

/-- the shape of both conjuncts of `callback_iff_raised` and of `suppression_emit_of_inv` -/
theorem singleton_or_nil_iff {α : Type} (b : Bool) (x : α) {P : Prop} (h : b = true ↔ P) :
    ((if b then [x] else []) = [x] ↔ P) ∧ ((if b then [x] else []) = [x] ∨ (if b then [x] else []) = []) := by
  cases b
  · exact ⟨⟨fun e => (nomatch e), fun p => (nomatch h.mpr p)⟩, .inr rfl⟩
  · exact ⟨⟨fun _ => h.mp rfl, fun _ => rfl⟩, .inl rfl⟩

/-- The missing-data callback fires for a received vector iff that vector
    raised some entry of the local vector (and it fires at most once, with nothing else). -/
theorem callback_iff_raised (s : State) (es : List Entry) :
    ((step s (.recv es)).2 = [Out.missing] ↔ ∃ k, vget s.loc k < vget (step s (.recv es)).1.loc k) ∧
    ((step s (.recv es)).2 = [Out.missing] ∨ (step s (.recv es)).2 = []) := by
  by_cases ha : accepted s es
  · obtain ⟨_, _, _, _, hs, _, hf, _⟩ := step_recv_merged s es ha.1 ha.2
    rw [hs]; exact singleton_or_nil_iff _ _ hf
  · rw [rejected_unchanged s es ha]
    exact ⟨⟨fun h => (nomatch h), fun ⟨k, hk⟩ => absurd hk (Nat.lt_irrefl _)⟩, .inr rfl⟩

/-- Publishing increases the own sequence number by one,
    records it in the local vector (all other entries unchanged) and emits exactly one sync
    Interest carrying the full local vector. -/
theorem publish_increments_and_emits_full (s : State) :
    let r := step s .publish
    r.1.selfSeq = s.selfSeq + 1 ∧
    vget r.1.loc s.selfId = s.selfSeq + 1 ∧
    (∀ k, k ≠ s.selfId → vget r.1.loc k = vget s.loc k) ∧
    r.2 = [Out.emit r.1.loc] :=
  ⟨rfl, (vget_set ..).trans (if_pos rfl), fun _ hk => (vget_set ..).trans (if_neg (Ne.symm hk)), rfl⟩

/-- In steady state the periodic timer emits the full vector. -/
theorem steady_timer_emits (s : State) (h : s.suppress = false) :
    step s .timer = (s, [Out.emit s.loc]) := by
  simp [step, h]

open Classical in
/-- ghost update: what has been heard in the current suppression period (as a total function) -/
noncomputable def heardStep (s : State) (heard : Bytes → Nat) : Ev → (Bytes → Nat)
  | .recv es =>
    if accepted s es then
      if s.suppress then (fun k => max (heard k) (vecOf es k))
      else vecOf es           -- this vector starts the period (if the state turns to suppression)
    else heard
  | _ => heard

noncomputable def runG (s : State) (heard : Bytes → Nat) : List Ev → State × (Bytes → Nat)
  | [] => (s, heard)
  | e :: r => runG (step s e).1 (heardStep s heard e) r

/-- while a suppression period is open, `agg_sv` is the ghost -/
def HeardInv (s : State) (heard : Bytes → Nat) : Prop :=
  s.suppress = true → ∀ k, vget s.agg k = heard k

theorem heardInv_step (s : State) (heard : Bytes → Nat) (e : Ev) (h : HeardInv s heard) :
    HeardInv (step s e).1 (heardStep s heard e) := by
  cases e with
  | undecodable => exact h
  | timer => rw [step_timer_fst]; exact fun hc => nomatch hc
  | publish => exact fun hc => nomatch hc
  | recv es =>
    by_cases ha : accepted s es
    · obtain ⟨_, _, _, _, hs, _, _, hagg⟩ := step_recv_merged s es ha.1 ha.2
      rw [hs]
      simp only [heardStep, ha, if_true, HeardInv]
      intro hnn k
      rw [hagg k]
      cases hsup : s.suppress with
      | false =>
        -- the vector opens a period iff need_notif; `agg_sv` is then that vector
        rw [hsup, Bool.or_false] at hnn
        rw [if_neg Bool.false_ne_true, if_neg Bool.false_ne_true, if_pos hnn]
      | true => rw [if_pos rfl, if_pos rfl, h hsup k]
    · rw [rejected_unchanged s es ha]; simpa only [heardStep, ha, if_false] using h

theorem runG_inv (P : State → (Bytes → Nat) → Prop)
    (hstep : ∀ s heard e, P s heard → P (step s e).1 (heardStep s heard e))
    (s : State) (heard : Bytes → Nat) (evs : List Ev) (h : P s heard) :
    P (runG s heard evs).1 (runG s heard evs).2 := by
  induction evs generalizing s heard with
  | nil => exact h
  | cons e r ih => exact ih _ _ (hstep s heard e h)

theorem runG_fst (s : State) (heard : Bytes → Nat) (evs : List Ev) :
    (runG s heard evs).1 = (run s evs).1 := by
  induction evs generalizing s heard with
  | nil => rfl
  | cons e r ih => exact ih _ _

theorem suppression_emit_of_inv (s : State) (heard : Bytes → Nat) (hwf : WF s) (hinv : HeardInv s heard)
    (hsup : s.suppress = true) :
    ((step s .timer).2 = [Out.emit s.loc] ↔ ∃ k, heard k < vget s.loc k) ∧
    ((step s .timer).2 = [Out.emit s.loc] ∨ (step s .timer).2 = []) := by
  simp only [step, hsup, if_true]
  refine singleton_or_nil_iff _ _ ((necessary_iff s.loc s.agg hwf.1).trans (exists_congr fun k => ?_))
  rw [hinv hsup k]

/-- After any event history from the initial state, when the timer ends a
    suppression period a sync Interest (carrying the full local vector) is emitted if and only if
    the local vector is newer in some entry than the merge of the vectors heard in that period;
    otherwise nothing is emitted. -/
theorem suppression_emit_iff (selfId : Bytes) (seq0 : Nat) (evs : List Ev) :
    let s := (runG (init selfId seq0) (fun _ => 0) evs).1
    let heard := (runG (init selfId seq0) (fun _ => 0) evs).2
    s.suppress = true →
      ((step s .timer).2 = [Out.emit s.loc] ↔ ∃ k, heard k < vget s.loc k) ∧
      ((step s .timer).2 = [Out.emit s.loc] ∨ (step s .timer).2 = []) := by
  have h := runG_inv (fun s heard => WF s ∧ HeardInv s heard)
    (fun s heard e h => ⟨wf_step s e h.1, heardInv_step s heard e h.2⟩)
    (init selfId seq0) (fun _ => 0) evs ⟨wf_init selfId seq0, fun hc => nomatch hc⟩
  exact suppression_emit_of_inv _ _ h.1 h.2

/-! ### the byte-level half: vectors as the bytes of the name component

`decodeVector` is `StateVecWrapper.parse(name[-2])` (the generic decoder `Ndn.Codec.parse` of property C08 over
the schema regenerated from the live class) followed by reading `.val.entries`; `encodeVector` is what
`express_sync_interest` puts into the name (`Ndn.Codec.encFields`); `stepBytes` is `sync_handler` on the
bytes of the component, `stepB` / `runB` the model on histories whose received vectors are bytes. -/

open Ndn.Codec in
/-- What `express_sync_interest` encodes for a vector whose node ids are well-formed names
    and whose sequence numbers are below 2^64 is decoded by the receiving side to exactly the entries of that
    vector, in order (instance of `C08.parse_enc_roundtrip` at the StateVecWrapper class). -/
theorem vector_roundtrip (v : Vec) (h : WfVec v) (b : Bytes) (he : encodeVector v = .ok b) :
    decodeVector b = some (entriesOf v) := by
  obtain ⟨es, hv, hfit, hmap, _⟩ := vecValues_wf v h
  have henc : encFields wrapperSchema [.model [.list es]] = .ok b := by
    unfold encodeVector at he; rw [hv] at he; exact he
  have hfits : fitsFs wrapperSchema [.model [.list es]] = true := by
    rw [wrapperSchema_eq]; simp [fitsFs, fits, hfit]
  rw [decodeVector_some]; unfold decodeVectorE
  rw [C08.parse_enc_roundtrip wrapperSchema _ b false wrapper_wf hfits henc]
  exact congrArg Except.ok hmap

open Ndn.Codec in
/-- For **every** byte string in the vector component one of three things happens: it decodes and the handler
    does what the model does on the entries; decoding raises `DecodeError` or `IndexError`, which `sync_handler`
    catches (nothing changes); or it raises `struct.error` / `ValueError` (`TypeError` is admitted by
    `C07.parse_total` but produced by no rule), which propagates with the state untouched. -/
theorem stepBytes_spec (s : State) (comp : Bytes) :
    (∃ es, decodeVector comp = some es ∧ stepBytes s comp = .ok (step s (.recv es))) ∨
    (∃ e, decodeVectorE comp = .error e ∧ (e = .decodeError ∨ e = .indexError) ∧
        stepBytes s comp = .ok (s, [])) ∨
    (∃ e, decodeVectorE comp = .error e ∧ (e = .structError ∨ e = .valueError ∨ e = .typeError) ∧
        stepBytes s comp = .error e) := by
  rcases decodeVectorE_cases comp with ⟨es, hd⟩ | ⟨e, hd, he, hc⟩ | ⟨e, hd, he, hc⟩
  · exact .inl ⟨es, decodeVector_some.mpr hd, by simp only [stepBytes, hd]⟩
  · exact .inr (.inl ⟨e, hd, he, by simp only [stepBytes, hd, hc, if_true]; rfl⟩)
  · exact .inr (.inr ⟨e, hd, he, by simp only [stepBytes, hd, hc]; rfl⟩)

/-- the event of the decoded model a byte-level event stands for -/
def decodeEv : EvB → Ev
  | .ev e => e
  | .raw comp => match decodeVector comp with
    | some es => .recv es
    | none => .undecodable

/-- histories whose received vectors are bytes; the state only, because a byte-level step yields outputs or an
    exception and there is no list of outputs to collect -/
def runB (s : State) : List EvB → State
  | [] => s
  | e :: r => runB (stepB s e).1 r

/-- The handler on bytes is the model on the decoded event: same next state always; the same
    outputs when the handler returns; and when it raises (only `struct.error` / `ValueError` / `TypeError` from
    the decoder) the state is unchanged and the decoded model does nothing either. -/
theorem stepB_refines (s : State) (e : EvB) :
    (stepB s e).1 = (step s (decodeEv e)).1 ∧
    (∀ o, (stepB s e).2 = .ok o → o = (step s (decodeEv e)).2) ∧
    (∀ x, (stepB s e).2 = .error x →
      (x = .structError ∨ x = .valueError ∨ x = .typeError) ∧ step s (decodeEv e) = (s, [])) := by
  cases e with
  | ev e => exact ⟨rfl, fun _ h => (Except.ok.inj h).symm, fun _ h => nomatch h⟩
  | raw comp =>
    simp only [stepB, decodeEv]
    rcases stepBytes_spec s comp with ⟨es, h1, h2⟩ | ⟨x, h1, _, h3⟩ | ⟨x, h1, hx, h3⟩
    · rw [h2, h1]; exact ⟨rfl, fun _ h => (Except.ok.inj h).symm, fun _ h => nomatch h⟩
    · rw [h3, decodeVector_none.mpr ⟨x, h1⟩]
      exact ⟨rfl, fun _ h => (Except.ok.inj h).symm, fun _ h => nomatch h⟩
    · rw [h3, decodeVector_none.mpr ⟨x, h1⟩]
      exact ⟨rfl, fun _ h => (nomatch h), fun _ h => ⟨Except.error.inj h ▸ hx, rfl⟩⟩

theorem runB_eq_run (s : State) (evs : List EvB) : runB s evs = (run s (evs.map decodeEv)).1 := by
  induction evs generalizing s with
  | nil => rfl
  | cons e r ih => exact (congrArg (runB · r) (stepB_refines s e).1).trans (ih _)

/-- Over any history of publications, timer expiries and *arbitrary bytes* received in the
    vector component, no entry of the local vector ever decreases. -/
theorem run_monotone_bytes (s : State) (evs : List EvB) (h : WF s) (k : Bytes) :
    vget s.loc k ≤ vget (runB s evs).loc k := by
  rw [runB_eq_run]; exact run_monotone s _ h k

/-- When the bytes of the component decode to an accepted vector, the local vector after
    the handler is the entry-wise maximum of its previous value and the vector those bytes denote. -/
theorem local_is_max_bytes (s : State) (comp : Bytes) (es : List Entry)
    (hd : decodeVector comp = some es) (h : accepted s es) :
    ∃ r, stepBytes s comp = .ok r ∧ ∀ k, vget r.1.loc k = max (vget s.loc k) (vecOf es k) :=
  ⟨_, by simp only [stepBytes, decodeVector_some.mp hd], local_is_max s es h⟩

/-- For every byte string on which the handler returns, the missing-data callback fires iff an entry of the local
    vector was raised; never for bytes that do not decode. -/
theorem callback_iff_raised_bytes (s : State) (comp : Bytes) (r : State × List Out)
    (h : stepBytes s comp = .ok r) :
    (r.2 = [Out.missing] ↔ ∃ k, vget s.loc k < vget r.1.loc k) ∧ (r.2 = [Out.missing] ∨ r.2 = []) := by
  rcases stepBytes_spec s comp with ⟨es, _, h2⟩ | ⟨x, _, _, h3⟩ | ⟨x, _, _, h3⟩
  · cases h2.symm.trans h; exact callback_iff_raised s es
  · cases h3.symm.trans h
    exact callback_iff_raised s []
  · cases h3.symm.trans h

/-- Whatever event makes the node emit a sync Interest, the vector it carries is the node's
    full local vector at that moment. -/
theorem emits_are_local (s : State) (e : Ev) (v : Vec) (h : Out.emit v ∈ (step s e).2) :
    v = (step s e).1.loc := by
  cases e with
  | undecodable => exact nomatch h
  | publish => exact Out.emit.inj (List.mem_singleton.mp h)
  | timer =>
    rw [step_timer_fst]
    simp only [step] at h
    split at h
    · split at h
      · exact Out.emit.inj (List.mem_singleton.mp h)
      · exact nomatch h
    · exact Out.emit.inj (List.mem_singleton.mp h)
  | recv es =>
    rcases (callback_iff_raised s es).2 with h' | h' <;> rw [h'] at h
    · exact nomatch List.mem_singleton.mp h
    · exact nomatch h

/-- After publishing, the bytes the node puts into its sync Interest decode at the peer to exactly its new local
    vector. -/
theorem publish_emits_decodable (s : State) (hwf : WF s) (hw : WfVec s.loc) (hid : WfId s.selfId)
    (hq : s.selfSeq + 1 < 2 ^ 64) (wire : Bytes) (he : encodeVector (step s .publish).1.loc = .ok wire) :
    (step s .publish).2 = [Out.emit (step s .publish).1.loc] ∧
    decodeVector wire = some (entriesOf (step s .publish).1.loc) ∧
    ∀ k, vecOf (entriesOf (step s .publish).1.loc) k = vget (step s .publish).1.loc k := by
  have hw' : WfVec (step s .publish).1.loc := wfVec_set _ _ _ hw hid hq
  exact ⟨rfl, vector_roundtrip _ hw' wire he,
    vecOf_entriesOf _ (wf_step s .publish hwf).1 (fun p hp => (hw' p hp).1.ne_nil)⟩

/-- Feeding the bytes a well-formed, non-empty vector `v` encodes to into a node that `v` does
    not over-claim: the handler returns and the node's local vector becomes the entry-wise maximum of its previous
    value and `v`. -/
theorem vector_received (v : Vec) (hw : WfVec v) (hn : (PyDict.keys v).Nodup) (hne : v ≠ [])
    (wire : Bytes) (he : encodeVector v = .ok wire) (b : State) (hno : vget v b.selfId ≤ b.selfSeq) :
    ∃ r, stepBytes b wire = .ok r ∧ ∀ k, vget r.1.loc k = max (vget b.loc k) (vget v k) := by
  have hacc : accepted b (entriesOf v) :=
    ⟨fun h => hne (List.map_eq_nil_iff.mp h), not_overclaims_entriesOf v hn _ _ hno⟩
  obtain ⟨r, h1, h2⟩ := local_is_max_bytes b wire _ (vector_roundtrip v hw wire he) hacc
  exact ⟨r, h1, fun k => by rw [h2 k, vecOf_entriesOf v hn (fun p hp => (hw p hp).1.ne_nil)]⟩

/-- Node `a` publishes; the bytes of its sync Interest are fed to node `b` (for
    which `a` does not claim more than `b` has produced): `b`'s handler returns and every entry of `b`'s local
    vector is afterwards at least `a`'s (exactly the entry-wise maximum of the two). -/
theorem emitted_vector_is_received (a b : State) (ha : WF a) (hw : WfVec a.loc) (hid : WfId a.selfId)
    (hq : a.selfSeq + 1 < 2 ^ 64) (wire : Bytes) (he : encodeVector (step a .publish).1.loc = .ok wire)
    (hno : vget (step a .publish).1.loc b.selfId ≤ b.selfSeq) :
    ∃ r, stepBytes b wire = .ok r ∧
      (∀ k, vget r.1.loc k = max (vget b.loc k) (vget (step a .publish).1.loc k)) ∧
      (∀ k, vget (step a .publish).1.loc k ≤ vget r.1.loc k) := by
  obtain ⟨r, h1, h2⟩ := vector_received _ (wfVec_set _ _ _ hw hid hq) (wf_step a .publish ha).1
    (PyDict.set_ne_nil _ _ _) wire he b hno
  exact ⟨r, h1, h2, fun k => by rw [h2 k]; exact Nat.le_max_right ..⟩

/-- Encoding a well-formed vector succeeds, unless some Length in it does not
    fit 64 bits (`struct.error` from `write_tl_num`; not reachable with real memory). -/
theorem encodeVector_fails_only_oversize (v : Vec) (h : WfVec v) :
    (∃ b, encodeVector v = .ok b) ∨ encodeVector v = .error .structError := by
  cases he : encodeVector v with
  | ok b => exact .inl ⟨b, rfl⟩
  | error e => right; rw [encodeVector_fails_struct v h e he]

/-- What the byte-level theorems are about is what the source says: the handler calls
    `StateVecWrapper.parse(name[-2])`, that class is a 0xc9 wrapper around repeated 0xca entries of (Name, 0xcc
    unsigned integer), it satisfies the hypotheses of the codec theorems, and the `except` clause catches exactly
    `DecodeError` and `IndexError` (all regenerated from the source on every run). -/
theorem source_tables_pinned :
    Gen.C18.parsedClass = "StateVecWrapper" ∧ Gen.C18.parsedIndex = -2 ∧
    wrapperSchema = [.model 201 [.repeated (.model 202 [.name 7, .uint 204 none] false)] false] ∧
    Codec.wfTop wrapperSchema = true ∧ Codec.pFs wrapperSchema = true ∧
    (∀ e, caught e = true ↔ (e = .decodeError ∨ e = .indexError)) :=
  ⟨rfl, rfl, rfl, wrapper_wf, wrapper_p, caught_iff⟩

/-- the F14 history: local A:5, hear {A:3} then {A:2,B:1}; the model emits -/
example :
    let s0 : State := { selfId := [1], selfSeq := 0, loc := [([1], 0), ([7], 5)], agg := [], suppress := false }
    let r := run s0 [.recv [(some [7], some 3)], .recv [(some [7], some 2), (some [8], some 1)], .timer]
    r.2 = [[], [Out.missing], [Out.emit [([1], 0), ([7], 5), ([8], 1)]]] := by decide +kernel

example : accepted (init [1] 3) [(some [2], some 4)] :=
  ⟨List.cons_ne_nil _ _, fun ⟨_, hm, _⟩ => nomatch List.mem_singleton.mp hm⟩

example : overclaims [1] 3 [(some [2], some 4), (some [1], some 9)] :=
  ⟨9, List.mem_cons_of_mem _ List.mem_cons_self, List.cons_ne_nil _ _, by decide⟩

/-! byte level: `/n0` = `07 04 08 02 6e 30` -/

/-- node /n0 (seq 2) knowing /n1 at 300 emits these 25 bytes … -/
example : encodeVector [([7, 4, 8, 2, 110, 48], 2), ([7, 4, 8, 2, 110, 49], 300)] =
    .ok [0xc9, 0x17, 0xca, 9, 7, 4, 8, 2, 110, 48, 0xcc, 1, 2, 0xca, 10, 7, 4, 8, 2, 110, 49, 0xcc, 2, 1, 44] := by rfl
/-- … which the peer decodes to the same two entries -/
example : decodeVector
    [0xc9, 0x17, 0xca, 9, 7, 4, 8, 2, 110, 48, 0xcc, 1, 2, 0xca, 10, 7, 4, 8, 2, 110, 49, 0xcc, 2, 1, 44] =
    some [(some [7, 4, 8, 2, 110, 48], some 2), (some [7, 4, 8, 2, 110, 49], some 300)] := by decide +kernel
example : WfVec [([7, 4, 8, 2, 110, 48], 2), ([7, 4, 8, 2, 110, 49], 300)] := by
  intro p hp
  simp only [List.mem_cons, List.not_mem_nil, or_false] at hp
  rcases hp with rfl | rfl
  · exact ⟨⟨[[8, 2, 110, 48]], List.cons_ne_nil _ _, by decide, by decide, rfl⟩, by decide⟩
  · exact ⟨⟨[[8, 2, 110, 49]], List.cons_ne_nil _ _, by decide, by decide, rfl⟩, by decide⟩
/-- the three outcomes of `stepBytes_spec`: a truncated entry is an IndexError (caught, nothing happens) … -/
example : decodeVectorE [0xc9, 3, 0xca, 1, 0xcc] = .error .indexError ∧
    stepBytes (init [7, 4, 8, 2, 110, 48] 1) [0xc9, 3, 0xca, 1, 0xcc] = .ok (init [7, 4, 8, 2, 110, 48] 1, []) :=
  ⟨rfl, rfl⟩
/-- … an unknown critical element is a DecodeError (caught) … -/
example : decodeVectorE [0xc9, 4, 0xca, 2, 0x65, 0] = .error .decodeError := rfl
/-- … and a 3-byte sequence number is a ValueError, which the handler does not catch -/
example : stepBytes (init [7, 4, 8, 2, 110, 48] 1) [0xc9, 7, 0xca, 5, 0xcc, 3, 0, 0, 1] = .error .valueError := rfl
/-- … as is a sequence number cut short by the end of the component (struct.error) -/
example : stepBytes (init [7, 4, 8, 2, 110, 48] 1) [0xc9, 5, 0xca, 3, 0xcc, 2, 1] = .error .structError := rfl
/-- an accepted vector in bytes: /n1 at 2 raises an entry of /n0's vector -/
example : (match stepBytes (init [7, 4, 8, 2, 110, 48] 1) [0xc9, 11, 0xca, 9, 7, 4, 8, 2, 110, 49, 0xcc, 1, 2] with
    | .ok r => some (r.1.loc, r.2) | .error _ => none) =
    some ([([7, 4, 8, 2, 110, 48], 1), ([7, 4, 8, 2, 110, 49], 2)], [Out.missing]) := by decide +kernel

/-! Well-formedness of the local vector (`WfVec`), the hypothesis of the encode-side theorems above, is an invariant:
the generic decoder only delivers well-formed entries (`C08.parse_wf`). -/

/-- a byte-level event as the network and the application can produce it: **arbitrary** bytes in the vector
    component (shorter than 2^64 bytes), a wrong-length name, a publication, a timer expiry; a vector handed over
    already decoded must hold well-formed entries (all vectors that come out of the decoder do) -/
def ByteEv : EvB → Prop
  | .raw comp => comp.length < 2 ^ 64
  | .ev e => GoodEv e

/-- number of publications in a history -/
def pubs : List EvB → Nat
  | [] => 0
  | .ev .publish :: r => pubs r + 1
  | _ :: r => pubs r

/-- the local vector and the own id are well-formed -/
def WfLocal (s : State) : Prop := WfVec s.loc ∧ WfId s.selfId

theorem goodEv_decodeEv (e : EvB) (h : ByteEv e) : GoodEv (decodeEv e) := by
  cases e with
  | ev e => exact h
  | raw comp =>
    simp only [decodeEv]
    cases hd : decodeVector comp with
    | none => trivial
    | some es => exact decodeVector_entries_wf h hd

theorem pubs_cons (e : EvB) (r : List EvB) : pubs (e :: r) = pubInc (decodeEv e) + pubs r := by
  cases e with
  | raw comp => simp only [pubs, decodeEv]; cases decodeVector comp <;> exact (Nat.zero_add _).symm
  | ev e => cases e <;> first | exact (Nat.zero_add _).symm | exact Nat.add_comm ..

theorem pubs_append (l : List EvB) (e : EvB) : pubs (l ++ [e]) = pubs l + pubs [e] := by
  induction l with
  | nil => exact (Nat.zero_add _).symm
  | cons x r ih => rw [List.cons_append, pubs_cons, pubs_cons, ih, Nat.add_assoc]

theorem runB_append (s : State) (l : List EvB) (e : EvB) : runB s (l ++ [e]) = (stepB (runB s l) e).1 := by
  induction l generalizing s with
  | nil => rfl
  | cons x r ih => exact ih _

/-- After **any** history of byte-level receptions (arbitrary bytes), publications and timer expiries from a
    well-formed local vector, the vector is still well-formed, the own id unchanged and the own sequence number grown
    by the number of publications — provided it stays below 2^64 (the one bound that is not an invariant: `new_data`
    increments without a check). -/
theorem local_wf_invariant (s : State) (evs : List EvB) (h : WfLocal s) (he : ∀ e ∈ evs, ByteEv e)
    (hq : s.selfSeq + pubs evs < 2 ^ 64) :
    WfLocal (runB s evs) ∧ (runB s evs).selfId = s.selfId ∧ (runB s evs).selfSeq = s.selfSeq + pubs evs := by
  induction evs generalizing s with
  | nil => exact ⟨h, rfl, rfl⟩
  | cons e r ih =>
    rw [pubs_cons, ← Nat.add_assoc] at hq ⊢
    obtain ⟨hid, hseq⟩ := step_self s (decodeEv e)
    have hs1 : (stepB s e).1 = (step s (decodeEv e)).1 := (stepB_refines s e).1
    have hw1 : WfLocal (stepB s e).1 := by
      rw [hs1]
      refine ⟨step_wfVec s _ h.1 h.2 (goodEv_decodeEv e (he e List.mem_cons_self)) fun hp => ?_, hid ▸ h.2⟩
      rw [hp] at hq
      exact Nat.lt_of_le_of_lt (Nat.le_add_right ..) hq
    obtain ⟨h1, h2, h3⟩ := ih (stepB s e).1 hw1 (fun x hx => he x (List.mem_cons_of_mem _ hx))
      (by rw [hs1, hseq]; exact hq)
    exact ⟨h1, h2.trans (hs1 ▸ hid), h3.trans (by rw [hs1, hseq])⟩

/-- the states a node can be in: started by `start()` with a well-formed own name, then any history of byte-level
    events during which the own sequence number stayed below 2^64 -/
def Reachable (s : State) : Prop :=
  ∃ (selfId : Bytes) (seq0 : Nat) (evs : List EvB), WfId selfId ∧ (∀ e ∈ evs, ByteEv e) ∧
    seq0 + pubs evs < 2 ^ 64 ∧ s = runB (init selfId seq0) evs

theorem wfLocal_init {selfId : Bytes} {seq0 : Nat} (hid : WfId selfId) (hq : seq0 < 2 ^ 64) :
    WfLocal (init selfId seq0) :=
  ⟨fun _ hp => List.mem_singleton.mp hp ▸ ⟨hid, hq⟩, hid⟩

/-- a reachable state satisfies every well-formedness hypothesis of the encode-side theorems -/
theorem reachable_wf (s : State) (h : Reachable s) :
    WF s ∧ WfVec s.loc ∧ WfId s.selfId ∧ s.selfSeq < 2 ^ 64 := by
  obtain ⟨selfId, seq0, evs, hid, hev, hq, rfl⟩ := h
  obtain ⟨⟨h1, h2⟩, _, h4⟩ := local_wf_invariant (init selfId seq0) evs
    (wfLocal_init hid (Nat.lt_of_le_of_lt (Nat.le_add_right ..) hq)) hev hq
  refine ⟨?_, h1, h2, h4 ▸ hq⟩
  rw [runB_eq_run]
  exact wf_run _ _ (wf_init selfId seq0)

/-- the local vector of a reachable state is never empty (it holds at least the own entry written by `start()`) -/
theorem reachable_loc_ne_nil (s : State) (h : Reachable s) : s.loc ≠ [] := by
  obtain ⟨selfId, seq0, evs, _, _, _, rfl⟩ := h
  rw [runB_eq_run]
  exact run_inv (·.loc ≠ []) step_loc_ne_nil _ _ (List.cons_ne_nil _ _)

/-- `vector_roundtrip` for the local vector of every reachable state. -/
theorem vector_roundtrip_reachable (s : State) (hr : Reachable s) (b : Bytes)
    (he : encodeVector s.loc = .ok b) : decodeVector b = some (entriesOf s.loc) :=
  vector_roundtrip s.loc (reachable_wf s hr).2.1 b he

/-- `publish_emits_decodable` for every reachable state: the only remaining
    hypothesis is that the next sequence number fits 64 bits. -/
theorem publish_emits_decodable_reachable (s : State) (hr : Reachable s) (hq : s.selfSeq + 1 < 2 ^ 64)
    (wire : Bytes) (he : encodeVector (step s .publish).1.loc = .ok wire) :
    (step s .publish).2 = [Out.emit (step s .publish).1.loc] ∧
    decodeVector wire = some (entriesOf (step s .publish).1.loc) ∧
    ∀ k, vecOf (entriesOf (step s .publish).1.loc) k = vget (step s .publish).1.loc k := by
  obtain ⟨h1, h2, h3, _⟩ := reachable_wf s hr
  exact publish_emits_decodable s h1 h2 h3 hq wire he

/-- `emitted_vector_is_received` for every reachable publisher `a` (and any
    receiver state `b` for which `a` does not over-claim). -/
theorem emitted_vector_is_received_reachable (a b : State) (ha : Reachable a) (hq : a.selfSeq + 1 < 2 ^ 64)
    (wire : Bytes) (he : encodeVector (step a .publish).1.loc = .ok wire)
    (hno : vget (step a .publish).1.loc b.selfId ≤ b.selfSeq) :
    ∃ r, stepBytes b wire = .ok r ∧
      (∀ k, vget r.1.loc k = max (vget b.loc k) (vget (step a .publish).1.loc k)) ∧
      (∀ k, vget (step a .publish).1.loc k ≤ vget r.1.loc k) := by
  obtain ⟨h1, h2, h3, _⟩ := reachable_wf a ha
  exact emitted_vector_is_received a b h1 h2 h3 hq wire he hno

/-- `vector_received` for the local vector of any reachable node `a`, whatever made it send. -/
theorem local_vector_received_reachable (a b : State) (ha : Reachable a) (wire : Bytes)
    (he : encodeVector a.loc = .ok wire) (hno : vget a.loc b.selfId ≤ b.selfSeq) :
    ∃ r, stepBytes b wire = .ok r ∧ ∀ k, vget r.1.loc k = max (vget b.loc k) (vget a.loc k) := by
  obtain ⟨h1, h2, _, _⟩ := reachable_wf a ha
  exact vector_received a.loc h2 h1.1 (reachable_loc_ne_nil a ha) wire he b hno

/-- Whatever a reachable node emits on a timer expiry (steady state, or the end
    of a suppression period) decodes at the peer to exactly its local vector. -/
theorem timer_emits_decodable_reachable (s : State) (hr : Reachable s) (v : Vec)
    (hv : Out.emit v ∈ (step s .timer).2) (wire : Bytes) (he : encodeVector v = .ok wire) :
    v = s.loc ∧ decodeVector wire = some (entriesOf s.loc) := by
  have hloc := emits_are_local s .timer v hv
  rw [step_timer_fst] at hloc
  subst hloc
  exact ⟨rfl, vector_roundtrip_reachable s hr wire he⟩

/-- `encodeVector_fails_only_oversize` for the local vector of every reachable state. -/
theorem encodeVector_reachable_fails_only_oversize (s : State) (hr : Reachable s) :
    (∃ b, encodeVector s.loc = .ok b) ∨ encodeVector s.loc = .error .structError :=
  encodeVector_fails_only_oversize s.loc (reachable_wf s hr).2.1

/-- any byte-level event keeps a state reachable as long as the sequence number fits -/
theorem reachable_step (s : State) (hr : Reachable s) (e : EvB) (he : ByteEv e)
    (hq : s.selfSeq + pubs [e] < 2 ^ 64) : Reachable (stepB s e).1 := by
  obtain ⟨selfId, seq0, evs, hid, hev, hb, rfl⟩ := hr
  have hseq := (local_wf_invariant (init selfId seq0) evs
    (wfLocal_init hid (Nat.lt_of_le_of_lt (Nat.le_add_right ..) hb)) hev hb).2.2
  refine ⟨selfId, seq0, evs ++ [e], hid, fun x hx => ?_, ?_, (runB_append ..).symm⟩
  · rcases List.mem_append.mp hx with h | h
    · exact hev x h
    · exact List.mem_singleton.mp h ▸ he
  · rw [pubs_append, ← Nat.add_assoc]; exact hseq ▸ hq

/-! node /n0 after start, a garbage component, a peer's vector in bytes and a publication -/
example : Reachable (runB (init [7, 4, 8, 2, 110, 48] 1)
    [.raw [0xff, 0, 1], .raw [0xc9, 11, 0xca, 9, 7, 4, 8, 2, 110, 49, 0xcc, 1, 2], .ev .publish, .ev .timer]) := by
  refine ⟨_, 1, _, ⟨[[8, 2, 110, 48]], List.cons_ne_nil _ _, by decide, by decide, rfl⟩, ?_, by decide, rfl⟩
  intro e he
  simp only [List.mem_cons, List.not_mem_nil, or_false] at he
  rcases he with rfl | rfl | rfl | rfl
  · show (3 : Nat) < 2 ^ 64; decide
  · show (13 : Nat) < 2 ^ 64; decide
  · trivial
  · trivial
example : (runB (init [7, 4, 8, 2, 110, 48] 1)
    [.raw [0xff, 0, 1], .raw [0xc9, 11, 0xca, 9, 7, 4, 8, 2, 110, 49, 0xcc, 1, 2], .ev .publish, .ev .timer]).loc
    = [([7, 4, 8, 2, 110, 48], 2), ([7, 4, 8, 2, 110, 49], 2)] := by decide +kernel

/-! ### re-entrancy and the timer task

`Ndn.Svs.stepX` follows the statements of `sync_handler`, `new_data` and `on_timer` in source order, with
`next_sync_timing` (`Due`) and `timer_rst_event` in the state.  `recvCb es ⟨k, exc⟩` is a sync Interest whose
missing-data callback, if it fires, calls `new_data()` `k` times and then returns or raises.  A state *at rest*
(`park s`): the timer task has consumed the reset event and waits for the period matching the protocol state.
Every history from rest is a history of the atomic model (`runGX_park`). -/

/-- the vector raises some entry of the local vector (specification of "the callback must fire"; not `Cb.raises`,
    the callback's exception) -/
def raises (s : State) (es : List Entry) : Prop := accepted s es ∧ ∃ i, vget s.loc i < vecOf es i

theorem fired_iff_raises (s : State) (es : List Entry) :
    (step s (.recv es)).2 = [Out.missing] ↔ raises s es := by
  unfold raises
  by_cases ha : accepted s es
  · rw [(callback_iff_raised s es).1]
    simp only [ha, true_and]
    exact exists_congr fun i => by rw [local_is_max s es ha]; omega
  · rw [rejected_unchanged s es ha]
    exact ⟨fun h => (nomatch h), fun h => absurd h.1 ha⟩

/-- On the events of the atomic model the statement-level model, started at rest, takes the same decisions and is at
    rest again: every theorem about `step` is a theorem about the handler statement by statement. -/
theorem stepX_refines_step (s : State) (e : Ev) :
    stepX (park s) (EvX.ofEv e) = (park (step s e).1, ⟨(step s e).2, false⟩) := by
  cases e with
  | undecodable => rfl
  | publish => exact stepX_publish s
  | timer => exact stepX_timer s
  | recv es =>
    simp only [EvX.ofEv, EvX.recv]
    rw [stepX_recvCb]
    dsimp only
    split
    · rw [‹(step s (.recv es)).2 = _›]; rfl
    · rfl

theorem stepX_raising (s : State) (es : List Entry) (cb : Cb) (h : raises s es) :
    stepX (park s) (.recvCb es cb) =
      (park (pubN cb.pubs (step s (.recv es)).1),
       ⟨Out.missing :: (if cb.pubs = 0 then [] else [Out.emit (pubN cb.pubs (step s (.recv es)).1).loc]),
        cb.raises⟩) := by
  rw [stepX_recvCb]; exact if_pos ((fired_iff_raises s es).mpr h)

theorem pubN_recv_own (s : State) (es : List Entry) (k : Nat) :
    vget (pubN (k + 1) (step s (.recv es)).1).loc s.selfId = s.selfSeq + (k + 1) := by
  have := pubN_own k (step s (.recv es)).1
  rwa [(step_self s _).1, (step_self s _).2] at this

theorem stepX_not_raising (s : State) (es : List Entry) (cb : Cb) (h : ¬ raises s es) :
    stepX (park s) (.recvCb es cb) = (park (step s (.recv es)).1, ⟨[], false⟩) := by
  have hf := mt (fired_iff_raises s es).mp h
  rw [stepX_recvCb]
  dsimp only
  rw [if_neg hf, (callback_iff_raised s es).2.resolve_left hf]

open Classical in
/-- ghost update of the statement-level model: what has been heard in the current suppression period; publications made
    by the callback do not change it (they end the period) -/
noncomputable def heardStepX (s : State) (heard : Bytes → Nat) : EvX → (Bytes → Nat)
  | .recvCb es _ => heardStep s heard (.recv es)
  | _ => heard

noncomputable def runGX (t : TState) (heard : Bytes → Nat) : List EvX → TState × (Bytes → Nat)
  | [] => (t, heard)
  | e :: r => runGX (stepX t e).1 (heardStepX t.st heard e) r

theorem runGX_fst (t : TState) (heard : Bytes → Nat) (evs : List EvX) :
    (runGX t heard evs).1 = (runX t evs).1 := by
  induction evs generalizing t heard with
  | nil => rfl
  | cons e r ih => exact ih _ _

theorem runG_append (s : State) (heard : Bytes → Nat) (a b : List Ev) :
    runG s heard (a ++ b) = runG (runG s heard a).1 (runG s heard a).2 b := by
  induction a generalizing s heard with
  | nil => rfl
  | cons e r ih => exact ih _ _

theorem runG_replicate_publish (k : Nat) (s : State) (heard : Bytes → Nat) :
    runG s heard (List.replicate k .publish) = (pubN k s, heard) := by
  induction k generalizing s with
  | zero => rfl
  | succ k ih => exact ih _

theorem runG_flat (s : State) (heard : Bytes → Nat) (e : EvX) :
    runG s heard (flat s e) = ((run s (flat s e)).1, heardStepX s heard e) := by
  refine Prod.ext (runG_fst ..) ?_
  cases e with
  | recvCb es cb =>
    simp only [flat, heardStepX]
    split
    · exact congrArg Prod.snd (runG_replicate_publish ..)
    · rfl
  | _ => rfl

/-- **every history of the statement-level model from rest is a history of the atomic model**, ghost included, and ends
    at rest -/
theorem runGX_park (s : State) (heard : Bytes → Nat) (evs : List EvX) :
    runGX (park s) heard evs =
      (park (runG s heard (flatAll s evs)).1, (runG s heard (flatAll s evs)).2) := by
  induction evs generalizing s heard with
  | nil => rfl
  | cons e r ih =>
    show runGX (stepX (park s) e).1 (heardStepX s heard e) r = _
    rw [stepX_flat, ih, flatAll, runG_append, runG_flat]

theorem runX_park (s : State) (evs : List EvX) :
    (runX (park s) evs).1 = park (run s (flatAll s evs)).1 := by
  rw [← runGX_fst _ (fun _ => 0), runGX_park, runG_fst]

/-- After every history from `start()` the timer task is parked: reset event consumed, `next_sync_timing` the period
    matching the protocol state — never a pending "now": no publication is left unannounced. -/
theorem timer_task_at_rest (selfId : Bytes) (seq0 : Nat) (evs : List EvX) :
    Parked (runX (initX selfId seq0) evs).1 := by
  rw [initX_eq_park, runX_park]
  exact parked_park _

theorem runX_replicate_publish (k : Nat) (s : State) :
    (runX (park s) (List.replicate k .publish)).1 = park (pubN k s) := by
  induction k generalizing s with
  | zero => rfl
  | succ k ih => simp only [List.replicate_succ, runX]; rw [stepX_publish]; exact ih _

/-- A reception whose callback publishes `k` times leaves the instance —
    vector, own sequence number, suppression state, aggregate, timer — in the state of the same reception with an
    idle callback followed by `k` publications from outside the handler (none if the callback does not fire). -/
theorem recvPub_state_eq_recv_then_publishes (s : State) (es : List Entry) (cb : Cb) :
    (stepX (park s) (.recvCb es cb)).1 =
      (runX (park s) (.recv es ::
        (if (stepX (park s) (.recv es)).2.outs = [Out.missing] then List.replicate cb.pubs .publish else []))).1 := by
  have h0 : stepX (park s) (.recv es) = (park (step s (.recv es)).1, ⟨(step s (.recv es)).2, false⟩) :=
    stepX_refines_step s (.recv es)
  simp only [runX]
  rw [h0, stepX_recvCb]
  dsimp only
  split
  · rw [runX_replicate_publish]
  · rfl

/-- The position of the callback inside the handler is unobservable: a reception whose callback publishes once is the
    reception with an idle callback followed by a publication — same state, same outputs in the same order. -/
theorem recvPub_eq_recv_then_publish (s : State) (es : List Entry) :
    stepX (park s) (.recvPub es 1) =
      (let a := stepX (park s) (.recv es)
       if a.2.outs = [Out.missing] then
         let b := stepX a.1 .publish
         (b.1, ⟨a.2.outs ++ b.2.outs, false⟩)
       else a) := by
  have h0 : stepX (park s) (.recv es) = (park (step s (.recv es)).1, ⟨(step s (.recv es)).2, false⟩) :=
    stepX_refines_step s (.recv es)
  simp only [EvX.recvPub]
  rw [h0, stepX_recvCb]
  generalize step s (.recv es) = r
  dsimp only
  split
  · rw [stepX_publish, ‹r.2 = _›]; rfl
  · rfl

/-- `publish_increments_and_emits_full` for `k + 1` publications made inside the callback of a raising vector:
    sequence number and own entry grown by `k + 1`, the other entries the entry-wise maximum, and **within the same
    step**, right after the callback, exactly one sync Interest with the final vector; afterwards SyncSteady and a
    fresh steady period. -/
theorem callback_publish_increments_and_emits_full (s : State) (es : List Entry) (hr : raises s es)
    (k : Nat) (rs : Bool) :
    let r := stepX (park s) (.recvCb es ⟨k + 1, rs⟩)
    r.1.st.selfSeq = s.selfSeq + (k + 1) ∧
    vget r.1.st.loc s.selfId = s.selfSeq + (k + 1) ∧
    (∀ i, i ≠ s.selfId → vget r.1.st.loc i = max (vget s.loc i) (vecOf es i)) ∧
    r.2.outs = [Out.missing, Out.emit r.1.st.loc] ∧ r.2.raised = rs ∧
    r.1.st.suppress = false ∧ r.1.due = .steady ∧ r.1.rst = false := by
  obtain ⟨hid, hseq⟩ := step_self s (.recv es)
  intro r
  have hrr : r = _ := stepX_raising s es ⟨k + 1, rs⟩ hr
  rw [hrr]
  have hsup := pubN_succ_suppress k (step s (.recv es)).1
  refine ⟨(pubN_selfSeq ..).trans (congrArg (· + (k + 1)) hseq), ?_, fun i hi => ?_, rfl, rfl, hsup,
    by simp only [park, dueOf, hsup]; rfl, rfl⟩
  · exact pubN_recv_own s es k
  · exact (pubN_other _ _ _ (hid ▸ hi)).trans (local_is_max s es hr.1 i)

/-- `local_is_max` in the statement-level model: after an accepted vector, whatever the callback does,
    every entry of another node is the entry-wise maximum of its previous value and the received vector; so is the
    own entry unless the callback fired and published, in which case it is the new own sequence number. -/
theorem local_is_max_x (s : State) (es : List Entry) (h : accepted s es) (cb : Cb) :
    let r := stepX (park s) (.recvCb es cb)
    (∀ i, i ≠ s.selfId → vget r.1.st.loc i = max (vget s.loc i) (vecOf es i)) ∧
    (¬ (raises s es ∧ cb.pubs ≠ 0) → vget r.1.st.loc s.selfId = max (vget s.loc s.selfId) (vecOf es s.selfId)) ∧
    (raises s es ∧ cb.pubs ≠ 0 → vget r.1.st.loc s.selfId = s.selfSeq + cb.pubs) := by
  have hid := (step_self s (.recv es)).1
  intro r
  by_cases hr : raises s es
  · rw [show r = _ from stepX_raising s es cb hr]
    refine ⟨fun i hi => (pubN_other _ _ _ (hid ▸ hi)).trans (local_is_max s es h i), fun hh => ?_, fun hh => ?_⟩
    · have h0 : cb.pubs = 0 := Classical.not_not.mp fun hne => hh ⟨hr, hne⟩
      rw [h0]; exact local_is_max s es h _
    · obtain ⟨k, hk⟩ := Nat.exists_eq_succ_of_ne_zero hh.2
      rw [hk]; exact pubN_recv_own s es k
  · rw [show r = _ from stepX_not_raising s es cb hr]
    exact ⟨fun i _ => local_is_max s es h i, fun _ => local_is_max s es h _, fun hh => absurd hh.1 hr⟩

/-- No event of the statement-level model, whatever its callback does, ever decreases an entry of the local vector. -/
theorem local_monotone_x (s : State) (e : EvX) (h : WF s) (i : Bytes) :
    vget s.loc i ≤ vget (stepX (park s) e).1.st.loc i := by
  rw [stepX_flat]; exact run_monotone s _ h i

theorem runX_append (t : TState) (a b : List EvX) : (runX t (a ++ b)).1 = (runX (runX t a).1 b).1 := by
  induction a generalizing t with
  | nil => rfl
  | cons e r ih => exact ih _

/-- Over any history of the statement-level model from `start()` the local vector never decreases:
    the vector after a longer history dominates the vector after any prefix. -/
theorem run_monotone_x (selfId : Bytes) (seq0 : Nat) (evs more : List EvX) (i : Bytes) :
    vget (runX (initX selfId seq0) evs).1.st.loc i ≤ vget (runX (initX selfId seq0) (evs ++ more)).1.st.loc i := by
  rw [initX_eq_park, runX_append, runX_park, runX_park]
  exact run_monotone _ _ (wf_run _ _ (wf_init selfId seq0)) i

/-- In the statement-level model the missing-data callback is invoked for a received vector iff
    that vector is accepted and raises some entry of the local vector; it is invoked at most once per vector,
    first of everything the step lets the outside see; and the exception of a raising callback propagates exactly
    when the callback was invoked. -/
theorem callback_iff_raised_x (s : State) (es : List Entry) (cb : Cb) :
    let r := stepX (park s) (.recvCb es cb)
    (Out.missing ∈ r.2.outs ↔ raises s es) ∧ r.2.outs.count Out.missing ≤ 1 ∧
    (raises s es → r.2.outs.head? = some Out.missing) ∧ (r.2.raised = true ↔ raises s es ∧ cb.raises = true) := by
  intro r
  by_cases hr : raises s es
  · rw [show r = _ from stepX_raising s es cb hr]
    split <;> simp [hr]
  · rw [show r = _ from stepX_not_raising s es cb hr]
    simp [hr]

/-- `suppression_emit_iff` over every history of the statement-level model. -/
theorem suppression_emit_iff_x (selfId : Bytes) (seq0 : Nat) (evs : List EvX) :
    let t := (runGX (initX selfId seq0) (fun _ => 0) evs).1
    let heard := (runGX (initX selfId seq0) (fun _ => 0) evs).2
    t.st.suppress = true →
      ((stepX t .timer).2.outs = [Out.emit t.st.loc] ↔ ∃ k, heard k < vget t.st.loc k) ∧
      ((stepX t .timer).2.outs = [Out.emit t.st.loc] ∨ (stepX t .timer).2.outs = []) := by
  rw [initX_eq_park, runGX_park]
  dsimp only
  rw [stepX_timer]
  exact suppression_emit_iff selfId seq0 (flatAll (init selfId seq0) evs)

/-- The variant that invokes the callback *before* the handler's timer bookkeeping (`stepXEarly`) differs observably
    whenever the callback publishes: the publications are recorded, but the bookkeeping overwrites what `new_data()`
    armed — no sync Interest, the timer parked on a whole period — whereas the code as it is emits the full vector
    within the step. -/
theorem callback_before_bookkeeping_delays_announcement (s : State) (es : List Entry) (hr : raises s es) (k : Nat) :
    let bad := stepXEarly (park s) (.recvPub es (k + 1))
    let good := stepX (park s) (.recvPub es (k + 1))
    bad.2.outs = [Out.missing] ∧ (∀ v, Out.emit v ∉ bad.2.outs) ∧
    bad.1.st.selfSeq = s.selfSeq + (k + 1) ∧ vget bad.1.st.loc s.selfId = s.selfSeq + (k + 1) ∧
    bad.1.rst = false ∧ bad.1.due ≠ .now ∧
    good.2.outs = [Out.missing, Out.emit good.1.st.loc] ∧ bad ≠ good := by
  obtain ⟨s', hb, h1, h2⟩ := stepXEarly_recvPub s es k ((fired_iff_raises s es).mpr hr)
  intro bad good
  have hgo : good.2.outs = [Out.missing, Out.emit good.1.st.loc] :=
    (callback_publish_increments_and_emits_full s es hr k false).2.2.2.1
  rw [show bad = (park s', ⟨[Out.missing], false⟩) from hb]
  refine ⟨rfl, fun v hv => (nomatch List.mem_singleton.mp hv), h1, h2, rfl, dueOf_ne_now s', hgo, fun he => ?_⟩
  rw [← he] at hgo
  cases hgo

/-- the aggregate never claims more for this node than it has produced (over-claiming vectors are rejected) -/
def AggInv (s : State) : Prop := vget s.agg s.selfId ≤ s.selfSeq

theorem aggInv_step (s : State) (e : Ev) (h : AggInv s) : AggInv (step s e).1 := by
  unfold AggInv
  rw [(step_self s e).1, (step_self s e).2]
  cases e with
  | undecodable => exact h
  | timer => rw [step_timer_fst]; exact h
  | publish => exact Nat.le_succ_of_le h
  | recv es =>
    by_cases ha : accepted s es
    · obtain ⟨_, _, _, _, hs, _, _, hagg⟩ := step_recv_merged s es ha.1 ha.2
      have hle := vecOf_self_le ha.2
      rw [hs]
      show vget _ s.selfId ≤ s.selfSeq
      rw [hagg]
      -- `agg_sv` becomes its maximum with the accepted vector, or that vector, or stays
      split
      · exact Nat.max_le.mpr ⟨h, hle⟩
      · split
        · exact hle
        · exact h
    · rw [rejected_unchanged s es ha]; exact h

theorem stepXKeep_eq_stepX (s : State) (hw : WF s) (ha : AggInv s) (e : EvX) :
    stepXKeep (park s) e = stepX (park s) e := by
  cases e with
  | recvCb es cb =>
    -- the timer fires at once either way; the freshly published own entry is newer than the aggregate
    refine stepXKeep_recvCb s es cb fun _ hk => ?_
    obtain ⟨k, hk⟩ := Nat.exists_eq_succ_of_ne_zero hk
    have hwp : WF (pubN cb.pubs (step s (.recv es)).1) :=
      run_replicate_publish .. ▸ wf_run _ _ (wf_step s _ hw)
    rw [necessary_iff _ _ hwp.1]
    refine ⟨(step s (.recv es)).1.selfId, ?_⟩
    rw [pubN_agg, hk, pubN_own]
    exact Nat.lt_succ_of_le (Nat.le_trans (aggInv_step s _ ha) (Nat.le_add_right ..))
  | _ => rfl

/-- Whether a `new_data()` made inside the callback resets `self.state` is unobservable: after any history from
    `start()` the variant that leaves the protocol state alone takes exactly the step the code takes — the timer
    fires at once either way, and the end-of-suppression test finds the freshly published own entry newer than the
    aggregate, because over-claiming vectors never reach the aggregate. -/
theorem reentrant_state_reset_unobservable (selfId : Bytes) (seq0 : Nat) (evs : List EvX) (e : EvX) :
    stepXKeep (runX (initX selfId seq0) evs).1 e = stepX (runX (initX selfId seq0) evs).1 e := by
  rw [initX_eq_park, runX_park]
  exact stepXKeep_eq_stepX _ (wf_run _ _ (wf_init selfId seq0))
    (run_inv AggInv aggInv_step _ _ (Nat.zero_le _)) e

/-- The statement-level handler on the bytes of the name component is the statement-level model
    on the decoded entries; bytes the decoder rejects with a class the handler catches change nothing, and the
    other classes propagate with the state (timer included) untouched. -/
theorem stepXB_refines (t : TState) (comp : Bytes) (cb : Cb) :
    (∃ es, decodeVector comp = some es ∧
      stepXB t (.raw comp cb) = ((stepX t (.recvCb es cb)).1, .ok (stepX t (.recvCb es cb)).2)) ∨
    (∃ e, decodeVectorE comp = .error e ∧ (e = .decodeError ∨ e = .indexError) ∧
      stepXB t (.raw comp cb) = (t, .ok ⟨[], false⟩)) ∨
    (∃ e, decodeVectorE comp = .error e ∧ (e = .structError ∨ e = .valueError ∨ e = .typeError) ∧
      stepXB t (.raw comp cb) = (t, .error e)) := by
  rcases decodeVectorE_cases comp with ⟨es, hd⟩ | ⟨x, hd, hx, hc⟩ | ⟨x, hd, hx, hc⟩
  · exact .inl ⟨es, decodeVector_some.mpr hd, by simp only [stepXB, hd]⟩
  · exact .inr (.inl ⟨x, hd, hx, by simp only [stepXB, hd, hc, if_true]⟩)
  · exact .inr (.inr ⟨x, hd, hx, by simp only [stepXB, hd, hc]; rfl⟩)

/-- /n0 hears {/n1:1} with a callback that publishes once: the code as it is emits {/n0:1, /n1:1} in the same step
    and ends in a fresh steady period … -/
example : stepX (initX [1] 0) (.recvPub [(some [2], some 1)] 1) =
    ({ st := { selfId := [1], selfSeq := 1, loc := [([1], 1), ([2], 1)], agg := [([2], 1)], suppress := false },
       due := .steady, rst := false },
     ⟨[Out.missing, Out.emit [([1], 1), ([2], 1)]], false⟩) := by decide +kernel
/-- … the variant records the publication, emits nothing and sits in a suppression period (the seeded change
    C18-6 on the same input) -/
example : stepXEarly (initX [1] 0) (.recvPub [(some [2], some 1)] 1) =
    ({ st := { selfId := [1], selfSeq := 1, loc := [([1], 1), ([2], 1)], agg := [([2], 1)], suppress := true },
       due := .sup, rst := false },
     ⟨[Out.missing], false⟩) := by decide +kernel
/-- a vector that names no unknown node and is nowhere outdated: the variant waits a whole steady period -/
example : (stepXEarly (park { selfId := [1], selfSeq := 0, loc := [([1], 0), ([2], 1)], agg := [], suppress := false })
    (.recvPub [(some [1], some 0), (some [2], some 3)] 2)).1.due = .steady := by decide +kernel
example : raises (init [1] 0) [(some [2], some 1)] :=
  ⟨⟨List.cons_ne_nil _ _, fun ⟨_, hm, _⟩ => nomatch List.mem_singleton.mp hm⟩, [2], by decide⟩
/-- three publications inside one callback during a suppression period, the callback then raises: one Interest with
    the final vector, the exception propagates, steady afterwards -/
example :
    (runX (initX [1] 5) [.recv [(some [2], some 4)], .timer, .recv [(some [2], some 1)],
        .recvCb [(some [2], some 9)] ⟨3, true⟩]).2 =
      [⟨[Out.missing], false⟩, ⟨[Out.emit [([1], 5), ([2], 4)]], false⟩, ⟨[], false⟩,
       ⟨[Out.missing, Out.emit [([1], 8), ([2], 9)]], true⟩] := by decide +kernel

end Ndn.C18
