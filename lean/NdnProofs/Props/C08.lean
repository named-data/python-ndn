import NdnProofs.Lemmas.CodecRT
import NdnProofs.Lemmas.CodecReenc
import NdnProofs.Lemmas.ClassMerge
/-!
# C08 — TLV models encode to exact, minimal TLV and decode back to equal values

`Ndn.Codec` is a generic interpreter of TLV model classes (`List Schema`) and instances
(`List Value`): `encLenFields` = `TlvModel.encoded_length`, `encFields` = `TlvModel.encode`,
`parse` = `TlvModel.parse`.  Hypotheses (both decidable, `NdnModel/CodecWF.lean`): `wfTop fs` — legal `fixed_len`,
Name fields of type 7, pairwise distinct Type numbers inside each model, MapField keys of the kinds
`MapField.__init__` accepts and values of an element kind with another Type than the key, no marker fields;
`fitsFs fs vs` — a legal assignment.  Everything is for **all** schemas and values.  The metaclass theorems
(`merge_*`, `merged_*`) say how the field list of a class with base classes / `IncludeBase` comes about
(`Ndn.Codec.mergeFields`).  The decoder side closes the loop: whatever `parse` accepts satisfies `fitsFs`
(`parse_wf`), so decode ∘ encode ∘ decode = decode needs no hypothesis on the value.
-/
namespace Ndn.C08
open Ndn Ndn.Codec

/-- The size announced by `encoded_length()` is the size of what `encode()` writes, for every `wfTop` model (so no
    class with a marker field: Interest, Data, certificate) and every value for which encoding succeeds. -/
theorem announced_length_exact (fs : List Schema) (vs : List Value) (b : Bytes)
    (hw : wfTop fs = true) (h : encFields fs vs = .ok b) : encLenFields fs vs = .ok b.length := by
  simp only [wfTop, Bool.and_eq_true] at hw
  exact encLenFields_enc fs vs b hw.1 h

/-- a byte string that is a sequence of complete TLV elements, each with Type and Length written by
    `write_tl_num` (shortest form, see `writeTlNum_shortest`) and a Value of exactly that Length -/
inductive TlvSeq : Bytes → Prop
  | nil : TlvSeq []
  | cons (t : Nat) (body rest : Bytes) : t < 2 ^ 64 → body.length < 2 ^ 64 → TlvSeq rest →
      TlvSeq (tlv t body ++ rest)

theorem TlvSeq.append : ∀ {a b : Bytes}, TlvSeq a → TlvSeq b → TlvSeq (a ++ b)
  | _, _, .nil, hb => hb
  | _, _, .cons t body rest ht hl hr, hb => by
    rw [List.append_assoc]; exact .cons t body _ ht hl (TlvSeq.append hr hb)

theorem TlvSeq.single {t : Nat} {body r : Bytes} (h : tlvE t body = .ok r) : TlvSeq r := by
  obtain ⟨rfl, ht, hb⟩ := tlvE_ok h
  simpa using TlvSeq.cons t body [] ht hb .nil

theorem enc_seq_all :
    (∀ s v b, enc s v = .ok b → TlvSeq b) ∧ (∀ fs vs b, encFields fs vs = .ok b → TlvSeq b) ∧
    (∀ e vs b, encList e vs = .ok b → TlvSeq b) ∧ (∀ k v es b, encMap k v es = .ok b → TlvSeq b) := by
  have one : ∀ {t : Nat} {body : Bytes}, t < 2 ^ 64 → body.length < 2 ^ 64 → TlvSeq (tlv t body) :=
    fun ht hb => TlvSeq.single (tlvE_eq _ _ ht hb)
  apply enc_ok_induct
  case none | marker | fnil | lnil => intro _; exact .nil
  case fshort | mnil => intro _ _; exact .nil
  case uint => intro _ _ _ _ ht hb; exact one ht hb
  case bool => intro _ ht; exact one ht (by decide)
  case bytes => intro _ _ _ ht hb; exact one ht hb
  case name => intro _ _ hb; exact one (by decide) hb
  case model => intro _ _ _ _ _ _ _ ht hb; exact one ht hb
  case list => intro _ _ _ h; exact h
  case map => intro _ _ _ _ h; exact h
  case fcons => intro _ _ _ _ _ _ _ h1 h2; exact h1.append h2
  case lcons => intro _ _ _ _ _ _ h1 h2; exact h1.append h2
  case mcons => intro _ _ _ _ _ _ _ _ _ _ h1 h2 h3; exact (h1.append h2).append h3

theorem enc_seq : ∀ (s : Schema) (v : Value) (b : Bytes), enc s v = .ok b → TlvSeq b := enc_seq_all.1
theorem encList_seq : ∀ (e : Schema) (vs : List Value) (b : Bytes), encList e vs = .ok b → TlvSeq b :=
  enc_seq_all.2.2.1
theorem encMap_seq : ∀ (k v : Schema) (es : List (Value × Value)) (b : Bytes),
    encMap k v es = .ok b → TlvSeq b :=
  enc_seq_all.2.2.2

/-- Whatever any model encodes to is a sequence of complete, exactly-sized TLV elements with shortest-form Type
    and Length (that the fields come in declared order is the definition of `encFields`, not this statement). -/
theorem enc_wellformed (fs : List Schema) (vs : List Value) (b : Bytes)
    (h : encFields fs vs = .ok b) : TlvSeq b :=
  enc_seq_all.2.1 fs vs b h

/-- No encoding that the decoder reads as the number `v` is shorter than
    `tlNumSize v`, the length of the one `write_tl_num` produces (`writeTlNum_length`). -/
theorem writeTlNum_shortest (bs : Bytes) (v n : Nat) (h : parseTlNum bs 0 = .ok (v, n)) :
    tlNumSize v ≤ n :=
  (parseTlNum_size_ge h).1

/-- Without `fixed_len` an integer is written in the smallest of the legal
    widths 1, 2, 4, 8 that can hold it. -/
theorem uint_smallest_width (v : Nat) (hv : v < 2 ^ 64) :
    v < 256 ^ uintWidth none v ∧
    ∀ w, (w = 1 ∨ w = 2 ∨ w = 4 ∨ w = 8) → v < 256 ^ w → uintWidth none v ≤ w :=
  ⟨uintWidth_none_fits v hv, fun _ hw hlt => uintWidth_none_le hw hlt⟩

/-- Decoding what a model encodes yields an equal model, for every `wfTop` schema and every legal assignment
    (`wfTop` excludes only marker pseudo-fields, which carry no value: the offsets they record are compared in
    the packet properties C01/C02). -/
theorem parse_enc_roundtrip (fs : List Schema) (vs : List Value) (b : Bytes) (ic : Bool)
    (hw : wfTop fs = true) (hfit : fitsFs fs vs = true) (h : encFields fs vs = .ok b) :
    parse fs ic b = .ok vs := by
  simp only [wfTop, Bool.and_eq_true] at hw
  exact parse_encFields fs vs b ic hw.1 hw.2 hfit h

/-- `parse_enc_roundtrip` once more, nothing left out, under the name the packet properties C01 and C16 cite -/
theorem parse_enc_roundtrip_partial (fs : List Schema) (vs : List Value) (b : Bytes) (ic : Bool)
    (hw : wfTop fs = true) (hfit : fitsFs fs vs = true) (h : encFields fs vs = .ok b) :
    parse fs ic b = .ok vs := parse_enc_roundtrip fs vs b ic hw hfit h

/-- The encoding splits into `items` (in the proof: one element of a plain or repeated field, or key + value
    element of a map entry; the statement gives only `encItems items = b`) such that (1) an unrecognised element of
    even Type (any unrecognised Type when critical fields are ignored) inserted at any boundary between items
    leaves the decoded model unchanged, and (2) so does an element inserted between the key and the value of a map
    entry: there the decoder looks only for the value's Type, so every other even Type is skipped. -/
theorem unknown_noncritical_skipped (fs : List Schema) (vs : List Value) (b : Bytes) (ic : Bool)
    (hw : wfTop fs = true) (hfit : fitsFs fs vs = true) (h : encFields fs vs = .ok b) :
    ∃ items : List Item, encItems items = b ∧
      (∀ (l1 l2 : List Item) (t : Nat) (x : Bytes), items = l1 ++ l2 →
        t < 2 ^ 64 → x.length < 2 ^ 64 → t ∉ typs fs → (t % 2 = 0 ∨ ic = true) →
        parse fs ic (encItems l1 ++ tlv t x ++ encItems l2) = .ok vs) ∧
      (∀ (l1 l2 : List Item) (it : Item) (m : MapVal) (t : Nat) (x : Bytes), items = l1 ++ it :: l2 →
        it.mv = some m → t < 2 ^ 64 → x.length < 2 ^ 64 → t ≠ m.t → (t % 2 = 0 ∨ ic = true) →
        parse fs ic (encItems l1 ++ (tlv it.t it.body ++ tlv t x ++ tlv m.t m.body) ++ encItems l2) = .ok vs) := by
  simp only [wfTop, Bool.and_eq_true] at hw
  obtain ⟨items, hok, henc, hfold⟩ := rt_suffix [] fs vs b hw.1 hfit h
  refine ⟨items, henc, ?_, ?_⟩
  · intro l1 l2 t x hsplit ht hx hnot hcrit
    subst hsplit
    obtain ⟨ok1, ok2⟩ := ItemsOK_split fs l1 l2 0 (by simpa using hok)
    have hd := hfold [] rfl
    simp only [List.nil_append, List.foldl_append] at hd
    obtain ⟨f, hf, hp⟩ := parse_prefix fs ic hw.1 hw.2 l1 (tlv t x ++ encItems l2) ok1
    have h3 := tlNumSize_pos t
    rw [List.length_append, tlv_length] at hf
    rw [List.append_assoc, hp, junk_skip fs ic t x _ _ _ _ _ ht hx hnot hcrit,
      loop_items fs ic hw.1 hw.2 l2 _ _ _ _ ok2 (by omega), hd]
  · intro l1 l2 it m t x hsplit hmv ht hx hne hcrit
    subst hsplit
    obtain ⟨ok1, hposit, hit, ok2⟩ := ItemsOK_split fs l1 (it :: l2) 0 (by simpa using hok)
    have hd := hfold [] rfl
    simp only [List.nil_append, List.foldl_append, List.foldl_cons] at hd
    obtain ⟨f, hf, hp⟩ := parse_prefix fs ic hw.1 hw.2 l1
      (tlv it.t it.body ++ (tlv t x ++ (tlv m.t m.body ++ encItems l2))) ok1
    have h1 := tlNumSize_pos it.t; have h3 := tlNumSize_pos t; have h5 := tlNumSize_pos m.t
    have hshape : encItems l1 ++ (tlv it.t it.body ++ tlv t x ++ tlv m.t m.body) ++ encItems l2 =
        encItems l1 ++ (tlv it.t it.body ++ (tlv t x ++ (tlv m.t m.body ++ encItems l2))) := by
      simp only [List.append_assoc]
    rw [hshape, hp, loop_step_gap fs ic hw.2 it m hmv t x _ _ _ _ _ hposit hit ht hx hne hcrit hf,
      skipMarkers_id fs _ _ _ _ hw.1]
    simp only [List.length_append, tlv_length] at hf
    rw [loop_items fs ic hw.1 hw.2 l2 _ _ _ _ ok2 (by omega), hd]

/-- An unrecognised element whose Type is odd, inserted (1) at any
    boundary between items or (2) between the key and the value of a map entry (there: any odd Type
    other than the value's), makes decoding fail with `DecodeError` (unless critical fields are
    ignored). -/
theorem unknown_critical_rejected (fs : List Schema) (vs : List Value) (b : Bytes)
    (hw : wfTop fs = true) (hfit : fitsFs fs vs = true) (h : encFields fs vs = .ok b) :
    ∃ items : List Item, encItems items = b ∧
      (∀ (l1 l2 : List Item) (t : Nat) (x : Bytes), items = l1 ++ l2 →
        t < 2 ^ 64 → x.length < 2 ^ 64 → t ∉ typs fs → t % 2 = 1 →
        parse fs false (encItems l1 ++ tlv t x ++ encItems l2) = .error .decodeError) ∧
      (∀ (l1 l2 : List Item) (it : Item) (m : MapVal) (t : Nat) (x : Bytes), items = l1 ++ it :: l2 →
        it.mv = some m → t < 2 ^ 64 → x.length < 2 ^ 64 → t ≠ m.t → t % 2 = 1 →
        parse fs false (encItems l1 ++ (tlv it.t it.body ++ tlv t x ++ tlv m.t m.body) ++ encItems l2)
          = .error .decodeError) := by
  simp only [wfTop, Bool.and_eq_true] at hw
  obtain ⟨items, hok, henc, _⟩ := rt_suffix [] fs vs b hw.1 hfit h
  refine ⟨items, henc, ?_, ?_⟩
  · intro l1 l2 t x hsplit ht hx hnot hodd
    subst hsplit
    obtain ⟨ok1, _⟩ := ItemsOK_split fs l1 l2 0 (by simpa using hok)
    obtain ⟨f, _, hp⟩ := parse_prefix fs false hw.1 hw.2 l1 (tlv t x ++ encItems l2) ok1
    rw [List.append_assoc, hp, junk_reject fs t x _ _ _ _ _ ht hx hnot hodd]
  · intro l1 l2 it m t x hsplit hmv ht hx hne hodd
    subst hsplit
    obtain ⟨ok1, hposit, hit, _⟩ := ItemsOK_split fs l1 (it :: l2) 0 (by simpa using hok)
    obtain ⟨f, hf, hp⟩ := parse_prefix fs false hw.1 hw.2 l1
      (tlv it.t it.body ++ (tlv t x ++ (tlv m.t m.body ++ encItems l2))) ok1
    have hshape : encItems l1 ++ (tlv it.t it.body ++ tlv t x ++ tlv m.t m.body) ++ encItems l2 =
        encItems l1 ++ (tlv it.t it.body ++ (tlv t x ++ (tlv m.t m.body ++ encItems l2))) := by
      simp only [List.append_assoc]
    rw [hshape, hp, loop_step_gap_reject fs hw.2 it m hmv t x _ _ _ _ _ hposit hit ht hx hne hodd hf]

/-- a small model: `{ a = UintField(0x81), n = NameField(), sub = ModelField(0x83, {b = BytesField(0x85, is_string)}), r = RepeatedField(UintField(0x87)) }` -/
def exFs : List Schema :=
  [.uint 0x81 none, .name 7, .model 0x83 [.bytes 0x85 true] false, .repeated (.uint 0x87 none)]
def exVs : List Value :=
  [.uint 300, .name [[8, 1, 97]], .model [.bytes [0xC3, 0xA9]], .list [.uint 1, .uint 65536]]

example : wfTop exFs = true := by decide
example : fitsFs exFs exVs = true := by decide
example : encFields exFs exVs =
    .ok [0x81, 2, 1, 44, 7, 3, 8, 1, 97, 0x83, 4, 0x85, 2, 0xC3, 0xA9, 0x87, 1, 1, 0x87, 4, 0, 1, 0, 0] := by
  rfl
example : parse exFs false
    [0x81, 2, 1, 44, 7, 3, 8, 1, 97, 0x83, 4, 0x85, 2, 0xC3, 0xA9, 0x87, 1, 1, 0x87, 4, 0, 1, 0, 0] = .ok exVs := by
  rfl

/-- a model with MapFields: `{ a = UintField(0x81), m = MapField(BytesField(0x85, is_string), UintField(0x87)),
    sub = ModelField(0x91, { d = MapField(UintField(0x89), ModelField(0x8b, {n = NameField()})) }) }`
    with `m = {"k": 5, "é": 256}`, `sub.d = {7: {n = /a}}` -/
def exMapFs : List Schema :=
  [.uint 0x81 none, .map (.bytes 0x85 true) (.uint 0x87 none),
   .model 0x91 [.map (.uint 0x89 none) (.model 0x8b [.name 7] false)] false]
def exMapVs : List Value :=
  [.uint 1, .map [(.bytes [107], .uint 5), (.bytes [0xC3, 0xA9], .uint 256)],
   .model [.map [(.uint 7, .model [.name [[8, 1, 97]]])]]]
def exMapWire : Bytes :=
  [0x81, 1, 1, 0x85, 1, 107, 0x87, 1, 5, 0x85, 2, 0xC3, 0xA9, 0x87, 2, 1, 0,
   0x91, 10, 0x89, 1, 7, 0x8b, 5, 7, 3, 8, 1, 97]

example : wfTop exMapFs = true := by decide
example : fitsFs exMapFs exMapVs = true := by decide
example : encFields exMapFs exMapVs = .ok exMapWire := by rfl
example : parse exMapFs false exMapWire = .ok exMapVs := by rfl
/-- an unknown non-critical element (Type 0x64) between the first key and its value is skipped … -/
example : parse exMapFs false
    [0x81, 1, 1, 0x85, 1, 107, 0x64, 1, 0, 0x87, 1, 5, 0x85, 2, 0xC3, 0xA9, 0x87, 2, 1, 0,
     0x91, 10, 0x89, 1, 7, 0x8b, 5, 7, 3, 8, 1, 97] = .ok exMapVs := by rfl
/-- … and a critical one (Type 0x65) there is rejected -/
example : parse exMapFs false
    [0x81, 1, 1, 0x85, 1, 107, 0x65, 1, 0, 0x87, 1, 5, 0x85, 2, 0xC3, 0xA9, 0x87, 2, 1, 0,
     0x91, 10, 0x89, 1, 7, 0x8b, 5, 7, 3, 8, 1, 97] = .error .decodeError := by rfl
/-- a dict with a repeated key is not a legal assignment (a Python dict cannot hold one) -/
example : fitsFs exMapFs [.uint 1, .map [(.bytes [107], .uint 5), (.bytes [107], .uint 6)], .model [.map []]]
    = false := by decide

/-! ## the metaclass: how a class with base classes gets its field list

`Ndn.Codec.mergeFields bases body` models `TlvModelMeta.__new__` (`NdnModel/ClassMerge.lean`): `body` is
the list of assignments of the class body, `bases` the direct base classes with their own (already
collected) field lists.  The specification vocabulary (`expand`, `assignAll`, `firstOcc`, `lastVal`, `Legal`) is
defined in `NdnProofs/Lemmas/ClassMerge.lean`. -/

/-- the attributes of `cls.__dict__` the metaclass looks at -/
def visible {α : Type} (body : List (List Char × Decl α)) : List (List Char × Decl α) :=
  (classDict body).filter fun p => !dunder p.1

/-- Whenever the class can be created, its `_encoded_fields` is the Python dict
    obtained by carrying out, in order, the assignments the class body stands for (the position
    bookkeeping of the metaclass - `index_dict` - is exactly that of a dict). -/
theorem merge_is_assignment {α : Type} (bases : List (BaseCls (List Char) α)) (body : List (List Char × Decl α))
    (fs : List (List Char × α)) (h : mergeFields bases body = .ok fs) :
    fs = assignAll (expand bases (visible body)) :=
  mergeClass_ok bases _ fs h

/-- Creating the class raises `IncludeBaseError` exactly when some visible `IncludeBase`
    names a class that is not a direct base or not a TlvModel; nothing else fails. -/
theorem merge_ok_iff {α : Type} (bases : List (BaseCls (List Char) α)) (body : List (List Char × Decl α)) :
    (∃ fs, mergeFields bases body = .ok fs) ↔ Legal bases (visible body) :=
  mergeClass_isOk bases _

/-- Every name occurs once, and the names stand in the order of their *first* assignment: own fields in
    declaration order, the fields of an included base at the place of its `IncludeBase` in the base's order. -/
theorem merged_order {α : Type} (bases : List (BaseCls (List Char) α)) (body : List (List Char × Decl α))
    (fs : List (List Char × α)) (h : mergeFields bases body = .ok fs) :
    (PyDict.keys fs).Nodup ∧ PyDict.keys fs = firstOcc ((expand bases (visible body)).map (·.1)) := by
  rw [merge_is_assignment bases body fs h]
  exact ⟨assignAll_nodup _, assignAll_keys _⟩

/-- The field that stands under a name is the one assigned *last*
    (a redeclared name - an override of an included field, or an included field over an earlier own one -
    replaces the field where it stands); a name is in the list iff something assigns it. -/
theorem merged_field_is_last_assignment {α : Type} (bases : List (BaseCls (List Char) α))
    (body : List (List Char × Decl α)) (fs : List (List Char × α)) (h : mergeFields bases body = .ok fs)
    (name : List Char) : PyDict.get? fs name = lastVal (expand bases (visible body)) name := by
  rw [merge_is_assignment bases body fs h]
  exact assignAll_get? _ _

/-- Without a name clash the field list is literally the class body with every
    `IncludeBase` replaced by the fields of its base. -/
theorem merged_plain {α : Type} (bases : List (BaseCls (List Char) α)) (body : List (List Char × Decl α))
    (fs : List (List Char × α)) (h : mergeFields bases body = .ok fs)
    (hn : ((expand bases (visible body)).map (·.1)).Nodup) : fs = expand bases (visible body) := by
  rw [merge_is_assignment bases body fs h]
  exact assignAll_of_nodup _ hn

/-- The fields of a base class that no visible `IncludeBase` names do not
    enter the list: replacing that base by any other class (with any fields, or not a TlvModel at all)
    changes nothing.  In particular plain inheritance without `IncludeBase` yields the own fields only. -/
theorem base_not_included_ignored {α : Type} (bases : List (BaseCls (List Char) α))
    (body : List (List Char × Decl α)) (j : Nat) (b : BaseCls (List Char) α)
    (h : ∀ p ∈ visible body, p.2 ≠ .includeBase j) :
    mergeFields (bases.set j b) body = mergeFields bases body := by
  have := foldlM_set_base bases j b (visible body) ⟨[], []⟩ h
  unfold mergeFields mergeClass
  unfold visible at this
  rw [this]

/-- own fields only: a class body without (visible) `IncludeBase` -/
theorem inherit_without_include {α : Type} (bases : List (BaseCls (List Char) α))
    (body : List (List Char × Decl α)) (h : ∀ p ∈ visible body, ∀ i, p.2 ≠ .includeBase i) :
    mergeFields bases body = .ok ((visible body).filterMap fun p =>
      match p.2 with
      | .field f => some (p.1, f)
      | _ => none) := by
  have hl : Legal bases (visible body) := fun p hp i hi => absurd hi (h p hp i)
  rw [show mergeFields bases body = .ok (assignAll (expand bases (visible body))) from mergeClass_legal bases _ hl]
  have hk : (PyDict.keys (visible body)).Nodup := by
    have : (PyDict.keys (classDict body)).Nodup := classDict_eq_assignAll body ▸ assignAll_nodup body
    exact List.Nodup.sublist (List.Sublist.map _ List.filter_sublist) this
  rw [expand_of_no_include bases _ h]
  congr 1
  apply assignAll_of_nodup
  exact List.Nodup.sublist (keys_ownFields_sublist _) hk

/-- the encoding of each field of a model, separately -/
def encEach : List Schema → List Value → Except PyErr (List Bytes)
  | s :: ss, v :: vs => do
    let a ← enc s v
    let r ← encEach ss vs
    pure (a :: r)
  | _, _ => .ok []

theorem encFields_parts : ∀ (fs : List Schema) (vs : List Value) (b : Bytes), encFields fs vs = .ok b →
    ∃ parts, encEach fs vs = .ok parts ∧ b = concatB parts ∧ ∀ p ∈ parts, TlvSeq p
  | [], _, b, h => by simp [encFields] at h; subst h; exact ⟨[], by simp [encEach], rfl, by simp⟩
  | _ :: _, [], b, h => by simp [encFields] at h; subst h; exact ⟨[], by simp [encEach], rfl, by simp⟩
  | s :: ss, v :: vs, b, h => by
    obtain ⟨a, c, ha, hc, rfl⟩ := encFields_cons_ok.1 h
    obtain ⟨parts, hp, rfl, ht⟩ := encFields_parts ss vs c hc
    refine ⟨a :: parts, ?_, rfl, ?_⟩
    · simp [encEach, ha, hp, bind, Except.bind, pure, Except.pure]
    · intro p hp
      rcases List.mem_cons.1 hp with rfl | hp
      · exact enc_seq s v _ ha
      · exact ht p hp

/-- An instance of a class with base classes is encoded as the concatenation, in the order of the merged field
    list, of the encodings of its fields, each a well-formed TLV sequence.  A corollary collecting
    `merge_is_assignment`, `enc_wellformed` and `encFields_parts`; the order is that of `encEach`. -/
theorem derived_encodes_in_merged_order (bases : List (BaseCls (List Char) Schema))
    (body : List (List Char × Decl Schema)) (fs : List (List Char × Schema)) (vs : List Value) (b : Bytes)
    (hm : mergeFields bases body = .ok fs) (he : encFields (fs.map (·.2)) vs = .ok b) :
    fs = assignAll (expand bases (visible body)) ∧ TlvSeq b ∧
      ∃ parts, encEach (fs.map (·.2)) vs = .ok parts ∧ b = concatB parts ∧ ∀ p ∈ parts, TlvSeq p :=
  ⟨merge_is_assignment bases body fs hm, enc_wellformed _ vs b he, encFields_parts _ vs b he⟩

section MergeExamples
/-- the class of the documentation: `class Derived(Base): m1; _base = IncludeBase(Base); m3`, and an
    override of `m2` declared after the including, which stays where `m2` stood -/
example : mergeFields [some [("m2".toList, Schema.uint 2 none)]]
    [("m1".toList, .field (.uint 1 none)), ("_base".toList, .includeBase 0), ("m3".toList, .field (.uint 3 none)),
     ("m2".toList, .field (.uint 5 (some 2)))]
    = .ok [("m1".toList, .uint 1 none), ("m2".toList, .uint 5 (some 2)), ("m3".toList, .uint 3 none)] := by rfl
/-- a base that is not included contributes nothing; dunder attributes are not looked at -/
example : mergeFields [some [("m2".toList, Schema.uint 2 none)]]
    [("m1".toList, .field (.uint 1 none)), ("__x".toList, .includeBase 0)]
    = .ok [("m1".toList, .uint 1 none)] := by rfl
/-- `IncludeBase` of a class that is not a direct base -/
example : mergeFields (α := Schema) [some []] [("_b".toList, .includeBase 1)] = .error .includeBaseError := by rfl
end MergeExamples

/-- Whatever `parse` accepts — from **any** byte string — is well-formed in the sense the encoder theorems need:
    a legal assignment for the schema (`fitsFs`), every integer below 2^64, every byte string / name at most as
    long as the wire it was read from (`boundedL`). -/
theorem parse_wf (fs : List Schema) (ic : Bool) (w : Bytes) (vs : List Value) (hw : wfTop fs = true)
    (h : parse fs ic w = .ok vs) : fitsFs fs vs = true ∧ boundedL w.length vs = true := by
  simp only [wfTop, Bool.and_eq_true] at hw
  exact parse_accept fs ic w vs hw.1 h

/-- decode ∘ encode ∘ decode = decode: when an accepted wire's model is encoded again, the result decodes (with
    either setting of `ignore_critical`) to exactly the model that was accepted.  The one premise is that `encode`
    succeeds; `reencode_succeeds` says when it must. -/
theorem reencode_parses_back (fs : List Schema) (ic : Bool) (w : Bytes) (vs : List Value) (b : Bytes)
    (hw : wfTop fs = true) (h : parse fs ic w = .ok vs) (he : encFields fs vs = .ok b) :
    ∀ ic', parse fs ic' b = .ok vs :=
  fun ic' => parse_enc_roundtrip fs vs b ic' hw (parse_wf fs ic w vs hw h).1 he

/-- For a class without `fixed_len` integer fields whose Type numbers fit 64 bits (`reFs`) and a wire shorter than
    2^64 bytes, re-encoding what `parse` accepted succeeds, is not longer than the wire, and decodes to the accepted
    model.  Why the side conditions: `write_tl_num` cannot write a Length of 2^64 or more; and the decoder accepts
    any of the widths 1, 2, 4, 8 for every integer field, so a `fixed_len=1` field can come back as 300, which
    `encode` refuses (`ValueError`, see the example below). -/
theorem reencode_succeeds (fs : List Schema) (ic : Bool) (w : Bytes) (vs : List Value)
    (hw : wfTop fs = true) (hr : reFs fs = true) (hlen : w.length < 2 ^ 64) (h : parse fs ic w = .ok vs) :
    ∃ b, encFields fs vs = .ok b ∧ b.length ≤ w.length ∧ ∀ ic', parse fs ic' b = .ok vs := by
  have hw' := hw
  simp only [wfTop, Bool.and_eq_true] at hw'
  obtain ⟨b, h1, h2⟩ := reencode_ok fs ic w vs hw'.1 hr hlen h
  exact ⟨b, h1, h2, reencode_parses_back fs ic w vs b hw h h1⟩

/-- For **every** well-formed class (with `fixed_len` fields too) and every accepted wire, re-encoding the accepted
    model either succeeds — and then decodes to that model — or raises `ValueError` (an integer wider than the
    field's `fixed_len`) or `struct.error` (a Type or Length that does not fit 64 bits); never `TypeError`. -/
theorem reencode_fails_only (fs : List Schema) (ic : Bool) (w : Bytes) (vs : List Value)
    (hw : wfTop fs = true) (h : parse fs ic w = .ok vs) :
    (∃ b, encFields fs vs = .ok b ∧ ∀ ic', parse fs ic' b = .ok vs) ∨
    encFields fs vs = .error .valueError ∨ encFields fs vs = .error .structError := by
  cases he : encFields fs vs with
  | ok b => exact .inl ⟨b, rfl, reencode_parses_back fs ic w vs b hw h he⟩
  | error e =>
    right
    rcases encFields_reErr fs vs (parse_wf fs ic w vs hw h).1 e he with rfl | rfl
    · exact .inl rfl
    · exact .inr rfl

/-! a wire with a non-minimal integer, an unknown non-critical element and a repeated dict key is accepted; its
    model re-encodes to a shorter wire that decodes to the same model -/
example : reFs exMapFs = true := by decide
example : parse exMapFs false
    [0x81, 2, 0, 1, 0x64, 1, 0, 0x85, 1, 107, 0x87, 1, 9, 0x85, 1, 107, 0x87, 1, 5, 0x85, 2, 0xC3, 0xA9, 0x87, 2, 1, 0,
     0x91, 10, 0x89, 1, 7, 0x8b, 5, 7, 3, 8, 1, 97] = .ok exMapVs := by rfl
example : encFields exMapFs exMapVs = .ok exMapWire ∧ parse exMapFs false exMapWire = .ok exMapVs := ⟨rfl, rfl⟩
/-- why `fixed_len` is excluded: a 2-byte integer is accepted for a `fixed_len=1` field and cannot be re-encoded -/
example : parse [.uint 0x81 (some 1)] false [0x81, 2, 1, 44] = .ok [.uint 300] ∧
    encFields [.uint 0x81 (some 1)] [.uint 300] = .error .valueError := ⟨rfl, rfl⟩

end Ndn.C08
