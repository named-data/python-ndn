import NdnModel.Hmac
import NdnProofs.Lemmas.Sha256Eval
/-!
# C02 — the model's HMAC-SHA256 (and with it its SHA-256) on published test vectors

RFC 4231 test cases 1-4, 6 and 7 (case 5 is a truncated output), SHA-256 of "abc" (the FIPS 180 example) and of the
empty message.
Evaluated by the Lean kernel (`decide +kernel`; no compiler, no `native_decide`), after `Sha256.sha256` has been
rewritten into the equal `Sha256.sha256N` (`Lemmas/Sha256Eval`), whose `Nat` arithmetic the kernel evaluates directly.
The same function is compared with `hmac` / `hashlib` and with the library's signer and checker objects on every
generated case by the check.
-/
namespace Ndn.C02
open Ndn Ndn.Hmac

/-- RFC 4231 test case 1 -/
example : hmacSha256 (List.replicate 20 11)
    ([72, 105, 32, 84, 104, 101, 114, 101]) =
    [176, 52, 76, 97, 216, 219, 56, 83, 92, 168, 175, 206, 175, 11, 241, 43, 136, 29, 194, 0, 201, 131, 61, 167, 38, 233, 55, 108, 46, 50, 207, 247] := by
  rw [hmacSha256, Sha256.sha256_eq_sha256N]
  decide +kernel
/-- RFC 4231 test case 2 -/
example : hmacSha256 ([74, 101, 102, 101])
    ([119, 104, 97, 116, 32, 100, 111, 32, 121, 97, 32, 119, 97, 110, 116, 32, 102, 111, 114, 32, 110, 111, 116, 104, 105, 110, 103, 63]) =
    [91, 220, 193, 70, 191, 96, 117, 78, 106, 4, 36, 38, 8, 149, 117, 199, 90, 0, 63, 8, 157, 39, 57, 131, 157, 236, 88, 185, 100, 236, 56, 67] := by
  rw [hmacSha256, Sha256.sha256_eq_sha256N]
  decide +kernel
/-- RFC 4231 test case 3 -/
example : hmacSha256 (List.replicate 20 170)
    (List.replicate 50 221) =
    [119, 62, 169, 30, 54, 128, 14, 70, 133, 77, 184, 235, 208, 145, 129, 167, 41, 89, 9, 139, 62, 248, 193, 34, 217, 99, 85, 20, 206, 213, 101, 254] := by
  rw [hmacSha256, Sha256.sha256_eq_sha256N]
  decide +kernel
/-- RFC 4231 test case 4 -/
example : hmacSha256 ([1, 2, 3, 4, 5, 6, 7, 8, 9, 10, 11, 12, 13, 14, 15, 16, 17, 18, 19, 20, 21, 22, 23, 24, 25])
    (List.replicate 50 205) =
    [130, 85, 138, 56, 154, 68, 60, 14, 164, 204, 129, 152, 153, 242, 8, 58, 133, 240, 250, 163, 229, 120, 248, 7, 122, 46, 63, 244, 103, 41, 102, 91] := by
  rw [hmacSha256, Sha256.sha256_eq_sha256N]
  decide +kernel
/-- RFC 4231 test case 6 -/
example : hmacSha256 (List.replicate 131 170)
    ([84, 101, 115, 116, 32, 85, 115, 105, 110, 103, 32, 76, 97, 114, 103, 101, 114, 32, 84, 104, 97, 110, 32, 66, 108, 111, 99, 107, 45, 83, 105, 122, 101, 32, 75, 101, 121, 32, 45, 32, 72, 97, 115, 104, 32, 75, 101, 121, 32, 70, 105, 114, 115, 116]) =
    [96, 228, 49, 89, 30, 224, 182, 127, 13, 138, 38, 170, 203, 245, 183, 127, 142, 11, 198, 33, 55, 40, 197, 20, 5, 70, 4, 15, 14, 227, 127, 84] := by
  rw [hmacSha256, Sha256.sha256_eq_sha256N]
  decide +kernel
/-- RFC 4231 test case 7 -/
example : hmacSha256 (List.replicate 131 170)
    ([84, 104, 105, 115, 32, 105, 115, 32, 97, 32, 116, 101, 115, 116, 32, 117, 115, 105, 110, 103, 32, 97, 32, 108, 97, 114, 103, 101, 114, 32, 116, 104, 97, 110, 32, 98, 108, 111, 99, 107, 45, 115, 105, 122, 101, 32, 107, 101, 121, 32, 97, 110, 100, 32, 97, 32, 108, 97, 114, 103, 101, 114, 32, 116, 104, 97, 110, 32, 98, 108, 111, 99, 107, 45, 115, 105, 122, 101, 32, 100, 97, 116, 97, 46, 32, 84, 104, 101, 32, 107, 101, 121, 32, 110, 101, 101, 100, 115, 32, 116, 111, 32, 98, 101, 32, 104, 97, 115, 104, 101, 100, 32, 98, 101, 102, 111, 114, 101, 32, 98, 101, 105, 110, 103, 32, 117, 115, 101, 100, 32, 98, 121, 32, 116, 104, 101, 32, 72, 77, 65, 67, 32, 97, 108, 103, 111, 114, 105, 116, 104, 109, 46]) =
    [155, 9, 255, 167, 27, 148, 47, 203, 39, 99, 95, 188, 213, 176, 233, 68, 191, 220, 99, 100, 79, 7, 19, 147, 138, 127, 81, 83, 92, 58, 53, 226] := by
  rw [hmacSha256, Sha256.sha256_eq_sha256N]
  decide +kernel

/-- SHA-256 of the empty message and of "abc" -/
example : Sha256.sha256 [] =
    [227, 176, 196, 66, 152, 252, 28, 20, 154, 251, 244, 200, 153, 111, 185, 36, 39, 174, 65, 228, 100, 155, 147, 76,
     164, 149, 153, 27, 120, 82, 184, 85] := by
  rw [Sha256.sha256_eq_sha256N]
  decide +kernel
example : Sha256.sha256 [97, 98, 99] =
    [186, 120, 22, 191, 143, 1, 207, 234, 65, 65, 64, 222, 93, 174, 34, 35, 176, 3, 97, 163, 150, 23, 122, 156,
     180, 16, 255, 97, 242, 0, 21, 173] := by
  rw [Sha256.sha256_eq_sha256N]
  decide +kernel

end Ndn.C02
