import NdnProofs.Lemmas.Lvs.Sanity
import NdnProofs.Lemmas.Lvs.Sem
import NdnProofs.Lemmas.Lvs.Tables
import NdnProofs.Lemmas.Lvs.Example
import NdnProofs.Lemmas.Lvs.CompileSane
import NdnProofs.Lemmas.Lvs.CompileMergeGen
import NdnProofs.Lemmas.Lvs.CompileExample
import NdnProofs.Lemmas.Lvs.SrcExec
import NdnProofs.Lemmas.Lvs.SrcRename
import NdnProofs.Lemmas.Lvs.KeyPath
/-!
# C11 — a compiled trust schema matches exactly the names it describes

Model: `Ndn.Lvs.matchIter` (`Checker._match`, the iterative back-tracking search), `matchTree` (the same search by
recursion on the name), `matchNames` (`Checker.match`).  Specification (`NdnModel/Lvs/Sem.lean`): `Matches m fns σ name n σ'`,
a path of the compiled tree from the start node to `n` whose edges accept the components of `name`, ending with bindings `σ'`.

The compiler is modelled as well (`NdnModel/Lvs/{Ast,Compile}.lean`: the passes of `compiler.py` as written, from the parsed
AST to the `Model` value); the harness compares the node pool of the Lean compiler with that of `compile_lvs` on every
generated schema.  Source semantics (`NdnModel/Lvs/SrcSem.lean`, a transcription of docs/src/lvs/lvs.rst that knows nothing
of the compiler): `SrcMatches S fns rid σ name σ'`.

Proved: the matcher against `Matches` on every sane model; every model the compiler emits for an AST the parser can produce
is `Sane` (`C13.compile_structure_sane`) and `VDet` (`compiled_vdet`); and `compile_correct_wf`: `Checker.match` on the
compiled model reports rule `rid` with bindings `σ'` iff the name matches `rid` as written with these bindings.
The layers: numbering and replication (`chains_are_expansions`), a chain accepts what its expansion matches
(`chain_accepts_iff_src`), node merging (`tree_eq_chains`, which needs the merge key to determine tag and constraints:
`KeyInj`, proved for every parsable schema in `keyInj_of_wf`).

Not proved: model = code (sampled by the correspondence run).
-/
namespace Ndn.C11
open Ndn Ndn.Lvs

/-- If no exception left the iterative search, it yielded exactly the list of the recursive matcher, whatever the user
    functions. -/
theorem matchIter_eq_matchTree (m : Model) (hs : Sane m) (env : FnEnv) (name : List Bytes) (σ : Ctx)
    (hne : (matchIter m env name σ).err = none) :
    (matchIter m env name σ).cur = none ∧
    (matchIter m env name σ).outs = matchTree m env name m.startId σ ∧
    (matchIter m env name σ).ctx = σ :=
  ⟨matchIter_halts m hs.treeOK env name σ, matchIter_outs_of_no_err m hs.treeOK env name σ hne⟩

theorem matchIter_no_exception (m : Model) (hs : Sane m) (env : FnEnv) (henv : EnvTotal env)
    (name : List Bytes) (σ : Ctx) : (matchIter m env name σ).err = none :=
  matchIter_no_err m hs env henv name σ

theorem matchTree_sound (m : Model) (env : FnEnv) (name : List Bytes) (σ : Ctx) (n : Nat) (σ' : Ctx)
    (h : (n, σ') ∈ matchTree m env name m.startId σ) : Matches m (pureOf env) σ name n σ' :=
  Ndn.Lvs.matchTree_sound m env h

/-- Whatever the `user_fns` dictionary: what the search yields before it ends or raises is a match of the specification
    (missing / raising functions read as false). -/
theorem matchIter_sound (m : Model) (hs : Sane m) (env : FnEnv) (name : List Bytes) (σ : Ctx) (n : Nat) (σ' : Ctx)
    (h : (n, σ') ∈ (matchIter m env name σ).outs) : Matches m (pureOf env) σ name n σ' :=
  Ndn.Lvs.matchTree_sound m env (matchIter_outs_subset m hs.treeOK env name σ _ h)

theorem matchTree_iff_Sem (m : Model) (hs : Sane m) (hv : VDet m) (env : FnEnv) (henv : EnvTotal env)
    (name : List Bytes) (σ : Ctx) (n : Nat) (σ' : Ctx) :
    (n, σ') ∈ matchTree m env name m.startId σ ↔ Matches m (pureOf env) σ name n σ' :=
  mem_matchTree_iff hs hv henv

/-- The compiled-model layer of `compile_correct`, with nothing about `compile` in the statement: on a sane model the
    iterative checker reports exactly the matches of the tree.  `VDet` is needed and is no sanity rule: of the value edges
    that carry the component `_match` follows the first only. -/
theorem compile_correct_partial (m : Model) (hs : Sane m) (hv : VDet m) (env : FnEnv) (henv : EnvTotal env)
    (name : List Bytes) (σ : Ctx) (n : Nat) (σ' : Ctx) :
    (n, σ') ∈ (matchIter m env name σ).outs ↔ Matches m (pureOf env) σ name n σ' :=
  mem_outs_iff hs hv henv

/-- The same for the compiler's output on any AST the parser can produce; no hypothesis on the model is left (it is
    `Sane` whether or not `top_order` then finds a signing loop). -/
theorem compiled_match_iff (S : Schema) (hwf : S.WF) (m : Model) (syms : List String)
    (h : compile S = .ok (m, syms)) (env : FnEnv) (henv : EnvTotal env)
    (name : List Bytes) (σ : Ctx) (n : Nat) (σ' : Ctx) :
    (n, σ') ∈ (matchIter m env name σ).outs ↔ Matches m (pureOf env) σ name n σ' :=
  compile_correct_partial m (compile_built S hwf m syms h).sane (compile_vdet S m syms h) env henv name σ n σ'

/-- Numbering and replication: the chains the tree is generated from are, rule by rule, the expansions of the definitions
    of the text (`Impl`: position by position the numbered form of the expansion), with the definition's signers. -/
theorem chains_are_expansions (S : Schema) (chains : List Chain) (syms : List String) (h : chainsOf S = .ok (chains, syms)) :
    (∀ c ∈ chains, ∃ r ∈ renameTemps S.rules 1, r.id = c.id ∧ c.sign = isort strLe r.sign ∧
      ∃ f, ExpandsDef ⟨renameTemps S.rules 1⟩ r f ∧ Impl syms c f) ∧
    (∀ q f, Expands ⟨renameTemps S.rules 1⟩ q f → ∃ c ∈ chains, c.id = q ∧ Impl syms c f) := by
  exact ⟨fun c hc => ((chainsOf_sem S chains syms h).2.1 c hc).2, fun _ _ hf => chainsOf_complete S chains syms h hf⟩

/-- A chain accepts what the text says: some chain of `rid` runs on `name` iff `name` matches `rid` in the source
    semantics, with the same bindings up to `encCtx`. -/
theorem chain_accepts_iff_src (S : Schema) (chains : List Chain) (syms : List String) (h : chainsOf S = .ok (chains, syms))
    (fns : PureEnv) (σ : SCtx) (hσ : SCtxIn syms σ) (name : List Bytes) (σn' : Ctx) (rid : String) :
    (∃ rc ∈ chains, rc.id = rid ∧ ChainRun fns rc rc.name [] (encCtx syms σ) name σn') ↔
      ∃ σ', σn' = encCtx syms σ' ∧ SrcMatches ⟨renameTemps S.rules 1⟩ fns rid σ name σ' :=
  chains_iff_src S chains syms h fns σ hσ name σn' rid

/-- Node merging (passes 4-5) preserves what is accepted: a name is matched at a node carrying rule `rid` iff one of the
    chains of `rid` (passes 1-3) accepts it on its own.  `KeyInj`: the merge key `pattern_movement` computes determines tag
    and constraints. -/
theorem tree_eq_chains (S : Schema) (chains : List Chain) (named : List String) (m : Model)
    (h1 : chainsOf S = .ok (chains, named)) (h2 : buildModel chains named = .ok m) (hkey : KeyInj chains)
    (fns : PureEnv) (σ : Ctx) (hσ : CtxLe named.length σ) (name : List Bytes) (σ' : Ctx) (rid : String) :
    (∃ n node, Matches m fns σ name n σ' ∧ m.nodes[n]? = some node ∧ rid ∈ node.ruleNames) ↔
      ∃ rc ∈ chains, rc.id = rid ∧ ChainRun fns rc rc.name [] σ name σ' :=
  buildModel_sem chains named m h2 hkey (chainsOf_tagsLe S chains named h1) fns σ hσ name σ' rid

/-- `keyInjB` is the test the model drivers evaluate on the chains of every generated schema. -/
theorem merge_key_test_sound (chains : List Chain) (h : keyInjB chains = true) : KeyInj chains :=
  keyInj_of_keyInjB chains h

theorem compile_split (S : Schema) (m : Model) (syms : List String) (h : compile S = .ok (m, syms)) :
    ∃ chains, chainsOf S = .ok (chains, syms) ∧ buildModel chains syms = .ok m :=
  compile_ok_inv h

/-- `tree_eq_chains` for what the iterative search reports on a compiled schema. -/
theorem checker_reports_iff_chain (S : Schema) (hwf : S.WF) (m : Model) (syms : List String) (chains : List Chain)
    (h : compile S = .ok (m, syms)) (hch : chainsOf S = .ok (chains, syms)) (hkey : KeyInj chains)
    (env : FnEnv) (henv : EnvTotal env) (σ : Ctx) (hσ : CtxLe syms.length σ) (name : List Bytes) (σ' : Ctx)
    (rid : String) :
    (∃ n node, (n, σ') ∈ (matchIter m env name σ).outs ∧ m.nodes[n]? = some node ∧ rid ∈ node.ruleNames) ↔
      ∃ rc ∈ chains, rc.id = rid ∧ ChainRun (pureOf env) rc rc.name [] σ name σ' := by
  obtain ⟨chains', hch', hb⟩ := compile_split S m syms h
  obtain rfl : chains = chains' := (Prod.mk.inj (Except.ok.inj (hch.symm.trans hch'))).1
  rw [← tree_eq_chains S chains syms m hch hb hkey (pureOf env) σ hσ name σ' rid]
  exact exists_congr fun n => exists_congr fun node =>
    and_congr_left' (compiled_match_iff S hwf m syms h env henv name σ n σ')

/-- `KeyInj` holds for every schema the parser can produce (`Schema.WF`: a user-function name contains none of `(` `,` `}`;
    the grammar gives `$` + C identifier): the key `str(tag) + ':' + '{' option ',' … '}' …`, an option being `v=`hex,
    `t=`number or `name(`arguments`)`, parses back uniquely. -/
theorem keyInj_of_wf (S : Schema) (hwf : S.WF) (chains : List Chain) (syms : List String)
    (h : chainsOf S = .ok (chains, syms)) : KeyInj chains :=
  Ndn.Lvs.keyInj_of_wf S hwf chains syms h

/-- The drivers' test is true on every well-formed schema: a `0` from a driver means a schema outside what the parser can
    produce, never a property of a parsed text. -/
theorem merge_key_test_holds (S : Schema) (hwf : S.WF) (chains : List Chain) (syms : List String)
    (h : chainsOf S = .ok (chains, syms)) : keyInjB chains = true :=
  keyInjB_of_keyInj chains (keyInj_of_wf S hwf chains syms h)

/-- The condition on user-function names is needed: with `,` (resp. `}`) inside a name, one option `$f(),$g()` and the two
    options `$f()`, `$g()` (resp. one constraint and two) get the same merge key.  No schema text produces such a name
    (`FN_IDENT: "$" CNAME`). -/
theorem keyInj_counterexample : ¬ KeyInj badCommaChains ∧ ¬ KeyInj badBraceChains :=
  ⟨fun h => Bool.false_ne_true (badChains_keyInjB.1.symm.trans (keyInjB_of_keyInj _ h)),
   fun h => Bool.false_ne_true (badChains_keyInjB.2.symm.trans (keyInjB_of_keyInj _ h))⟩

theorem checker_reports_iff_chain_wf (S : Schema) (hwf : S.WF) (m : Model) (syms : List String) (chains : List Chain)
    (h : compile S = .ok (m, syms)) (hch : chainsOf S = .ok (chains, syms))
    (env : FnEnv) (henv : EnvTotal env) (σ : Ctx) (hσ : CtxLe syms.length σ) (name : List Bytes) (σ' : Ctx)
    (rid : String) :
    (∃ n node, (n, σ') ∈ (matchIter m env name σ).outs ∧ m.nodes[n]? = some node ∧ rid ∈ node.ruleNames) ↔
      ∃ rc ∈ chains, rc.id = rid ∧ ChainRun (pureOf env) rc rc.name [] σ name σ' :=
  checker_reports_iff_chain S hwf m syms chains h hch (keyInj_of_wf S hwf chains syms hch) env henv σ hσ name σ' rid

/-- Source semantics = what `Checker.match` reports on the compiled model: from initial bindings `σ` over the named patterns
    (`[]` for `match`; the packet's bindings when `check` matches the key name) the checker yields a node carrying rule `rid`
    with bindings `σn'` iff the name matches `rid` as written (`SrcMatches`, docs/src/lvs/lvs.rst) with bindings whose
    numbered form (`encCtx`) is `σn'`.  Temporary rules stand under the identifier pass 1 gives them (`#_x#k`). -/
theorem compile_correct (S : Schema) (hwf : S.WF) (m : Model) (syms : List String) (h : compile S = .ok (m, syms))
    (hkey : ∀ chains, chainsOf S = .ok (chains, syms) → KeyInj chains)
    (env : FnEnv) (henv : EnvTotal env) (σ : SCtx) (hσ : SCtxIn syms σ) (name : List Bytes) (σn' : Ctx) (rid : String) :
    (∃ n node, (n, σn') ∈ (matchIter m env name (encCtx syms σ)).outs ∧ m.nodes[n]? = some node ∧ rid ∈ node.ruleNames) ↔
      ∃ σ', σn' = encCtx syms σ' ∧ SrcMatches ⟨renameTemps S.rules 1⟩ (pureOf env) rid σ name σ' := by
  obtain ⟨chains, hch, _⟩ := compile_split S m syms h
  rw [checker_reports_iff_chain S hwf m syms chains h hch (hkey chains hch) env henv (encCtx syms σ)
    (ctxLe_encCtx hσ) name σn' rid]
  exact chains_iff_src S chains syms hch (pureOf env) σ hσ name σn' rid

/-- `compile_correct` with no hypothesis left on the merge key. -/
theorem compile_correct_wf (S : Schema) (hwf : S.WF) (m : Model) (syms : List String) (h : compile S = .ok (m, syms))
    (env : FnEnv) (henv : EnvTotal env) (σ : SCtx) (hσ : SCtxIn syms σ) (name : List Bytes) (σn' : Ctx) (rid : String) :
    (∃ n node, (n, σn') ∈ (matchIter m env name (encCtx syms σ)).outs ∧ m.nodes[n]? = some node ∧ rid ∈ node.ruleNames) ↔
      ∃ σ', σn' = encCtx syms σ' ∧ SrcMatches ⟨renameTemps S.rules 1⟩ (pureOf env) rid σ name σ' :=
  compile_correct S hwf m syms h (fun chains hch => keyInj_of_wf S hwf chains syms hch) env henv σ hσ name σn' rid

/-- `compile_correct` for `Checker.match`, the merge-key hypothesis replaced by the drivers' test. -/
theorem compile_correct_keytest (S : Schema) (hwf : S.WF) (m : Model) (syms : List String) (h : compile S = .ok (m, syms))
    (hkey : ∀ chains, chainsOf S = .ok (chains, syms) → keyInjB chains = true)
    (env : FnEnv) (henv : EnvTotal env) (name : List Bytes) (σn' : Ctx) (rid : String) :
    (∃ n node, (n, σn') ∈ (matchIter m env name []).outs ∧ m.nodes[n]? = some node ∧ rid ∈ node.ruleNames) ↔
      ∃ σ', σn' = encCtx syms σ' ∧ SrcMatches ⟨renameTemps S.rules 1⟩ (pureOf env) rid [] name σ' :=
  compile_correct S hwf m syms h (fun chains hch => merge_key_test_sound chains (hkey chains hch)) env henv []
    (by intro p hp; simp at hp) name σn' rid

/-- For a rule that is not temporary the statement holds for the text exactly as written. -/
theorem compile_correct_named (S : Schema) (hwf : S.WF) (m : Model) (syms : List String) (h : compile S = .ok (m, syms))
    (hkey : ∀ chains, chainsOf S = .ok (chains, syms) → KeyInj chains)
    (env : FnEnv) (henv : EnvTotal env) (σ : SCtx) (hσ : SCtxIn syms σ) (name : List Bytes) (σn' : Ctx) (rid : String)
    (hrid : isTempRule rid = false) :
    (∃ n node, (n, σn') ∈ (matchIter m env name (encCtx syms σ)).outs ∧ m.nodes[n]? = some node ∧ rid ∈ node.ruleNames) ↔
      ∃ σ', σn' = encCtx syms σ' ∧ SrcMatches S (pureOf env) rid σ name σ' := by
  rw [compile_correct S hwf m syms h hkey env henv σ hσ name σn' rid]
  exact exists_congr fun σ' => and_congr_right' (srcMatches_rename S _ rid hrid σ name σ')

/-- `compile_correct_named` with no hypothesis left on the merge key. -/
theorem compile_correct_named_wf (S : Schema) (hwf : S.WF) (m : Model) (syms : List String) (h : compile S = .ok (m, syms))
    (env : FnEnv) (henv : EnvTotal env) (σ : SCtx) (hσ : SCtxIn syms σ) (name : List Bytes) (σn' : Ctx) (rid : String)
    (hrid : isTempRule rid = false) :
    (∃ n node, (n, σn') ∈ (matchIter m env name (encCtx syms σ)).outs ∧ m.nodes[n]? = some node ∧ rid ∈ node.ruleNames) ↔
      ∃ σ', σn' = encCtx syms σ' ∧ SrcMatches S (pureOf env) rid σ name σ' :=
  compile_correct_named S hwf m syms h (fun chains hch => keyInj_of_wf S hwf chains syms hch) env henv σ hσ name σn' rid hrid

/-- The executable source semantics (what the drivers answer to `src-match`, and the harness compares with the real
    `Checker.match` and the Python oracle) lists exactly the pairs of `SrcMatches`, for every schema pass 1 accepts. -/
theorem srcMatch_computes (S : Schema) (srules : List SRule) (h : sortRuleReferences S = .ok srules) (fns : PureEnv)
    (σ : SCtx) (name : List Bytes) (rid : String) (σ' : SCtx) :
    (rid, σ') ∈ srcMatch ⟨renameTemps S.rules 1⟩ fns σ name ↔
      SrcMatches ⟨renameTemps S.rules 1⟩ fns rid σ name σ' := by
  simp only [srcMatch, List.mem_flatMap, List.mem_filterMap]
  constructor
  · rintro ⟨r, hr, f, hf, hm⟩
    split at hm
    · rename_i σ1 hrun
      obtain ⟨rfl, rfl⟩ := Prod.mk.inj (Option.some.inj hm)
      exact ⟨f, expands_iff.mpr ⟨r, hr, rfl, (mem_flatsOfDef_iff S srules h hr f).mp hf⟩, hrun⟩
    · exact nomatch hm
  · rintro ⟨f, hf, hrun⟩
    obtain ⟨r, hr, hrq, hdef⟩ := expands_iff.mp hf
    exact ⟨r, hr, f, (mem_flatsOfDef_iff S srules h hr f).mpr hdef, by rw [hrun, hrq]⟩

/-- the compiler emits one value edge per distinct component -/
theorem compiled_vdet (S : Schema) (m : Model) (syms : List String) (h : compile S = .ok (m, syms)) : VDet m :=
  compile_vdet S m syms h

/-- `Checker.match` reports the rule names of the matched nodes, after dropping a trailing implicit digest. -/
theorem matchNames_spec (m : Model) (hs : Sane m) (env : FnEnv) (henv : EnvTotal env)
    (name nm : List Bytes) (hd : dropDigest name = some nm) :
    matchNames m env name =
      .ok ((matchTree m env nm m.startId []).map (fun o => (ruleNamesOf m o.1, o.2)), none) := by
  unfold matchNames
  rw [stripDigest_eq, hd]
  simp only [matchIter_no_err m hs env henv nm [],
    (matchIter_outs_of_no_err m hs.treeOK env nm [] (matchIter_no_err m hs env henv nm [])).1]

/-! ### non-vacuity (schema `#p: "d"/x <= #k`, `#k: "k"/x & {x: "a"|"b"}`) -/

open Example in
example : Sane model := Ndn.Lvs.sane_of_structCheck _ (by decide +kernel)
open Example in
/-- `/k/a` matches `#k` with `x = a`; `/k/e` matches nothing -/
example : matchTree model allFns [cK, cA] 0 [] = [(4, [(1, cA)])] ∧ matchTree model allFns [cK, cE] 0 [] = [] := by
  decide +kernel
open Example in
example : Matches model (pureOf allFns) [] [cK, cA] 4 [(1, cA)] :=
  matchTree_sound model allFns [cK, cA] [] 4 [(1, cA)] (by decide +kernel)
theorem example_outs : (matchIter Example.model Example.allFns [Example.cD, Example.cE] []).outs = [(2, [(1, Example.cE)])] := by
  decide +kernel
theorem example_matches : Matches Example.model (pureOf Example.allFns) [] [Example.cD, Example.cE] 2 [(1, Example.cE)] :=
  (compiled_match_iff Example.schema Example.schema_wf Example.model ["x"] Example.compile_schema Example.allFns
    Example.allFns_envTotal [Example.cD, Example.cE] [] 2 [(1, Example.cE)]).mp (example_outs ▸ List.mem_singleton_self _)
open Example in
example : (matchIter model allFns [cD, cE] []).outs = [(2, [(1, cE)])] := example_outs
/-- the schema compiles (in the compiler model) to the model of these examples -/
example : compile Example.schema = .ok (Example.model, ["x"]) := Example.compile_schema
example : VDet Example.model := compiled_vdet _ _ _ Example.compile_schema
example : KeyInj Example.chains := merge_key_test_sound _ (by decide +kernel)
example : KeyInj Example.chains := keyInj_of_wf Example.schema Example.schema_wf _ _ Example.chainsOf_schema
example : keyInjB Example.chains = true := merge_key_test_holds Example.schema Example.schema_wf _ _ Example.chainsOf_schema
theorem example_chainRun : ∃ rc ∈ Example.chains, rc.id = "#p" ∧
    ChainRun (pureOf Example.allFns) rc rc.name [] [] [Example.cD, Example.cE] [(1, Example.cE)] :=
  (tree_eq_chains Example.schema Example.chains ["x"] Example.model Example.chainsOf_schema Example.buildModel_chains
    Example.keyInj_chains (pureOf Example.allFns) [] (by nofun)
    [Example.cD, Example.cE] [(1, Example.cE)] "#p").mp
    ⟨2, Example.model.nodes[2]'(by decide +kernel), example_matches, by decide +kernel⟩

/-- node merging on the example: `/d/e` reaches a node of `#p` with `x = e` iff a chain of `#p` runs on it -/
example : ∃ rc ∈ Example.chains, rc.id = "#p" ∧
    ChainRun (pureOf Example.allFns) rc rc.name [] [] [Example.cD, Example.cE] [(1, Example.cE)] :=
  example_chainRun
example : ∃ n node, (n, [(1, Example.cE)]) ∈ (matchIter Example.model Example.allFns [Example.cD, Example.cE] []).outs ∧
    Example.model.nodes[n]? = some node ∧ "#p" ∈ node.ruleNames :=
  (checker_reports_iff_chain Example.schema Example.schema_wf Example.model ["x"] Example.chains Example.compile_schema
    Example.chainsOf_schema Example.keyInj_chains Example.allFns Example.allFns_envTotal []
    (by nofun) [Example.cD, Example.cE] [(1, Example.cE)] "#p").mpr example_chainRun
open Example in
example : Matches model (pureOf allFns) [] [cD, cE] 2 [(1, cE)] := example_matches

theorem example_src {rid : String} {name : List Bytes} {σ' : SCtx}
    (h : (rid, σ') ∈ srcMatch ⟨renameTemps Example.schema.rules 1⟩ (pureOf Example.allFns) [] name) :
    SrcMatches ⟨renameTemps Example.schema.rules 1⟩ (pureOf Example.allFns) rid [] name σ' := by
  obtain ⟨r, _, _, hs, _⟩ := chainsOf_ok_inv Example.chainsOf_schema
  exact (srcMatch_computes Example.schema r hs _ [] _ rid _).mp h

theorem example_srcMatch : srcMatch ⟨renameTemps Example.schema.rules 1⟩ (pureOf Example.allFns) [] [Example.cK, Example.cA] =
    [("#k", [("x", Example.cA)])] := by decide +kernel
/-- the source semantics on the example: `/k/a` matches `#k` as written with `x = a`; `/k/e` matches nothing -/
example : srcMatch ⟨renameTemps Example.schema.rules 1⟩ (pureOf Example.allFns) [] [Example.cK, Example.cA] =
    [("#k", [("x", Example.cA)])] ∧
    srcMatch ⟨renameTemps Example.schema.rules 1⟩ (pureOf Example.allFns) [] [Example.cK, Example.cE] = [] :=
  ⟨example_srcMatch, by decide +kernel⟩
theorem example_src_k : SrcMatches ⟨renameTemps Example.schema.rules 1⟩ (pureOf Example.allFns) "#k" []
    [Example.cK, Example.cA] [("x", Example.cA)] :=
  example_src (example_srcMatch ▸ List.mem_singleton_self _)
/-- `compile_correct` on the example: the checker reports `#p` for `/d/e` with tag 1 ↦ `e`, so the text matches with `x = e` -/
example : ∃ σ', [(1, Example.cE)] = encCtx ["x"] σ' ∧
    SrcMatches ⟨renameTemps Example.schema.rules 1⟩ (pureOf Example.allFns) "#p" [] [Example.cD, Example.cE] σ' :=
  (compile_correct_keytest Example.schema Example.schema_wf Example.model ["x"] Example.compile_schema
    (fun chains hch => merge_key_test_holds _ Example.schema_wf chains _ hch)
    Example.allFns Example.allFns_envTotal [Example.cD, Example.cE] [(1, Example.cE)] "#p").mp
    ⟨2, Example.model.nodes[2]'(by decide +kernel), example_outs ▸ List.mem_singleton_self _, by decide +kernel⟩
/-- `compile_correct_wf` on the example, in the other direction: the text matches `/d/e` under `#p` with `x = e`, so the checker
    reports a node of `#p` with tag 1 ↦ `e` -/
example : ∃ n node, (n, encCtx ["x"] [("x", Example.cE)]) ∈ (matchIter Example.model Example.allFns [Example.cD, Example.cE] (encCtx ["x"] [])).outs ∧
    Example.model.nodes[n]? = some node ∧ "#p" ∈ node.ruleNames :=
  (compile_correct_wf Example.schema Example.schema_wf Example.model ["x"] Example.compile_schema
    Example.allFns Example.allFns_envTotal [] (by intro p hp; simp at hp) [Example.cD, Example.cE] _ "#p").mpr
    ⟨[("x", Example.cE)], rfl, example_src (by decide +kernel)⟩
example : ∀ q f, Expands ⟨renameTemps Example.schema.rules 1⟩ q f → ∃ c ∈ Example.chains, c.id = q ∧ Impl ["x"] c f :=
  (chains_are_expansions Example.schema Example.chains ["x"] Example.chainsOf_schema).2
example : ∃ rc ∈ Example.chains, rc.id = "#k" ∧
    ChainRun (pureOf Example.allFns) rc rc.name [] (encCtx ["x"] []) [Example.cK, Example.cA] (encCtx ["x"] [("x", Example.cA)]) :=
  (chain_accepts_iff_src Example.schema Example.chains ["x"] Example.chainsOf_schema (pureOf Example.allFns) []
    (by intro p hp; simp at hp) [Example.cK, Example.cA] _ "#k").mpr
    ⟨[("x", Example.cA)], rfl, example_src_k⟩
example : SrcMatches Example.schema (pureOf Example.allFns) "#k" [] [Example.cK, Example.cA] [("x", Example.cA)] :=
  (srcMatches_rename Example.schema _ "#k" (by decide) [] _ _).mp example_src_k

end Ndn.C11
