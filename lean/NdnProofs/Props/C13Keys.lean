import NdnProofs.Props.C13
import NdnProofs.Lemmas.Lvs.KeyExp
/-!
# C13 — the exact criterion for "a name pattern is its own signer"

`_generate_node` merges the rule chains of a schema into one tree: two chains end at the same node iff their *merge-key
paths* are equal (`Ndn.Lvs.keyPath`, `NdnModel/Lvs/KeyPath.lean`: the component values, and for every pattern the string
`RuleChain.pattern_movement` returns).  So `top_order` inside `_sanity_check` raises `SemanticError` exactly when the key
paths of the chains sign each other in a cycle (`compile_accepted_iff_keys`).

At the level of the text a *name pattern* is an expansion of a definition; two are *the same* when their keys (`Flat.keys`)
are equal: same component values, the same named patterns with the same constraints where they are met first, temporary
patterns with the same constraints, all at the same places; `s` *signs* `p` (`SrcKeySigns S p s`: the signed pattern first)
when a definition with expansion `p` lists a rule with expansion `s` after `<=`.  That no name pattern is, directly or transitively, its own signer is sufficient for
acceptance on every schema (`compile_sane_keys`; strictly finer than the shape criterion: `keySplit_example`) and exact for
every schema that writes no temporary pattern (`compile_accepted_iff_src`).  For a temporary pattern the compiler also
compares the number it gave to that occurrence, which the source semantics has no name for; there the exact criterion is the
chain-level `KeySelfSigning`.
-/
namespace Ndn.C13
open Ndn Ndn.Lvs

/-- The reachable nodes of the compiled model sign each other in a cycle iff the
    merge-key paths of the chains of the schema do. -/
theorem signCycle_iff_keySelfSigning (S : Schema) (hwf : S.WF) (m : Model) (syms : List String)
    (h : compile S = .ok (m, syms)) :
    ∃ chains, chainsOf S = .ok (chains, syms) ∧ (SignCycle m ↔ KeySelfSigning chains) := by
  obtain ⟨chains, hch, hb⟩ := compile_ok_inv h
  exact ⟨chains, hch, Ndn.Lvs.signCycle_iff_keySelfSigning chains syms m (chainsOf_ok S hwf chains syms hch) hb⟩

/-- The exact criterion: the loader accepts the compiled model iff the merge-key paths of the chains do not sign each other
    in a cycle; otherwise it raises `SemanticError`. -/
theorem compile_accepted_iff_keys (S : Schema) (hwf : S.WF) (m : Model) (syms : List String)
    (h : compile S = .ok (m, syms)) :
    ∃ chains, chainsOf S = .ok (chains, syms) ∧
      (sanityCheck m = .ok () ↔ ¬ KeySelfSigning chains) ∧
      (sanityCheck m = .error .semanticError ↔ KeySelfSigning chains) := by
  obtain ⟨chains, hch, hiff⟩ := signCycle_iff_keySelfSigning S hwf m syms h
  obtain ⟨h1, h2⟩ := compile_accepted_iff S hwf m syms h
  exact ⟨chains, hch, by rw [h1, hiff], by rw [h2, hiff]⟩

/-- A signing cycle among the reachable nodes of the compiled model is a cycle among
    the keys of the name patterns of the text. -/
theorem signCycle_srcKeySelfSigning (S : Schema) (hwf : S.WF) (m : Model) (syms : List String)
    (h : compile S = .ok (m, syms)) (hcy : SignCycle m) : SrcKeySelfSigning ⟨renameTemps S.rules 1⟩ := by
  obtain ⟨chains, hch, hiff⟩ := signCycle_iff_keySelfSigning S hwf m syms h
  exact keySelfSigning_src S hwf chains syms hch (hiff.mp hcy)

/-- The positive clause at the level of the text, for every schema: if no name pattern is, directly or transitively, its
    own signer (`SrcKeySelfSigning`), the loader accepts the compiled model. -/
theorem compile_sane_keys (S : Schema) (hwf : S.WF) (m : Model) (syms : List String)
    (h : compile S = .ok (m, syms)) (hns : ¬ SrcKeySelfSigning ⟨renameTemps S.rules 1⟩) : sanityCheck m = .ok () :=
  compile_sane S hwf m syms h fun hcy => hns (signCycle_srcKeySelfSigning S hwf m syms h hcy)

theorem static_sane_keys (S : Schema) (hwf : S.WF) (hst : StaticOK S)
    (hns : ¬ SrcKeySelfSigning ⟨renameTemps S.rules 1⟩) :
    ∃ m syms, compile S = .ok (m, syms) ∧ sanityCheck m = .ok () := by
  obtain ⟨⟨m, syms⟩, h⟩ := compile_complete S hst
  exact ⟨m, syms, h, compile_sane_keys S hwf m syms h hns⟩

/-- The exact criterion at the level of the text, for a schema that writes no temporary pattern. -/
theorem compile_accepted_iff_src (S : Schema) (hwf : S.WF) (htf : TempFree S) (m : Model) (syms : List String)
    (h : compile S = .ok (m, syms)) :
    (sanityCheck m = .ok () ↔ ¬ SrcKeySelfSigning ⟨renameTemps S.rules 1⟩) ∧
    (sanityCheck m = .error .semanticError ↔ SrcKeySelfSigning ⟨renameTemps S.rules 1⟩) := by
  obtain ⟨chains, hch, h1, h2⟩ := compile_accepted_iff_keys S hwf m syms h
  have hiff : KeySelfSigning chains ↔ SrcKeySelfSigning ⟨renameTemps S.rules 1⟩ :=
    ⟨keySelfSigning_src S hwf chains syms hch, src_keySelfSigning_tempFree S hwf htf chains syms hch⟩
  exact ⟨by rw [h1, hiff], by rw [h2, hiff]⟩

theorem static_accepted_iff_src (S : Schema) (hwf : S.WF) (htf : TempFree S) (hst : StaticOK S) :
    ∃ m syms, compile S = .ok (m, syms) ∧
      (sanityCheck m = .ok () ↔ ¬ SrcKeySelfSigning ⟨renameTemps S.rules 1⟩) ∧
      (sanityCheck m = .error .semanticError ↔ SrcKeySelfSigning ⟨renameTemps S.rules 1⟩) := by
  obtain ⟨⟨m, syms⟩, h⟩ := compile_complete S hst
  exact ⟨m, syms, h, compile_accepted_iff_src S hwf htf m syms h⟩

/-- A cycle among keys is a cycle among shapes, so `compile_sane_src` follows from `compile_sane_keys`. -/
theorem srcKey_finer_than_shape (S : Schema) (h : SrcKeySelfSigning S) : ShapeSelfSigning S :=
  srcKeySelfSigning_shape h

/-- `#a: "k"/x <= #b`, `#b: "k"/y` — the same shape, different named patterns -/
def keySplit : Schema := { rules := [
  { id := "#a", name := [.lit Example.cK, .pat "x"], cons := [], sign := ["#b"] },
  { id := "#b", name := [.lit Example.cK, .pat "y"], cons := [], sign := [] }] }

theorem keySplit_tempFree : TempFree keySplit := tempFree_of_all _ (by decide +kernel)

/-- `keySplit` is self-signing by shapes, not by keys, and the loader accepts its model: the key criterion is strictly
    finer. -/
theorem keySplit_example :
    keySplit.WF ∧ ShapeSelfSigning ⟨renameTemps keySplit.rules 1⟩ ∧ ¬ SrcKeySelfSigning ⟨renameTemps keySplit.rules 1⟩ ∧
    ∃ m syms, compile keySplit = .ok (m, syms) ∧ sanityCheck m = .ok () := by
  have hwf : keySplit.WF := Schema.wf_of_all _ (by decide +kernel)
  obtain ⟨m, syms, h1, h2⟩ := compile_accepted_of (S := keySplit) (by decide +kernel)
  have hren : renameTemps keySplit.rules 1 = keySplit.rules := by decide +kernel
  refine ⟨hwf, ?_, (compile_accepted_iff_src keySplit hwf keySplit_tempFree m syms h1).1.mp h2, m, syms, h1, h2⟩
  rw [hren]
  -- the shape `"k"/_` signs itself
  have hexA : ExpandsDef keySplit ⟨"#a", [.lit Example.cK, .pat "x"], [], ["#b"]⟩ ⟨[.lit Example.cK, .named "x"], []⟩ :=
    ⟨[], .head _, ⟨[.lit Example.cK, .named "x"], []⟩, .lit (.named (by decide +kernel) .nil), rfl⟩
  have hexB : Expands keySplit "#b" ⟨[.lit Example.cK, .named "y"], []⟩ :=
    expands_iff.mpr ⟨⟨"#b", [.lit Example.cK, .pat "y"], [], []⟩, .tail _ (.head _), rfl,
      [], .head _, ⟨[.lit Example.cK, .named "y"], []⟩, .lit (.named (by decide +kernel) .nil), rfl⟩
  refine ⟨fun sh => sh = [some Example.cK, none], ⟨_, rfl⟩, ?_⟩
  rintro s rfl
  exact ⟨_, rfl, _, .head _, _, hexA, rfl, "#b", .head _, _, hexB, rfl⟩

/-- `#a: "k"/x`, `#b: "k"/x/"a" <= #a`, `#c: "k"/x <= #b` — `#a` and `#c` end at one node, `#b` continues below it -/
def prefixMerged : Schema := { rules := [
  { id := "#a", name := [.lit Example.cK, .pat "x"], cons := [], sign := [] },
  { id := "#b", name := [.lit Example.cK, .pat "x", .lit Example.cA], cons := [], sign := ["#a"] },
  { id := "#c", name := [.lit Example.cK, .pat "x"], cons := [], sign := ["#b"] }] }

/-- The rule-level signing graph `#c → #b → #a` is acyclic, and the loader refuses the model: the chains of `#a` and `#c`
    have the same key path, so the node they share is signed by the node of `#b`, which is signed by that shared node. -/
theorem prefixMerged_example :
    prefixMerged.WF ∧ StaticOK prefixMerged ∧ ¬ RuleSignCycle prefixMerged ∧
    SrcKeySelfSigning ⟨renameTemps prefixMerged.rules 1⟩ ∧
    ∃ m syms, compile prefixMerged = .ok (m, syms) ∧ sanityCheck m = .error .semanticError := by
  have hwf : prefixMerged.WF := Schema.wf_of_all _ (by decide +kernel)
  obtain ⟨m, syms, h1, h2⟩ := compile_refused_of (S := prefixMerged) (by decide +kernel)
  have htf : TempFree prefixMerged := tempFree_of_all _ (by decide +kernel)
  exact ⟨hwf, (compile_ok_iff_static _).1.mp ⟨_, h1⟩, not_ruleSignCycle_of_order _ ["#c", "#b", "#a"] (by decide +kernel),
    (compile_accepted_iff_src prefixMerged hwf htf m syms h1).2.mp h2, m, syms, h1, h2⟩

/-- the compiled example schema `#p: "d"/x <= #k`, `#k: "k"/x & {x: "a"|"b"}` is not self-signing by keys -/
example : ¬ SrcKeySelfSigning ⟨renameTemps Example.schema.rules 1⟩ := fun h =>
  example_not_selfSigning (srcKey_finer_than_shape _ h)
example : sanityCheck Example.model = .ok () :=
  compile_sane_keys _ Example.schema_wf _ _ Example.compile_schema fun h =>
    example_not_selfSigning (srcKey_finer_than_shape _ h)
/-- `#p <= #k`, `#k <= #p`: the node-level cycle of `Example.signLoop` is a cycle of keys of the text -/
example : SrcKeySelfSigning ⟨renameTemps Example.schemaLoop.rules 1⟩ :=
  signCycle_srcKeySelfSigning _ Example.schemaLoop_wf _ _ Example.compile_schemaLoop
    ((compile_accepted_iff _ Example.schemaLoop_wf _ _ Example.compile_schemaLoop).2.mp signLoop_refused)
/-- … and of merge-key paths of its chains -/
example : ∃ chains, chainsOf Example.schemaLoop = .ok (chains, ["x"]) ∧ KeySelfSigning chains := by
  obtain ⟨chains, hch, _, h2⟩ := compile_accepted_iff_keys _ Example.schemaLoop_wf _ _ Example.compile_schemaLoop
  exact ⟨chains, hch, h2.mp signLoop_refused⟩
example : SrcKeySelfSigning ⟨renameTemps mergedSigner.rules 1⟩ := by
  obtain ⟨hwf, _, _, m, syms, h1, h2⟩ := mergedSigner_counterexample
  exact signCycle_srcKeySelfSigning _ hwf m syms h1 ((compile_accepted_iff _ hwf m syms h1).2.mp h2)

end Ndn.C13
