import NdnGen.Component
import NdnProofs.Props.TlvVarGen
import NdnModel.Name
/-!
  The pure helpers of `src/ndn/encoding/name/Component.py` that build and take apart a component - `get_type`,
  `get_value`, `to_number`, `from_bytes`, `from_number` and the five typed-number constructors - TRANSLATED from the
  source text on every run (`harness/py2lean.py` -> `lean/NdnGen/Component.lean`; calls into `tlv_var.py` go to the
  translation of that module, the `TYPE_*` / `MAX_COMPONENT_TYPE_VALUE` constants are read from the module text), are
  equal for ALL inputs to the functions of the name model (`NdnModel/Name.lean`, namespace `Ndn.Comp`) that the
  theorems of C09 and C19 are about.
-/
namespace Ndn.ComponentGen
open Ndn Ndn.Py Ndn.TlvVarGen

theorem all_translated :
    Gen.Component.get_type_translated = true ∧ Gen.Component.get_value_translated = true ∧
    Gen.Component.to_number_translated = true ∧ Gen.Component.from_bytes_translated = true ∧
    Gen.Component.from_number_translated = true ∧ Gen.Component.from_segment_translated = true ∧
    Gen.Component.from_byte_offset_translated = true ∧ Gen.Component.from_sequence_num_translated = true ∧
    Gen.Component.from_version_translated = true ∧ Gen.Component.from_timestamp_translated = true := by decide

/-- **Component.get_type**, every byte string, error classes included. -/
theorem get_type_eq (c : Bytes) :
    Gen.Component.get_type c = (Comp.getType c).map (fun t => ((t : Nat) : Int)) := by
  simp only [Gen.Component.get_type, Comp.getType, lit_natCast, parse_tl_num_eq, except_bind_map, except_map_bind, castPair]
  rfl

/-- **Component.get_value**, every byte string. -/
theorem get_value_eq (c : Bytes) : Gen.Component.get_value c = Comp.getValue c := by
  simp only [Gen.Component.get_value, Comp.getValue, lit_natCast, parse_tl_num_eq, except_bind_map, castPair, add_natCast,
    sliceFrom_natCast]

/-- **Component.to_number**, every byte string. -/
theorem to_number_eq (c : Bytes) :
    Gen.Component.to_number c = (Comp.toNumber c).map (fun t => ((t : Nat) : Int)) := by
  simp only [Gen.Component.to_number, Comp.toNumber, Comp.getValue, lit_natCast, parse_tl_num_eq, except_bind_map,
    except_map_bind, bind_assoc, castPair, add_natCast, sliceFrom_natCast, intFromBytesBig_eq]
  rfl

theorem setSlice_append {α} (pre rest v : List α) (x y : Int) (hx : x = (pre.length : Int))
    (hy : y = ((pre.length + rest.length : Nat) : Int)) :
    setSlice (pre ++ rest) x y v = pre ++ v := by
  subst hx hy
  unfold setSlice
  rw [normIdx_natCast, normIdx_natCast, List.length_append, Nat.min_self, Nat.min_eq_left (Nat.le_add_right _ _),
    Nat.max_eq_right (Nat.le_add_right _ _), List.take_left, ← List.length_append, List.drop_length, List.append_nil]

/-- **Component.from_bytes**, every value shorter than 2^62 bytes and every Type `≥ 0`: `tlv typ val` for
    `0 < typ ≤ 65535` and `ValueError` otherwise. -/
theorem from_bytes_eq (v : Bytes) (typ : Nat) (hv : v.length < 2 ^ 62) :
    Gen.Component.from_bytes v typ = Comp.fromBytes v typ := by
  simp only [Gen.Component.from_bytes, Comp.fromBytes, lit_natCast, Int.ofNat_le, gt_iff_lt, Int.ofNat_lt, len_eq,
    get_tl_num_size_eq, ok_bind, add_natCast, Nat.le_zero]
  have hm : Comp.MAX_TYPE = 65535 := rfl
  rw [hm]
  split
  · rfl
  · rename_i hr
    have s1 := tlNumSize_le_nine typ
    have s2 := tlNumSize_le_nine v.length
    rw [bytearrayOfSize_natCast (by omega)]
    simp only [ok_bind, write_tl_num_blit (show typ < 2 ^ 64 by omega) (show 0 < 2 ^ 63 by decide),
      write_tl_num_blit (show v.length < 2 ^ 64 by omega) (show tlNumSize typ < 2 ^ 63 by omega), except_bind_map]
    rw [blit_bind_blit _ _ _ _ _ _ (by rw [writeTlNum_length, Nat.zero_add])]
    -- the tail that `ret[size_typ+size_len:] = val` replaces is exactly as long as `val`
    have hfit : tlNumSize typ + tlNumSize v.length + v.length =
        (List.replicate (tlNumSize typ + tlNumSize v.length + v.length) (0 : UInt8)).length := List.length_replicate.symm
    refine (bind_congr_ok fun a ha => ?_).trans
      ((blit_blit _ 0 _ v).trans (blit_all _ _ (by simp only [List.length_append, writeTlNum_length, List.length_replicate])))
    rw [List.length_append, writeTlNum_length, writeTlNum_length, Nat.zero_add]
    exact setSliceFrom_blit a v _ (by rw [blit_length ha]; exact hfit)

/-- a Type `≤ 0` (negative ones included) is rejected with `ValueError` before anything else -/
theorem from_bytes_nonpos (v : Bytes) (typ : Int) (h : typ ≤ 0) :
    Gen.Component.from_bytes v typ = .error .valueError := by
  simp only [Gen.Component.from_bytes]
  rw [if_pos (by omega)]

/-- **Component.from_number**, EVERY int (negative and `≥ 2^64` included) and every Type `≥ 0`: `struct.error` from
    `pack_uint_bytes` first, then the Type check of `from_bytes`. -/
theorem from_number_eq (val : Int) (typ : Nat) :
    Gen.Component.from_number val typ = Comp.fromNumber val typ := by
  simp only [Gen.Component.from_number, Comp.fromNumber]
  by_cases hneg : val < 0
  · rw [pack_uint_bytes_neg val hneg, if_pos (by omega)]; rfl
  · obtain ⟨n, rfl⟩ := Int.eq_ofNat_of_zero_le (by omega : 0 ≤ val)
    rw [pack_uint_bytes_eq]
    by_cases hbig : n < 2 ^ 64
    · rw [if_pos hbig, if_neg (by omega)]
      simp only [ok_bind, Int.toNat_natCast]
      have := packUint_length_le n
      rw [from_bytes_eq _ _ (by omega)]
    · rw [if_neg hbig, if_pos (by omega)]; rfl

/-- the typed-number constructors are `from_number` with the Type constants of the module (read from the source) -/
theorem from_typed_number_eq (v : Int) :
    Gen.Component.from_segment v = Comp.fromNumber v 50 ∧ Gen.Component.from_byte_offset v = Comp.fromNumber v 52 ∧
    Gen.Component.from_version v = Comp.fromNumber v 54 ∧ Gen.Component.from_timestamp v = Comp.fromNumber v 56 ∧
    Gen.Component.from_sequence_num v = Comp.fromNumber v 58 := by
  exact ⟨from_number_eq v 50, from_number_eq v 52, from_number_eq v 54, from_number_eq v 56, from_number_eq v 58⟩

example : Gen.Component.from_bytes [0x61, 0x62] 8 = .ok [8, 2, 0x61, 0x62] := by decide +kernel
example : Gen.Component.from_number 256 50 = .ok [50, 2, 1, 0] := by decide +kernel
example : Gen.Component.from_number (-1) 50 = .error .structError := by decide +kernel
example : Gen.Component.from_bytes [] 65536 = .error .valueError := by decide +kernel
example : Gen.Component.to_number [50, 2, 1, 0] = .ok 256 := by decide +kernel
example : Gen.Component.get_value [0xFD, 1, 0, 1, 7] = .ok [7] := by decide +kernel

end Ndn.ComponentGen
