import NdnProofs.Lemmas.NameToStr
/-!
  C09 - the tables of `lean/NdnGen/C09.lean` (regenerated from `Component.py`, `Name.py` and `tlv_var.py` on every
  run) tied to the name model (`NdnModel/Name.lean`, `NdnModel/TlNum.lean`).

  `Ndn.inCharset`, `Ndn.Comp.altUriOfType` and `Ndn.Comp.altTypeOfStr` READ the generated character set and the two
  generated shorthand tables; everything else the model writes down as a literal (type numbers, digest words, escaping
  exclusions, hex case, the `08 00` literals, the range of Type numbers, the TL-number and `pack_uint_bytes` ladders,
  CPython's digit limit) is shown here to equal the generated value by evaluation: a source edit that alters one of
  them changes the generated file and the theorem stops checking.
-/
namespace Ndn.C09
open Ndn Ndn.Comp

/-- every shape the extractor looks for was found in the source (an unrecognised shape is emitted as `false`) -/
theorem tables_recognised :
    Gen.C09.charsetRecognised = true ∧ Gen.C09.altUriFormatOk = true ∧ Gen.C09.altUriStrRecognised = true ∧
    Gen.C09.toStrNumberGuardRecognised = true ∧ Gen.C09.toStrKeepRecognised = true ∧
    Gen.C09.canonKeepRecognised = true ∧ Gen.C09.tlNumSizeRecognised = true ∧ Gen.C09.writeTlNumRecognised = true ∧
    Gen.C09.packUintRecognised = true ∧ Gen.C09.parseTlNumRecognised = true := by decide

/-- The generated `CHARSET` - which `from_str` and `escape_str` test membership in, with no further condition; the
    printers' test is in `escaping_table` - is exactly the unreserved characters plus `=` and `%`. -/
theorem charset_table (c : Char) :
    inCharset c = (isAsciiLetter c || isAsciiDigit c ||
      c == '-' || c == '.' || c == '_' || c == '~' || c == '=' || c == '%') ∧
    Gen.C09.fromStrCharsetTests = ["_ not in CHARSET"] ∧ Gen.C09.escapeStrCharsetTests = ["_ in CHARSET"] :=
  ⟨inCharset_eq c, by decide, by decide⟩

/-- TYPE_ constants, MAX_COMPONENT_TYPE_VALUE, Name.TYPE_NAME -/
theorem type_constants :
    Gen.C09.typeConsts.lookup "TYPE_GENERIC" = some TYPE_GENERIC ∧
    Gen.C09.typeConsts.lookup "TYPE_IMPLICIT_SHA256" = some TYPE_IMPLICIT_SHA256 ∧
    Gen.C09.typeConsts.lookup "TYPE_PARAMETERS_SHA256" = some TYPE_PARAMETERS_SHA256 ∧
    Gen.C09.typeConsts.lookup "TYPE_INVALID" = some 0 ∧
    Gen.C09.typeConsts.lookup "TYPE_KEYWORD" = some 32 ∧
    [Gen.C09.typeConsts.lookup "TYPE_SEGMENT", Gen.C09.typeConsts.lookup "TYPE_BYTE_OFFSET",
      Gen.C09.typeConsts.lookup "TYPE_VERSION", Gen.C09.typeConsts.lookup "TYPE_TIMESTAMP",
      Gen.C09.typeConsts.lookup "TYPE_SEQUENCE_NUM"] = (Gen.C09.altUriType.map fun p => some p.1) ∧
    Gen.C09.typeConsts.length = 10 ∧
    Gen.C09.maxComponentTypeValue = MAX_TYPE ∧ Gen.C09.typeName = Name.TYPE_NAME := by decide +kernel

/-- `ALTERNATE_URI_TYPE` / `ALTERNATE_URI_STR` are each other's inverse, no type and no word occurs twice, and the types
    are the five typed-number kinds of the naming conventions -/
theorem shorthand_tables :
    Gen.C09.altUriStr = (Gen.C09.altUriType.map fun p => (p.2, p.1)) ∧
    (Gen.C09.altUriType.map (·.1)).Nodup ∧ (Gen.C09.altUriType.map (·.2)).Nodup ∧
    Gen.C09.altUriType.map (·.1) = [50, 52, 54, 56, 58] := by decide +kernel

theorem mem_of_find_fst {α β} [BEq α] [LawfulBEq α] {l : List (α × β)} {k : α} {v : β}
    (h : (l.find? fun p => p.1 == k).map (·.2) = some v) : (k, v) ∈ l := by
  obtain ⟨p, hp, rfl⟩ := Option.map_eq_some_iff.mp h
  have hk : p.1 = k := by simpa using List.find?_some hp
  rw [← hk]
  exact List.mem_of_find?_eq_some hp

theorem shorthand_lookup_inverse (t : Nat) (s : Str) : altUriOfType t = some s ↔ altTypeOfStr s = some t := by
  constructor
  · intro h
    exact (altUri_rows _ (mem_of_find_fst h)).2.1
  · intro h
    have hm := mem_of_find_fst h
    rw [shorthand_tables.1] at hm
    obtain ⟨q, hq, e⟩ := List.mem_map.mp hm
    cases e
    exact (altUri_rows q hq).1

/-- every row of the generated shorthand table reads back: `<word>=<decimal>` is the typed number of minimal width -/
theorem shorthand_number_table (n : Nat) (hn : n < 2^64) :
    ∀ e ∈ Gen.C09.altUriType, fromStr (e.2 ++ '=' :: toDec n) = .ok (tlv e.1 (packUint n)) :=
  fromStr_number n hn

/-- the digest words `from_str` compares the type string with, and the prefixes `to_str` prints, are those of the
    model, with the model's type numbers; every row is read back by the model's `from_str` for a value of any length -/
theorem digest_tables (v : Bytes) :
    Gen.C09.fromStrDigest = [("sha256digest".toList, TYPE_IMPLICIT_SHA256), ("params-sha256".toList, TYPE_PARAMETERS_SHA256)] ∧
    Gen.C09.toStrDigest = [(TYPE_IMPLICIT_SHA256, "sha256digest=".toList, "hex"), (TYPE_PARAMETERS_SHA256, "params-sha256=".toList, "hex")] ∧
    (∀ e ∈ Gen.C09.fromStrDigest, fromStr (e.1 ++ '=' :: pyHex v) = .ok (tlv e.2 v)) := by
  refine ⟨by decide +kernel, by decide +kernel, ?_⟩
  obtain ⟨h1, h2⟩ := fromStr_digest v
  rw [digest_words.1, List.append_assoc] at h1
  rw [digest_words.2.1, List.append_assoc] at h2
  rw [Gen.C09.fromStrDigest, List.forall_mem_cons, List.forall_mem_singleton]
  exact ⟨h1, h2⟩

/-- the guard `to_str` puts on the typed-number shorthand besides `typ in ALTERNATE_URI_TYPE`, as found in the source:
    the admitted value lengths (`none`: no guard) -/
def numberShorthandAdmits (n : Nat) : Bool :=
  match Gen.C09.toStrNumberWidths with
  | none => true
  | some ws => ws.contains n

/-- `to_str` on a typed number: the model prints the shorthand exactly when the guard found in the source admits the
    length of the value (1, 2, 4 or 8 bytes), and the generic `<type>=<escaped value>` form otherwise -/
theorem toStr_number_guard (t : Nat) (v : Bytes) (s : Str) (ht : t < 2^64) (hv : v.length < 2^64)
    (hs : altUriOfType t = some s) :
    toStr (tlv t v) = .ok (if numberShorthandAdmits v.length then s ++ '=' :: toDec (beVal v)
                           else typePrefix t ++ escBytes v) := by
  have hk : t ∈ Gen.C09.altUriType.map (·.1) := List.mem_map.mpr ⟨_, mem_of_find_fst hs, rfl⟩
  rw [altUriType_keys] at hk
  have h1 : t ≠ 1 := by intro e; subst e; revert hk; decide
  have h2 : t ≠ 2 := by intro e; subst e; revert hk; decide
  have ha : numberShorthandAdmits v.length = decide (v.length = 1 ∨ v.length = 2 ∨ v.length = 4 ∨ v.length = 8) := by
    simp [numberShorthandAdmits, Gen.C09.toStrNumberWidths]
  rw [toStr_tlv t v ht hv, if_neg h1, if_neg h2, hs, ha]
  by_cases hw : (v.length = 1 ∨ v.length = 2 ∨ v.length = 4 ∨ v.length = 8)
  · simp only [if_pos hw, decide_eq_true hw, if_true]
  · simp only [if_neg hw, decide_eq_false hw, Bool.false_eq_true, if_false]

/-- Both printers keep a byte as a character iff it is in `CHARSET` and not in the excluded set found in the source
    (`%`, `=`); escapes are `%` + two UPPER-case hex digits in all three functions, digests lower case. -/
theorem escaping_table (b : UInt8) :
    escByte b = (if inCharset (Char.ofNat b.toNat) && !(Gen.C09.toStrKeepExcluded.contains (Char.ofNat b.toNat).toNat)
                 then [Char.ofNat b.toNat] else pctByte b) ∧
    Gen.C09.canonKeepExcluded = Gen.C09.toStrKeepExcluded ∧
    Gen.C09.toStrPctTemplates = ["%{:02X}"] ∧ Gen.C09.canonPctTemplates = ["%{:02X}"] ∧
    Gen.C09.escapeStrPctTemplates = ["%{:02X}"] ∧
    pctByte 0xAB = "%AB".toList ∧ pyHex [0xAB] = "ab".toList := by
  refine ⟨?_, by decide, by decide, by decide, by decide, by decide, by decide⟩
  rw [escByte_eq]
  congr 2
  simp only [Gen.C09.toStrKeepExcluded, List.contains_cons, List.contains_nil, Bool.or_false, Bool.not_or,
    Bool.and_assoc, bne, char_beq_toNat]
  rfl

/-- the `08 00` literals: the component `from_str('')` returns and the component after which `Name.to_str` /
    `Name.to_canonical_uri` append a `/` -/
theorem empty_component_literals :
    Gen.C09.fromStrBytesLiterals = [[8, 0]] ∧ Gen.C09.nameToStrBytesLiterals = [[8, 0]] ∧
    Gen.C09.nameToCanonBytesLiterals = [[8, 0]] ∧
    fromStr [] = .ok [8, 0] ∧ Name.toStr [[8, 0]] = .ok "//".toList ∧ Name.toCanonicalUri [[8, 0]] = .ok "//".toList := by
  refine ⟨by decide, by decide, by decide, by decide, by decide, by decide⟩

private def accepted {α : Type} : Except PyErr α → Bool
  | .ok _ => true
  | .error _ => false

/-- at the boundaries probed on the live functions (0, 1, …, MAX-1, MAX, MAX+1, …) the model accepts exactly the Type
    numbers `Component.from_bytes` and the general path of `Component.from_str` accept -/
theorem type_range_probes :
    (∀ p ∈ Gen.C09.fromBytesTypeProbes, accepted (fromBytes [] p.1) = p.2) ∧
    (∀ p ∈ Gen.C09.fromStrTypeProbes, accepted (fromStr (toDec p.1 ++ "=a".toList)) = p.2) ∧
    Gen.C09.fromBytesTypeProbes.map (·.1) = [0, 1, 2, 8, MAX_TYPE - 1, MAX_TYPE, MAX_TYPE + 1, 2 * MAX_TYPE + 1] := by
  refine ⟨by decide +kernel, by decide +kernel, by decide⟩

/-- a step function given as ([(largest argument, value)], value above) -/
def ladder (t : List (Nat × Nat) × Nat) (v : Nat) : Nat :=
  match t.1.find? (fun p => decide (v ≤ p.1)) with
  | some p => p.2
  | none => t.2

theorem ladder_nil (d v : Nat) : ladder ([], d) v = d := rfl

theorem ladder_cons (a x : Nat) (t : List (Nat × Nat)) (d v : Nat) :
    ladder ((a, x) :: t, d) v = if v ≤ a then x else ladder (t, d) v := by
  unfold ladder
  rw [List.find?_cons]
  by_cases h : v ≤ a
  · simp only [h, decide_true, if_true]
  · simp only [h, decide_false, if_false]

/-- `get_tl_num_size`: the model's thresholds are the ones measured on the live function at the integer constants of
    its source -/
theorem tlNumSize_table (v : Nat) : tlNumSize v = ladder Gen.C09.tlNumSize v := by
  rw [Gen.C09.tlNumSize, ladder_cons, ladder_cons, ladder_cons, ladder_nil]; rfl

/-- `pack_uint_bytes` (the width rule of `from_number` and of the typed-number constructors) -/
theorem packUint_table (v : Nat) : (packUint v).length = ladder Gen.C09.packUint v := by
  rw [Gen.C09.packUint, ladder_cons, ladder_cons, ladder_cons, ladder_nil, packUint]
  repeat rw [apply_ite List.length]
  rfl

/-- `write_tl_num`: number of bytes written and marker byte (`size*256 + marker`, marker 0 for the one-byte form) -/
theorem writeTlNum_table (v : Nat) :
    (writeTlNum v).length * 256 + (if (writeTlNum v).length = 1 then 0 else ((writeTlNum v).head?.getD 0).toNat)
      = ladder Gen.C09.writeTlNum v := by
  rw [Gen.C09.writeTlNum, ladder_cons, ladder_cons, ladder_cons, ladder_nil]
  by_cases h1 : v ≤ 252
  · rw [if_pos h1, writeTlNum_eq_be1 h1]; simp
  by_cases h2 : v ≤ 65535
  · rw [if_neg h1, if_pos h2, writeTlNum_eq_be2 (by omega) h2]; simp
  by_cases h3 : v ≤ 4294967295
  · rw [if_neg h1, if_neg h2, if_pos h3, writeTlNum_eq_be4 (by omega) h3]; simp
  · rw [if_neg h1, if_neg h2, if_neg h3, writeTlNum_eq_be8 (by omega)]; simp

/-- `parse_tl_num`: the size consumed as a function of the first byte, for all 256 first bytes, and the byte order of
    the three long forms -/
theorem parseTlNum_table :
    (∀ n : Fin 256, (parseTlNum (UInt8.ofNat n.val :: [1, 2, 3, 4, 5, 6, 7, 8]) 0).toOption.map (·.2)
        = some (ladder Gen.C09.parseTlNum n.val)) ∧
    [0xFD, 0xFE, 0xFF].map (fun b => (parseTlNum (b :: [1, 2, 3, 4, 5, 6, 7, 8]) 0).toOption.map (·.1))
      = Gen.C09.parseTlNumBig.map some := by
  refine ⟨by decide +kernel, by decide +kernel⟩

/-- CPython's limit on `int(str)` that the model of `int()` uses is the one of the interpreter the library runs on -/
theorem int_digit_limit : pyIntMaxStrDigits = Gen.C09.intMaxStrDigits := by decide

end Ndn.C09
