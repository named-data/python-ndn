import NdnProofs.Lemmas.PitTies
/-!
# C03 — every expressed Interest completes exactly once with the right outcome

Theorems about `Ndn.Pit.run fe evs` (model of the pending-Interest bookkeeping of `appv2.py` and `app.py`, see
`NdnModel/Pit.lean`), for both front-ends and every event history `evs : List Ev` (express — any lifetime incl. 0,
awaited at once or later, with or without `no_response` — / Data / Nack / tick / caller cancellation / shutdown / `reach`).

Specification vocabulary (`abs` apart, none of it mentions trie, nodes or lists): `taken`, `resolve`, `mkReq`, `expiry`,
`lifeOf` (`NdnModel/Pit.lean`); `Matches`, `Named`, `specFire`, `specCancel`, `specReach`, `specReact`, `initSt`,
`Spec.step` / `Spec.run`, `abs`, `reqTrace`, `TakenAt`, `Justified`, `NoTie` (`NdnProofs/Lemmas/PitSpec.lean`); `Plain`
(`NdnProofs/Lemmas/PitTies.lean`).
A state `.done o t` of Interest `i` is its completion record (outcome `o`, time `t`).

**Ties.**  Events that share an event-loop turn with each other or with a timer (`Turn`) may run in any order.
`lins h` are the linearisations of a history of turns `h` (event histories in which a packet handled ahead of the
timers of its instant is preceded by `reach t` instead of `tick t`), `allowed fe h` the outcome vectors they lead to,
`reachable fe h` the set of final states as the driver computes it.  Every theorem below is about an arbitrary
event history, hence about every linearisation; the `tie_*` theorems say so for `reachable` / `allowed`.
-/
namespace Ndn.C03
open Ndn Ndn.Pit

/-- The trie / node / pending-list bookkeeping implements the abstract table in which every
    pending Interest reacts to every event on its own (`specReact`): same clock, same requests, same states,
    after every history. -/
theorem refines_spec (fe : FrontEnd) (evs : List Ev) : abs (run fe evs) = Spec.run fe evs :=
  run_refines fe evs

/-- No event of any history makes a callback raise (`del trie[name]`, the one operation of
    the model that can raise, always finds its key). -/
theorem no_internal_error (fe : FrontEnd) (evs : List Ev) : (run fe evs).errs = [] :=
  (run_sim fe evs).2.1

/-- Once an Interest has its completion record, no later event of any kind changes
    it: same outcome, same time, for ever. -/
theorem complete_at_most_once (fe : FrontEnd) (evs evs' : List Ev) (i : Nat) (o : Outcome) (t : Nat)
    (h : (run fe evs).sts[i]? = some (.done o t)) : (run fe (evs ++ evs')).sts[i]? = some (.done o t) :=
  done_stable fe evs evs' i o t h

/-- A completed Interest has no entry in any node linked in the trie.  (By `Inv.not_mem_of_not_waiting`, which says so
    of every Interest that is not waiting; `nothing_remains_held` states it for a result held for a late await.) -/
theorem nothing_remains (fe : FrontEnd) (evs : List Ev) (i : Nat) (o : Outcome) (t : Nat)
    (h : (run fe evs).sts[i]? = some (.done o t)) :
    ∀ b ∈ (run fe evs).trie, i ∉ pend (run fe evs) b.2 :=
  fun _ hb => (inv_run fe evs).not_mem_of_not_waiting (by rw [h]; simp) hb

theorem nothing_remains_held (fe : FrontEnd) (evs : List Ev) (i : Nat) (o : Outcome)
    (h : (run fe evs).sts[i]? = some (.held o)) :
    ∀ b ∈ (run fe evs).trie, i ∉ pend (run fe evs) b.2 :=
  fun _ hb => (inv_run fe evs).not_mem_of_not_waiting (by rw [h]; simp) hb

/-- Every entry of every linked node belongs to an Interest that is still waiting, captured that very node
    and bears the node's name; and linked nodes are never empty. -/
theorem linked_entries_are_waiting (fe : FrontEnd) (evs : List Ev) :
    ∀ b ∈ (run fe evs).trie, pend (run fe evs) b.2 ≠ [] ∧ ∀ e ∈ pend (run fe evs) b.2,
      ∃ I, (run fe evs).ints[e]? = some I ∧ (run fe evs).sts[e]? = some .waiting ∧ I.node = b.2 ∧ I.name = b.1 :=
  fun b hb => ⟨(inv_run fe evs).nonempty b hb, (inv_run fe evs).linked b hb⟩

/-- When no Interest is waiting the trie is empty. -/
theorem pit_empty_at_quiescence (fe : FrontEnd) (evs : List Ev)
    (h : ∀ i : Nat, (run fe evs).sts[i]? ≠ some IState.waiting) : (run fe evs).trie = [] ∧ pitSize (run fe evs) = (0, 0) := by
  have := (inv_run fe evs).trie_eq_nil_iff.mpr h
  exact ⟨this, by simp [pitSize, this]⟩

/-- One Data is taken by every waiting Interest it matches (same name, or a longer name with CanBePrefix; the packet
    digest when the Interest has an implicit digest), and no other Interest changes. -/
theorem one_data_all_matching_no_others (fe : FrontEnd) (evs : List Ev) (nm : Name) (dg d : Nat) (i : Nat)
    (I : Interest) (s : IState) (hi : (run fe evs).ints[i]? = some I) (hs : (run fe evs).sts[i]? = some s) :
    (run fe (evs ++ [.data nm dg d])).sts[i]? =
      some (if s = .waiting ∧ Matches I.toReq nm dg then taken fe (run fe evs).clock I.toReq d else s) :=
  run_step fe evs _ hi hs

/-- A Nack resolves exactly the waiting Interests it names (name and implicit digest), with its reason: they finish
    at once, or - not awaited yet - hold the Nack for their first await. -/
theorem nack_exactly_the_named (fe : FrontEnd) (evs : List Ev) (nm : Name) (dg : Option Nat) (rsn : Nat) (i : Nat)
    (I : Interest) (s : IState) (hi : (run fe evs).ints[i]? = some I) (hs : (run fe evs).sts[i]? = some s) :
    (run fe (evs ++ [.nack nm dg rsn])).sts[i]? =
      some (if s = .waiting ∧ Named I.toReq nm dg then resolve (run fe evs).clock I.toReq (.nack rsn) else s) :=
  run_step fe evs _ hi hs

/-- A caller cancellation finishes its own Interest (unless already finished, or not awaited yet) and touches no
    other. -/
theorem cancel_only_its_target (fe : FrontEnd) (evs : List Ev) (j i : Nat)
    (I : Interest) (s : IState) (hi : (run fe evs).ints[i]? = some I) (hs : (run fe evs).sts[i]? = some s) :
    (run fe (evs ++ [.cancel j])).sts[i]? =
      some (if j = i then specCancel (run fe evs).clock I.toReq s else s) :=
  run_step fe evs _ hi hs

/-- A clock tick fires exactly the due timers of each Interest (`specFire`: deadline, end of validation, first
    await of a held result). -/
theorem tick_fires_due_timers (fe : FrontEnd) (evs : List Ev) (t : Nat) (i : Nat)
    (I : Interest) (s : IState) (hi : (run fe evs).ints[i]? = some I) (hs : (run fe evs).sts[i]? = some s) :
    (run fe (evs ++ [.tick t])).sts[i]? = some (specFire fe (max (run fe evs).clock t) I.toReq s) :=
  run_step fe evs _ hi hs

/-- `reach t` (a packet of instant `t` is about to be handled ahead of the timers of that instant) fires exactly the
    timers due before `t`. -/
theorem reach_fires_earlier_timers (fe : FrontEnd) (evs : List Ev) (t : Nat) (i : Nat)
    (I : Interest) (s : IState) (hi : (run fe evs).ints[i]? = some I) (hs : (run fe evs).sts[i]? = some s) :
    (run fe (evs ++ [.reach t])).sts[i]? = some (specReach fe (max (run fe evs).clock t) I.toReq s) :=
  run_step fe evs _ hi hs

/-- **complete_exactly_once_after (shutdown).** Right after a shutdown no Interest is waiting (the waiting ones were
    cancelled at that instant; one whose Data was already taken is left to its validator) and the trie is empty. -/
theorem complete_exactly_once_after_shutdown (fe : FrontEnd) (evs : List Ev) :
    (run fe (evs ++ [.shutdown])).trie = [] ∧
    (∀ i : Nat, (run fe (evs ++ [.shutdown])).sts[i]? ≠ some IState.waiting) ∧
    ∀ (i : Nat) (I : Interest), (run fe evs).ints[i]? = some I → (run fe evs).sts[i]? = some IState.waiting →
      (run fe (evs ++ [.shutdown])).sts[i]? = some (resolve (run fe evs).clock I.toReq .cancelled) := by
  have e : (run fe (evs ++ [.shutdown])).trie = [] := by rw [run_snoc]; exact (shutdown_eff (inv_run fe evs)).2.2
  exact ⟨e, (inv_run fe _).trie_eq_nil_iff.mp e,
    fun i I hi hw => by rw [run_step fe evs .shutdown hi hw, specReact, if_pos rfl]⟩

/-- the first await never comes after the effective deadline (`expiry`) -/
theorem await_le_deadline (fe : FrontEnd) (evs : List Ev) (i : Nat) (I : Interest)
    (hi : (run fe evs).ints[i]? = some I) : I.awaitAt ≤ I.deadline := by
  obtain ⟨s, hs⟩ := (inv_run fe evs).sts_some hi
  exact Spec.run_induct fe (P := fun _ _ r _ => r.awaitAt ≤ r.deadline)
    (fun l _ _ _ life _ _ defer _ => expiry_ge fe _ life defer) (fun _ _ _ _ _ _ _ h => h) evs i I.toReq s
    (run_req fe evs hi) (run_sts fe evs ▸ hs)

/-- **complete_exactly_once_after (deadline).** After a tick at or beyond its (effective) deadline an Interest is not
    waiting any more; in the current front-end it has its completion record.  In the legacy front-end it may still be
    validating a Data taken before the deadline (finding F15: the validator runs outside `wait_for`). -/
theorem complete_exactly_once_after_deadline (fe : FrontEnd) (evs : List Ev) (t : Nat) (i : Nat) (I : Interest)
    (hi : (run fe evs).ints[i]? = some I) (hd : I.deadline ≤ max (run fe evs).clock t) :
    (run fe (evs ++ [.tick t])).sts[i]? ≠ some IState.waiting ∧
    (fe = .v2 → ∃ o t', (run fe (evs ++ [.tick t])).sts[i]? = some (IState.done o t')) := by
  obtain ⟨s, hs⟩ := (inv_run fe evs).sts_some hi
  rw [tick_fires_due_timers fe evs t i I _ hi hs]
  refine ⟨fun h => Nat.not_lt.mpr hd (specFire_eq_waiting_iff.mp (Option.some.inj h)).2, fun hfe => ?_⟩
  subst hfe
  have h2 := specFire_due (r := I.toReq) hd (Nat.le_trans (await_le_deadline .v2 evs i I hi) hd) s
  exact h2.imp fun _ => Exists.imp fun _ h => congrArg some h

/-- Whatever state an Interest is in after any history is justified by that history (`Justified`):
    * a payload / validation failure / validator error for Data `d`: a matching Data with that content arrived while it
      was waiting and not after its deadline (`TakenAt`), the supplied validator's answer maps to this outcome, the
      caller learnt it at validator start + latency or, awaiting later, at its first await;
    * `timeout`: stamped with the effective deadline (`expiry`), which has come;
    * `nack r`: a Nack with reason `r` naming this Interest arrived while it was waiting;
    * `cancelled`: the caller cancelled this Interest, or the application shut down;
    * `noResponse`: expressed with `no_response` (current front-end), at that time. -/
theorem outcome_correct (fe : FrontEnd) (evs : List Ev) (i : Nat) (I : Interest)
    (s : IState) (hi : (run fe evs).ints[i]? = some I) (hs : (run fe evs).sts[i]? = some s) :
    Justified fe evs i I.toReq s :=
  run_justified fe evs i I s hi hs

/-- **outcome_correct (no ties).** In a history without ties (`NoTie`: no packet handled ahead of the timers of its
    instant) a Data is only ever taken strictly before the deadline, and a waiting Interest has not reached it. -/
theorem outcome_correct_no_tie (fe : FrontEnd) (evs : List Ev) (hn : NoTie evs) (i : Nat) (I : Interest)
    (hi : (run fe evs).ints[i]? = some I) :
    (∀ d a, TakenAt fe evs i I.toReq d a → a < I.deadline) ∧
    ((run fe evs).sts[i]? = some .waiting → (run fe evs).clock < I.deadline) := by
  refine ⟨fun d a hT => taken_before_deadline fe evs hn (run_req fe evs hi) hT, fun hw => ?_⟩
  rw [run_clock]
  exact waiting_before_deadline fe evs hn i I.toReq (run_req fe evs hi) (run_sts fe evs ▸ hw)

/-- The state of an Interest after any history is a function (`reqTrace`) of its own request, its index, the clock at
    express time and the events that followed, whatever else was expressed and whatever happened to those Interests. -/
theorem frame (fe : FrontEnd) (pre post : List Ev) (nm : Name) (imp : Option Nat) (cbp : Bool) (life : Nat)
    (v : Verdict) (lat defer : Nat) (nr : Bool) :
    (run fe (pre ++ .express nm imp cbp life v lat defer nr :: post)).sts[(run fe pre).ints.length]? =
      some (reqTrace fe (run fe pre).ints.length (mkReq fe (run fe pre).clock nm imp cbp life v lat defer)
        (run fe pre).clock
        (specFire fe (run fe pre).clock (mkReq fe (run fe pre).clock nm imp cbp life v lat defer)
          (initSt fe (run fe pre).clock nr)) post) := by
  have hl : (run fe pre).ints.length = (Spec.run fe pre).reqs.length := by rw [← run_refines]; simp [abs]
  obtain ⟨a, b⟩ := Spec.step_express fe _ (Spec.run_len fe pre) nm imp cbp life v lat defer nr
  rw [run_sts, run_clock, hl, Spec.run_append, List.foldl_cons,
    (Spec.trace_from fe post _ a b).2, Spec.step_clock]
  rfl

/-- **no_response (current front-end).** An Interest expressed with `no_response` is off the books from the start:
    its record says so, for ever, and the table of pending Interests is what it was. -/
theorem no_response_off_the_books (evs evs' : List Ev) (nm : Name) (imp : Option Nat) (cbp : Bool) (life : Nat)
    (v : Verdict) (lat defer : Nat) :
    (run .v2 (evs ++ .express nm imp cbp life v lat defer true :: evs')).sts[(run .v2 evs).ints.length]? =
      some (.done .noResponse (run .v2 evs).clock) ∧
    (run .v2 (evs ++ [.express nm imp cbp life v lat defer true])).trie = (run .v2 evs).trie ∧
    (run .v2 (evs ++ [.express nm imp cbp life v lat defer true])).heap = (run .v2 evs).heap := by
  refine ⟨?_, ?_, ?_⟩
  · have h0 : (run .v2 (evs ++ [.express nm imp cbp life v lat defer true])).sts[(run .v2 evs).ints.length]? =
        some (.done .noResponse (run .v2 evs).clock) := by
      rw [frame .v2 evs [] nm imp cbp life v lat defer true]
      simp only [initSt, silent_v2, if_true, specFire, reqTrace]
    rw [← List.singleton_append, ← List.append_assoc]
    exact complete_at_most_once .v2 _ evs' _ _ _ h0
  · rw [run_snoc]; simp only [step, onExpress, silent_v2, if_true]
  · rw [run_snoc]; simp only [step, onExpress, silent_v2, if_true]

/-- the legacy front-end has no `no_response`: the keyword changes nothing -/
theorem no_response_ignored_v1 (σ : State) (nm : Name) (imp : Option Nat) (cbp : Bool) (life : Nat)
    (v : Verdict) (lat defer : Nat) :
    step .v1 σ (.express nm imp cbp life v lat defer true) = step .v1 σ (.express nm imp cbp life v lat defer false) := by
  simp [step, onExpress, silent_v1]

/-- **effective deadline.** Awaited at once: express time + lifetime - except lifetime 0 in the current front-end,
    which is 100 ms; awaited `defer` later: legacy = await + lifetime; current = the original deadline when the
    await comes before it, await + 100 ms otherwise. -/
theorem expiry_cases (now life defer : Nat) :
    expiry .v1 now life defer = now + defer + life ∧
    (defer < life → expiry .v2 now life defer = now + life) ∧
    (life ≤ defer → expiry .v2 now life defer = now + defer + 100) := by
  refine ⟨expiry_v1 now life defer, ?_, ?_⟩
  · intro h; rw [expiry_v2, if_pos (by omega)]
  · intro h; rw [expiry_v2, if_neg (by omega)]

/-! ### ties: what the linearisations are, and the theorems about all final states read for `reachable` / `allowed` -/

theorem tie_allowed_iff (fe : FrontEnd) (h : List Turn) (v : List IState) :
    v ∈ allowed fe h ↔ ∃ l ∈ lins h, (run fe l).sts = v := mem_allowed fe h v

theorem tie_turn_orders (u : Turn) (l : List Ev) :
    l ∈ u.lins ↔ ∃ p, p.Perm u.evs ∧ ∃ k, k ≤ p.length ∧ l = Turn.lin u.t p k := Turn.mem_lins

theorem tie_plain_allowed (fe : FrontEnd) (h : List Turn) : (run fe (plain h)).sts ∈ allowed fe h :=
  (mem_allowed fe h _).mpr ⟨_, plain_mem_lins h, rfl⟩

/-- The set of states the driver explores turn by turn is exactly the set of final states of the linearisations. -/
theorem tie_reachable_exact (fe : FrontEnd) (h : List Turn) (σ : State) :
    σ ∈ reachable fe h ↔ ∃ l ∈ lins h, run fe l = σ := mem_reachable fe h σ

theorem tie_refines_spec (fe : FrontEnd) (h : List Turn) : ∀ σ ∈ reachable fe h, ∃ l ∈ lins h, abs σ = Spec.run fe l :=
  forall_reachable fun l hl => ⟨l, hl, run_refines fe l⟩

theorem tie_no_internal_error (fe : FrontEnd) (h : List Turn) : ∀ σ ∈ reachable fe h, σ.errs = [] :=
  forall_reachable fun l _ => no_internal_error fe l

/-- every state reachable over `h ++ h'` extends a state reachable over `h` and keeps all its completion records -/
theorem tie_complete_at_most_once (fe : FrontEnd) (h h' : List Turn) :
    ∀ σ' ∈ reachable fe (h ++ h'), ∃ σ ∈ reachable fe h,
      ∀ (i : Nat) (o : Outcome) (t : Nat), σ.sts[i]? = some (IState.done o t) → σ'.sts[i]? = some (IState.done o t) := by
  intro σ' hσ'
  obtain ⟨l, hl, rfl⟩ := (mem_reachable fe _ σ').mp hσ'
  obtain ⟨a, ha, b, _, rfl⟩ := mem_lins_append.mp hl
  exact ⟨run fe a, (mem_reachable fe h _).mpr ⟨a, ha, rfl⟩, fun i o t hd => complete_at_most_once fe a b i o t hd⟩

theorem tie_nothing_remains (fe : FrontEnd) (h : List Turn) : ∀ σ ∈ reachable fe h, ∀ (i : Nat) (o : Outcome) (t : Nat),
    σ.sts[i]? = some (IState.done o t) → ∀ b ∈ σ.trie, i ∉ pend σ b.2 :=
  forall_reachable fun l _ => nothing_remains fe l

theorem tie_pit_empty_at_quiescence (fe : FrontEnd) (h : List Turn) : ∀ σ ∈ reachable fe h,
    (∀ i : Nat, σ.sts[i]? ≠ some IState.waiting) → σ.trie = [] ∧ pitSize σ = (0, 0) :=
  forall_reachable fun l _ => pit_empty_at_quiescence fe l

theorem tie_outcome_correct (fe : FrontEnd) (h : List Turn) : ∀ σ ∈ reachable fe h, ∃ l ∈ lins h, run fe l = σ ∧
    ∀ i I s, σ.ints[i]? = some I → σ.sts[i]? = some s → Justified fe l i I.toReq s :=
  forall_reachable fun l hl => ⟨l, hl, rfl, outcome_correct fe l⟩

/-- `frame` read at a linearisation `l` (which is an event history like any other: `_hl` is not needed) -/
theorem tie_frame (fe : FrontEnd) (h : List Turn) (l : List Ev) (_hl : l ∈ lins h) (pre post : List Ev) (nm : Name)
    (imp : Option Nat) (cbp : Bool) (life : Nat) (v : Verdict) (lat defer : Nat) (nr : Bool)
    (hsplit : l = pre ++ .express nm imp cbp life v lat defer nr :: post) :
    (run fe l).sts[(run fe pre).ints.length]? =
      some (reqTrace fe (run fe pre).ints.length (mkReq fe (run fe pre).clock nm imp cbp life v lat defer)
        (run fe pre).clock
        (specFire fe (run fe pre).clock (mkReq fe (run fe pre).clock nm imp cbp life v lat defer)
          (initSt fe (run fe pre).clock nr)) post) := by
  rw [hsplit]; exact frame fe pre post nm imp cbp life v lat defer nr

theorem tie_plain_no_tie (h : List Turn) (hp : Plain h) : NoTie (plain h) := by
  intro ev hev t
  simp only [plain, List.mem_flatMap, List.mem_cons] at hev
  obtain ⟨u, hu, rfl | hev⟩ := hev
  · intro hc; cases hc
  · exact hp u hu ev hev t

/-! ### the hypotheses are satisfiable: concrete non-trivial histories -/

/-- two Interests on one name, a Data for both, a late Nack, then a tick -/
def demo : List Ev :=
  [.express [1, 2] none false 50 .pass 0 0 false, .tick 10, .express [1, 2] none true 100 .fail 30 0 false,
   .express [1] none true 100 .pass 0 0 false, .tick 20, .data [1, 2] 1 7, .nack [1, 2] none 150, .tick 60]

example : (run .v2 demo).sts = [.done (.data 7) 20, .done (.valFail 7 .fail) 50, .done (.data 7) 20] := by decide +kernel
example : (run .v2 demo).errs = [] ∧ (run .v2 demo).trie = [] := by decide +kernel
-- complete_at_most_once / nothing_remains: a completion record exists
example : (run .v1 (demo.take 6)).sts[0]? = some (.done (.data 7) 20) := by decide +kernel
-- one_data_all_matching_no_others: the third Interest (CanBePrefix, shorter name) matches, a sibling would not
example : Matches (⟨[1], none, true, 100, .pass, 0, 0⟩ : Req) [1, 2] 1 ∧
    ¬ Matches (⟨[1, 3], none, true, 100, .pass, 0, 0⟩ : Req) [1, 2] 1 := by
  decide +kernel
-- complete_exactly_once_after_deadline: an Interest whose deadline is reached by the tick
example : ((run .v2 (demo.take 3)).ints[0]?).map (·.deadline) = some 50 := by decide +kernel
-- outcome_correct_no_tie: the demo history has no ties
example : NoTie demo := by
  intro ev hev t
  simp only [demo, List.mem_cons, List.not_mem_nil, or_false] at hev
  rcases hev with h | h | h | h | h | h | h | h <;> subst h <;> simp
-- a node that was unlinked while its validator runs, a new node under the same name, the old Interest's
-- deadline: the new node survives (finding F6 (b) is the failure of exactly this)
example : (run .v2 [.express [1] none false 50 .pass 80 0 false, .data [1] 1 0,
    .express [1] none false 500 .pass 0 0 false, .tick 60]).trie = [([1], 1)] := by decide +kernel

-- nack_exactly_the_named / cancel_only_its_target / tick_fires_due_timers / one_data…: an expressed, waiting Interest
example : (run .v1 (demo.take 3)).sts[1]? = some .waiting ∧
    ((run .v1 (demo.take 3)).ints[1]?).map (·.name) = some [1, 2] := by decide +kernel
-- linked_entries_are_waiting / nothing_remains: a linked node with two entries, and a non-empty trie
example : (run .v2 (demo.take 5)).trie = [([1, 2], 0), ([1], 1)] ∧ pend (run .v2 (demo.take 5)) 0 = [0, 1] := by decide +kernel
-- pit_empty_at_quiescence: nobody waits after the demo
example : ∀ i : Nat, (run .v2 demo).sts[i]? ≠ some IState.waiting := by
  intro i
  have : (run .v2 demo).sts = [.done (.data 7) 20, .done (.valFail 7 .fail) 50, .done (.data 7) 20] := by decide +kernel
  rw [this]
  match i with
  | 0 | 1 | 2 => simp
  | n + 3 => simp
-- complete_exactly_once_after_shutdown: a waiting Interest is cancelled, a validating one is left to its validator
example : (run .v2 (demo.take 6 ++ [.shutdown])).sts =
    [.done (.data 7) 20, .validating 7 50, .done (.data 7) 20] := by decide +kernel
example : (run .v2 (demo.take 5 ++ [.shutdown])).sts =
    [.done .cancelled 20, .done .cancelled 20, .done .cancelled 20] := by decide +kernel
-- frame: the second Interest of the demo, as a function of its own request and the later events
example : reqTrace .v2 1 ⟨[1, 2], none, true, 110, .fail, 30, 10⟩ 10 .waiting (demo.drop 3) = .done (.valFail 7 .fail) 50 := by
  decide +kernel

-- current front-end: lifetime 0 is a lifetime of 100 ms: a Data after 50 ms is returned, without one the timeout
-- comes at 100
example : (run .v2 [.tick 10, .express [1] none false 0 .pass 0 0 false, .tick 60, .data [1] 1 5, .tick 500]).sts =
    [.done (.data 5) 60] := by decide +kernel
example : (run .v2 [.tick 10, .express [1] none false 0 .pass 0 0 false, .tick 500]).sts = [.done .timeout 110] := by
  decide +kernel
-- legacy front-end: `wait_for(.., 0)` times out in the very instant of express; the entry is gone at once and a
-- later Data finds nobody
example : (run .v1 [.tick 10, .express [1] none false 0 .pass 0 0 false]).sts = [.done .timeout 10] ∧
    (run .v1 [.tick 10, .express [1] none false 0 .pass 0 0 false]).trie = [] := by decide +kernel
example : (run .v1 [.tick 10, .express [1] none false 0 .pass 0 0 false, .tick 50, .data [1] 1 5]).sts =
    [.done .timeout 10] := by decide +kernel

example : (run .v2 [.tick 10, .express [1] none false 50 .pass 0 0 true, .tick 40, .data [1] 1 5, .tick 500]).sts =
    [.done .noResponse 10] := by decide +kernel
-- ... and it does not get in the way of a proper Interest for the same name
example : (run .v2 [.tick 10, .express [1] none false 50 .pass 0 0 true, .express [1] none false 50 .pass 0 0 false,
    .tick 40, .data [1] 1 5]).sts = [.done .noResponse 10, .done (.data 5) 40] := by decide +kernel
-- the legacy front-end ignores the keyword
example : (run .v1 [.tick 10, .express [1] none false 50 .pass 0 0 true, .tick 40, .data [1] 1 5]).sts =
    [.done (.data 5) 40] := by decide +kernel

-- late await: express at 10, lifetime 53
-- awaited 20 ms later, inside the lifetime: the original deadline stands (current), a fresh lifetime starts (legacy)
example : (run .v2 [.tick 10, .express [1] none false 53 .pass 0 20 false, .tick 500]).sts = [.done .timeout 63] := by
  decide +kernel
example : (run .v1 [.tick 10, .express [1] none false 53 .pass 0 20 false, .tick 500]).sts = [.done .timeout 83] := by
  decide +kernel
-- awaited 60 ms later, after the lifetime: 100 ms of grace from the await (current): a Data 80 ms into the grace
-- period is returned, one after it comes too late
example : (run .v2 [.tick 10, .express [1] none false 53 .pass 0 60 false, .tick 150, .data [1] 1 5, .tick 500]).sts =
    [.done (.data 5) 150] := by decide +kernel
example : (run .v2 [.tick 10, .express [1] none false 53 .pass 0 60 false, .tick 180, .data [1] 1 5, .tick 500]).sts =
    [.done .timeout 170] := by decide +kernel
-- a Data that arrives before anybody awaits resolves the future; the caller gets it at its first await
-- (the legacy front-end starts the validator only then)
example : (run .v2 [.tick 10, .express [1] none false 53 .pass 0 60 false, .tick 40, .data [1] 1 5]).sts =
    [.held (.data 5)] := by decide +kernel
example : (run .v2 [.tick 10, .express [1] none false 53 .pass 0 60 false, .tick 40, .data [1] 1 5, .tick 500]).sts =
    [.done (.data 5) 70] := by decide +kernel
example : (run .v1 [.tick 10, .express [1] none false 53 .pass 44 60 false, .tick 40, .data [1] 1 5, .tick 500]).sts =
    [.done (.data 5) 114] ∧
    (run .v1 [.tick 10, .express [1] none false 53 .pass 44 60 false, .tick 40, .data [1] 1 5, .tick 500]).vcalls =
    [(0, 5, 70)] := by decide +kernel
-- before the first await there is nothing the caller could cancel
example : (run .v2 [.tick 10, .express [1] none false 53 .pass 0 60 false, .tick 40, .cancel 0, .tick 500]).sts =
    [.done .timeout 170] := by decide +kernel

/-- Interest with deadline 63; a matching Data arrives in the turn of instant 63 -/
def tieDemo : List Turn :=
  [⟨10, [.express [1] none false 53 .pass 0 0 false]⟩, ⟨63, [.data [1] 1 5]⟩, ⟨500, []⟩]

-- the two orders give different outcomes, and both are allowed
example : allowed .v2 tieDemo =
    [[.done .timeout 63], [.done (.data 5) 63], [.done .timeout 63], [.done (.data 5) 63]] := by decide +kernel
example : (reachable .v2 tieDemo).map (·.sts) = [[.done .timeout 63], [.done (.data 5) 63]] := by decide +kernel
-- a burst: two Data for one Interest in one turn - either may be the one that is returned
example : (reachable .v1 [⟨10, [.express [1] none true 53 .pass 0 0 false]⟩,
    ⟨20, [.data [1] 1 5, .data [1, 2] 2 6]⟩]).map (·.sts) = [[.done (.data 5) 20], [.done (.data 6) 20]] := by
  decide +kernel
-- a caller's cancellation and a Nack in one turn
example : (reachable .v2 [⟨10, [.express [1] none false 53 .pass 0 0 false]⟩,
    ⟨20, [.cancel 0, .nack [1] none 150]⟩]).map (·.sts) = [[.done .cancelled 20], [.done (.nack 150) 20]] := by
  decide +kernel
-- without a timer due at the instant and with a single event the turn has one outcome
example : (reachable .v2 [⟨10, [.express [1] none false 53 .pass 0 0 false]⟩, ⟨20, [.data [1] 1 5]⟩]).map (·.sts) =
    [[.done (.data 5) 20]] := by decide +kernel
example : Plain tieDemo := by
  intro u hu ev hev t
  simp only [tieDemo, List.mem_cons, List.not_mem_nil, or_false] at hu
  rcases hu with h | h | h <;> subst h <;> simp at hev <;> subst hev <;> simp

/-! ### what the model takes from the source text

`Ndn.Gen.C03` (lean/NdnGen/C03.lean) is regenerated from `src/ndn/appv2.py`, `src/ndn/app.py` and `src/ndn/name_tree.py`
by every check run (`harness/props/pit_extract.py`, `ast` only).  The entries the model computes with (`Pit.lifeOf`,
`Pit.expiry`, `Pit.silent`, `Pit.validatorOutcome`) are asserted equal to literals in `NdnProofs/Lemmas/PitGen.lean`; the
guards the model mirrors structurally are asserted here, entry by entry, equal to the normalised text the model was
written from: a source edit that changes one of them changes the table, and the theorem naming that entry stops checking. -/

/-- **default lifetimes.** An Interest's own lifetime counts when it has one (0 included); without one the current
    front-end uses `DEFAULT_LIFETIME` = 4000 ms and the legacy front-end waits 100 ms. -/
theorem default_lifetime (fe : FrontEnd) (l : Nat) :
    lifeOf fe (some l) = l ∧ lifeOf .v2 none = 4000 ∧ lifeOf .v1 none = 100 := by
  obtain ⟨h1, h2, h3, h4, _⟩ := gen_lifetimes
  refine ⟨?_, ?_, ?_⟩
  · cases fe <;> simp [lifeOf, shape, h2, h4, Src.Dflt.apply]
  · simp [lifeOf, shape, h1, h2, Src.Dflt.apply]
  · simp [lifeOf, shape, h3, h4, Src.Dflt.apply]

/-- the `except` clauses around `wait_for`: `TimeoutError` → `_remove_pending`, `InterestTimeout`; `CancelledError` →
    `_remove_pending`, `InterestCanceled`; nothing else -/
theorem gen_wait_handlers :
    Gen.C03.v2.waitHandlers = [(.timeoutError, true, "InterestTimeout()"), (.cancelledError, true, "InterestCanceled()")] ∧
    Gen.C03.v1.waitHandlers = [(.timeoutError, true, "InterestTimeout()"), (.cancelledError, true, "InterestCanceled()")] :=
  ⟨rfl, rfl⟩

/-- `express_raw_interest`: implicit digest (a Type-1 component with a 32-byte value) split off, `setdefault` of the
    node, `append_interest`, send, wait -/
theorem gen_express :
    Gen.C03.v2.express = "{if Component.TYPE_IMPLICIT_SHA256 == Component.get_type(final_name[-1]) and len(Component.get_value(final_name[-1])) == 32: node_name = final_name[:-1]; implicit_sha256 = Component.get_value(final_name[-1]) else: node_name = final_name; implicit_sha256 = b''} PIT.setdefault(node_name, InterestTreeNode()) create_future,setdefault,append_interest,send,_wait_for_data" ∧
    Gen.C03.v1.express = Gen.C03.v2.express := ⟨rfl, rfl⟩

/-- `_remove_pending`: the node is unlinked only when it is empty AND still the node linked under the name -/
theorem gen_remove_pending :
    Gen.C03.v2.removePending = "{if node is PIT.get(node_name) and node.timeout(future): del PIT[node_name]}" ∧
    Gen.C03.v1.removePending = Gen.C03.v2.removePending := ⟨rfl, rfl⟩

/-- `_on_data`: every prefix node is offered the Data with `prefix != name` as the is-prefix flag; emptied nodes are
    deleted after the walk -/
theorem gen_on_data :
    Gen.C03.v2.onData = "clean_list = []; {for (prefix, node) in PIT.prefixes(name): {if node.satisfy((name, meta_info, content, sig, raw_packet), prefix != name): clean_list.append(prefix)}}; {for prefix in clean_list: del PIT[prefix]}" ∧
    Gen.C03.v1.onData = Gen.C03.v2.onData := ⟨rfl, rfl⟩

/-- `_on_nack`: the node is deleted iff `nack_interest` says it is empty -/
theorem gen_on_nack :
    Gen.C03.v2.onNack = "node and node.nack_interest(nack_reason, implicit_sha256) => del PIT[node_name]" ∧
    Gen.C03.v1.onNack = Gen.C03.v2.onNack := ⟨rfl, rfl⟩

/-- `_clean_up`: every node's futures are cancelled, the table is cleared -/
theorem gen_clean_up :
    Gen.C03.v2.cleanUp = "{for node in PIT.itervalues(): node.cancel()}; PIT.clear()" ∧
    Gen.C03.v1.cleanUp = "{for node in PIT.itervalues(): node.cancel()}; self._prefix_tree.clear(); PIT.clear()" :=
  ⟨rfl, rfl⟩

/-- `InterestTreeNode.satisfy` (`Pit.passes`, `Pit.satisfyNode`): CanBePrefix-or-exact, implicit digest compared with
    `==` when one was asked for, unsatisfied entries kept, the list replaced only when some are left -/
theorem gen_satisfy :
    Gen.C03.nodeV2.satisfyPasses = "ite(E.can_be_prefix or not is_prefix, ite(E.implicit_sha256, E.implicit_sha256 == sha256(data[4]).digest(), True), False)" ∧
    Gen.C03.nodeV2.satisfyElse = "L.append(E)" ∧
    Gen.C03.nodeV2.satisfyKeep = "{if L: self.pending_list = L; return False else: return True}" ∧
    Gen.C03.nodeV1.satisfyPasses = Gen.C03.nodeV2.satisfyPasses ∧ Gen.C03.nodeV1.satisfyElse = Gen.C03.nodeV2.satisfyElse ∧
    Gen.C03.nodeV1.satisfyKeep = Gen.C03.nodeV2.satisfyKeep := ⟨rfl, rfl, rfl, rfl, rfl, rfl⟩

/-- a passed entry whose future is already done is skipped (`Pit.deliver`: only a `waiting` Interest changes state):
    legacy `if not entry.future.done(): set_result`; current: a validation task whose result is dropped by the guard in
    `PendingIntEntry.satisfy` -/
theorem gen_satisfy_done_guard :
    Gen.C03.nodeV1.satisfyHands = "{if not E.future.done(): E.future.set_result(data)}" ∧
    Gen.C03.nodeV2.satisfyHands = "create_task(E.satisfy(data))" ∧
    Gen.C03.nodeV2.satisfyDone = "if self.future.cancelled() or self.future.done(): return" := ⟨rfl, rfl, rfl⟩

/-- `nack_interest` (`Pit.onNack`, `Pit.nackEntry`): entries with another implicit digest stay, the named ones are
    failed unless their future is already done, the list is replaced, the return value says whether it is empty -/
theorem gen_nack_interest :
    Gen.C03.nodeV2.nackKeep = "E.implicit_sha256 != implicit_sha256" ∧
    Gen.C03.nodeV2.nackFails = "E.implicit_sha256 == implicit_sha256 and (not E.future.done()) => E.future.set_exception(InterestNack(nack_reason))" ∧
    Gen.C03.nodeV2.nackList = "self.pending_list = L; return not L" ∧
    Gen.C03.nodeV1.nackKeep = Gen.C03.nodeV2.nackKeep ∧ Gen.C03.nodeV1.nackFails = Gen.C03.nodeV2.nackFails ∧
    Gen.C03.nodeV1.nackList = Gen.C03.nodeV2.nackList := ⟨rfl, rfl, rfl, rfl, rfl, rfl⟩

/-- `timeout` removes exactly the entry of this future (identity), `cancel` cancels every future -/
theorem gen_timeout_cancel :
    Gen.C03.nodeV2.timeoutKeep = "E.future is not future" ∧ Gen.C03.nodeV2.timeoutReturn = "not L" ∧
    Gen.C03.nodeV2.cancel = "E.future.cancel() always" ∧
    Gen.C03.nodeV1.timeoutKeep = Gen.C03.nodeV2.timeoutKeep ∧ Gen.C03.nodeV1.timeoutReturn = Gen.C03.nodeV2.timeoutReturn ∧
    Gen.C03.nodeV1.cancel = Gen.C03.nodeV2.cancel := ⟨rfl, rfl, rfl, rfl, rfl, rfl⟩

/-- what stands in for a missing Data validator (current: `FAIL`; legacy: the application-wide `data_validator`)
    and what a failure raises (current: `ValidationFailure` carrying the verdict; legacy: without one) -/
theorem gen_data_failure :
    Gen.C03.v2.dataNoValidator = "valid = ValidResult.FAIL" ∧
    Gen.C03.v2.dataFailure = "self.future.set_exception(ValidationFailure(name, meta_info, content, sig, valid))" ∧
    Gen.C03.v1.dataNoValidator = "validator = self.data_validator" ∧
    Gen.C03.v1.dataFailure = "raise ValidationFailure(data_name, meta_info, content, sig)" := ⟨rfl, rfl, rfl, rfl⟩

/-- **validator answer → outcome.** Current front-end: `PASS` / `ALLOW_BYPASS` deliver the Data; any other value fails
    with `ValidationFailure` carrying it, a `TimeoutError` raised by the validator reads as `TIMEOUT`; any other exception
    kills the validation task and the future stays pending (no outcome: the deadline decides).  Legacy: a truthy answer
    delivers, a falsy one raises `ValidationFailure` without a verdict, the validator's own exception reaches the caller. -/
theorem outcome_table (fe : FrontEnd) (v : Verdict) (d : Nat) :
    validatorOutcome fe v d = validatorOutcomeRef fe v d := validatorOutcome_eq_ref fe v d

end Ndn.C03
