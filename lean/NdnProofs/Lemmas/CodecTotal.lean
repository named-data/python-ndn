import NdnProofs.Lemmas.CodecTurn
/-! Totality of the decoder model on arbitrary byte strings, for schemas without MapField (`pFs`):
    fuel = length + 1 is always enough and only documented error classes can come out (`Doc`, kept by `>>=`).
    The same for the outer reader `parse_and_check_tl`, and what it read when it succeeds. -/
namespace Ndn.Codec
open Ndn

/-- a result that is either a value or one of the documented decoding errors -/
def Doc {α} (x : Except PyErr α) : Prop := ∀ e, x = .error e → docErr e = true

theorem Doc.ok {α} (a : α) : Doc (Except.ok a : Except PyErr α) := by intro e h; cases h

theorem Doc.err {α} (e : PyErr) (h : docErr e = true) : Doc (Except.error e : Except PyErr α) := by
  intro e' h'; cases h'; exact h

theorem Doc.bind {α β} {x : Except PyErr α} {f : α → Except PyErr β}
    (hx : Doc x) (hf : ∀ a, x = .ok a → Doc (f a)) : Doc (x >>= f) := by
  cases x with
  | error e => intro e' h; cases h; exact hx e rfl
  | ok a => exact hf a rfl

theorem Doc.map {α β} {x : Except PyErr α} (f : α → β) (h : Doc x) : Doc (x.map f) := by
  intro e he
  cases x with
  | ok a => simp [Except.map] at he
  | error e' =>
    simp only [Except.map, Except.error.injEq] at he
    subst he
    exact h _ rfl

theorem parseTlNum_doc (buf : Bytes) (off : Nat) : Doc (parseTlNum buf off) := by
  intro e h
  rcases parseTlNum_error_class h with rfl | rfl <;> rfl

theorem leafCheck_doc (s : Schema) (len : Nat) (body : Bytes) : Doc (leafCheck s len body) := by
  unfold leafCheck
  split
  · repeat' split
    · exact Doc.ok _
    · exact Doc.err _ rfl
    · exact Doc.err _ rfl
  · exact Doc.ok _

theorem decodeName_doc (buf : Bytes) (off : Nat) : Doc (decodeName buf off) := by
  intro e h
  rw [decodeName_eq, decodeAt_eq_drop] at h
  cases hd : Name.decode (buf.drop off) with
  | ok r => rw [hd] at h; cases h
  | error e' =>
    rw [hd] at h; cases h
    rcases Name.decode_error_class hd with rfl | rfl | rfl <;> rfl

theorem pFs_get : ∀ (fs : List Schema) (i : Nat) (s : Schema), pFs fs = true → fs[i]? = some s → pS s = true :=
  allFs_get (fun _ _ => by rw [pFs])

theorem pS_elemOf {s : Schema} (h : pS s = true) (ht : s.typ ≠ none) :
    isMapS s = false ∧ pS (elemOf s) = true ∧ isElemKind (elemOf s) = true := by
  cases s with
  | map k v => simp [pS] at h
  | repeated e => simp only [pS, Bool.and_eq_true] at h; exact ⟨rfl, h.2, h.1⟩
  | marker => simp [Schema.typ] at ht
  | _ => exact ⟨rfl, h, rfl⟩

theorem pFs_field {fs : List Schema} {pos typ i : Nat} (hp : pFs fs = true) (hfind : findField fs pos typ = some i) :
    ∃ s, fs[i]? = some s ∧ isMapS s = false ∧ pS (elemOf s) = true ∧ isElemKind (elemOf s) = true := by
  obtain ⟨s, hs, htyp⟩ := findField_get fs pos typ i hfind
  exact ⟨s, hs, pS_elemOf (pFs_get fs i s hp hs) (by rw [htyp]; simp)⟩

theorem drop_len_lt {α} (rest : List α) (k f : Nat) (h : rest.length < f + 1) (hk : 2 ≤ k)
    (hr : 2 ≤ rest.length) : (rest.drop k).length < f := by
  simp; omega

theorem total_step : ∀ (fuel : Nat),
    (∀ (fs : List Schema) (ic : Bool) (rest : Bytes) (off pos : Nat) (acc : List Value),
      pFs fs = true → rest.length < fuel → Doc (parseFields fuel fs ic rest off pos acc)) ∧
    (∀ (s : Schema) (body elem : Bytes), pS s = true → isElemKind s = true → body.length + 1 < fuel →
      Doc (parseValue fuel s body elem))
  | 0 => ⟨fun _ _ _ _ _ _ _ h => by omega, fun _ _ _ _ _ h => by omega⟩
  | f + 1 => by
    obtain ⟨ihF, ihV⟩ := total_step f
    refine ⟨?_, ?_⟩
    · intro fs ic rest off pos acc hp hlen
      obtain hne | ⟨hne, ⟨e, herr⟩ | ⟨typ, st, len, sl, h1, h2⟩⟩ := hdr_cases rest
      · rw [parseFields_isEmpty hne]; exact Doc.ok _
      · rw [parseFields_hdr_error hne herr]
        obtain h1 | ⟨_, _, _, h2⟩ := herr
        · exact Doc.err _ (parseTlNum_doc _ _ e h1)
        · exact Doc.err _ (parseTlNum_doc _ _ e h2)
      have hst := parseTlNum_pos h1
      have hsl := parseTlNum_pos h2
      have hbody : (pySlice rest (st + sl) (st + sl + len)).length + 1 < f := by
        have := pySlice_len_le rest (st + sl) (st + sl + len); omega
      have hdrop : (rest.drop (st + sl + len)).length < f := drop_len_lt rest _ f hlen (by omega) (by omega)
      cases hfind : findField fs pos typ with
      | none =>
        rw [parseFields_unknown h1 h2 hfind]
        split
        · exact Doc.err _ rfl
        · exact ihF _ _ _ _ _ _ hp hdrop
      | some i =>
        obtain ⟨s, hs, hm, hpe, hke⟩ := pFs_field hp hfind
        rw [parseFields_field h1 h2 hfind hs hm]
        apply Doc.bind (leafCheck_doc _ _ _); intro _ _
        apply Doc.bind (ihV _ _ _ hpe hke hbody); intro _ _
        exact ihF _ _ _ _ _ _ hp hdrop
    · intro s body elem hps hk hlen
      unfold parseValue
      cases s with
      | uint t fl | bool t => exact Doc.ok _
      | bytes t b => simp only []; split <;> (try split) <;> first | exact Doc.ok _ | exact Doc.err _ rfl
      | name t => exact Doc.bind (decodeName_doc _ _) (fun _ _ => Doc.ok _)
      | model t fs' ic' =>
        simp only [pS] at hps
        exact Doc.bind (ihF _ _ _ _ _ _ hps (by omega)) (fun _ _ => Doc.ok _)
      | _ => simp [isElemKind] at hk

theorem parse_doc (fs : List Schema) (ic : Bool) (wire : Bytes) (hp : pFs fs = true) : Doc (parse fs ic wire) :=
  (total_step (wire.length + 1)).1 fs ic wire 0 0 _ hp (Nat.lt_succ_self _)

theorem parseAndCheckTl_doc (wire : Bytes) (t : Nat) : Doc (parseAndCheckTl wire t) := by
  unfold parseAndCheckTl
  apply Doc.bind (parseTlNum_doc _ _); intro ⟨typ, tl⟩ _
  apply Doc.bind (parseTlNum_doc _ _); intro ⟨size, sl⟩ _
  simp only []
  split
  · exact Doc.err _ rfl
  · split
    · exact Doc.err _ rfl
    · exact Doc.ok _

theorem parseAndCheckTl_ok {wire v : Bytes} {t : Nat} (h : parseAndCheckTl wire t = .ok v) :
    ∃ tl size sl, parseTlNum wire 0 = .ok (t, tl) ∧ parseTlNum wire tl = .ok (size, sl) ∧
      wire.length = tl + sl + size ∧ v = pySlice wire (tl + sl) (tl + sl + size) := by
  unfold parseAndCheckTl at h
  obtain ⟨⟨typ, tl⟩, h1, hv2⟩ := bind_ok h
  obtain ⟨⟨size, sl⟩, h2, hv3⟩ := bind_ok hv2
  simp only [] at hv3
  split at hv3
  · cases hv3
  · rename_i ht
    split at hv3
    · cases hv3
    · rename_i hl
      have : typ = t := by simpa using ht
      subst this
      cases hv3
      exact ⟨tl, size, sl, h1, h2, by simpa using hl, rfl⟩

end Ndn.Codec
