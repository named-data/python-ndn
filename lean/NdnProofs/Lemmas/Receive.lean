import NdnModel.Receive
import NdnProofs.Lemmas.PyDict
/-! The receive pipeline (C06, C10).  Defines `completedIds` and `State.WF`, which the statements of Props/C06 use, and
    the proofs' `Framed` and `Leak`.  Each of `_on_interest`, `_on_data`, `_on_nack` keeps `State.WF` and is `Framed`;
    `receive_cases` is the one walk over `_receive`: every outcome is a dropped packet, a `Leak`, or the outcome of one
    of the three.  Its two readings: `receive_exits` (normal returns) and `receive_raises` (exceptions). -/
namespace Ndn.Recv
open Ndn

def completedIds (effs : List Effect) : List Nat :=
  effs.filterMap fun
    | .nacked i _ => some i
    | .satisfied i => some i
    | .invoke _ _ => none

/-- reachable-state invariant of the pending-Interest table: one node per name, no empty node -/
def State.WF (st : State) : Prop :=
  (PyDict.keys st.pit).Nodup ∧ ∀ e ∈ st.pit, e.2 ≠ []

/-- what one reception may do to the tables of `st`: the handler table is untouched, no effect means no change,
    and a pending Interest it did not complete is still pending under the same name -/
def Framed (st : State) (res : Res) : Prop :=
  res.1.fib = st.fib ∧ (res.2 = [] → res.1 = st) ∧
  ∀ n node p, (n, node) ∈ st.pit → p ∈ node → p.id ∉ completedIds res.2 →
    ∃ node', (n, node') ∈ res.1.pit ∧ p ∈ node'

theorem Framed.same (st : State) (effs : List Effect) : Framed st (st, effs) :=
  ⟨rfl, fun _ => rfl, fun _ node _ h1 h2 _ => ⟨node, h1, h2⟩⟩

theorem filter_not_of_filter_nil {α} {f : α → Bool} {l : List α} (h : l.filter f = []) :
    l.filter (fun p => !f p) = l :=
  List.filter_eq_self.2 fun p hp => by simpa using List.filter_eq_nil_iff.1 h p hp

theorem mem_filter_not {α β} {f : α → Bool} {eff : α → β} {l : List α} {p : α} (hp : p ∈ l)
    (h : eff p ∉ (l.filter f).map eff) : p ∈ l.filter (fun p => !f p) ∧ (l.filter fun p => !f p).isEmpty = false :=
  have hf : f p = false := Bool.eq_false_iff.2 fun hf => h (List.mem_map_of_mem (List.mem_filter.2 ⟨hp, hf⟩))
  have hin : p ∈ l.filter (fun p => !f p) := List.mem_filter.2 ⟨hp, by rw [hf]; rfl⟩
  ⟨hin, List.isEmpty_eq_false_iff.2 (List.ne_nil_of_mem hin)⟩

theorem filterMap_eq_self {α} (f : α → Option α) (l : List α) (h : ∀ e ∈ l, f e = some e) :
    l.filterMap f = l := by
  induction l with
  | nil => rfl
  | cons a r ih =>
    rw [List.filterMap_cons, h a List.mem_cons_self, ih fun e he => h e (List.mem_cons_of_mem _ he)]

theorem onInterest_fst (st : State) (i : IntFacts) (tok : Option Bytes) : (onInterest st i tok).1 = st := by
  unfold onInterest; split
  · rfl
  · split <;> rfl

theorem onInterest_framed (st : State) (i : IntFacts) (tok : Option Bytes) : Framed st (onInterest st i tok) := by
  unfold onInterest; split
  · exact .same _ _
  · split <;> exact .same _ _

theorem onInterest_invoke {st : State} {i : IntFacts} {tok tok' : Option Bytes} {pfx : NameKey}
    (h : Effect.invoke pfx tok' ∈ (onInterest st i tok).2) : tok' = tok := by
  unfold onInterest at h
  split at h
  · cases h
  · split at h
    · cases h
    · cases List.mem_singleton.1 h
      rfl

theorem dataNode_key {d : DataFacts} {e e' : NameKey × List Pending} (h : dataNode d e = some e') :
    e'.1 = e.1 ∧ (e'.2 ≠ [] ∨ e' = e) := by
  unfold dataNode at h
  split at h
  · dsimp only at h
    split at h
    · cases h
    · rename_i hne
      cases h
      exact ⟨rfl, .inl fun hnil => hne (List.isEmpty_iff.2 hnil)⟩
  · cases h
    exact ⟨rfl, .inr rfl⟩

theorem dataNode_of_no_effect {d : DataFacts} {e : NameKey × List Pending} (h0 : dataEffects d e = [])
    (hne : e.2 ≠ []) : dataNode d e = some e := by
  unfold dataEffects at h0
  unfold dataNode
  split
  · rename_i hp
    rw [if_pos hp, List.map_eq_nil_iff] at h0
    simp only [filter_not_of_filter_nil h0, List.isEmpty_eq_false_iff.2 hne, Bool.false_eq_true, if_false]
  · rfl

theorem dataNode_keeps {d : DataFacts} {e : NameKey × List Pending} {p : Pending} (hp : p ∈ e.2)
    (h : Effect.satisfied p.id ∉ dataEffects d e) : ∃ node', dataNode d e = some (e.1, node') ∧ p ∈ node' := by
  unfold dataEffects at h
  unfold dataNode
  split
  · rename_i hpre
    rw [if_pos hpre] at h
    obtain ⟨hin, hemp⟩ := mem_filter_not hp h
    exact ⟨_, by simp only [hemp, Bool.false_eq_true, if_false], hin⟩
  · exact ⟨e.2, rfl, hp⟩

theorem keys_filterMap_sublist (d : DataFacts) (l : PyDict NameKey (List Pending)) :
    List.Sublist (PyDict.keys (l.filterMap (dataNode d))) (PyDict.keys l) := by
  induction l with
  | nil => exact List.Sublist.slnil
  | cons a r ih =>
    rw [List.filterMap_cons]
    cases h : dataNode d a with
    | none => exact List.Sublist.cons _ ih
    | some a' =>
      simp only [PyDict.keys, List.map_cons, (dataNode_key h).1] at ih ⊢
      exact List.Sublist.cons_cons _ ih

theorem onData_wf (st : State) (d : DataFacts) (h : st.WF) : (onData st d).1.WF := by
  refine ⟨List.Nodup.sublist (keys_filterMap_sublist d st.pit) h.1, fun e he => ?_⟩
  obtain ⟨e0, he0, hd⟩ := List.mem_filterMap.1 he
  rcases (dataNode_key hd).2 with h2 | h2
  · exact h2
  · rw [h2]; exact h.2 e0 he0

theorem onData_framed {st : State} (hwf : st.WF) (d : DataFacts) : Framed st (onData st d) := by
  refine ⟨rfl, fun he => ?_, fun n node p h1 h2 h3 => ?_⟩
  · have hall : ∀ e ∈ st.pit, dataNode d e = some e := fun e hem =>
      dataNode_of_no_effect (List.flatMap_eq_nil_iff.1 he e hem) (hwf.2 e hem)
    show ({ st with pit := st.pit.filterMap (dataNode d) } : State) = st
    rw [filterMap_eq_self _ _ hall]
  · obtain ⟨node', hn, hp⟩ := dataNode_keeps (d := d) (e := (n, node)) h2 fun hm =>
      h3 (List.mem_filterMap.2 ⟨_, List.mem_flatMap.2 ⟨_, h1, hm⟩, rfl⟩)
    exact ⟨node', List.mem_filterMap.2 ⟨_, h1, hn⟩, hp⟩

theorem onData_no_invoke {st : State} {d : DataFacts} {pfx : NameKey} {tok : Option Bytes} :
    Effect.invoke pfx tok ∉ (onData st d).2 := by
  intro hm
  obtain ⟨e, _, he⟩ := List.mem_flatMap.1 hm
  unfold dataEffects at he
  split at he
  · obtain ⟨q, _, hq⟩ := List.mem_map.1 he
    cases hq
  · cases he

theorem nackSplit_eq (g : Guards) (n : NameKey) (node : List Pending) :
    ∃ f : Pending → Bool, nackSplit g n node = (node.filter f, node.filter fun p => !f p) := by
  unfold nackSplit; split
  · exact ⟨_, rfl⟩
  · exact ⟨fun _ => true, Prod.ext (List.filter_eq_self.2 fun _ _ => rfl).symm
      (List.filter_eq_nil_iff.2 fun _ _ => Bool.false_ne_true).symm⟩

theorem onNack_ok {g : Guards} {st : State} {n : NameKey} {r : Nat} {res : Res} (h : onNack g st n r = .ok res) :
    res = (st, []) ∨ ∃ (node : List Pending) (f : Pending → Bool), st.pit.get? (nackNode g n) = some node ∧
      res = ({ st with pit := if (node.filter fun p => !f p).isEmpty then PyDict.erase st.pit (nackNode g n)
                              else PyDict.set st.pit (nackNode g n) (node.filter fun p => !f p) },
             (node.filter f).map fun p => Effect.nacked p.id r) := by
  unfold onNack at h
  split at h
  · split at h
    · cases h; exact .inl rfl
    · cases h
  · rename_i node hget
    obtain ⟨f, hs⟩ := nackSplit_eq g n node
    rw [hs] at h
    cases h
    exact .inr ⟨node, f, hget, rfl⟩

theorem onNack_wf {g : Guards} {st : State} {n : NameKey} {r : Nat} {res : Res} (h : st.WF)
    (hr : onNack g st n r = .ok res) : res.1.WF := by
  rcases onNack_ok hr with rfl | ⟨node, f, _, rfl⟩
  · exact h
  dsimp only
  split
  · exact ⟨List.Nodup.sublist (List.Sublist.map _ List.filter_sublist) h.1,
      fun e he => h.2 e (List.mem_filter.1 he).1⟩
  · rename_i hne
    refine ⟨PyDict.nodup_keys_set _ _ _ h.1, fun e he => ?_⟩
    rcases PyDict.mem_set_cases _ _ _ _ he with rfl | he
    · exact fun hnil => hne (List.isEmpty_iff.2 hnil)
    · exact h.2 e he

theorem onNack_framed {g : Guards} {st : State} {n : NameKey} {r : Nat} {res : Res} (hwf : st.WF)
    (h : onNack g st n r = .ok res) : Framed st res := by
  rcases onNack_ok h with rfl | ⟨node0, f, hget, rfl⟩
  · exact .same _ _
  refine ⟨rfl, fun he => ?_, fun n' node p h1 h2 h3 => ?_⟩
  · have hne0 : node0 ≠ [] := hwf.2 _ (PyDict.mem_of_get? _ _ _ hget)
    simp only [filter_not_of_filter_nil (List.map_eq_nil_iff.1 he), List.isEmpty_eq_false_iff.2 hne0,
      Bool.false_eq_true, if_false, PyDict.set_self _ _ _ hget]
  · by_cases hnk : n' = nackNode g n
    · subst hnk
      obtain rfl : node0 = node := Option.some.inj (hget.symm.trans (PyDict.get?_of_mem _ hwf.1 _ _ h1))
      obtain ⟨hin, hemp⟩ := mem_filter_not (eff := fun p => Effect.nacked p.id r) h2 fun hm =>
        h3 (List.mem_filterMap.2 ⟨_, hm, rfl⟩)
      refine ⟨_, ?_, hin⟩
      simp only [hemp, Bool.false_eq_true, if_false]
      exact PyDict.mem_set_self _ _ _
    · refine ⟨node, ?_, h2⟩
      dsimp only
      split
      · exact List.mem_filter.2 ⟨h1, by simpa using hnk⟩
      · exact PyDict.mem_set_of_ne _ _ _ _ h1 hnk

theorem guarded_cases {α} {caught : List PyErr} {st : State} {r : Except PyErr α} {k : α → Except PyErr Res}
    {P : Except PyErr Res → Prop} (drop : P (.ok (st, []))) (leak : ∀ e, r = .error e → e ∉ caught → P (.error e))
    (go : ∀ a, r = .ok a → P (k a)) : P (guarded caught st r k) := by
  unfold guarded
  cases r with
  | ok a => exact go a rfl
  | error e =>
    dsimp only
    split
    · exact drop
    · rename_i hc; exact leak e rfl hc

/-- the ways an exception class leaves `_receive`: a decoding step raises a class its `except` does not name,
    `parse_tl_num(None)` is reached with nothing to catch the `TypeError`, or `_on_nack` looks up a name nobody waits
    for without a guard -/
inductive Leak (g : Guards) (D : Decoders) : PyErr → Prop
  | lp {w e} : D.lp w = .error e → e ∉ g.caughtLp → Leak g D e
  | noFragment : g.fragNoneGuard = false → PyErr.typeError ∉ g.caughtFragTl → Leak g D .typeError
  | tl {w e} : D.tl w = .error e → e ∉ g.caughtFragTl → Leak g D e
  | nackInterest {w e} : D.interest w = .error e → e ∉ g.caughtNackInterest → Leak g D e
  | interest {w e} : D.interest w = .error e → e ∉ g.caughtInterest → Leak g D e
  | data {w e} : D.data w = .error e → e ∉ g.caughtData → Leak g D e
  | nackLookup : PyErr.keyError ∉ g.caughtNackLookup → Leak g D .keyError

theorem onNack_error {g : Guards} {D : Decoders} {st : State} {n : NameKey} {r : Nat} {e : PyErr}
    (h : onNack g st n r = .error e) : Leak g D e := by
  unfold onNack at h
  split at h
  · split at h
    · cases h
    · rename_i hk; cases h; exact .nackLookup hk
  · cases h

theorem receiveNet_cases {g : Guards} {D : Decoders} {st : State} {P : Except PyErr Res → Prop} (drop : P (.ok (st, [])))
    (leak : ∀ e, Leak g D e → P (.error e)) {nr : Option Nat} {tok : Option Bytes} {typ : Nat} {pkt : Bytes}
    (nack : ∀ r (i : IntFacts), nr = some r → P (onNack g st i.name r))
    (int : ∀ i, nr = none → P (.ok (onInterest st i (if g.usesPitToken then tok else none))))
    (data : ∀ d, nr = none → P (.ok (onData st d))) : P (receiveNet g D st nr tok typ pkt) := by
  unfold receiveNet
  split
  · exact guarded_cases drop (fun e he hc => leak e (.nackInterest he hc)) fun i _ => nack _ i rfl
  · split
    · exact guarded_cases drop (fun e he hc => leak e (.interest he hc)) fun i _ => int i rfl
    · split
      · exact guarded_cases drop (fun e he hc => leak e (.data he hc)) fun d _ => data d rfl
      · exact drop

theorem receive_cases {g : Guards} {D : Decoders} {st : State} {P : Except PyErr Res → Prop} (drop : P (.ok (st, [])))
    (leak : ∀ e, Leak g D e → P (.error e)) (nack : ∀ n r, P (onNack g st n r))
    (int : ∀ i tok, P (.ok (onInterest st i tok))) (data : ∀ d, P (.ok (onData st d))) (typ : Nat) (w : Bytes) : P (receive g D st typ w) := by
  have net : ∀ nr tok typ pkt, P (receiveNet g D st nr tok typ pkt) := fun _ _ _ _ =>
    receiveNet_cases drop leak (fun _ _ _ => nack _ _) (fun _ _ => int _ _) fun _ _ => data _
  unfold receive
  split
  · refine guarded_cases drop (fun e he hc => leak e (.lp he hc)) fun lp _ => ?_
    split
    · split
      · exact drop
      · rename_i hg
        exact guarded_cases drop (fun e he hc => by cases he; exact leak _ (.noFragment (by simpa using hg) hc))
          fun _ _ => drop
    · exact guarded_cases drop (fun e he hc => leak e (.tl he hc)) fun t _ => net _ _ _ _
  · exact net _ _ _ _

theorem receive_raises {g : Guards} {D : Decoders} {st : State} {typ : Nat} {w : Bytes} {e : PyErr}
    (h : receive g D st typ w = .error e) : Leak g D e :=
  receive_cases (P := fun r => ∀ e, r = .error e → Leak g D e) (fun _ h => nomatch h)
    (fun _ hl _ h => by cases h; exact hl) (fun _ _ _ h => onNack_error h) (fun _ _ _ h => nomatch h)
    (fun _ _ h => nomatch h) typ w e h

theorem receive_exits {g : Guards} {D : Decoders} {st : State} (P : Res → Prop) (drop : P (st, []))
    (nack : ∀ n r res, onNack g st n r = .ok res → P res) (int : ∀ i tok, P (onInterest st i tok))
    (data : ∀ d, P (onData st d)) {typ : Nat} {w : Bytes} {res : Res} (h : receive g D st typ w = .ok res) : P res :=
  receive_cases (P := fun r => ∀ res, r = .ok res → P res) (fun _ h => by cases h; exact drop)
    (fun _ _ _ h => nomatch h) nack (fun i tok _ h => by cases h; exact int i tok)
    (fun d _ h => by cases h; exact data d) typ w res h

end Ndn.Recv
