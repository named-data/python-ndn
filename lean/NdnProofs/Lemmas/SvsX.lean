import NdnProofs.Lemmas.Svs
/-! The statement-level model (`Ndn.Svs.stepX`) from a state at rest, in terms of the atomic model: one event is a
    short history of `step` (`stepX_flat`); `flatAll` does the same along a history, and `C18.runGX_park` is the theorem
    about it. -/
namespace Ndn.Svs
open Ndn

/-- `k` publications in a row (state only) -/
def pubN : Nat → State → State
  | 0, s => s
  | k + 1, s => pubN k (step s .publish).1

/-- the deadline the timer task waits for in a state at rest: the suppression period if one is open, else a
    steady period -/
def dueOf (s : State) : Due := if s.suppress then .sup else .steady

/-- the instance at rest: the timer task is parked (reset event consumed) on the period matching the state -/
def park (s : State) : TState := { st := s, due := dueOf s, rst := false }

/-- `t` is at rest -/
def Parked (t : TState) : Prop := t.rst = false ∧ t.due = dueOf t.st

theorem parked_iff (t : TState) : Parked t ↔ t = park t.st := by
  obtain ⟨s, d, r⟩ := t
  simp only [Parked, park, TState.mk.injEq, true_and]
  exact And.comm

theorem parked_park (s : State) : Parked (park s) := ⟨rfl, rfl⟩

theorem initX_eq_park (selfId : Bytes) (seq0 : Nat) : initX selfId seq0 = park (init selfId seq0) := rfl

theorem pubN_add_one (k : Nat) (s : State) : pubN (k + 1) s = (step (pubN k s) .publish).1 := by
  induction k generalizing s with
  | zero => rfl
  | succ k ih => exact ih _

theorem run_replicate_publish (k : Nat) (s : State) :
    (run s (List.replicate k .publish)).1 = pubN k s := by
  induction k generalizing s with
  | zero => rfl
  | succ k ih => exact ih _

theorem pubN_selfId (k : Nat) (s : State) : (pubN k s).selfId = s.selfId := by
  induction k generalizing s with
  | zero => rfl
  | succ k ih => exact ih _

theorem pubN_selfSeq (k : Nat) (s : State) : (pubN k s).selfSeq = s.selfSeq + k := by
  induction k generalizing s with
  | zero => rfl
  | succ k ih => exact (ih _).trans (Nat.succ_add_eq_add_succ ..)

theorem pubN_agg (k : Nat) (s : State) : (pubN k s).agg = s.agg := by
  induction k generalizing s with
  | zero => rfl
  | succ k ih => exact ih _

theorem pubN_other (k : Nat) (s : State) (i : Bytes) (h : i ≠ s.selfId) :
    vget (pubN k s).loc i = vget s.loc i := by
  induction k generalizing s with
  | zero => rfl
  | succ k ih => exact (ih (step s .publish).1 h).trans ((vget_set ..).trans (if_neg (Ne.symm h)))

theorem pubN_succ_suppress (k : Nat) (s : State) : (pubN (k + 1) s).suppress = false := by
  rw [pubN_add_one]; rfl

theorem pubN_own (k : Nat) (s : State) : vget (pubN (k + 1) s).loc s.selfId = s.selfSeq + (k + 1) := by
  rw [pubN_add_one]
  exact (vget_set ..).trans ((if_pos (pubN_selfId k s)).trans (congrArg (· + 1) (pubN_selfSeq k s)))

theorem pubN_succ_congr (k : Nat) (s : State) (b : Bool) :
    pubN (k + 1) { s with suppress := b } = pubN (k + 1) s := rfl

theorem callback_succ (k : Nat) (t : TState) :
    callback (k + 1) t = { st := pubN (k + 1) t.st, due := .now, rst := true } := by
  induction k generalizing t with
  | zero => rfl
  | succ k ih => exact ih _

theorem callbackKeep_succ (k : Nat) (t : TState) :
    callbackKeep (k + 1) t =
      { st := { pubN (k + 1) t.st with suppress := t.st.suppress }, due := .now, rst := true } := by
  induction k generalizing t with
  | zero => rfl
  | succ k ih => exact ih _

theorem dueOf_ne_now (s : State) : dueOf s ≠ .now := by
  unfold dueOf; split <;> exact Due.noConfusion

theorem settle_period (s : State) (r : Bool) :
    settle { st := s, due := dueOf s, rst := r } = (park s, []) := by
  unfold settle
  cases r
  · rfl
  · rw [if_pos rfl, if_neg (dueOf_ne_now s)]; rfl

/-- `s.suppress = false` is the protocol state SyncSteady, whatever period `d` the timer was waiting for -/
theorem fire_steady (s : State) (d : Due) (r : Bool) (h : s.suppress = false) :
    fire { st := s, due := d, rst := r } = (park s, [Out.emit s.loc]) := by
  simp only [fire, h, park, dueOf]; rfl

theorem fire_eq (t : TState) : fire t = (park (step t.st .timer).1, (step t.st .timer).2) := by
  unfold fire
  simp only [step]
  cases hs : t.st.suppress <;> simp [park, dueOf, hs]

/-- the timer task after the callback body: `new_data()` left the timer due now with the reset event set, so it fires
    at once -/
theorem settle_callback (k : Nat) (s : State) (r : Bool) :
    settle (callback k { st := s, due := dueOf s, rst := r }) =
      (park (pubN k s), if k = 0 then [] else [Out.emit (pubN k s).loc]) := by
  cases k with
  | zero => exact settle_period s r
  | succ k =>
    simp only [callback_succ, settle, if_true]
    rw [fire_steady _ _ _ (pubN_succ_suppress k s)]
    rfl

/-- when the timer fires at once after a publication, a suppression flag left set makes no difference provided the
    end-of-suppression test finds the local vector newer than the aggregate -/
theorem settle_callbackKeep (k : Nat) (s : State) (r : Bool)
    (hn : k ≠ 0 → necessary (pubN k s).loc (pubN k s).agg = true) :
    settle (callbackKeep k { st := s, due := dueOf s, rst := r }) =
      settle (callback k { st := s, due := dueOf s, rst := r }) := by
  cases k with
  | zero => rfl
  | succ k =>
    have hn := hn (Nat.succ_ne_zero k)
    have hs := pubN_succ_suppress k s
    simp only [callbackKeep_succ, callback_succ, settle, if_true]
    generalize pubN (k + 1) s = p at hn hs
    obtain ⟨i, q, l, a, sp⟩ := p
    cases hs
    cases s.suppress
    · rfl
    · simp only [fire, hn]; rfl

theorem bookkeeping_park (s : State) (rsv : Vec) :
    ∃ r, bookkeeping
        { st := { s with loc := (merged s rsv).1 },
          due := dueOf s, rst := false } rsv
        (merged s rsv).2.2 =
      { st := (afterBuild s rsv).1, due := dueOf (afterBuild s rsv).1, rst := r } := by
  rw [afterBuild_fst]
  obtain ⟨selfId, selfSeq, loc, agg, suppress⟩ := s
  unfold merged
  dsimp only
  generalize mergeLoop rsv loc false _ = m
  obtain ⟨loc', nf, nn⟩ := m
  cases suppress <;> cases nn <;> exact ⟨_, rfl⟩

/-- what a handler whose **last** statement is the callback (with body `body`) does from rest: the reception of
    the atomic model, then — if the callback fires — its body -/
def lastCb (body : Nat → TState → TState) (s : State) (es : List Entry) (r : Bool) (cb : Cb) : TState × ObsX :=
  let a := step s (.recv es)
  let t : TState := { st := a.1, due := dueOf a.1, rst := r }
  if a.2 = [Out.missing] then (body cb.pubs t, ⟨[Out.missing], cb.raises⟩) else (t, ⟨a.2, false⟩)

/-- `r`: whether the bookkeeping reset the timer -/
theorem handler_park (s : State) (es : List Entry) :
    ∃ r, ∀ cb, handler (park s) es cb = lastCb callback s es r cb ∧
      handlerKeep (park s) es cb = lastCb callbackKeep s es r cb := by
  unfold handler handlerKeep lastCb
  rcases step_recv_cases s es with ⟨he, hs⟩ | ⟨he, hb, hs⟩ | ⟨rsv, he, hb, hs⟩ <;> rw [hs]
  · simp only [he, if_true]; exact ⟨false, fun _ => ⟨rfl, rfl⟩⟩
  · simp only [park, he, hb]; exact ⟨false, fun _ => ⟨rfl, rfl⟩⟩
  · simp only [park, he, hb, Bool.false_eq_true, if_false]
    obtain ⟨r, hr⟩ := bookkeeping_park s rsv
    refine ⟨r, fun cb => ?_⟩
    have ho := afterBuild_out s rsv
    by_cases hm : (merged s rsv).2.1 = true
    · rw [if_pos hm] at ho; simp only [hr, ho, hm, if_true, and_self]
    · rw [if_neg hm] at ho; rw [hr, ho]; simp only [hm]; exact ⟨rfl, rfl⟩

theorem stepX_recvCb (s : State) (es : List Entry) (cb : Cb) :
    stepX (park s) (.recvCb es cb) =
      (let a := step s (.recv es)
       if a.2 = [Out.missing] then
         let s' := pubN cb.pubs a.1
         (park s', ⟨Out.missing :: (if cb.pubs = 0 then [] else [Out.emit s'.loc]), cb.raises⟩)
       else (park a.1, ⟨a.2, false⟩)) := by
  obtain ⟨r, hr⟩ := handler_park s es
  simp only [stepX, stepWith, (hr cb).1, lastCb]
  split
  · rw [settle_callback]; rfl
  · simp only [settle_period, List.append_nil]

theorem stepXKeep_recvCb (s : State) (es : List Entry) (cb : Cb)
    (hn : (step s (.recv es)).2 = [Out.missing] → cb.pubs ≠ 0 →
      necessary (pubN cb.pubs (step s (.recv es)).1).loc (pubN cb.pubs (step s (.recv es)).1).agg = true) :
    stepXKeep (park s) (.recvCb es cb) = stepX (park s) (.recvCb es cb) := by
  obtain ⟨r, hr⟩ := handler_park s es
  simp only [stepXKeep, stepX, stepWith, (hr cb).1, (hr cb).2, lastCb]
  split
  · rw [settle_callbackKeep _ _ _ (hn ‹_›)]
  · rfl

theorem stepX_publish (s : State) :
    stepX (park s) .publish = (park (step s .publish).1, ⟨(step s .publish).2, false⟩) := by
  simp only [stepX, stepWith, newData, settle, park, if_true]
  rw [fire_steady _ _ _ rfl]
  rfl

theorem stepX_timer (s : State) :
    stepX (park s) .timer = (park (step s .timer).1, ⟨(step s .timer).2, false⟩) := by
  simp only [stepX, stepWith]; rw [fire_eq]; rfl

/-- the events of the atomic model one event of the statement-level model amounts to (the publications made by the
    callback happen iff the callback fires) -/
def flat (s : State) : EvX → List Ev
  | .recvCb es cb =>
    if (step s (.recv es)).2 = [Out.missing] then .recv es :: List.replicate cb.pubs .publish else [.recv es]
  | .undecodable => [.undecodable]
  | .publish => [.publish]
  | .timer => [.timer]

/-- a state at rest steps to a state at rest: no publication stays unannounced, no reset event unconsumed -/
theorem stepX_flat (s : State) (e : EvX) : (stepX (park s) e).1 = park (run s (flat s e)).1 := by
  cases e with
  | undecodable => rfl
  | publish => rw [stepX_publish]; rfl
  | timer => rw [stepX_timer]; rfl
  | recvCb es cb =>
    rw [stepX_recvCb]
    simp only [flat]
    split
    · exact congrArg park (run_replicate_publish ..).symm
    · rfl

/-- a history of the statement-level model, flattened along the states the atomic model runs through -/
def flatAll (s : State) : List EvX → List Ev
  | [] => []
  | e :: r => flat s e ++ flatAll (run s (flat s e)).1 r

/-- with the callback before the bookkeeping (`handlerEarly`) the handler's own timer bookkeeping overrides a publishing
    callback: the callback is all the outside sees, and the timer task is parked on a whole suppression or steady
    period -/
theorem stepXEarly_recvPub (s : State) (es : List Entry) (k : Nat)
    (hf : (step s (.recv es)).2 = [Out.missing]) :
    ∃ s', stepXEarly (park s) (.recvCb es ⟨k + 1, false⟩) = (park s', ⟨[Out.missing], false⟩) ∧
      s'.selfSeq = s.selfSeq + (k + 1) ∧ vget s'.loc s.selfId = s.selfSeq + (k + 1) := by
  rcases step_recv_cases s es with ⟨_, hs⟩ | ⟨_, _, hs⟩ | ⟨rsv, hne, hb, hs⟩ <;> rw [hs] at hf
  · cases hf
  · cases hf
  · rw [afterBuild_out] at hf
    have hm : (merged s rsv).2.1 = true :=
      Decidable.by_contra fun h => by rw [if_neg h] at hf; cases hf
    simp only [stepXEarly, stepWith, handlerEarly, park, hne, hb, hm, if_true, callback_succ,
      Bool.false_eq_true, if_false, bookkeeping, pubN_succ_suppress, Bool.or_false, Bool.not_false]
    generalize mergeLoop rsv s.loc false _ = m
    -- the bookkeeping block runs on the published state and overwrites `due := now`
    split
    · exact ⟨{ pubN (k + 1) { s with loc := m.1 } with suppress := true, agg := rsv }, by simp [settle, dueOf],
        pubN_selfSeq (k + 1) { s with loc := m.1 }, pubN_own k { s with loc := m.1 }⟩
    · exact ⟨pubN (k + 1) { s with loc := m.1 }, by simp [settle, dueOf, pubN_succ_suppress],
        pubN_selfSeq (k + 1) { s with loc := m.1 }, pubN_own k { s with loc := m.1 }⟩

end Ndn.Svs
