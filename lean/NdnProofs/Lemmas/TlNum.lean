import NdnModel.TlNum
import NdnProofs.Lemmas.Basic
/-! T/L numbers and single TLV elements at byte level.  `parseTlNum_ok_iff` says what a successful `parse_tl_num` read
    (the first byte and, behind a marker byte, `unpackAt`); every later fact about the reader goes through it: reading
    what `write_tl_num` wrote (`parse_write`), the header of `tlv t v` (`parse_tlv_T/L`, `head_elem`), the element at an
    offset in any form of Type and Length (`elemLen`, `IsElem`). -/
namespace Ndn

/-! Python slices: `pySlice buf a b = (buf.take b).drop a`. Reading a suffix `buf.drop k` is reading `buf` further right
    (`_drop`, here and for the readers below); the forms for a prefix `pre ++ buf` (`_shift`) are instances. -/

theorem pySlice_drop {α} (buf : List α) (k a b : Nat) : pySlice (buf.drop k) a b = pySlice buf (k + a) (k + b) := by
  unfold pySlice
  rw [List.take_drop, List.drop_drop]

theorem pySlice_shift {α} (pre buf : List α) (a b : Nat) :
    pySlice (pre ++ buf) (pre.length + a) (pre.length + b) = pySlice buf a b := by
  rw [← pySlice_drop, List.drop_left]

theorem pySlice_append_of_le {α} {buf : List α} (R : List α) (a : Nat) {b : Nat} (h : b ≤ buf.length) :
    pySlice (buf ++ R) a b = pySlice buf a b := by
  simp only [pySlice]; rw [List.take_append_of_le_length h]

theorem pySlice_append_left {α} (a b : List α) (n : Nat) (h : n = a.length) :
    pySlice (a ++ b) 0 n = a := by
  subst h; simp [pySlice]

theorem pySlice_mid {α} (x y z : List α) : pySlice (x ++ y ++ z) x.length (x.length + y.length) = y := by
  rw [List.append_assoc]
  exact (pySlice_shift x (y ++ z) 0 y.length).trans (pySlice_append_left y z _ rfl)

theorem pySlice_to_end {α} (x y : List α) : pySlice (x ++ y) x.length (x ++ y).length = y := by
  have h := pySlice_mid x y []
  rwa [List.append_nil, ← List.length_append] at h

theorem pySlice_eq_take_drop {α} (rest : List α) (hdr len : Nat) :
    pySlice rest hdr (hdr + len) = (rest.drop hdr).take len := by
  unfold pySlice
  rw [List.drop_take]
  congr 1
  omega

theorem pySlice_len_le {α} (buf : List α) (a b : Nat) : (pySlice buf a b).length ≤ buf.length - a := by
  simp [pySlice]; omega

theorem pySlice_length_of_le {α} (buf : List α) (a b : Nat) (h : b ≤ buf.length) :
    (pySlice buf a b).length = b - a := by
  simp [pySlice]; omega

theorem slice_join {α} (buf : List α) (a b c : Nat) (hab : a ≤ b) (hbc : b ≤ c) (hc : c ≤ buf.length) :
    pySlice buf a b ++ pySlice buf b c = pySlice buf a c := by
  unfold pySlice
  have e : buf.take c = buf.take b ++ (buf.take c).drop b := by
    have := (List.take_append_drop b (buf.take c)).symm
    rwa [List.take_take, Nat.min_eq_left hbc] at this
  have e2 : (buf.take c).drop a = (buf.take b ++ (buf.take c).drop b).drop a := by rw [← e]
  rw [e2, List.drop_append_of_le_length (by rw [List.length_take]; omega)]

@[simp] theorem be1_length (v) : (be1 v).length = 1 := rfl
@[simp] theorem be2_length (v) : (be2 v).length = 2 := rfl
@[simp] theorem be4_length (v) : (be4 v).length = 4 := rfl
@[simp] theorem be8_length (v) : (be8 v).length = 8 := rfl

theorem tlNumSize_cases (v : Nat) :
    tlNumSize v = 1 ∨ tlNumSize v = 3 ∨ tlNumSize v = 5 ∨ tlNumSize v = 9 := by
  unfold tlNumSize; repeat' split
  all_goals simp

theorem tlNumSize_pos (v : Nat) : 0 < tlNumSize v := by
  have := tlNumSize_cases v; omega

theorem tlNumSize_le_nine (v : Nat) : tlNumSize v ≤ 9 := by
  have := tlNumSize_cases v; omega

theorem tlNumSize_eq_one {v : Nat} (h : v ≤ 0xFC) : tlNumSize v = 1 := by
  unfold tlNumSize; rw [if_pos h]
theorem tlNumSize_eq_three {v : Nat} (h1 : 0xFC < v) (h2 : v ≤ 0xFFFF) : tlNumSize v = 3 := by
  unfold tlNumSize; rw [if_neg (by omega), if_pos h2]
theorem tlNumSize_eq_five {v : Nat} (h1 : 0xFFFF < v) (h2 : v ≤ 0xFFFFFFFF) : tlNumSize v = 5 := by
  unfold tlNumSize; rw [if_neg (by omega), if_neg (by omega), if_pos h2]
theorem tlNumSize_eq_nine {v : Nat} (h : 0xFFFFFFFF < v) : tlNumSize v = 9 := by
  unfold tlNumSize; rw [if_neg (by omega), if_neg (by omega), if_neg (by omega)]

theorem tlNumSize_mono {a b : Nat} (h : a ≤ b) : tlNumSize a ≤ tlNumSize b := by
  by_cases h1 : b ≤ 0xFC
  · have : a ≤ 0xFC := Nat.le_trans h h1
    simp only [tlNumSize, h1, this, if_true]; exact Nat.le_refl _
  by_cases h2 : b ≤ 0xFFFF
  · have : a ≤ 0xFFFF := Nat.le_trans h h2
    simp only [tlNumSize, h1, h2, this, if_true, if_false]; split <;> omega
  by_cases h3 : b ≤ 0xFFFFFFFF
  · have : a ≤ 0xFFFFFFFF := Nat.le_trans h h3
    simp only [tlNumSize, h1, h2, h3, this, if_true, if_false]; (repeat' split) <;> omega
  · have := tlNumSize_cases a
    simp only [tlNumSize, h1, h2, h3, if_false] at this ⊢; omega

theorem writeTlNum_eq_be1 {v : Nat} (h : v ≤ 0xFC) : writeTlNum v = be1 v := by
  unfold writeTlNum; rw [if_pos h]
theorem writeTlNum_eq_be2 {v : Nat} (h1 : 0xFC < v) (h2 : v ≤ 0xFFFF) : writeTlNum v = 0xFD :: be2 v := by
  unfold writeTlNum; rw [if_neg (by omega), if_pos h2]
theorem writeTlNum_eq_be4 {v : Nat} (h1 : 0xFFFF < v) (h2 : v ≤ 0xFFFFFFFF) : writeTlNum v = 0xFE :: be4 v := by
  unfold writeTlNum; rw [if_neg (by omega), if_neg (by omega), if_pos h2]
theorem writeTlNum_eq_be8 {v : Nat} (h : 0xFFFFFFFF < v) : writeTlNum v = 0xFF :: be8 v := by
  unfold writeTlNum; rw [if_neg (by omega), if_neg (by omega), if_neg (by omega)]

theorem writeTlNum_length (v : Nat) : (writeTlNum v).length = tlNumSize v := by
  unfold writeTlNum tlNumSize; repeat' split
  all_goals simp

theorem tlv_length (t : Nat) (v : Bytes) :
    (tlv t v).length = tlNumSize t + tlNumSize v.length + v.length := by
  simp only [tlv, List.length_append, writeTlNum_length]

theorem tlv_length_ge (t : Nat) (v : Bytes) : 2 ≤ (tlv t v).length := by
  have a := tlNumSize_pos t
  have b := tlNumSize_pos v.length
  rw [tlv_length]; omega

theorem tlv_ne_nil (t : Nat) (v : Bytes) : tlv t v ≠ [] := by
  intro h
  have := tlv_length_ge t v
  rw [h] at this; cases this

theorem tlv_length_le (t : Nat) (v : Bytes) : (tlv t v).length ≤ v.length + 18 := by
  have := tlNumSize_le_nine t
  have := tlNumSize_le_nine v.length
  rw [tlv_length]; omega

theorem tlv_body_lt {t n : Nat} {v R : Bytes} (h : (tlv t v ++ R).length < n) : v.length < n := by
  rw [List.length_append, tlv_length] at h; omega

theorem tlv_length_small (t : Nat) (v : Bytes) (ht : t ≤ 252) (hv : v.length ≤ 252) :
    (tlv t v).length = v.length + 2 := by
  rw [tlv_length, tlNumSize_eq_one ht, tlNumSize_eq_one hv]; omega

theorem tlv_drop_header (t : Nat) (v : Bytes) : (tlv t v).drop (tlNumSize t + tlNumSize v.length) = v := by
  have : tlNumSize t + tlNumSize v.length = (writeTlNum t ++ writeTlNum v.length).length := by
    simp [writeTlNum_length]
  rw [tlv, this, List.drop_left]

theorem beVal_snoc (l : Bytes) (b : UInt8) : beVal (l ++ [b]) = beVal l * 256 + b.toNat := by
  simp [beVal]

/-! `be2`, `be4`, `be8` list the digits `v / 256 ^ n` from the top one down: each digit appended to a prefix
    worth `v / 256 ^ (n + 1)` makes it worth `v / 256 ^ n`. -/

theorem beVal_top {v n : Nat} (h : v < 256 ^ (n + 1)) :
    beVal [UInt8.ofNat (v / 256 ^ n)] = v / 256 ^ n := by
  rw [Nat.pow_succ] at h
  simp only [beVal, List.foldl, UInt8.toNat_ofNat', Nat.zero_mul, Nat.zero_add]
  exact Nat.mod_eq_of_lt (Nat.div_lt_of_lt_mul h)

theorem beVal_mid {l : Bytes} {v n : Nat} (h : beVal l = v / 256 ^ (n + 1)) :
    beVal (l ++ [UInt8.ofNat (v / 256 ^ n)]) = v / 256 ^ n := by
  rw [beVal_snoc, h, UInt8.toNat_ofNat', Nat.pow_succ, ← Nat.div_div_eq_div_mul]
  exact Nat.div_add_mod' _ _

theorem beVal_last {l : Bytes} {v : Nat} (h : beVal l = v / 256) : beVal (l ++ [UInt8.ofNat v]) = v := by
  rw [beVal_snoc, h, UInt8.toNat_ofNat']
  exact Nat.div_add_mod' _ _

theorem beVal_be1 (v : Nat) (h : v < 256) : beVal (be1 v) = v := by
  have := beVal_top (n := 0) h
  rwa [Nat.pow_zero, Nat.div_one] at this
theorem beVal_be2 (v : Nat) (h : v < 65536) : beVal (be2 v) = v :=
  beVal_last (beVal_top (n := 1) h)
theorem beVal_be4 (v : Nat) (h : v < 4294967296) : beVal (be4 v) = v :=
  beVal_last (beVal_mid (n := 1) (beVal_mid (n := 2) (beVal_top (n := 3) h)))
theorem beVal_be8 (v : Nat) (h : v < 18446744073709551616) : beVal (be8 v) = v :=
  beVal_last (beVal_mid (n := 1) (beVal_mid (n := 2) (beVal_mid (n := 3) (beVal_mid (n := 4)
    (beVal_mid (n := 5) (beVal_mid (n := 6) (beVal_top (n := 7) h)))))))

theorem packUint_length (v : Nat) :
    (packUint v).length = 1 ∨ (packUint v).length = 2 ∨ (packUint v).length = 4 ∨ (packUint v).length = 8 := by
  unfold packUint; repeat' split
  all_goals simp

theorem packUint_length_le (v : Nat) : (packUint v).length ≤ 8 := by
  have := packUint_length v; omega

theorem beVal_packUint (v : Nat) (h : v < 2^64) : beVal (packUint v) = v := by
  unfold packUint
  split
  · exact beVal_be1 v (by omega)
  · split
    · exact beVal_be2 v (by omega)
    · split
      · exact beVal_be4 v (by omega)
      · exact beVal_be8 v (by omega)

theorem beVal_bound_aux : ∀ (s : Bytes) (a : Nat),
    s.foldl (fun a b => a * 256 + b.toNat) a + 1 ≤ (a + 1) * 256 ^ s.length
  | [], a => by simp
  | b :: r, a => by
    have := beVal_bound_aux r (a * 256 + b.toNat)
    have hb := b.toNat_lt
    simp only [List.foldl, List.length_cons, Nat.pow_succ]
    calc _ ≤ (a * 256 + b.toNat + 1) * 256 ^ r.length := this
      _ ≤ ((a + 1) * 256) * 256 ^ r.length := Nat.mul_le_mul_right _ (by omega)
      _ = (a + 1) * (256 ^ r.length * 256) := by rw [Nat.mul_assoc, Nat.mul_comm 256]

theorem beVal_lt (b : Bytes) : beVal b < 256 ^ b.length := by
  have := beVal_bound_aux b 0
  simp only [beVal]; omega

theorem beVal_lt_of_width {v : Bytes} (h : v.length ≤ 8) : beVal v < 2^64 := by
  have := beVal_lt v
  have := Nat.pow_le_pow_right (n := 256) (by omega) h
  omega

theorem unpackAt_ok {buf : Bytes} {a k v : Nat} (h : unpackAt buf a k = .ok v) :
    (pySlice buf a (a + k)).length = k ∧ v = beVal (pySlice buf a (a + k)) := by
  unfold unpackAt at h; simp only [] at h; split at h
  · rename_i hl; cases h; exact ⟨hl, rfl⟩
  · cases h

theorem unpackAt_lt {bs : Bytes} {a k x : Nat} (h : unpackAt bs a k = .ok x) : x < 256 ^ k := by
  obtain ⟨hl, rfl⟩ := unpackAt_ok h
  have := beVal_lt (pySlice bs a (a + k))
  rwa [hl] at this

theorem unpackAt_error {buf : Bytes} {a n : Nat} {e : PyErr} (h : unpackAt buf a n = .error e) : e = .structError := by
  unfold unpackAt at h
  simp only at h
  split at h <;> cases h
  rfl

theorem unpackAt_congr {buf buf' : Bytes} {a a' k : Nat} (h : pySlice buf a (a + k) = pySlice buf' a' (a' + k)) :
    unpackAt buf a k = unpackAt buf' a' k := by
  unfold unpackAt; rw [h]

theorem unpackAt_mid (pre s rest : Bytes) : unpackAt (pre ++ s ++ rest) pre.length s.length = .ok (beVal s) := by
  unfold unpackAt; simp only [pySlice_mid, if_true]

theorem unpackAt_drop (buf : Bytes) (k a n : Nat) : unpackAt (buf.drop k) a n = unpackAt buf (k + a) n := by
  unfold unpackAt
  rw [pySlice_drop, Nat.add_assoc]

theorem parseTlNum_ok_iff {buf : Bytes} {off v n : Nat} :
    parseTlNum buf off = .ok (v, n) ↔ ∃ b, buf[off]? = some b ∧
      ((b.toNat ≤ 252 ∧ v = b.toNat ∧ n = 1) ∨ (b.toNat = 253 ∧ unpackAt buf (off + 1) 2 = .ok v ∧ n = 3) ∨
       (b.toNat = 254 ∧ unpackAt buf (off + 1) 4 = .ok v ∧ n = 5) ∨
       (b.toNat = 255 ∧ unpackAt buf (off + 1) 8 = .ok v ∧ n = 9)) := by
  unfold parseTlNum
  cases hb : buf[off]? with
  | none => simp
  | some b =>
    have hlt := b.toNat_lt
    simp only [Option.some.injEq, exists_eq_left']
    constructor
    · intro h
      split at h
      · rename_i c; cases h; exact .inl ⟨c, rfl, rfl⟩
      split at h
      · rename_i c
        obtain ⟨x, hx, h2⟩ := Codec.bind_ok h; cases h2
        exact .inr (.inl ⟨c, hx, rfl⟩)
      split at h
      · rename_i c
        obtain ⟨x, hx, h2⟩ := Codec.bind_ok h; cases h2
        exact .inr (.inr (.inl ⟨c, hx, rfl⟩))
      · obtain ⟨x, hx, h2⟩ := Codec.bind_ok h; cases h2
        exact .inr (.inr (.inr ⟨by omega, hx, rfl⟩))
    · rintro (⟨c, rfl, rfl⟩ | ⟨c, hu, rfl⟩ | ⟨c, hu, rfl⟩ | ⟨c, hu, rfl⟩)
      · rw [if_pos c]
      · rw [if_neg (by omega), if_pos c, hu]; rfl
      · rw [if_neg (by omega), if_neg (by omega), if_pos c, hu]; rfl
      · rw [if_neg (by omega), if_neg (by omega), if_neg (by omega), hu]; rfl

theorem parseTlNum_le {buf : Bytes} {off v n : Nat} (h : parseTlNum buf off = .ok (v, n)) :
    off + n ≤ buf.length := by
  obtain ⟨b, hb, hc⟩ := parseTlNum_ok_iff.1 h
  have hlt : off < buf.length := lt_of_getElem? hb
  obtain ⟨_, _, rfl⟩ | ⟨_, hu, rfl⟩ | ⟨_, hu, rfl⟩ | ⟨_, hu, rfl⟩ := hc
  · omega
  all_goals
    have := (unpackAt_ok hu).1
    simp only [pySlice, List.length_drop, List.length_take] at this
    omega

theorem parseTlNum_bounds {buf : Bytes} {off v n : Nat} (h : parseTlNum buf off = .ok (v, n)) :
    (n = 1 ∧ v ≤ 252) ∨ (n = 3 ∧ v < 65536) ∨ (n = 5 ∧ v < 4294967296) ∨ (n = 9 ∧ v < 18446744073709551616) := by
  obtain ⟨b, -, h | ⟨-, hu, hn⟩ | ⟨-, hu, hn⟩ | ⟨-, hu, hn⟩⟩ := parseTlNum_ok_iff.1 h
  · omega
  all_goals have := unpackAt_lt hu; omega

theorem parseTlNum_pos {buf : Bytes} {off v n : Nat} (h : parseTlNum buf off = .ok (v, n)) :
    1 ≤ n ∧ off < buf.length := by
  have := parseTlNum_le h
  have := parseTlNum_bounds h
  omega

theorem Codec.isEmpty_of_tl {rest : Bytes} {off typ st : Nat} (h1 : parseTlNum rest off = .ok (typ, st)) :
    rest.isEmpty = false := by
  cases rest with
  | nil => simp [parseTlNum] at h1
  | cons a r => rfl

theorem parseTlNum_size_ge {buf : Bytes} {off v n : Nat} (h : parseTlNum buf off = .ok (v, n)) :
    tlNumSize v ≤ n ∧ n ≤ 9 := by
  rcases parseTlNum_bounds h with ⟨rfl, hv⟩ | ⟨rfl, hv⟩ | ⟨rfl, hv⟩ | ⟨rfl, hv⟩
  · exact ⟨tlNumSize_mono (b := 252) hv, by decide⟩
  · exact ⟨tlNumSize_mono (b := 65535) (by omega), by decide⟩
  · exact ⟨tlNumSize_mono (b := 4294967295) (by omega), by decide⟩
  · exact ⟨tlNumSize_le_nine v, Nat.le_refl _⟩

theorem parseTlNum_error_class {buf : Bytes} {off : Nat} {e : PyErr} (h : parseTlNum buf off = .error e) :
    e = .indexError ∨ e = .structError := by
  unfold parseTlNum at h
  cases hb : buf[off]? with
  | none => rw [hb] at h; cases h; exact .inl rfl
  | some b =>
    rw [hb] at h
    dsimp only at h
    -- past the first byte only `unpackAt` can fail
    have key : ∀ k n, (unpackAt buf (off + 1) k >>= fun v => (pure (v, n) : Except PyErr (Nat × Nat))) = .error e →
        e = .structError := fun k n h' =>
      unpackAt_error ((bind_error_cases h').elim id fun ⟨_, _, h''⟩ => nomatch h'')
    by_cases c1 : b.toNat ≤ 0xFC
    · rw [if_pos c1] at h; cases h
    by_cases c2 : b.toNat = 0xFD
    · rw [if_neg c1, if_pos c2] at h; exact .inr (key _ _ h)
    by_cases c3 : b.toNat = 0xFE
    · rw [if_neg c1, if_neg c2, if_pos c3] at h; exact .inr (key _ _ h)
    · rw [if_neg c1, if_neg c2, if_neg c3] at h; exact .inr (key _ _ h)

theorem parseTlNum_drop (buf : Bytes) (k off : Nat) : parseTlNum (buf.drop k) off = parseTlNum buf (k + off) := by
  unfold parseTlNum
  rw [List.getElem?_drop]
  simp only [unpackAt_drop, Nat.add_assoc]

theorem parseTlNum_shift (pre buf : Bytes) (off : Nat) :
    parseTlNum (pre ++ buf) (pre.length + off) = parseTlNum buf off := by
  rw [← parseTlNum_drop, List.drop_left]

theorem parseTlNum_of_agree {buf buf' : Bytes} {off v n : Nat} (h : parseTlNum buf off = .ok (v, n))
    (h0 : buf'[off]? = buf[off]?)
    (hs : pySlice buf' (off + 1) (off + 1 + (n - 1)) = pySlice buf (off + 1) (off + 1 + (n - 1))) :
    parseTlNum buf' off = .ok (v, n) := by
  obtain ⟨b, hb, hc⟩ := parseTlNum_ok_iff.1 h
  refine parseTlNum_ok_iff.2 ⟨b, h0.trans hb, ?_⟩
  obtain c | ⟨c, hu, rfl⟩ | ⟨c, hu, rfl⟩ | ⟨c, hu, rfl⟩ := hc
  · exact .inl c
  · exact .inr (.inl ⟨c, (unpackAt_congr hs).trans hu, rfl⟩)
  · exact .inr (.inr (.inl ⟨c, (unpackAt_congr hs).trans hu, rfl⟩))
  · exact .inr (.inr (.inr ⟨c, (unpackAt_congr hs).trans hu, rfl⟩))

theorem parseTlNum_append {buf : Bytes} {off v n : Nat} (R : Bytes)
    (h : parseTlNum buf off = .ok (v, n)) : parseTlNum (buf ++ R) off = .ok (v, n) := by
  have hle := parseTlNum_le h
  have hpos := parseTlNum_pos h
  exact parseTlNum_of_agree h (List.getElem?_append_left hpos.2) (pySlice_append_of_le R _ (by omega))

theorem parseTlNum_prefix {buf R : Bytes} {off v n : Nat} (h : parseTlNum (buf ++ R) off = .ok (v, n))
    (hle : off + n ≤ buf.length) : parseTlNum buf off = .ok (v, n) := by
  have hpos := parseTlNum_pos h
  exact parseTlNum_of_agree h (List.getElem?_append_left (by omega)).symm
    (pySlice_append_of_le R _ (by omega)).symm

theorem parseTlNum_slice {buf : Bytes} {off o e v n : Nat} (h : parseTlNum buf (off + o) = .ok (v, n))
    (hle : off + o + n ≤ e) (he : e ≤ buf.length) : parseTlNum (pySlice buf off e) o = .ok (v, n) := by
  rw [pySlice, parseTlNum_drop]
  rw [← List.take_append_drop e buf] at h
  exact parseTlNum_prefix h (by rw [List.length_take]; omega)

theorem parse_write (v : Nat) (rest : Bytes) (h : v < 2^64) :
    parseTlNum (writeTlNum v ++ rest) 0 = .ok (v, tlNumSize v) := by
  by_cases h1 : v ≤ 0xFC
  · rw [writeTlNum_eq_be1 h1, tlNumSize_eq_one h1]
    exact parseTlNum_ok_iff.2 ⟨_, rfl, .inl ⟨by rw [UInt8.toNat_ofNat']; omega,
      by rw [UInt8.toNat_ofNat']; omega, rfl⟩⟩
  by_cases h2 : v ≤ 0xFFFF
  · rw [writeTlNum_eq_be2 (by omega) h2, tlNumSize_eq_three (by omega) h2]
    exact parseTlNum_ok_iff.2 ⟨_, rfl, .inr (.inl ⟨by decide,
      by have := unpackAt_mid [0xFD] (be2 v) rest; rwa [beVal_be2 v (by omega)] at this, rfl⟩)⟩
  by_cases h3 : v ≤ 0xFFFFFFFF
  · rw [writeTlNum_eq_be4 (by omega) h3, tlNumSize_eq_five (by omega) h3]
    exact parseTlNum_ok_iff.2 ⟨_, rfl, .inr (.inr (.inl ⟨by decide,
      by have := unpackAt_mid [0xFE] (be4 v) rest; rwa [beVal_be4 v (by omega)] at this, rfl⟩))⟩
  · rw [writeTlNum_eq_be8 (by omega), tlNumSize_eq_nine (by omega)]
    exact parseTlNum_ok_iff.2 ⟨_, rfl, .inr (.inr (.inr ⟨by decide,
      by have := unpackAt_mid [0xFF] (be8 v) rest; rwa [beVal_be8 v (by omega)] at this, rfl⟩))⟩

theorem writeTlNum_inj (a b : Nat) (ha : a < 2^64) (hb : b < 2^64) (h : writeTlNum a = writeTlNum b) : a = b := by
  have h1 := parse_write a [] ha
  have h2 := parse_write b [] hb
  rw [List.append_nil] at h1 h2
  rw [h, h2] at h1
  injection h1 with h1
  injection h1 with h1 _
  exact h1.symm

theorem parse_tlv_T (t : Nat) (v rest : Bytes) (ht : t < 2^64) :
    parseTlNum (tlv t v ++ rest) 0 = .ok (t, tlNumSize t) := by
  unfold tlv; rw [List.append_assoc, List.append_assoc]; exact parse_write t _ ht

theorem parse_tlv_L (t : Nat) (v rest : Bytes) (hv : v.length < 2^64) :
    parseTlNum (tlv t v ++ rest) (tlNumSize t) = .ok (v.length, tlNumSize v.length) := by
  have := parseTlNum_shift (writeTlNum t) (writeTlNum v.length ++ (v ++ rest)) 0
  rw [writeTlNum_length, Nat.add_zero] at this
  rw [tlv, List.append_assoc, List.append_assoc, this]
  exact parse_write _ _ hv

/-- everything the scan loop reads from the head element of `tlv t body ++ R` -/
theorem Codec.head_elem (t : Nat) (body R : Bytes) (ht : t < 2 ^ 64) (hb : body.length < 2 ^ 64) :
    parseTlNum (tlv t body ++ R) 0 = .ok (t, tlNumSize t) ∧
    parseTlNum (tlv t body ++ R) (tlNumSize t) = .ok (body.length, tlNumSize body.length) ∧
    pySlice (tlv t body ++ R) (tlNumSize t + tlNumSize body.length)
      (tlNumSize t + tlNumSize body.length + body.length) = body ∧
    pySlice (tlv t body ++ R) 0 (tlNumSize t + tlNumSize body.length + body.length) = tlv t body ∧
    (tlv t body ++ R).drop (tlNumSize t + tlNumSize body.length + body.length) = R := by
  have hh : tlNumSize t + tlNumSize body.length = (writeTlNum t ++ writeTlNum body.length).length := by
    rw [List.length_append, writeTlNum_length, writeTlNum_length]
  have hw : tlNumSize t + tlNumSize body.length + body.length = (tlv t body).length := (tlv_length t body).symm
  refine ⟨parse_tlv_T t body R ht, parse_tlv_L t body R hb, ?_, ?_, ?_⟩
  · rw [hh, tlv]; exact pySlice_mid _ body R
  · rw [hw]; exact pySlice_append_left _ R _ rfl
  · rw [hw, List.drop_left]

theorem parseAndCheckTl_tlv (t : Nat) (v : Bytes) (ht : t < 2 ^ 64) (hv : v.length < 2 ^ 64) :
    parseAndCheckTl (tlv t v) t = .ok v := by
  obtain ⟨p1, p2, s1, -⟩ := Codec.head_elem t v [] ht hv
  simp only [List.append_nil] at p1 p2 s1
  simp only [parseAndCheckTl, p1, p2, bind, Except.bind, ne_eq, not_true_eq_false, if_false, tlv_length, s1,
    pure, Except.pure]

/-- The number of bytes the TLV element at `off` claims: its Type, its Length and the Value that Length declares
    (which may run past the end of `buf`).  Of the bytes at `off`, this is all that the loop of `Name.decode` uses. -/
def elemLen (buf : Bytes) (off : Nat) : Except PyErr Nat := do
  let (_, st) ← parseTlNum buf off
  let (lc, sl) ← parseTlNum buf (off + st)
  pure (st + sl + lc)

theorem elemLen_ok_iff {buf : Bytes} {off n : Nat} : elemLen buf off = .ok n ↔
    ∃ t st lc sl, parseTlNum buf off = .ok (t, st) ∧ parseTlNum buf (off + st) = .ok (lc, sl) ∧ n = st + sl + lc := by
  constructor
  · intro h
    obtain ⟨⟨t, st⟩, h1, h⟩ := Codec.bind_ok h
    obtain ⟨⟨lc, sl⟩, h2, h⟩ := Codec.bind_ok h
    cases h
    exact ⟨t, st, lc, sl, h1, h2, rfl⟩
  · rintro ⟨t, st, lc, sl, h1, h2, rfl⟩
    simp only [elemLen, h1, h2, bind, Except.bind]; rfl

theorem elemLen_drop (buf : Bytes) (k off : Nat) : elemLen (buf.drop k) off = elemLen buf (k + off) := by
  simp only [elemLen, parseTlNum_drop, Nat.add_assoc]

theorem elemLen_append {buf : Bytes} {off n : Nat} (R : Bytes) (h : elemLen buf off = .ok n) :
    elemLen (buf ++ R) off = .ok n := by
  obtain ⟨t, st, lc, sl, h1, h2, e⟩ := elemLen_ok_iff.1 h
  exact elemLen_ok_iff.2 ⟨t, st, lc, sl, parseTlNum_append R h1, parseTlNum_append R h2, e⟩

/-- `c` is one TLV element and nothing more: a Type, a Length and exactly Length bytes, in any form of Type and Length
    that `parse_tl_num` reads (shortest or not). -/
def IsElem (c : Bytes) : Prop := elemLen c 0 = .ok c.length

theorem IsElem.pos {c : Bytes} (h : IsElem c) : 0 < c.length := by
  obtain ⟨t, st, lc, sl, h1, -, -⟩ := elemLen_ok_iff.1 h
  have := parseTlNum_pos h1
  omega

theorem IsElem.at {c : Bytes} (h : IsElem c) (pre rest : Bytes) :
    elemLen (pre ++ (c ++ rest)) pre.length = .ok c.length := by
  have := elemLen_drop (pre ++ (c ++ rest)) pre.length 0
  rw [List.drop_left, Nat.add_zero] at this
  rw [← this]
  exact elemLen_append rest h

theorem isElem_tlv (t : Nat) (v : Bytes) (ht : t < 2^64) (hv : v.length < 2^64) : IsElem (tlv t v) := by
  have h1 := parse_tlv_T t v [] ht
  have h2 := parse_tlv_L t v [] hv
  rw [List.append_nil] at h1 h2
  exact elemLen_ok_iff.2 ⟨_, _, _, _, h1, by rwa [Nat.zero_add], tlv_length t v⟩

theorem isElem_slice {buf : Bytes} {off n : Nat} (h : elemLen buf off = .ok n) (hle : off + n ≤ buf.length) :
    IsElem (pySlice buf off (off + n)) := by
  obtain ⟨t, st, lc, sl, h1, h2, rfl⟩ := elemLen_ok_iff.1 h
  have p1 := parseTlNum_le h1
  have p2 := parseTlNum_le h2
  refine elemLen_ok_iff.2 ⟨t, st, lc, sl, parseTlNum_slice (o := 0) h1 (by omega) hle, ?_, ?_⟩
  · rw [Nat.zero_add]; exact parseTlNum_slice h2 (by omega) hle
  · rw [pySlice_length_of_le _ _ _ hle]; omega

end Ndn
