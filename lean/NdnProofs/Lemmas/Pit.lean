import NdnProofs.Lemmas.PitInv
/-!
The operations of the model one by one: the equation of each (`removePending_eq`, `onNack_eq`, `deliver_fields`, ...: no
`Inv` in them) in front of what it does to the table (`*_eff`: `Inv` is kept, by `Lemmas/PitInv`, and every Interest moves as
the specification automaton of `PitSpec` says), collected in `step_eff` and `step_eff_express`; then the simulation of
that automaton by one step of the model (`step_sim`) and by a history (`run_sim`).  The operations on one Interest
(`fireOne`, `onCancel`) go through `Moves` (`*_moves`, then `Moves.eff`; `inv_finish_remove` is its `remove` case); those
on a node (`onNack`, the walk of `_on_data`) through `node_pass` and `inv_node_split` / `winv_node_step` of `Lemmas/PitInv`.
-/
namespace Ndn.Pit

theorem trieDel_of_isSome {tr : List (Name × Nat)} {n : Name} (h : (tr.lookup n).isSome = true) :
    trieDel tr n = .ok (tr.filter fun b => b.1 != n) := if_pos h

theorem delName_of_isSome {σ : State} {n : Name} (h : (σ.trie.lookup n).isSome = true) :
    delName σ n = { σ with trie := σ.trie.filter fun b => b.1 != n } := by
  unfold delName; rw [trieDel_of_isSome h]

/-- `_remove_pending` cannot raise: its `del` is guarded by the lookup -/
theorem removePending_eq (σ : State) (i : Nat) (I : Interest) :
    removePending σ i I =
      { σ with heap := σ.heap.set I.node ((pend σ I.node).filter (· != i))
               trie := if (pend σ I.node).filter (· != i) = [] ∧ trieGet σ.trie I.name = some I.node
                 then σ.trie.filter (fun b => b.1 != I.name) else σ.trie } := by
  unfold removePending
  simp only
  by_cases hc : (pend σ I.node).filter (· != i) = [] ∧ trieGet σ.trie I.name = some I.node
  · rw [if_pos hc, if_pos (by simp [hc.1, hc.2]), delName_of_isSome (by unfold trieGet at hc; simp [hc.2])]
  · rw [if_neg hc, if_neg (by simpa [List.isEmpty_iff] using hc)]

theorem inv_finish_remove {σ : State} (h : Inv σ) {i : Nat} {I : Interest} (hi : σ.ints[i]? = some I)
    (s0 : IState) (hs0 : s0 ≠ .waiting) : Inv (removePending (setSt σ i s0) i I) := by
  rw [removePending_eq]
  have hsi : (σ.sts.set i s0)[i]? = some s0 := by rw [List.getElem?_set]; simp [h.idx_lt hi]
  by_cases hm : (I.name, I.node) ∈ σ.trie
  · -- the node is linked under the name of the Interest: it loses the entry `i`, if it has it
    refine inv_node_split h hm (· == i) rfl (by simp [setSt]) (fun e _ hp => ?_) (fun j hn => ?_) rfl
      (ite_congr (propext (and_iff_left (h.lookup hm))) (fun _ => rfl) (fun _ => rfl))
    · rw [beq_iff_eq.mp hp]
      exact fun hc => hs0 (Option.some.inj (hsi ▸ hc))
    · show (σ.sts.set i s0)[j]? = some .waiting ↔ _
      by_cases hji : j = i
      · subst hji
        rw [hsi]
        exact ⟨fun hc => absurd (Option.some.inj hc) hs0,
          fun hw => absurd ⟨(h.waiting j I hi hw).2, by simp⟩ hn⟩
      · rw [List.getElem?_set, if_neg (Ne.symm hji)]
  · -- it is not: `i` was not waiting, it is in no linked node, and these all keep their lists
    have hnw : σ.sts[i]? ≠ some .waiting := fun hw => hm (h.waiting i I hi hw).1
    refine (inv_setSt h hnw hs0).congr rfl rfl (fun _ => Iff.rfl) (if_neg fun hc => hm (mem_of_lookup hc.2)) fun b hb => ?_
    rw [pend_def, pend_def, getD_set]
    split
    · next hc =>
      rw [← pend_def, ← hc.1]
      refine List.filter_eq_self.mpr fun e he => ?_
      have : e ≠ i := fun hei => h.not_mem_of_not_waiting hnw hb (hc.1 ▸ hei ▸ he)
      simpa using this
    · rfl

/-- how the model takes Interest `i` from state `s` to `s'`: nothing happens; one state that is not `waiting` replaces
    another; the Interest finishes and `_remove_pending` runs -/
inductive Moves (σ : State) (i : Nat) (I : Interest) (s : IState) : IState → State → Prop
  | same : Moves σ i I s s σ
  | set {s'} : s ≠ .waiting → s' ≠ .waiting → Moves σ i I s s' (setSt σ i s')
  | remove {s'} : s' ≠ .waiting → Moves σ i I s s' (removePending (setSt σ i s') i I)

theorem Moves.fields {σ σ' : State} (h : Inv σ) {i : Nat} {I : Interest} {s s' : IState} (hi : σ.ints[i]? = some I)
    (hs : σ.sts[i]? = some s) (m : Moves σ i I s s' σ') :
    Inv σ' ∧ σ'.ints = σ.ints ∧ σ'.clock = σ.clock ∧ σ'.errs = σ.errs ∧ σ'.sts = σ.sts.set i s' := by
  cases m with
  | same =>
    obtain ⟨hlt, rfl⟩ := List.getElem?_eq_some_iff.mp hs
    exact ⟨h, rfl, rfl, rfl, (List.set_getElem_self hlt).symm⟩
  | set hne hs' => exact ⟨inv_setSt h (by rw [hs]; simpa using hne) hs', rfl, rfl, rfl, rfl⟩
  | remove hs' =>
    refine ⟨inv_finish_remove h hi s' hs', ?_⟩
    rw [removePending_eq]
    exact ⟨rfl, rfl, rfl, rfl⟩

theorem Moves.eff {σ σ' : State} (h : Inv σ) {i : Nat} {g : Req → IState → IState} (hnone : σ.ints[i]? = none → σ' = σ)
    (hm : ∀ I s, σ.ints[i]? = some I → σ.sts[i]? = some s → Moves σ i I s (g I.toReq s) σ') :
    Inv σ' ∧ Eff σ σ' fun j r s => if i = j then g r s else s := by
  cases hi : σ.ints[i]? with
  | none =>
    rw [hnone hi]
    refine ⟨h, (Eff.refl σ).congr fun j J s hj _ => (if_neg ?_).symm⟩
    intro hc; rw [hc, hj] at hi; cases hi
  | some I =>
    obtain ⟨si, hsi⟩ := h.sts_some hi
    obtain ⟨a, b, c, d, e⟩ := (hm I si hi hsi).fields h hi hsi
    refine ⟨a, d, b, c, by rw [e, List.length_set], fun j J s hj hs => ?_⟩
    rw [e, List.getElem?_set]
    by_cases hij : i = j
    · subst hij
      rw [hi] at hj; rw [hsi] at hs; cases hj; cases hs
      simp [h.idx_lt hi]
    · simp [hij, hs]

theorem fireOne_moves (fe : FrontEnd) (t : Nat) {σ : State} {i : Nat} {I : Interest} {s : IState}
    (hi : σ.ints[i]? = some I) (hs : σ.sts[i]? = some s) :
    Moves σ i I s (specFire fe t I.toReq s) (fireOne fe t σ i) := by
  unfold fireOne
  rw [hi, hs]
  -- under the tests of a branch of `specFire` (numbered in `Lemmas/PitSpecRun`) `fireOne` takes the same branch:
  -- a timeout, a completion, nothing due
  fun_cases specFire fe t I.toReq s <;> simp only [*, and_self, if_true, if_false]
  case case1 | case10 | case12 => exact .remove (by simp)
  case case3 | case5 | case8 | case9 => exact .set (by simp) (by simp)
  all_goals exact .same

theorem foldl_fireOne {fe : FrontEnd} {t : Nat} (l : List Nat) (hl : l.Nodup) {σ : State} (h : Inv σ) :
    Inv (l.foldl (fireOne fe t) σ) ∧
    Eff σ (l.foldl (fireOne fe t) σ) fun j r s => if j ∈ l then specFire fe t r s else s := by
  induction l generalizing σ with
  | nil => exact ⟨h, (Eff.refl σ).congr fun _ _ _ _ _ => by simp⟩
  | cons i r ih =>
    simp only [List.nodup_cons] at hl
    simp only [List.foldl_cons]
    obtain ⟨a1, e1⟩ := Moves.eff (g := specFire fe t) h (fun hi => by unfold fireOne; rw [hi])
      fun I s hi hs => fireOne_moves fe t hi hs
    refine ⟨(ih hl.2 a1).1, (e1.trans (ih hl.2 a1).2).congr fun j _ _ _ _ => ?_⟩
    by_cases hij : i = j
    · subst hij; simp [hl.1]
    · simp [hij, Ne.symm hij]

theorem fireAll_eff {σ : State} (h : Inv σ) (fe : FrontEnd) (b : Nat) :
    Inv (fireAll fe b σ) ∧ Eff σ (fireAll fe b σ) fun _ r s => specFire fe b r s := by
  obtain ⟨a, e⟩ := foldl_fireOne (fe := fe) (t := b) (List.range σ.ints.length) List.nodup_range h
  exact ⟨a, e.congr fun j J s hj _ => by simp [lt_of_getElem? hj]⟩

theorem tick_eff {σ : State} (h : Inv σ) (fe : FrontEnd) (t : Nat) :
    Inv (tick fe σ t) ∧
    Eff { σ with clock := max σ.clock t } (tick fe σ t) fun _ r s => specFire fe (max σ.clock t) r s :=
  fireAll_eff (inv_clock h _) fe _

theorem reach_eff {σ : State} (h : Inv σ) (fe : FrontEnd) (t : Nat) :
    Inv (reach fe σ t) ∧
    Eff { σ with clock := max σ.clock t } (reach fe σ t) fun _ r s => specReach fe (max σ.clock t) r s := by
  unfold reach specReach
  by_cases h0 : max σ.clock t = 0
  · simp only [if_pos h0]
    exact ⟨inv_clock h _, Eff.refl _⟩
  · simp only [if_neg h0]
    exact fireAll_eff (inv_clock h _) fe _

theorem step_eff_express {σ : State} (h : Inv σ) (fe : FrontEnd) (nm : Name) (imp : Option Nat) (cbp : Bool)
    (life : Nat) (v : Verdict) (lat defer : Nat) (nr : Bool) :
    Inv (step fe σ (.express nm imp cbp life v lat defer nr)) ∧
    Adds σ (step fe σ (.express nm imp cbp life v lat defer nr)) (mkReq fe σ.clock nm imp cbp life v lat defer)
      (specFire fe σ.clock (mkReq fe σ.clock nm imp cbp life v lat defer) (initSt fe σ.clock nr)) := by
  simp only [step]
  unfold onExpress initSt
  simp only
  cases hsil : silent fe nr with
  | true =>
    simp only [if_true]
    refine ⟨inv_express_silent h _ (by simp), ?_, ?_, ?_, 0, ?_⟩ <;> simp [specFire]
  | false =>
    simp only [Bool.false_eq_true, if_false]
    -- the new Interest is entered as waiting (state `σ1`), then its timers fire
    have fin : ∀ σ1 : State, Inv σ1 → Adds σ σ1 (mkReq fe σ.clock nm imp cbp life v lat defer) .waiting →
        Inv (fireOne fe σ.clock σ1 σ.ints.length) ∧ Adds σ (fireOne fe σ.clock σ1 σ.ints.length)
          (mkReq fe σ.clock nm imp cbp life v lat defer)
          (specFire fe σ.clock (mkReq fe σ.clock nm imp cbp life v lat defer) .waiting) := by
      intro σ1 h1 ⟨e4, e3, e2, nid, e1⟩
      have hi : σ1.ints[σ.ints.length]? = some ⟨mkReq fe σ.clock nm imp cbp life v lat defer, nid⟩ := by
        rw [e1]; simp
      have hs : σ1.sts[σ.ints.length]? = some .waiting := by rw [e2, ← h.len]; simp
      obtain ⟨a, b1, b2, b3, b5⟩ := (fireOne_moves fe σ.clock hi hs).fields h1 hi hs
      refine ⟨a, b3.trans e4, b2.trans e3, ?_, nid, b1.trans e1⟩
      rw [b5, e2, ← h.len, List.set_append_right _ _ (Nat.le_refl _), Nat.sub_self]; rfl
    cases hl : trieGet σ.trie nm with
    | some nid =>
      have hlt : nid < σ.heap.length := lt_of_getD_ne_nil (h.nonempty _ (mem_of_lookup hl))
      exact fin _ (inv_express h (I := ⟨mkReq fe σ.clock nm imp cbp life v lat defer, nid⟩) rfl rfl
        (fun n => by simp only [pend_def, getD_set, hlt, and_true]) (Or.inl ⟨rfl, mem_of_lookup hl⟩))
        ⟨rfl, rfl, rfl, nid, rfl⟩
    | none =>
      have hnil : σ.heap.getD σ.heap.length [] = [] := by simp [List.getD_eq_getElem?_getD]
      exact fin _ (inv_express h
        (I := ⟨mkReq fe σ.clock nm imp cbp life v lat defer, σ.heap.length⟩) rfl rfl
        (fun n => by simp only [pend_def, getD_concat, hnil, List.nil_append])
        (Or.inr ⟨rfl, lookup_none_iff.mp hl, fun hc => by
          obtain ⟨b, hb, hn⟩ := List.mem_map.mp hc
          exact absurd (hn ▸ lt_of_getD_ne_nil (h.nonempty b hb)) (Nat.lt_irrefl _), hnil⟩))
        ⟨rfl, rfl, rfl, _, rfl⟩

theorem cancel_moves (fe : FrontEnd) {σ : State} {i : Nat} {I : Interest} {s : IState}
    (hi : σ.ints[i]? = some I) (hs : σ.sts[i]? = some s) :
    Moves σ i I s (specCancel σ.clock I.toReq s) (onCancel fe σ i) := by
  unfold onCancel specCancel
  rw [hi, hs]
  cases s with
  | waiting =>
    simp only []; split
    · exact .same
    · exact .remove (by simp)
  | done o t' => simp only []; split <;> exact .same
  | held o => simp only []; split <;> exact .same
  | validating d fin =>
    simp only []; split
    · exact .same
    · cases fe
      · exact .set (by simp) (by simp)
      · exact .remove (by simp)

theorem cancel_eff {σ : State} (h : Inv σ) (fe : FrontEnd) (i : Nat) :
    Inv (onCancel fe σ i) ∧ Eff σ (onCancel fe σ i) fun j r s => if i = j then specCancel σ.clock r s else s :=
  Moves.eff h (fun hi => by unfold onCancel; rw [hi]) fun _ _ hi hs => cancel_moves fe hi hs

-- a Nack changes `sts` only, so its fold is written out as a fold of `upd`; the entry operations that also touch
-- other fields (`cancelEntry`, `deliver`) go through `foldl_op_upd`
theorem nackEntry_eq (r : Nat) (σ : State) (e : Nat) :
    nackEntry r σ e = { σ with sts := upd σ.ints (fun I => resolve σ.clock I.toReq (.nack r)) σ.sts e } := by
  unfold nackEntry upd setSt
  cases σ.ints[e]? with
  | none => rfl
  | some I =>
    simp only []
    by_cases hw : σ.sts[e]? = some .waiting
    · rw [if_pos hw, hw]
    · rw [if_neg hw]; split
      · next hw' => exact absurd hw' hw
      · rfl

theorem foldl_nackEntry (r : Nat) (L : List Nat) (σ : State) :
    L.foldl (nackEntry r) σ =
      { σ with sts := L.foldl (upd σ.ints fun I => resolve σ.clock I.toReq (.nack r)) σ.sts } := by
  induction L generalizing σ with
  | nil => rfl
  | cons e t ih => rw [List.foldl_cons, ih, nackEntry_eq]; rfl

theorem named_iff {ints : List Interest} {dg : Option Nat} {e : Nat} {I : Interest} (h : ints[e]? = some I) :
    named ints dg e = true ↔ I.implicit = dg := by
  simp [named, h]

theorem onNack_eq {σ : State} {nm : Name} {nid : Nat} (hl : trieGet σ.trie nm = some nid) (dg : Option Nat) (r : Nat) :
    onNack σ nm dg r =
      { σ with sts := ((pend σ nid).filter (named σ.ints dg)).foldl
                        (upd σ.ints fun I => resolve σ.clock I.toReq (.nack r)) σ.sts
               heap := σ.heap.set nid ((pend σ nid).filter fun e => !named σ.ints dg e)
               trie := if (pend σ nid).filter (fun e => !named σ.ints dg e) = [] then σ.trie.filter (fun b => b.1 != nm)
                 else σ.trie } := by
  unfold onNack
  rw [hl]
  simp only
  rw [foldl_nackEntry]
  by_cases hr : (pend σ nid).filter (fun e => !named σ.ints dg e) = []
  · rw [if_pos (List.isEmpty_iff.mpr hr), if_pos hr, delName_of_isSome (by unfold trieGet at hl; simp [hl])]
  · rw [if_neg (fun hc => hr (List.isEmpty_iff.mp hc)), if_neg hr]

theorem nack_eff {σ : State} (h : Inv σ) (nm : Name) (dg : Option Nat) (r : Nat) :
    Inv (onNack σ nm dg r) ∧
    Eff σ (onNack σ nm dg r) fun _ q s => if s = .waiting ∧ Named q nm dg then resolve σ.clock q (.nack r) else s := by
  cases hl : trieGet σ.trie nm with
  | none =>
    have : onNack σ nm dg r = σ := by unfold onNack; rw [hl]
    rw [this]
    refine ⟨h, (Eff.refl σ).congr fun j J s hj hs => ?_⟩
    rw [if_neg]
    rintro ⟨rfl, hn⟩
    -- a waiting Interest of that name would be linked under it
    have : trieGet σ.trie J.name = some J.node := h.lookup (h.waiting j J hj hs).1
    rw [hn.1, hl] at this; cases this
  | some nid =>
    have hb0 : (nm, nid) ∈ σ.trie := mem_of_lookup hl
    rw [onNack_eq hl]
    obtain ⟨hlen, hA, hB, heff⟩ := node_pass (WInv.of_inv h) hb0 (by simp) (p := named σ.ints dg)
      (P := fun q => q.implicit = dg) (fun j J hj _ => named_iff hj) (fun _ => resolve_ne_waiting _ _ _) rfl
    refine ⟨inv_node_split h hb0 (named σ.ints dg) rfl hlen hA hB rfl rfl, rfl, rfl, rfl, hlen, fun j J s hj hs => ?_⟩
    rw [heff j J s hj hs]
    exact congrArg some (ite_congr rfl (fun _ => rfl) (fun _ => rfl))

theorem cancelEntry_fields (σ : State) (e : Nat) (ht : σ.trie = []) :
    (cancelEntry σ e).sts = upd σ.ints (fun I => resolve σ.clock I.toReq .cancelled) σ.sts e ∧
    (cancelEntry σ e).ints = σ.ints ∧ (cancelEntry σ e).clock = σ.clock ∧ (cancelEntry σ e).errs = σ.errs ∧
    (cancelEntry σ e).trie = [] := by
  unfold cancelEntry upd
  cases σ.ints[e]? with
  | none => exact ⟨rfl, rfl, rfl, rfl, ht⟩
  | some I =>
    cases σ.sts[e]? with
    | none => exact ⟨rfl, rfl, rfl, rfl, ht⟩
    | some st =>
      cases st with
      | waiting =>
        simp only [removePending_eq]
        exact ⟨rfl, rfl, rfl, rfl, by simp [setSt, ht]⟩
      | _ => exact ⟨rfl, rfl, rfl, rfl, ht⟩

theorem shutdown_eff {σ : State} (h : Inv σ) :
    Inv (onShutdown σ) ∧
    Eff σ (onShutdown σ) (fun _ q s => if s = .waiting then resolve σ.clock q .cancelled else s) ∧
    (onShutdown σ).trie = [] := by
  unfold onShutdown
  have hg : ∀ I : Interest, resolve σ.clock I.toReq .cancelled ≠ .waiting := fun _ => resolve_ne_waiting _ _ _
  simp only
  generalize hes : σ.trie.flatMap (fun b => pend σ b.2) = es
  obtain ⟨⟨k1, k2, k4, k3⟩, k6⟩ := foldl_op_upd (op := cancelEntry) (ints := σ.ints)
    (g := fun I => resolve σ.clock I.toReq .cancelled)
    (P := fun s => s.ints = σ.ints ∧ s.clock = σ.clock ∧ s.errs = σ.errs ∧ s.trie = [])
    (fun s e ⟨p1, p2, p3, p4⟩ => by
      obtain ⟨a, b1, b2, b3, b4⟩ := cancelEntry_fields s e p4
      exact ⟨⟨b1.trans p1, b2.trans p2, b3.trans p3, b4⟩, by rw [a, p1, p2]⟩)
    es { σ with trie := [] } ⟨rfl, rfl, rfl, rfl⟩
  have hlen : (es.foldl cancelEntry { σ with trie := [] }).sts.length = σ.sts.length := by
    rw [k6, foldl_upd_length]
  have eff : Eff σ (es.foldl cancelEntry { σ with trie := [] })
      fun _ q s => if s = .waiting then resolve σ.clock q .cancelled else s := by
    refine ⟨k4, k1, k2, hlen, fun j J s hj hs => ?_⟩
    rw [k6, foldl_upd_get _ _ hj]
    show (if j ∈ es ∧ σ.sts[j]? = some .waiting then _ else σ.sts[j]?) = _
    rw [hs]
    by_cases hw : s = .waiting
    · subst hw
      obtain ⟨h1, h2⟩ := h.waiting j J hj hs
      rw [if_pos ⟨hes ▸ List.mem_flatMap.mpr ⟨_, h1, h2⟩, rfl⟩, if_pos rfl]
    · rw [if_neg (fun hc => hw (Option.some.inj hc.2)), if_neg hw]
  refine ⟨⟨by rw [hlen, k1]; exact h.len, by rw [k3]; simp, by rw [k3]; simp, by rw [k3]; simp,
    by rw [k3]; simp, fun j J hj hw => ?_⟩, eff, k3⟩
  obtain ⟨J', s, _, _, hw⟩ := eff.sts_inv h hw
  split at hw
  · exact (hg J' hw.symm).elim
  · next hsw => exact (hsw hw.symm).elim

theorem deliver_fields (fe : FrontEnd) (d : Nat) (σ : State) (e : Nat) :
    (deliver fe d σ e).sts = upd σ.ints (fun I => taken fe σ.clock I.toReq d) σ.sts e ∧
    (deliver fe d σ e).ints = σ.ints ∧ (deliver fe d σ e).clock = σ.clock ∧ (deliver fe d σ e).heap = σ.heap ∧
    (deliver fe d σ e).trie = σ.trie ∧ (deliver fe d σ e).errs = σ.errs := by
  unfold deliver upd
  cases σ.ints[e]? with
  | none => exact ⟨rfl, rfl, rfl, rfl, rfl, rfl⟩
  | some I =>
    cases σ.sts[e]? with
    | none => exact ⟨rfl, rfl, rfl, rfl, rfl, rfl⟩
    | some st => cases st <;> cases fe <;> exact ⟨rfl, rfl, rfl, rfl, rfl, rfl⟩

theorem passes_iff {ints : List Interest} {j : Nat} {J : Interest} (hj : ints[j]? = some J) {nm : Name}
    (hp : J.name <+: nm) (dg : Nat) :
    passes ints (J.name != nm) dg j = true ↔ Matches J.toReq nm dg := by
  unfold passes Matches
  rw [hj]
  have h1 : (J.cbp || !(J.name != nm)) = true ↔ (J.name = nm ∨ (J.cbp = true ∧ J.name <+: nm ∧ J.name ≠ nm)) := by
    by_cases hn : J.name = nm <;> simp [hn, hp]
  have h2 : (match J.implicit with | none => true | some x => x == dg) = true ↔
      (J.implicit = none ∨ J.implicit = some dg) := by
    cases J.implicit <;> simp
  simp only [Bool.and_eq_true, h1]
  exact and_congr_right fun _ => h2

theorem Matches.prefix {r : Req} {nm : Name} {dg : Nat} (h : Matches r nm dg) : r.name <+: nm := by
  rcases h.1 with h1 | h1
  · rw [h1]; exact List.prefix_refl _
  · exact h1.2.1

theorem walkStep_eff (fe : FrontEnd) (nm : Name) (dg d : Nat) {acc : State} {cl : List Name}
    (hW : WInv acc cl) {b : Name × Nat} (hb : b ∈ acc.trie) (hbcl : b.1 ∉ cl) :
    WInv (walkStep fe nm dg d (acc, cl) b).1 (walkStep fe nm dg d (acc, cl) b).2 ∧
    (walkStep fe nm dg d (acc, cl) b).1.trie = acc.trie ∧
    (∀ n ∈ (walkStep fe nm dg d (acc, cl) b).2, n ∈ cl ∨ n = b.1) ∧
    Eff acc (walkStep fe nm dg d (acc, cl) b).1 fun _ q s =>
      if s = .waiting ∧ q.name = b.1 ∧ Matches q nm dg then taken fe acc.clock q d else s := by
  unfold walkStep
  by_cases hpre : b.1.isPrefixOf nm = true
  · have hp : b.1 <+: nm := List.isPrefixOf_iff_prefix.mp hpre
    rw [if_pos hpre]
    simp only
    unfold satisfyNode
    simp only
    have hg : ∀ I : Interest, taken fe acc.clock I.toReq d ≠ .waiting := fun _ => taken_ne_waiting _ _ _ _
    generalize hp' : passes acc.ints (b.1 != nm) dg = p
    obtain ⟨⟨k1, k2, k3, k4, k5⟩, k6⟩ := foldl_op_upd (op := deliver fe d) (ints := acc.ints)
      (g := fun I => taken fe acc.clock I.toReq d)
      (P := fun s => s.ints = acc.ints ∧ s.clock = acc.clock ∧ s.heap = acc.heap ∧ s.trie = acc.trie ∧
        s.errs = acc.errs)
      (fun s e ⟨p1, p2, p3, p4, p5⟩ => by
        obtain ⟨a, b1, b2, b3, b4, b5⟩ := deliver_fields fe d s e
        exact ⟨⟨b1.trans p1, b2.trans p2, b3.trans p3, b4.trans p4, b5.trans p5⟩, by rw [a, p1, p2]⟩)
      ((pend acc b.2).filter p) acc ⟨rfl, rfl, rfl, rfl, rfl⟩
    generalize ((pend acc b.2).filter p).foldl (deliver fe d) acc = σ1 at k1 k2 k3 k4 k5 k6 ⊢
    obtain ⟨hlen, hA, hB, heff⟩ := node_pass hW hb hbcl (p := p) (P := fun q => Matches q nm dg)
      (fun j J hj hn => by rw [← hp', ← hn]; exact passes_iff hj (hn ▸ hp) dg) hg k6
    have eff : Eff acc σ1 fun _ q s =>
        if s = .waiting ∧ q.name = b.1 ∧ Matches q nm dg then taken fe acc.clock q d else s :=
      ⟨k5, k1, k2, hlen, heff⟩
    by_cases huns : (pend acc b.2).filter (fun e => !p e) = []
    · have hemp : ((pend acc b.2).filter (fun e => !p e)).isEmpty = true := by simp [huns]
      rw [if_pos hemp]
      simp only [if_true]
      exact ⟨(winv_node_step hW hb hbcl p k1 hlen hA hB k4).1 huns k3, k4,
        fun n hn => by
          rcases List.mem_append.mp hn with h | h
          · exact Or.inl h
          · exact Or.inr (by simpa using h), eff⟩
    · have hemp : ((pend acc b.2).filter (fun e => !p e)).isEmpty = false := by simpa using huns
      rw [hemp]
      simp only [Bool.false_eq_true, if_false]
      exact ⟨(winv_node_step (σ' := { σ1 with heap := σ1.heap.set b.2 ((pend acc b.2).filter (fun e => !p e)) })
          hW hb hbcl p k1 hlen hA hB k4).2 huns (by simp only [k3]), k4, fun n hn => Or.inl hn,
        eff.of_eq rfl rfl rfl rfl⟩
  · rw [if_neg hpre]
    refine ⟨hW, rfl, fun n hn => Or.inl hn, (Eff.refl acc).congr fun j J s _ _ => ?_⟩
    rw [if_neg]
    intro ⟨_, h2, h3⟩
    exact hpre (h2 ▸ List.isPrefixOf_iff_prefix.mpr h3.prefix)

theorem walk_eff (fe : FrontEnd) (nm : Name) (dg d : Nat) (todo : List (Name × Nat)) :
    ∀ (acc : State) (cl : List Name), WInv acc cl → (∀ b ∈ todo, b ∈ acc.trie) → (∀ b ∈ todo, b.1 ∉ cl) →
      (todo.map Prod.fst).Nodup →
      WInv (todo.foldl (walkStep fe nm dg d) (acc, cl)).1 (todo.foldl (walkStep fe nm dg d) (acc, cl)).2 ∧
      (todo.foldl (walkStep fe nm dg d) (acc, cl)).1.trie = acc.trie ∧
      Eff acc (todo.foldl (walkStep fe nm dg d) (acc, cl)).1 fun _ q s =>
        if s = .waiting ∧ q.name ∈ todo.map Prod.fst ∧ Matches q nm dg then taken fe acc.clock q d else s := by
  induction todo with
  | nil =>
    intro acc cl hW _ _ _
    exact ⟨hW, rfl, (Eff.refl acc).congr fun _ _ _ _ _ => by simp⟩
  | cons b r ih =>
    intro acc cl hW hsub hcl hnd
    simp only [List.foldl_cons]
    simp only [List.map_cons, List.nodup_cons] at hnd
    obtain ⟨w1, w4, w7, w8⟩ := walkStep_eff fe nm dg d hW (hsub b List.mem_cons_self) (hcl b List.mem_cons_self)
    obtain ⟨acc1, cl1, h1⟩ : ∃ a c, walkStep fe nm dg d (acc, cl) b = (a, c) := ⟨_, _, rfl⟩
    rw [h1] at w1 w4 w7 w8 ⊢
    simp only at w1 w4 w7 w8
    obtain ⟨i1, i4, i7⟩ := ih acc1 cl1 w1
      (fun b' hb' => by rw [w4]; exact hsub b' (List.mem_cons_of_mem _ hb'))
      (fun b' hb' hc => by
        rcases w7 _ hc with h | h
        · exact hcl b' (List.mem_cons_of_mem _ hb') h
        · exact hnd.1 (h ▸ List.mem_map.mpr ⟨b', hb', rfl⟩))
      hnd.2
    refine ⟨i1, i4.trans w4, (w8.trans i7).congr fun j J s _ _ => ?_⟩
    simp only [w8.clock, List.map_cons, List.mem_cons]
    by_cases hc : s = .waiting ∧ J.name = b.1 ∧ Matches J.toReq nm dg
    · rw [if_pos hc, if_neg (fun hx => taken_ne_waiting _ _ _ _ hx.1), if_pos ⟨hc.1, Or.inl hc.2.1, hc.2.2⟩]
    · rw [if_neg hc]
      by_cases hc2 : s = .waiting ∧ J.name ∈ r.map Prod.fst ∧ Matches J.toReq nm dg
      · rw [if_pos hc2, if_pos ⟨hc2.1, Or.inr hc2.2.1, hc2.2.2⟩]
      · rw [if_neg hc2, if_neg]
        rintro ⟨a1, a2 | a2, a3⟩
        · exact hc ⟨a1, a2, a3⟩
        · exact hc2 ⟨a1, a2, a3⟩

theorem delNames_eq (cl : List Name) : ∀ (σ : State), (∀ n ∈ cl, n ∈ σ.trie.map Prod.fst) → cl.Nodup →
    delNames cl σ = { σ with trie := σ.trie.filter (fun b => !cl.contains b.1) } := by
  induction cl with
  | nil =>
    intro σ _ _
    have : σ.trie.filter (fun b => !([] : List Name).contains b.1) = σ.trie :=
      List.filter_eq_self.mpr (fun _ _ => by simp)
    rw [this]; rfl
  | cons n r ih =>
    intro σ hsub hnd
    simp only [List.nodup_cons] at hnd
    have hsome : (σ.trie.lookup n).isSome = true := by
      cases hl : σ.trie.lookup n with
      | none => exact absurd (hsub n List.mem_cons_self) (lookup_none_iff.mp hl)
      | some v => rfl
    unfold delNames
    rw [trieDel_of_isSome hsome]
    simp only
    rw [ih]
    · simp only [List.filter_filter]
      congr 1
      apply List.filter_congr
      intro b _
      by_cases hb : b.1 = n
      · simp [hb]
      · simp [hb]
    · intro n' hn'
      have h1 := hsub n' (List.mem_cons_of_mem _ hn')
      obtain ⟨x, hx, rfl⟩ := List.mem_map.mp h1
      refine List.mem_map.mpr ⟨x, List.mem_filter.mpr ⟨hx, ?_⟩, rfl⟩
      have : x.1 ≠ n := fun hc => hnd.1 (hc ▸ hn')
      simpa using this
    · exact hnd.2

theorem data_eff {σ : State} (h : Inv σ) (fe : FrontEnd) (nm : Name) (dg d : Nat) :
    Inv (onData fe σ nm dg d) ∧
    Eff σ (onData fe σ nm dg d) fun _ q s => if s = .waiting ∧ Matches q nm dg then taken fe σ.clock q d else s := by
  unfold onData
  simp only
  obtain ⟨w1, _, w7⟩ := walk_eff fe nm dg d σ.trie σ [] (WInv.of_inv h) (fun _ hb => hb) (fun _ _ => by simp) h.names
  obtain ⟨σ1, cl1, h1⟩ : ∃ a c, σ.trie.foldl (walkStep fe nm dg d) (σ, []) = (a, c) := ⟨_, _, rfl⟩
  rw [h1] at w1 w7 ⊢
  simp only at w1 w7 ⊢
  rw [delNames_eq cl1 σ1 w1.clsub w1.clnodup]
  refine ⟨inv_of_winv w1, (w7.congr fun j J s hj hs => ?_).of_eq rfl rfl rfl rfl⟩
  by_cases hw : s = .waiting
  · subst hw
    have hmem : J.name ∈ σ.trie.map Prod.fst := List.mem_map.mpr ⟨_, (h.waiting j J hj hs).1, rfl⟩
    simp only [true_and, hmem]
  · simp only [hw, false_and]

def isExpress : Ev → Bool
  | .express .. => true
  | _ => false

theorem step_eff {σ : State} (h : Inv σ) (fe : FrontEnd) (ev : Ev) (hne : isExpress ev = false) :
    Inv (step fe σ ev) ∧
    Eff { σ with clock := clockStep σ.clock ev } (step fe σ ev) fun j q s => specReact fe σ.clock j q s ev := by
  cases ev with
  | express => simp [isExpress] at hne
  | data nm dg d => exact data_eff h fe nm dg d
  | nack nm dg r => exact nack_eff h nm dg r
  | tick t => exact tick_eff h fe t
  | reach t => exact reach_eff h fe t
  | shutdown => exact ⟨(shutdown_eff h).1, (shutdown_eff h).2.1⟩
  | cancel i => exact cancel_eff h fe i

/-- One step of the model is one step of the abstract table: the invariant is the coupling, `abs` the abstraction, and
    no callback raises.  `Eff` and `Adds` are this equation read Interest by Interest. -/
theorem step_sim {σ : State} (h : Inv σ) (fe : FrontEnd) (ev : Ev) :
    Inv (step fe σ ev) ∧ (step fe σ ev).errs = σ.errs ∧ abs (step fe σ ev) = Spec.step fe (abs σ) ev := by
  have hmap : ∀ (c : Nat) {σ' : State}, Eff { σ with clock := c } σ' (fun j q s => specReact fe σ.clock j q s ev) →
      σ'.sts = (abs σ).react fe ev := by
    intro c σ' e
    apply List.ext_getElem?
    intro j
    cases hs' : σ'.sts[j]? with
    | none =>
      rw [eq_comm, List.getElem?_eq_none_iff, Spec.react_length]
      exact e.len ▸ List.getElem?_eq_none_iff.mp hs'
    | some s' =>
      obtain ⟨J, s, hJ, hs, rfl⟩ := e.sts_inv (inv_clock h c) hs'
      exact (Spec.react_get fe (abs σ) ev (by simp [abs, hJ]) hs).symm
  cases hx : isExpress ev with
  | false =>
    obtain ⟨a, e⟩ := step_eff h fe ev hx
    refine ⟨a, e.errs, ?_⟩
    unfold abs
    rw [e.ints, e.clock, hmap _ e]
    cases ev with
    | express => simp [isExpress] at hx
    | _ => rfl
  | true =>
    cases ev with
    | express nm imp cbp life v lat defer nr =>
      obtain ⟨a, b, c, e, nid, f⟩ := step_eff_express h fe nm imp cbp life v lat defer nr
      refine ⟨a, b, ?_⟩
      have := hmap σ.clock (σ' := σ) ⟨rfl, rfl, rfl, rfl, fun j J s _ hs => by rw [hs]; rfl⟩
      unfold abs Spec.step
      simp only [c, e, f, List.map_append, List.map_cons, List.map_nil]
      show _ = ({ clock := σ.clock, reqs := _,
                  sts := Spec.react fe (abs σ) (Ev.express nm imp cbp life v lat defer nr) ++ [_] } : Spec)
      rw [← this]
    | _ => simp [isExpress] at hx

/-!
Histories of the model.  `run_sim` carries `step_sim` along `run`; after it the model is not opened again: what a history
does to a request is a fact about the abstract table (`PitSpecRun`), read for `run` through `run_sts`, `run_clock`,
`run_req` (`run_justified`, `run_trace`, `run_step`, `done_stable`).
-/

theorem run_snoc (fe : FrontEnd) (evs : List Ev) (ev : Ev) : run fe (evs ++ [ev]) = step fe (run fe evs) ev := by
  simp [run, List.foldl_append]

theorem run_append (fe : FrontEnd) (a b : List Ev) : run fe (a ++ b) = b.foldl (step fe) (run fe a) := by
  simp [run, List.foldl_append]

theorem run_sim (fe : FrontEnd) (evs : List Ev) :
    Inv (run fe evs) ∧ (run fe evs).errs = [] ∧ abs (run fe evs) = Spec.run fe evs := by
  induction evs using snoc_induction with
  | nil => exact ⟨inv_init, rfl, rfl⟩
  | append_singleton l a ih =>
    rw [run_snoc, Spec.run_snoc, ← ih.2.2]
    obtain ⟨h1, h2, h3⟩ := step_sim ih.1 fe a
    exact ⟨h1, h2.trans ih.2.1, h3⟩

theorem inv_run (fe : FrontEnd) (evs : List Ev) : Inv (run fe evs) := (run_sim fe evs).1

theorem run_refines (fe : FrontEnd) (evs : List Ev) : abs (run fe evs) = Spec.run fe evs := (run_sim fe evs).2.2

theorem run_sts (fe : FrontEnd) (evs : List Ev) : (run fe evs).sts = (Spec.run fe evs).sts :=
  congrArg Spec.sts (run_refines fe evs)

theorem run_clock (fe : FrontEnd) (evs : List Ev) : (run fe evs).clock = (Spec.run fe evs).clock :=
  congrArg Spec.clock (run_refines fe evs)

theorem run_req (fe : FrontEnd) (evs : List Ev) {i : Nat} {I : Interest} (hi : (run fe evs).ints[i]? = some I) :
    (Spec.run fe evs).reqs[i]? = some I.toReq := by
  rw [← run_refines]; simp [abs, hi]

theorem run_justified (fe : FrontEnd) (evs : List Ev) (i : Nat) (I : Interest) (s : IState)
    (hi : (run fe evs).ints[i]? = some I) (hs : (run fe evs).sts[i]? = some s) :
    Justified fe evs i I.toReq s :=
  spec_justified fe evs i I.toReq s (run_req fe evs hi) (run_sts fe evs ▸ hs)

theorem run_trace (fe : FrontEnd) (evs post : List Ev) {i : Nat} {I : Interest} {s : IState}
    (hi : (run fe evs).ints[i]? = some I) (hs : (run fe evs).sts[i]? = some s) :
    (run fe (evs ++ post)).sts[i]? = some (reqTrace fe i I.toReq (run fe evs).clock s post) := by
  rw [run_sts, run_clock, Spec.run_append]
  exact (Spec.trace_from fe post _ (run_req fe evs hi) (run_sts fe evs ▸ hs)).2

theorem run_step (fe : FrontEnd) (evs : List Ev) (ev : Ev) {i : Nat} {I : Interest} {s : IState}
    (hi : (run fe evs).ints[i]? = some I) (hs : (run fe evs).sts[i]? = some s) :
    (run fe (evs ++ [ev])).sts[i]? = some (specReact fe (run fe evs).clock i I.toReq s ev) :=
  run_trace fe evs [ev] hi hs

theorem done_stable (fe : FrontEnd) (evs evs' : List Ev) (i : Nat) (o : Outcome) (t : Nat)
    (h : (run fe evs).sts[i]? = some (.done o t)) : (run fe (evs ++ evs')).sts[i]? = some (.done o t) := by
  obtain ⟨I, hi⟩ := (inv_run fe evs).ints_some h
  rw [run_trace fe evs evs' hi h, reqTrace_done]

end Ndn.Pit
