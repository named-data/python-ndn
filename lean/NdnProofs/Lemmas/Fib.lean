import NdnModel.Fib
import NdnProofs.Lemmas.PyDict
/-! The handler table of C04 read through `cbOf`, the handler (if any) a table holds at each prefix.  `cbOf` carries
    `Fib.step` to `specStep` on functions `Name → Option Hid` (`cbOf_step`), so the table a history denotes (`attached`)
    is what the model's table holds after it.  Dispatch is specified once, on any table whose nodes all carry a handler
    (`AllCb`, which `Proper` histories keep): `onInterest_spec`, read off `longestPrefix_some` / `longestPrefix_none`;
    `Lemmas/GateTimedTable` applies it to the table of the timed gate.  `mkPending_eq` / `reply_eq` are `Fib.mkPending` /
    `Fib.reply` with the entries of the generated table (`gen_reply_deadline`) put in. -/
namespace Ndn.Fib
open Ndn

theorem scan_some (f : Fib) (n : Name) (k : Nat) (p : Name) (nd : Node) :
    scan f n k = some (p, nd) ↔
      ∃ j, j ≤ k ∧ p = n.take j ∧ PyDict.get? f p = some nd ∧
        ∀ i, j < i → i ≤ k → PyDict.get? f (n.take i) = none := by
  induction k with
  | zero =>
    simp only [scan, Option.map_eq_some_iff, Prod.mk.injEq]
    constructor
    · rintro ⟨_, hg, rfl, rfl⟩; exact ⟨0, Nat.le_refl _, rfl, hg, fun i h1 h2 => absurd h2 (Nat.not_le_of_lt h1)⟩
    · rintro ⟨j, hj, rfl, hg, -⟩
      obtain rfl := Nat.le_zero.mp hj
      exact ⟨nd, hg, rfl, rfl⟩
  | succ k ih =>
    rw [scan]
    cases hg : PyDict.get? f (n.take (k + 1)) with
    | some nd' =>
      constructor
      · rintro ⟨⟩; exact ⟨k + 1, Nat.le_refl _, rfl, hg, fun i h1 h2 => absurd h2 (Nat.not_le_of_lt h1)⟩
      · rintro ⟨j, hj, rfl, hgj, hall⟩
        -- `j < k + 1` would put a node-free prefix at `k + 1`
        rcases Nat.lt_or_eq_of_le hj with hlt | rfl
        · rw [hall _ hlt (Nat.le_refl _)] at hg; cases hg
        · rw [hg] at hgj; cases hgj; rfl
    | none =>
      rw [ih]
      constructor
      · rintro ⟨j, hj, hp, hgj, hall⟩
        refine ⟨j, Nat.le_succ_of_le hj, hp, hgj, fun i h1 h2 => ?_⟩
        rcases Nat.le_succ_iff.mp h2 with h2 | rfl
        · exact hall i h1 h2
        · exact hg
      · rintro ⟨j, hj, rfl, hgj, hall⟩
        rcases Nat.lt_or_eq_of_le hj with hlt | rfl
        · exact ⟨j, Nat.le_of_lt_succ hlt, rfl, hgj, fun i h1 h2 => hall i h1 (Nat.le_succ_of_le h2)⟩
        · rw [hg] at hgj; cases hgj

theorem scan_none (f : Fib) (n : Name) (k : Nat) :
    scan f n k = none ↔ ∀ i, i ≤ k → PyDict.get? f (n.take i) = none := by
  induction k with
  | zero => simp [scan]
  | succ k ih =>
    rw [scan]
    cases hg : PyDict.get? f (n.take (k + 1)) with
    | some nd => exact ⟨fun h => (nomatch h), fun h => by rw [h _ (Nat.le_refl _)] at hg; cases hg⟩
    | none =>
      rw [ih]
      refine ⟨fun h i hi => ?_, fun h i hi => h i (Nat.le_succ_of_le hi)⟩
      rcases Nat.le_succ_iff.mp hi with hi | rfl
      · exact h i hi
      · exact hg

theorem longestPrefix_some (f : Fib) (n p : Name) (nd : Node) :
    longestPrefix f n = some (p, nd) ↔
      p <+: n ∧ PyDict.get? f p = some nd ∧
        ∀ q, q <+: n → p.length < q.length → PyDict.get? f q = none := by
  unfold longestPrefix
  rw [scan_some]
  constructor
  · rintro ⟨j, hj, rfl, hg, hall⟩
    refine ⟨List.take_prefix _ _, hg, ?_⟩
    intro q hq hlt
    have hql := hq.length_le
    rw [List.prefix_iff_eq_take.mp hq]
    apply hall
    · simpa [List.length_take, Nat.min_eq_left hj] using hlt
    · exact hql
  · rintro ⟨hp, hg, hall⟩
    refine ⟨p.length, hp.length_le, List.prefix_iff_eq_take.mp hp, hg, ?_⟩
    intro i h1 h2
    apply hall _ (List.take_prefix _ _)
    simp [List.length_take, Nat.min_eq_left h2, h1]

theorem longestPrefix_none (f : Fib) (n : Name) :
    longestPrefix f n = none ↔ ∀ q, q <+: n → PyDict.get? f q = none := by
  unfold longestPrefix
  rw [scan_none]
  constructor
  · intro h q hq
    rw [List.prefix_iff_eq_take.mp hq]; exact h _ hq.length_le
  · intro h i _; exact h _ (List.take_prefix _ _)

/-- the handler a table holds at a prefix (`none`: no node, or a node without callback) -/
def cbOf (f : Fib) (p : Name) : Option Hid := (PyDict.get? f p).bind (·.callback)

abbrev Table := Name → Option Hid

def Table.update (a : Table) (p : Name) (v : Option Hid) : Table := fun q => if q = p then v else a q

@[simp] theorem Table.update_apply (a : Table) (p q : Name) (v : Option Hid) :
    Table.update a p v q = if q = p then v else a q := rfl

/-- attaching to a free prefix binds it, to an occupied one (or attaching no handler) changes nothing, detaching unbinds -/
def specStep (a : Table) : Op → Table
  | .attach p (some h) => if (a p).isSome then a else a.update p (some h)
  | .attach _ none => a
  | .detach p => a.update p none

theorem specStep_attach (a : Table) (p : Name) (h : Option Hid) :
    specStep a (.attach p h) = if (a p).isSome then a else a.update p h := by
  cases h with
  | some h => rfl
  | none =>
    -- on a free prefix `a.update p none` is `a`, so the equation of `some h` covers this shape as well
    split
    · rfl
    · rename_i hp
      funext q
      simp only [specStep, Table.update_apply]
      split
      · subst_vars; simpa using hp
      · rfl

theorem cbOf_set (f : Fib) (p q : Name) (nd : Node) :
    cbOf (PyDict.set f p nd) q = if q = p then nd.callback else cbOf f q := by
  unfold cbOf
  rw [PyDict.get?_set]
  by_cases h : p = q
  · subst h; simp
  · have : ¬ q = p := fun e => h e.symm
    simp [h, this]

theorem cbOf_erase (f : Fib) (p q : Name) :
    cbOf (PyDict.erase f p) q = if q = p then none else cbOf f q := by
  unfold cbOf
  rw [PyDict.get?_erase]
  by_cases h : p = q
  · subst h; simp
  · have : ¬ q = p := fun e => h e.symm
    simp [h, this]

theorem step_attach (f : Fib) (p : Name) (h : Option Hid) :
    step f (.attach p h) = if (cbOf f p).isSome then (f, .err .valueError) else (PyDict.set f p ⟨h⟩, .ok) := by
  cases hg : PyDict.get? f p with
  -- no node: `setdefault` of a fresh one followed by the write is one write
  | none => simp [step, attach, cbOf, hg, PyDict.set_set]
  | some nd => cases hc : nd.callback <;> simp [step, attach, cbOf, hg, hc]

theorem step_detach (f : Fib) (p : Name) :
    step f (.detach p) = if PyDict.contains f p then (PyDict.erase f p, .ok) else (f, .err .keyError) := by
  by_cases hc : PyDict.contains f p <;> simp [step, detach, hc]

theorem cbOf_step (f : Fib) (op : Op) : cbOf (step f op).1 = specStep (cbOf f) op := by
  cases op with
  | attach p h =>
    rw [step_attach, specStep_attach]
    split
    · rfl
    · funext q; rw [cbOf_set]; rfl
  | detach p =>
    rw [step_detach]
    funext q
    split
    · rw [cbOf_erase]; rfl
    · rename_i hc
      have hg : PyDict.get? f p = none := by simpa [PyDict.contains] using hc
      show cbOf f q = if q = p then none else cbOf f q
      split
      · subst_vars; simp [cbOf, hg]
      · rfl

theorem run_append (f : Fib) (a b : List Op) :
    (run f (a ++ b)).1 = (run (run f a).1 b).1 := by
  induction a generalizing f with
  | nil => rfl
  | cons op r ih => simp only [List.cons_append, run]; exact ih _

theorem cbOf_run_eq_foldl (f : Fib) (ops : List Op) : cbOf (run f ops).1 = ops.foldl specStep (cbOf f) := by
  induction ops generalizing f with
  | nil => rfl
  | cons op r ih => simp only [run, List.foldl_cons]; rw [ih, cbOf_step]

/-- a history in which every attach carries a handler -/
def Proper (ops : List Op) : Prop := ∀ p, Op.attach p none ∉ ops

/-- every node of the table carries a handler; `Proper` histories keep this (`allCb_run_of_proper`) -/
def AllCb (f : Fib) : Prop := ∀ p nd, PyDict.get? f p = some nd → nd.callback.isSome

theorem AllCb.contains_eq {f : Fib} (h : AllCb f) (p : Name) : PyDict.contains f p = (cbOf f p).isSome := by
  unfold PyDict.contains cbOf
  cases hg : PyDict.get? f p with
  | none => rfl
  | some nd => simp [h p nd hg]

theorem allCb_set (f : Fib) (p : Name) (nd : Node) (h : AllCb f) (hn : nd.callback.isSome) :
    AllCb (PyDict.set f p nd) := by
  intro q nd' hg
  rw [PyDict.get?_set] at hg
  split at hg
  · cases hg; exact hn
  · exact h q nd' hg

theorem allCb_erase (f : Fib) (p : Name) (h : AllCb f) : AllCb (PyDict.erase f p) := by
  intro q nd' hq
  rw [PyDict.get?_erase] at hq
  split at hq
  · cases hq
  · exact h q nd' hq

theorem allCb_step (f : Fib) (op : Op) (h : AllCb f) (hop : ∀ p, op ≠ .attach p none) :
    AllCb (step f op).1 := by
  cases op with
  | attach p ho =>
    rw [step_attach]
    split
    · exact h
    · cases ho with
      | none => exact absurd rfl (hop p)
      | some hh => exact allCb_set f p ⟨some hh⟩ h rfl
  | detach p =>
    rw [step_detach]
    split
    · exact allCb_erase f p h
    · exact h

theorem allCb_run_of_proper (f : Fib) (ops : List Op) (h : AllCb f) (hp : Proper ops) : AllCb (run f ops).1 := by
  induction ops generalizing f with
  | nil => exact h
  | cons op r ih =>
    simp only [run]
    apply ih
    · apply allCb_step _ _ h
      intro p e; exact hp p (e ▸ List.mem_cons_self)
    · intro p hm; exact hp p (List.mem_cons_of_mem _ hm)

theorem allCb_nil : AllCb ([] : Fib) := by
  intro p nd h; simp [PyDict.get?] at h

end Ndn.Fib

namespace Ndn.C04
open Ndn Ndn.Fib

def attached (ops : List Op) : Table := ops.foldl specStep (fun _ => none)

def IsLongestAttached (a : Table) (n p : Name) : Prop :=
  p <+: n ∧ (a p).isSome ∧ ∀ q, q <+: n → (a q).isSome → q.length ≤ p.length

theorem IsLongestAttached.unique {a : Table} {n p p' : Name} (h : IsLongestAttached a n p)
    (h' : IsLongestAttached a n p') : p = p' :=
  (List.prefix_of_prefix_length_le h.1 h'.1 (h'.2.2 p h.1 h.2.1)).eq_of_length_le (h.2.2 p' h'.1 h'.2.1)

theorem attached_snoc (ops : List Op) (op : Op) : attached (ops ++ [op]) = specStep (attached ops) op := by
  simp [attached, List.foldl_append]

theorem onInterest_spec (f : Fib) (hf : AllCb f) (n : Name) :
    (∃ p h, onInterest f n = .deliver p h ∧ IsLongestAttached (cbOf f) n p ∧ cbOf f p = some h) ∨
    (onInterest f n = .noRoute ∧ ∀ q, q <+: n → cbOf f q = none) := by
  unfold onInterest
  cases hl : longestPrefix f n with
  | none =>
    refine .inr ⟨rfl, fun q hq => ?_⟩
    simp [cbOf, (longestPrefix_none f n).mp hl q hq]
  | some pn =>
    obtain ⟨p, nd⟩ := pn
    obtain ⟨hpre, hg, hall⟩ := (longestPrefix_some f n p nd).mp hl
    obtain ⟨h, hcb⟩ := Option.isSome_iff_exists.mp (hf p nd hg)
    have hc : cbOf f p = some h := by simp [cbOf, hg, hcb]
    refine .inl ⟨p, h, by simp [hcb], ⟨hpre, by simp [hc], fun q hq hs => ?_⟩, hc⟩
    -- a longer prefix of `n` has no node, so no handler
    by_cases hlt : p.length < q.length
    · simp [cbOf, hall q hq hlt] at hs
    · omega

/-! The entries of the generated table `Ndn.Gen.C04.reply` (lean/NdnGen/C04.lean) the model computes with, asserted equal
to the literals the proofs rely on.  A source edit that changes the default lifetime, the way it is substituted or the
operator of the "too late" test stops the assertion, and with it `Props/C04`, from checking. -/

/-- the deadline of the reply closure: `DEFAULT_LIFETIME` = 4000, substituted with `is not None` (an `or` would also
    replace lifetime 0); "too late" is `now > deadline`; `tableOk`: neither entry was extracted as `unknown` -/
theorem gen_reply_deadline :
    Gen.C04.reply.defaultLifetime = 4000 ∧ Gen.C04.reply.lifetimeDflt = .ifNotNone ∧ Gen.C04.reply.lateCmp = .gt ∧
    Fib.tableOk = true := by
  and_intros <;> rfl

end Ndn.C04

namespace Ndn.Fib

theorem mkPending_eq (arrival : Nat) (lifetime : Option Nat) (tok : Option Bytes) :
    mkPending arrival lifetime tok =
      match lifetime with
      | some l => ⟨arrival + l, tok⟩
      | none => ⟨arrival + 4000, tok⟩ := by
  unfold mkPending defaultLifetime
  rw [C04.gen_reply_deadline.1, C04.gen_reply_deadline.2.1]
  cases lifetime <;> rfl

theorem reply_eq (running : Bool) (pd : Pending) (now : Nat) (data : Bytes) :
    reply running pd now data =
      if now > pd.deadline then .ok (false, [])
      else if !running then .error .other
      else match pd.pitToken with
        | none => .ok (true, [data])
        | some t => .ok (true, [lpWrap t data]) := by
  have h : Gen.C04.reply.lateCmp.holds now pd.deadline = decide (now > pd.deadline) := by
    rw [C04.gen_reply_deadline.2.2.1]; rfl
  unfold reply
  rw [h]
  cases pd.pitToken <;> cases running <;> by_cases hl : now > pd.deadline <;> simp [hl]

end Ndn.Fib
