import NdnModel.SegFetchTimed
import NdnProofs.Lemmas.SegFetch
/-!
The generator of `NdnModel/SegFetchTimed.lean` over *any* `ask` that keeps an invariant of its world and only ever answers
with `Genuine` Data (`AskOk`).  One `retry` call leaves a `Block` of Interests (`retry_block`); a fetch is a sequence of such rounds,
and `fetch_rounds` says which (`Rounds`, `Fetched`).  What the statements of C19 need are views of that: the tail of the log
(`GoodT`), the bound on requests, the run of segments yielded (`Run`).
-/
namespace Ndn.SegFetchT
open Ndn.SegFetch (Req Seg Obj End Outcome attempts)

/-- what an awaitable of the fetcher can come to -/
def Plain : Pit.Outcome → Prop
  | .data _ => True
  | .nack _ => True
  | .timeout => True
  | _ => False

/-- Data that answers request `q` belongs to the object and bears a name the Interest matches -/
def Genuine (obj : Obj) (q : Req) (o : Pit.Outcome) : Prop :=
  Plain o ∧ ∀ d, o = .data d →
    match obj, q with
    | .unseg _, .disc => idSeg d = none
    | .unseg _, .seg _ => False
    | .segs l, .disc => ∃ k, idSeg d = some k ∧ k < l.length
    | .segs l, .seg i => idSeg d = some i ∧ i < l.length

def AskOk {W : Type} (ask : W → Req → Pit.Outcome × W) (obj : Obj) (P : W → Prop) : Prop :=
  ∀ w q, P w → P (ask w q).2 ∧ Genuine obj q (ask w q).1

section generic
variable {W : Type} (ask : W → Req → Pit.Outcome × W)

theorem retryG_succ (limit : Nat) (q : Req) (fuel trial : Nat) (w : W) :
    retryG ask limit q (fuel + 1) trial w =
      match (ask w q).1 with
      | .data d => (if idValid d then .ok d else .invalid, (ask w q).2, [.data d])
      | .nack r => (.nack, (ask w q).2, [.nack r])
      | .timeout =>
        if trial + 1 ≥ limit then (.timeout, (ask w q).2, [.timeout])
        else ((retryG ask limit q fuel (trial + 1) (ask w q).2).1, (retryG ask limit q fuel (trial + 1) (ask w q).2).2.1,
              .timeout :: (retryG ask limit q fuel (trial + 1) (ask w q).2).2.2)
      | o => (.fuel, (ask w q).2, [o]) := rfl

/-- how a `retry` call ended, seen from the Interest that decided it -/
def endOK : End → Pit.Outcome → Prop
  | .done, o => ∃ d, o = .data d ∧ idValid d = true
  | .invalid, o => ∃ d, o = .data d ∧ idValid d = false
  | .nack, o => ∃ rs, o = .nack rs
  | .timeout, o => o = .timeout
  | .fuel, _ => False

/-- an Interest after which the fetch goes on: it timed out, or fetched Data the validator accepts -/
def Benign (o : Pit.Outcome) : Prop := o = .timeout ∨ ∃ d, o = .data d ∧ idValid d = true

theorem endOf_ne_done {r : RRes} (h : ∀ d, r ≠ .ok d) : endOf r ≠ .done := by
  cases r with
  | ok d => exact absurd rfl (h d)
  | _ => exact nofun

theorem endOK_timeout {e : End} : endOK e .timeout ↔ e = .timeout := by cases e <;> simp [endOK]

theorem endOK_nack {e : End} {rs : Nat} : endOK e (.nack rs) ↔ e = .nack := by cases e <;> simp [endOK]

theorem endOK_data {e : End} {d : Nat} :
    endOK e (.data d) ↔ (e = .done ∧ idValid d = true) ∨ (e = .invalid ∧ idValid d = false) := by
  cases e <;> simp [endOK]

/-- The Interests of one `retry` call that came to `e` (`.done`: it returned Data the validator accepts): `j` that timed
    out, then the one that decided. -/
def Block (a : Nat) (q : Req) (blk : List (Req × Pit.Outcome)) (e : End) : Prop :=
  ∃ j last, blk = List.replicate j (q, Pit.Outcome.timeout) ++ [(q, last)] ∧ endOK e last ∧
    (e = .timeout → j + 1 = a) ∧ (e ≠ .timeout → j < a)

/-- The log ends with the block of the request that decided the fetch; everything before timed out or fetched valid Data. -/
def GoodT (a : Nat) (lg : List (Req × Pit.Outcome)) (e : End) : Prop :=
  ∃ pre q blk, lg = pre ++ blk ∧ (∀ x ∈ pre, Benign x.2) ∧ Block a q blk e

section block
variable {a : Nat} {q : Req} {blk lg : List (Req × Pit.Outcome)} {e : End}

theorem Block.req (h : Block a q blk e) : ∀ x ∈ blk, x.1 = q := by
  obtain ⟨j, last, rfl, _⟩ := h
  intro x hx
  rcases List.mem_append.mp hx with h | h
  · rw [(List.mem_replicate.mp h).2]
  · rw [List.mem_singleton.mp h]

theorem Block.length_le (h : Block a q blk e) : blk.length ≤ a := by
  obtain ⟨j, last, rfl, _, h1, h2⟩ := h
  simp only [List.length_append, List.length_replicate, List.length_cons, List.length_nil]
  by_cases he : e = .timeout
  · have := h1 he; omega
  · have := h2 he; omega

theorem Block.benign (h : Block a q blk .done) : ∀ x ∈ blk, Benign x.2 := by
  obtain ⟨j, last, rfl, hl, _⟩ := h
  intro x hx
  rcases List.mem_append.mp hx with h | h
  · rw [(List.mem_replicate.mp h).2]; exact .inl rfl
  · rw [List.mem_singleton.mp h]; exact .inr hl

theorem Block.ne_fuel (h : Block a q blk e) : e ≠ .fuel := by
  obtain ⟨_, _, _, h, _⟩ := h
  intro he
  rw [he] at h
  exact h

theorem Block.good (h : Block a q blk e) : GoodT a blk e := ⟨[], q, blk, rfl, fun _ hx => absurd hx List.not_mem_nil, h⟩

theorem GoodT.prepend {pre : List (Req × Pit.Outcome)} (hb : ∀ x ∈ pre, Benign x.2) (hg : GoodT a lg e) :
    GoodT a (pre ++ lg) e := by
  obtain ⟨pre', q, blk, rfl, g3, g4⟩ := hg
  refine ⟨pre ++ pre', q, blk, (List.append_assoc ..).symm, fun x hx => ?_, g4⟩
  rcases List.mem_append.mp hx with h | h
  · exact hb x h
  · exact g3 x h

theorem GoodT.ne_fuel (h : GoodT a lg e) : e ≠ .fuel := by
  obtain ⟨_, _, _, _, _, b⟩ := h
  exact b.ne_fuel

theorem GoodT.timeout_iff (ha : 0 < a) (h : GoodT a lg e) :
    e = .timeout ↔ ∃ pre req, lg = pre ++ List.replicate a (req, Pit.Outcome.timeout) := by
  obtain ⟨pre, req, _, g2, _, j, last, rfl, g4, g5, _⟩ := h
  constructor
  · intro he
    rw [he] at g4
    exact ⟨pre, req, by rw [g2, ← g5 he, show last = .timeout from g4, List.replicate_succ']⟩
  · rintro ⟨pre', req', h'⟩
    obtain ⟨n, rfl⟩ : ∃ n, a = n + 1 := ⟨a - 1, by omega⟩
    have h1 : lg.getLast? = some (req', .timeout) := by rw [h', List.replicate_succ']; simp
    have h2 : lg.getLast? = some (req, last) := by rw [g2]; simp
    rw [(Prod.mk.inj (Option.some.inj (h2.symm.trans h1))).2] at g4
    exact endOK_timeout.mp g4

theorem GoodT.propagates (h : GoodT a lg e) :
    (∀ req rs, (req, Pit.Outcome.nack rs) ∈ lg → e = .nack ∧ lg.getLast? = some (req, Pit.Outcome.nack rs)) ∧
    (∀ req d, idValid d = false → (req, Pit.Outcome.data d) ∈ lg →
        e = .invalid ∧ lg.getLast? = some (req, Pit.Outcome.data d)) ∧
    (e = .nack → ∃ req rs, lg.getLast? = some (req, Pit.Outcome.nack rs)) ∧
    (e = .invalid → ∃ req d, idValid d = false ∧ lg.getLast? = some (req, Pit.Outcome.data d)) := by
  obtain ⟨pre, req, _, g2, g3, j, last, rfl, g4, _, _⟩ := h
  have hlast : lg.getLast? = some (req, last) := by rw [g2]; simp
  -- an entry that is not benign can only be the last one
  have key : ∀ req' o, ¬ Benign o → (req', o) ∈ lg → req' = req ∧ o = last := by
    intro req' o ho hm
    rw [g2] at hm
    rcases List.mem_append.mp hm with h | h
    · exact absurd (g3 _ h) ho
    · rcases List.mem_append.mp h with h | h
      · exact absurd (.inl (Prod.mk.inj (List.mem_replicate.mp h).2).2) ho
      · exact Prod.mk.inj (List.mem_singleton.mp h)
  refine ⟨fun req' rs hm => ?_, fun req' d hv hm => ?_, fun h => ?_, fun h => ?_⟩
  · obtain ⟨rfl, rfl⟩ := key req' _ (by simp [Benign]) hm
    exact ⟨endOK_nack.mp g4, hlast⟩
  · obtain ⟨rfl, rfl⟩ := key req' _ (by simp [Benign, hv]) hm
    rcases endOK_data.mp g4 with ⟨_, hv'⟩ | ⟨he, _⟩
    · rw [hv] at hv'; cases hv'
    · exact ⟨he, hlast⟩
  · rw [h] at g4
    obtain ⟨rs, rfl⟩ := g4
    exact ⟨req, rs, hlast⟩
  · rw [h] at g4
    obtain ⟨d, rfl, hv⟩ := g4
    exact ⟨req, d, hv, hlast⟩

theorem count_le (hb : blk.length ≤ a) (req : Req) : (blk.filter fun x => decide (x.1 = req)).length ≤ a :=
  Nat.le_trans (List.length_filter_le _ _) hb

theorem count_append_le {rest : List (Req × Pit.Outcome)} {req : Req} (hq : ∀ x ∈ blk, x.1 = q) (hb : blk.length ≤ a)
    (hr : (rest.filter fun x => decide (x.1 = req)).length ≤ a) (hne : ∀ x ∈ rest, x.1 ≠ q) :
    ((blk ++ rest).filter fun x => decide (x.1 = req)).length ≤ a := by
  rw [List.filter_append, List.length_append]
  by_cases h : q = req
  · have hz : rest.filter (fun x => decide (x.1 = req)) = [] :=
      List.filter_eq_nil_iff.mpr fun x hx => by simpa [← h] using hne x hx
    rw [hz]
    exact count_le hb req
  · have hz : blk.filter (fun x => decide (x.1 = req)) = [] :=
      List.filter_eq_nil_iff.mpr fun x hx => by simp [hq x hx, h]
    rw [hz, List.length_nil, Nat.zero_add]
    exact hr

end block

/-- `retry_block` for a call entered at any `trial`: it has `limit - trial` attempts left, and at least one -/
theorem retryG_block {obj : Obj} {P : W → Prop} (hA : AskOk ask obj P) (limit : Nat) (q : Req) :
    ∀ (fuel trial : Nat) (w : W), P w → trial ≤ limit → limit + 1 ≤ fuel + trial →
    P (retryG ask limit q fuel trial w).2.1 ∧
    Block (max (trial + 1) limit - trial) q ((retryG ask limit q fuel trial w).2.2.map fun o => (q, o))
      (endOf (retryG ask limit q fuel trial w).1) ∧
    ∀ d, (retryG ask limit q fuel trial w).1 = .ok d → Genuine obj q (.data d) := by
  intro fuel
  induction fuel with
  | zero => intro trial w _ h1 h2; omega
  | succ n ih =>
    intro trial w hw h1 h2
    obtain ⟨hP, hG⟩ := hA w q hw
    have hpos : 0 < max (trial + 1) limit - trial := by omega
    rw [retryG_succ]
    cases ho : (ask w q).1 with
    | data d =>
      rw [ho] at hG
      dsimp only
      cases hv : idValid d
      · rw [if_neg Bool.false_ne_true]
        exact ⟨hP, ⟨0, .data d, rfl, ⟨d, rfl, hv⟩, (fun h => nomatch h), fun _ => hpos⟩, fun _ h => nomatch h⟩
      · rw [if_pos rfl]
        exact ⟨hP, ⟨0, .data d, rfl, ⟨d, rfl, hv⟩, (fun h => nomatch h), fun _ => hpos⟩, fun _ hd => RRes.ok.inj hd ▸ hG⟩
    | nack r =>
      dsimp only
      exact ⟨hP, ⟨0, .nack r, rfl, ⟨r, rfl⟩, (fun h => nomatch h), fun _ => hpos⟩, fun _ h => nomatch h⟩
    | timeout =>
      by_cases h : trial + 1 ≥ limit
      · simp only [h, if_true]
        exact ⟨hP, ⟨0, .timeout, rfl, rfl, fun _ => by omega, fun h => absurd rfl h⟩, fun _ h => nomatch h⟩
      · simp only [h, if_false]
        obtain ⟨a0, ⟨j, last, e, hl, t1, t2⟩, g⟩ := ih (trial + 1) (ask w q).2 hP (by omega) (by omega)
        exact ⟨a0, ⟨j + 1, last, by rw [List.map_cons, e]; rfl, hl, fun ht => by have := t1 ht; omega,
          fun ht => by have := t2 ht; omega⟩, g⟩
    | _ => rw [ho] at hG; exact hG.1.elim

theorem retry_block {obj : Obj} {P : W → Prop} (hA : AskOk ask obj P) (limit : Nat) (q : Req) (w : W) (hw : P w) :
    P (retryG ask limit q (limit + 1) 0 w).2.1 ∧
    Block (attempts limit) q ((retryG ask limit q (limit + 1) 0 w).2.2.map fun o => (q, o))
      (endOf (retryG ask limit q (limit + 1) 0 w).1) ∧
    ∀ d, (retryG ask limit q (limit + 1) 0 w).1 = .ok d → Genuine obj q (.data d) :=
  retryG_block ask hA limit q (limit + 1) 0 w hw (Nat.zero_le _) (Nat.le_refl _)

theorem loop_step {segs : List Seg} {P : W → Prop} (hA : AskOk ask (.segs segs) P) (limit fuel i : Nat) (w : W) (hw : P w)
    {r : RRes × W × List Pit.Outcome} (hr : retryG ask limit (.seg i) (limit + 1) 0 w = r) :
    (∃ d, r.1 = .ok d ∧ ∃ h : i < segs.length,
      fetchLoopG ask limit segs (fuel + 1) i w =
        if segs[i].fbi = some i then (⟨[segs[i].content], r.2.2.map fun o => (Req.seg i, o), .done⟩, r.2.1)
        else
          (⟨segs[i].content :: (fetchLoopG ask limit segs fuel (i + 1) r.2.1).1.yielded,
            (r.2.2.map fun o => (Req.seg i, o)) ++ (fetchLoopG ask limit segs fuel (i + 1) r.2.1).1.log,
            (fetchLoopG ask limit segs fuel (i + 1) r.2.1).1.end_⟩,
           (fetchLoopG ask limit segs fuel (i + 1) r.2.1).2)) ∨
    ((∀ d, r.1 ≠ .ok d) ∧
      fetchLoopG ask limit segs (fuel + 1) i w = (⟨[], r.2.2.map fun o => (Req.seg i, o), endOf r.1⟩, r.2.1)) := by
  subst hr
  obtain ⟨_, _, g⟩ := retry_block ask hA limit (.seg i) w hw
  cases hr : (retryG ask limit (.seg i) (limit + 1) 0 w).1 with
  | ok d =>
    obtain ⟨hk, hlt⟩ := (g d hr).2 d rfl
    exact .inl ⟨d, rfl, hlt, by simp only [fetchLoopG, hr, hk, List.getElem?_eq_getElem hlt]⟩
  | _ => exact .inr ⟨nofun, by simp only [fetchLoopG, hr]⟩

/-- the discovery round from `w`: its result, the world it leaves, the outcomes of its Interests -/
abbrev discR (limit : Nat) (w : W) : RRes × W × List Pit.Outcome := retryG ask limit .disc (limit + 1) 0 w
abbrev discLog (limit : Nat) (w : W) : List (Req × Pit.Outcome) := (discR ask limit w).2.2.map fun o => (Req.disc, o)

theorem fetch_step_unseg {c : Nat} {P : W → Prop} (hA : AskOk ask (.unseg c) P) (limit : Nat) (w : W) (hw : P w) :
    (∃ d, (discR ask limit w).1 = .ok d ∧
      fetchG ask (.unseg c) limit w = (⟨[c], discLog ask limit w, .done⟩, (discR ask limit w).2.1)) ∨
    ((∀ d, (discR ask limit w).1 ≠ .ok d) ∧
      fetchG ask (.unseg c) limit w = (⟨[], discLog ask limit w, endOf (discR ask limit w).1⟩, (discR ask limit w).2.1)) := by
  obtain ⟨_, _, g⟩ := retry_block ask hA limit .disc w hw
  cases hr : (retryG ask limit .disc (limit + 1) 0 w).1 with
  | ok d =>
    have hk : idSeg d = none := (g d hr).2 d rfl
    exact .inl ⟨d, rfl, by simp only [fetchG, hr, hk]⟩
  | _ => exact .inr ⟨nofun, by simp only [fetchG, hr]⟩

/-- the segment loop entered at `i` in the world the discovery round leaves -/
abbrev loopFrom (limit : Nat) (l : List Seg) (i : Nat) (w : W) : Result × W :=
  fetchLoopG ask limit l (l.length + 1) i (discR ask limit w).2.1

theorem fetch_step_segs {l : List Seg} {P : W → Prop} (hA : AskOk ask (.segs l) P) (limit : Nat) (w : W) (hw : P w) :
    (∃ d k, (discR ask limit w).1 = .ok d ∧ idSeg d = some k ∧ k < l.length ∧
      ((k = 0 ∧ ∃ h : 0 < l.length, fetchG ask (.segs l) limit w =
          if l[0].fbi = some 0 then (⟨[l[0].content], discLog ask limit w, .done⟩, (discR ask limit w).2.1)
          else (⟨l[0].content :: (loopFrom ask limit l 1 w).1.yielded, discLog ask limit w ++ (loopFrom ask limit l 1 w).1.log,
                 (loopFrom ask limit l 1 w).1.end_⟩, (loopFrom ask limit l 1 w).2)) ∨
       (k ≠ 0 ∧ fetchG ask (.segs l) limit w =
          (⟨(loopFrom ask limit l 0 w).1.yielded, discLog ask limit w ++ (loopFrom ask limit l 0 w).1.log,
            (loopFrom ask limit l 0 w).1.end_⟩, (loopFrom ask limit l 0 w).2)))) ∨
    ((∀ d, (discR ask limit w).1 ≠ .ok d) ∧
      fetchG ask (.segs l) limit w = (⟨[], discLog ask limit w, endOf (discR ask limit w).1⟩, (discR ask limit w).2.1)) := by
  obtain ⟨_, _, g⟩ := retry_block ask hA limit .disc w hw
  cases hr : (retryG ask limit .disc (limit + 1) 0 w).1 with
  | ok d =>
    obtain ⟨k, hk, hlt⟩ := (g d hr).2 d rfl
    refine .inl ⟨d, k, rfl, hk, hlt, ?_⟩
    by_cases hk0 : k = 0
    · subst hk0
      exact .inl ⟨rfl, hlt, by simp only [fetchG, hr, hk, List.getElem?_eq_getElem hlt, if_true]⟩
    · exact .inr ⟨hk0, by simp only [fetchG, hr, hk, hk0, if_false]⟩
  | _ => exact .inr ⟨nofun, by simp only [fetchG, hr]⟩

/-- `y` are the contents of segments `i … m-1` in order, as yielded by a fetch that ended with `e`: it stopped at the first
    final segment among them and finished normally only there -/
structure RunTo (l : List Seg) (i m : Nat) (y : List Nat) (e : End) : Prop where
  le : i ≤ m
  yielded_eq : y = ((l.take m).drop i).map (·.content)
  bound : m ≤ max i l.length
  stops_at_final : ∀ k, i ≤ k → k < m → (∃ s : Seg, l[k]? = some s ∧ s.fbi = some k) → k + 1 = m ∧ e = .done
  done_only_at_final : e = .done → i < m ∧ ∃ s : Seg, l[m - 1]? = some s ∧ s.fbi = some (m - 1)

def Run (l : List Seg) (i : Nat) (y : List Nat) (e : End) : Prop := ∃ m, RunTo l i m y e

theorem take_drop_cons {α : Type} (l : List α) {i m : Nat} (hi : i < m) (h : i < l.length) :
    (l.take m).drop i = l[i] :: (l.take m).drop (i + 1) := by
  rw [List.drop_eq_getElem_cons (by simp only [List.length_take]; omega), List.getElem_take]

theorem Run.stop {l : List Seg} {i : Nat} {e : End} (he : e ≠ .done) : Run l i [] e :=
  ⟨i, Nat.le_refl _, by simp, by omega, fun k h1 h2 => by omega, fun h => absurd h he⟩

theorem Run.final {l : List Seg} {i : Nat} (h : i < l.length) (hf : l[i].fbi = some i) : Run l i [l[i].content] .done :=
  ⟨i + 1, by omega,
    by rw [take_drop_cons l (Nat.lt_succ_self i) h, List.drop_eq_nil_of_le (by simp only [List.length_take]; omega)]; rfl,
    by omega, fun k h1 h2 _ => ⟨by omega, rfl⟩, fun _ => ⟨by omega, l[i], by simp [h], hf⟩⟩

theorem Run.cons {l : List Seg} {i : Nat} {y : List Nat} {e : End} (h : i < l.length) (hf : l[i].fbi ≠ some i)
    (hr : Run l (i + 1) y e) : Run l i (l[i].content :: y) e := by
  obtain ⟨m, hr⟩ := hr
  have hb := hr.bound
  refine ⟨m, Nat.le_of_succ_le hr.le, by rw [hr.yielded_eq, take_drop_cons l hr.le h]; rfl, by omega, fun k h1 h2 hk => ?_,
    fun hd => ⟨Nat.lt_of_succ_le hr.le, (hr.done_only_at_final hd).2⟩⟩
  by_cases hki : k = i
  · obtain ⟨s, e1, e2⟩ := hk
    rw [hki, List.getElem?_eq_getElem h] at e1
    cases e1
    exact absurd (hki ▸ e2) hf
  · exact hr.stops_at_final k (by omega) h2 hk

/-- What the rounds from segment `i` on come to (yielded, log, end): the first one asks `q` (discovery, or `.seg i`) and
    gets segment `i`, the later ones ask `.seg k`.  The three rules are the three ways a round of the loop can go. -/
inductive Rounds (a : Nat) (l : List Seg) : Req → Nat → List Nat → List (Req × Pit.Outcome) → End → Prop
  | stop {q i blk e} : Block a q blk e → e ≠ .done → Rounds a l q i [] blk e
  | final {q i blk} (h : i < l.length) : l[i].fbi = some i → Block a q blk .done → Rounds a l q i [l[i].content] blk .done
  | next {q i blk y lg e} (h : i < l.length) : l[i].fbi ≠ some i → Block a q blk .done →
      Rounds a l (.seg (i + 1)) (i + 1) y lg e → Rounds a l q i (l[i].content :: y) (blk ++ lg) e

section views
variable {a : Nat} {l : List Seg} {q : Req} {i : Nat} {y : List Nat} {lg : List (Req × Pit.Outcome)} {e : End}

theorem Rounds.good (h : Rounds a l q i y lg e) : GoodT a lg e := by
  induction h with
  | stop b _ => exact b.good
  | final _ _ b => exact b.good
  | next _ _ b _ ih => exact ih.prepend b.benign

theorem Rounds.run (h : Rounds a l q i y lg e) : Run l i y e := by
  induction h with
  | stop _ he => exact Run.stop he
  | final h hf _ => exact Run.final h hf
  | next h hf _ _ ih => exact Run.cons h hf ih

theorem Rounds.reqs (h : Rounds a l q i y lg e) : ∀ x ∈ lg, x.1 = q ∨ ∃ k, i < k ∧ x.1 = .seg k := by
  induction h with
  | stop b _ => exact fun x hx => .inl (b.req x hx)
  | final _ _ b => exact fun x hx => .inl (b.req x hx)
  | next _ _ b _ ih =>
    intro x hx
    rcases List.mem_append.mp hx with h | h
    · exact .inl (b.req x h)
    · rcases ih x h with h | ⟨k, hk, h⟩
      · exact .inr ⟨_, Nat.lt_succ_self _, h⟩
      · exact .inr ⟨k, Nat.lt_of_succ_lt hk, h⟩

theorem Rounds.count (h : Rounds a l q i y lg e) (hq : ∀ k, i < k → q ≠ .seg k) (req : Req) :
    (lg.filter fun x => decide (x.1 = req)).length ≤ a := by
  induction h with
  | stop b _ => exact count_le b.length_le req
  | final _ _ b => exact count_le b.length_le req
  | next _ _ b r ih =>
    refine count_append_le b.req b.length_le (ih fun k hk h => by cases h; omega) fun x hx hxq => ?_
    rcases r.reqs x hx with h | ⟨k, hk, h⟩
    · exact hq _ (Nat.lt_succ_self _) (hxq.symm.trans h)
    · exact hq k (Nat.lt_of_succ_lt hk) (hxq.symm.trans h)

end views

theorem loop_rounds {segs : List Seg} {P : W → Prop} (hA : AskOk ask (.segs segs) P) (limit : Nat) :
    ∀ (fuel i : Nat) (w : W), P w → i ≤ segs.length → segs.length + 1 ≤ fuel + i →
    Rounds (attempts limit) segs (.seg i) i (fetchLoopG ask limit segs fuel i w).1.yielded
      (fetchLoopG ask limit segs fuel i w).1.log (fetchLoopG ask limit segs fuel i w).1.end_ ∧
    P (fetchLoopG ask limit segs fuel i w).2 := by
  intro fuel
  induction fuel with
  | zero => intro i w _ h1 h2; omega
  | succ n ih =>
    intro i w hw h1 h2
    obtain ⟨a0, b, _⟩ := retry_block ask hA limit (.seg i) w hw
    rcases loop_step ask hA limit n i w hw rfl with ⟨d, hr, hlt, heq⟩ | ⟨hne, heq⟩ <;> rw [heq]
    · rw [hr] at b
      by_cases hf : segs[i].fbi = some i
      · rw [if_pos hf]; exact ⟨.final hlt hf b, a0⟩
      · rw [if_neg hf]
        obtain ⟨r, p⟩ := ih (i + 1) _ a0 (by omega) (by omega)
        exact ⟨.next hlt hf b r, p⟩
    · exact ⟨.stop b (endOf_ne_done hne), a0⟩

/-- What a fetch comes to.  An unsegmented object is fetched like a single segment that is final; discovery answered by
    another segment than 0 is a block of its own in front of the rounds from segment 0. -/
inductive Fetched (a : Nat) : Obj → Result → Prop
  | unseg {c y lg e} : Rounds a [⟨c, some 0⟩] .disc 0 y lg e → Fetched a (.unseg c) ⟨y, lg, e⟩
  | first {l y lg e} : Rounds a l .disc 0 y lg e → Fetched a (.segs l) ⟨y, lg, e⟩
  | other {l blk y lg e} : Block a .disc blk .done → Rounds a l (.seg 0) 0 y lg e → Fetched a (.segs l) ⟨y, blk ++ lg, e⟩

theorem fetch_rounds {obj : Obj} {P : W → Prop} (hA : AskOk ask obj P) (limit : Nat) (w : W) (hw : P w) :
    Fetched (attempts limit) obj (fetchG ask obj limit w).1 ∧ P (fetchG ask obj limit w).2 := by
  obtain ⟨a0, b, _⟩ := retry_block ask hA limit .disc w hw
  cases obj with
  | unseg c =>
    rcases fetch_step_unseg ask hA limit w hw with ⟨d, hr, heq⟩ | ⟨hne, heq⟩ <;> rw [heq]
    · rw [hr] at b
      exact ⟨.unseg (.final (l := [⟨c, some 0⟩]) Nat.zero_lt_one rfl b), a0⟩
    · exact ⟨.unseg (.stop b (endOf_ne_done hne)), a0⟩
  | segs l =>
    rcases fetch_step_segs ask hA limit w hw with ⟨d, k, hr, hk, hlt, ⟨rfl, h0, heq⟩ | ⟨hk0, heq⟩⟩ | ⟨hne, heq⟩ <;> rw [heq]
    · rw [hr] at b
      by_cases hf : l[0].fbi = some 0
      · rw [if_pos hf]; exact ⟨.first (.final h0 hf b), a0⟩
      · rw [if_neg hf]
        obtain ⟨r, p⟩ := loop_rounds ask hA limit (l.length + 1) 1 _ a0 (by omega) (by omega)
        exact ⟨.first (.next h0 hf b r), p⟩
    · rw [hr] at b
      obtain ⟨r, p⟩ := loop_rounds ask hA limit (l.length + 1) 0 _ a0 (by omega) (by omega)
      exact ⟨.other b r, p⟩
    · exact ⟨.first (.stop b (endOf_ne_done hne)), a0⟩

section fetched
variable {a : Nat} {obj : Obj} {r : Result}

theorem Fetched.good (h : Fetched a obj r) : GoodT a r.log r.end_ := by
  cases h with
  | unseg h => exact h.good
  | first h => exact h.good
  | other b h => exact h.good.prepend b.benign

theorem Fetched.count (h : Fetched a obj r) (req : Req) : (r.log.filter fun x => decide (x.1 = req)).length ≤ a := by
  cases h with
  | unseg h => exact h.count (fun _ _ => nofun) req
  | first h => exact h.count (fun _ _ => nofun) req
  | other b h =>
    refine count_append_le b.req b.length_le (h.count (fun k hk h => by cases h; omega) req) fun x hx hxq => ?_
    rcases h.reqs x hx with h | ⟨k, _, h⟩ <;> rw [hxq] at h <;> cases h

theorem Fetched.run {l : List Seg} (h : Fetched a (.segs l) r) : Run l 0 r.yielded r.end_ := by
  cases h with
  | first h => exact h.run
  | other _ h => exact h.run

theorem Fetched.unseg_yield {c : Nat} (h : Fetched a (.unseg c) r) :
    (r.end_ = .done → r.yielded = [c]) ∧ (r.end_ ≠ .done → r.yielded = []) := by
  cases h with
  | unseg h =>
    cases h with
    | stop _ he => exact ⟨fun h => absurd h he, fun _ => rfl⟩
    | final _ _ _ => exact ⟨fun _ => rfl, fun h => absurd rfl h⟩
    | next _ hf _ _ => exact absurd rfl hf

end fetched

end generic

end Ndn.SegFetchT
