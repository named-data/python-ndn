import NdnProofs.Lemmas.Cascade
import NdnProofs.Lemmas.Lvs.SignOrder
import NdnProofs.Lemmas.Lvs.Sem
import NdnProofs.Lemmas.Lvs.Tables
import NdnModel.CascadeLvs
/-!
  The cascade validator (C14) over a Light VerSec schema (C12).  `ChainL` indexes the chain by the names of its keys, so
  that "every key on an accepted chain matches a rule" can be stated.  `SchemaLink` is one link in the sense of C12,
  `LvsChain` the chain of such links.  `IsTrustRoot`, `RootRule` and `AnchorRule` say declaratively what `root_of_trust`
  and the `sanity_check` of `lvs_validator` compute: `mem_trustRoots_iff` and `anchorMatches_spec` here,
  `root_of_trust_spec` in `Props/C14Lvs.lean`.
-/
namespace Ndn.Cascade
open Ndn

section chainL
variable {N : Type}

/-- the chain  o — certificate — … — trust anchor  whose links satisfy `R`; `l` lists the names of the
    keys (certificates, then the anchor) in the order they are named -/
inductive ChainL (R : N → N → Prop) (E : Env N) (Signed : Key → Obj N → Prop) : List N → Obj N → Prop where
  | anchor (o : Obj N) :
      o.keyLoc = some E.anchorName → R o.name E.anchorName →
      Verifies Signed E.anchorKey o → ChainL R E Signed [E.anchorName] o
  | step (o : Obj N) (kn : N) (c : Obj N) (k : Key) (l : List N) :
      o.keyLoc = some kn → kn ≠ E.anchorName → R o.name kn →
      E.world (certInterest kn) = some (.data c) → c.name = kn → c.content = some k →
      Verifies Signed k o → ChainL R E Signed l c → ChainL R E Signed (kn :: l) o

variable {R R' : N → N → Prop} {E : Env N} {Signed : Key → Obj N → Prop}

theorem ChainL.mono (hRR : ∀ a b, R a b → R' a b) {l : List N} {o : Obj N}
    (h : ChainL R E Signed l o) : ChainL R' E Signed l o := by
  induction h with
  | anchor o hk ha hv => exact .anchor o hk (hRR _ _ ha) hv
  | step o kn c k l hk hn ha hw hcn hcc hv _ ih => exact .step o kn c k l hk hn (hRR _ _ ha) hw hcn hcc hv ih

theorem ChainL.links {l : List N} {o : Obj N} (h : ChainL R E Signed l o) :
    ∀ kn ∈ l, ∃ a, R a kn := by
  induction h with
  | anchor o _ ha _ =>
    intro kn hm
    simp only [List.mem_singleton] at hm
    subst hm; exact ⟨_, ha⟩
  | step o kn c k l _ _ ha _ _ _ _ _ ih =>
    intro kn' hm
    rcases List.mem_cons.mp hm with rfl | hm
    · exact ⟨_, ha⟩
    · exact ih kn' hm

theorem ChainL.head {l : List N} {o : Obj N} (h : ChainL R E Signed l o) : o.keyLoc = l.head? := by
  cases h with
  | anchor _ hk _ _ => simpa using hk
  | step _ _ _ _ _ hk _ _ _ _ _ _ _ => simpa using hk

theorem chainL_of_chainD (h : ∀ a b, E.allowed a b = .ok true → R a b) :
    ∀ d o, ChainD E Signed d o → ∃ l, l.length = d + 1 ∧ ChainL R E Signed l o := by
  intro d o hc
  induction hc with
  | anchor o hk ha hv => exact ⟨[E.anchorName], rfl, .anchor o hk (h _ _ ha) hv⟩
  | step o kn c k d hk hn ha hw hcn hcc hv _ ih =>
    obtain ⟨l, hl, hch⟩ := ih
    exact ⟨kn :: l, congrArg (· + 1) hl, .step o kn c k l hk hn (h _ _ ha) hw hcn hcc hv hch⟩

theorem chainD_of_chainL (h : ∀ a b, R a b → E.allowed a b = .ok true) :
    ∀ l o, ChainL R E Signed l o → ∃ d, l.length = d + 1 ∧ ChainD E Signed d o := by
  intro l o hc
  induction hc with
  | anchor o hk ha hv => exact ⟨0, rfl, .anchor o hk (h _ _ ha) hv⟩
  | step o kn c k l hk hn ha hw hcn hcc hv _ ih =>
    obtain ⟨d, hl, hch⟩ := ih
    exact ⟨d + 1, congrArg (· + 1) hl, .step o kn c k d hk hn (h _ _ ha) hw hcn hcc hv hch⟩

end chainL

/-- the schema lets `key` sign `pkt` (trailing implicit digests dropped): the right-hand side of
    `Ndn.C12.check_iff` -/
def SchemaLink (m : Lvs.Model) (fns : Lvs.PureEnv) (pkt key : LName) : Prop :=
  ∃ p k, Lvs.dropDigest pkt = some p ∧ Lvs.dropDigest key = some k ∧ Lvs.Signs m fns p k

def KeyMatched (m : Lvs.Model) (fns : Lvs.PureEnv) (key : LName) : Prop :=
  ∃ k σ n σ', Lvs.dropDigest key = some k ∧ Lvs.Matches m fns σ k n σ'

theorem SchemaLink.keyMatched {m : Lvs.Model} {fns : Lvs.PureEnv} {pkt key : LName}
    (h : SchemaLink m fns pkt key) : KeyMatched m fns key := by
  obtain ⟨_, k, _, hk, _, σ, _, kn, σ', _, _, hkm, _⟩ := h
  exact ⟨k, σ, kn, σ', hk, hkm⟩

theorem lvsAllowed_ok (m : Lvs.Model) (env : Lvs.FnEnv) (pkt key : LName) (b : Bool) :
    lvsAllowed m env pkt key = .ok b ↔ Lvs.check m env pkt key = .ok b := by
  unfold lvsAllowed
  cases Lvs.check m env pkt key <;> simp

theorem lvsAllowed_error (m : Lvs.Model) (env : Lvs.FnEnv) (pkt key : LName) (e : PyErr) :
    lvsAllowed m env pkt key = .error e ↔ ∃ e', Lvs.check m env pkt key = .error e' ∧ pyOfLvs e' = e := by
  unfold lvsAllowed
  cases Lvs.check m env pkt key <;> simp

theorem mem_visited_iff {m : Lvs.Model} (h : Lvs.sanityCheck m = .ok ()) (n : Nat) :
    n ∈ visited m ↔ Lvs.Reach m n :=
  Lvs.mem_collect_iff ((Lvs.sanityCheck_ok_iff m).mp h).1

/-- node `k` is a root of trust: some reachable node lists it as a signer and it has no signer itself -/
def IsTrustRoot (m : Lvs.Model) (k : Nat) : Prop :=
  (∃ n node, Lvs.Reach m n ∧ m.nodes[n]? = some node ∧ k ∈ node.signCons) ∧ Lvs.signersOf m k = []

/-- `r` is a rule name of a root of trust (`#_<id>` for a node without rule names) -/
def RootRule (m : Lvs.Model) (r : String) : Prop := ∃ k, IsTrustRoot m k ∧ r ∈ Lvs.ruleNamesOf m k

theorem mem_trustRoots_iff {m : Lvs.Model} (h : Lvs.sanityCheck m = .ok ()) (k : Nat) :
    k ∈ trustRoots m ↔ IsTrustRoot m k := by
  unfold trustRoots inDegNodes IsTrustRoot
  simp only [List.mem_filter, List.mem_flatMap, List.isEmpty_iff, mem_visited_iff h, Lvs.mem_signersOf]
  constructor
  · rintro ⟨⟨n, hr, node, hn, hk⟩, he⟩
    exact ⟨⟨n, node, hr, hn, hk⟩, he⟩
  · rintro ⟨⟨n, node, hr, hn, hk⟩, he⟩
    exact ⟨⟨n, hr, node, hn, hk⟩, he⟩

/-- `r` is a rule name of a node the name matches (implicit digest dropped, no prior bindings) -/
def AnchorRule (m : Lvs.Model) (fns : Lvs.PureEnv) (name : LName) (r : String) : Prop :=
  ∃ p n σ, Lvs.dropDigest name = some p ∧ Lvs.Matches m fns [] p n σ ∧ r ∈ Lvs.ruleNamesOf m n

/-- every existing node has at least one rule name in `match`'s output -/
theorem ruleNamesOf_ne_nil {m : Lvs.Model} {n : Nat} {node : Lvs.Node} (hn : m.nodes[n]? = some node) :
    Lvs.ruleNamesOf m n ≠ [] := by
  unfold Lvs.ruleNamesOf
  simp only [hn]
  split
  · simp
  · rename_i hne; intro h; rw [h] at hne; simp at hne

theorem anchorMatches_none {m : Lvs.Model} {env : Lvs.FnEnv} {name : LName}
    (hd : Lvs.dropDigest name = none) : anchorMatches m env name = .error .indexError := by
  unfold anchorMatches Lvs.matchNames
  rw [Lvs.stripDigest_eq, hd]

theorem anchorMatches_spec {m : Lvs.Model} (hs : Lvs.Sane m) (hv : Lvs.VDet m) (env : Lvs.FnEnv)
    (henv : Lvs.EnvTotal env) {name p : LName} (hd : Lvs.dropDigest name = some p) :
    ∃ l, anchorMatches m env name = .ok l ∧ ∀ r, r ∈ l ↔ AnchorRule m (Lvs.pureOf env) name r := by
  have hne := Lvs.matchIter_no_err m hs env henv p []
  refine ⟨((Lvs.matchIter m env p []).outs.map fun o => (Lvs.ruleNamesOf m o.1, o.2)).flatMap (·.1), ?_, fun r => ?_⟩
  · unfold anchorMatches Lvs.matchNames
    rw [Lvs.stripDigest_eq, hd]
    simp only [hne]
  · simp only [List.mem_flatMap, List.mem_map]
    constructor
    · rintro ⟨x, ⟨⟨n, σ⟩, ho, rfl⟩, hr⟩
      exact ⟨p, n, σ, hd, (Lvs.mem_outs_iff hs hv henv).mp ho, hr⟩
    · rintro ⟨p', n, σ, hd', hm, hr⟩
      cases hd.symm.trans hd'
      exact ⟨_, ⟨(n, σ), (Lvs.mem_outs_iff hs hv henv).mpr hm, rfl⟩, hr⟩

/-- a matched node exists (hence has a rule name: `ruleNamesOf_ne_nil`) -/
theorem matches_node_exists {m : Lvs.Model} (hs : Lvs.Sane m) {fns : Lvs.PureEnv} {σ : Lvs.Ctx}
    {name : LName} {n : Nat} {σ' : Lvs.Ctx} (h : Lvs.Matches m fns σ name n σ') :
    ∃ node, m.nodes[n]? = some node := by
  unfold Lvs.Matches at h
  exact Lvs.Reach.node hs.treeOK (Lvs.Reach.of_path h Lvs.Reach.start)

/-- `LvsChain I Signed l o`: a chain from `o` to the anchor of instance `I` through the keys named `l`,
    in which every link is a signing relation of `I`'s schema in the sense of C12 (`SchemaLink`: the
    packet name matches a node one of whose sign constraints is a node the key name matches under the
    packet's bindings, all constraints on the way holding) -/
def LvsChain (I : Inst) (Signed : Key → Obj LName → Prop) (l : List LName) (o : Obj LName) : Prop :=
  ChainL (SchemaLink I.model (Lvs.pureOf I.fns)) I.env Signed l o

theorem userFnsOk_of_total (m : Lvs.Model) (env : Lvs.FnEnv) (henv : Lvs.EnvTotal env) :
    userFnsOk m env = true := by
  unfold userFnsOk
  rw [List.all_eq_true]
  intro id _
  obtain ⟨f, hf, _⟩ := henv id
  simp [hf]

end Ndn.Cascade
