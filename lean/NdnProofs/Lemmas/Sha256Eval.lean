import NdnModel.Sha256
/-!
# An evaluator for the model's SHA-256 that suits the kernel

`sha256N` is `Sha256.sha256` with the same loops over the same index ranges, but with 32-bit words as `Nat` (reduced
mod 2^32 where the model's `UInt32` wraps) and with the arrays `w` and `K` packed into one natural number each, word `i`
being digit `i` in base 2^32.  The kernel computes `Nat` arithmetic on literals natively, whereas it unfolds every
`UInt32` operation and every array access through several layers of definitions.  `sha256_eq_sha256N` says that the two
functions are equal; a test vector is rewritten with it before it is evaluated.  That the digest has 32 bytes
(`sha256_length`, all the packet theorems ask of the hash function) is read off the evaluator, which writes the eight
words out.
-/
namespace Ndn.Sha256

/- The three operations used most are spelt with the functions the kernel computes natively; through the notation
   each use is several unfoldings of instances first.  `rotrN_def` and `limb_def` give them in the usual notation. -/
def add32 (a b : Nat) : Nat := Nat.mod (Nat.add a b) 4294967296
def rotrN (x n : Nat) : Nat := Nat.lor (Nat.shiftRight x n) (Nat.mod (Nat.shiftLeft x (Nat.sub 32 n)) 4294967296)
def limb (W i : Nat) : Nat := Nat.mod (Nat.shiftRight W (Nat.mul 32 i)) 4294967296

theorem rotrN_def (x n : Nat) : rotrN x n = x >>> n ||| x <<< (32 - n) % 4294967296 := rfl
theorem limb_def (W i : Nat) : limb W i = W >>> (32 * i) % 4294967296 := rfl

/-- the number whose base-2^32 digits are the given words, first word lowest -/
def pack : List Nat → Nat
  | [] => 0
  | x :: r => x + 4294967296 * pack r

def packA (w : Array UInt32) : Nat := pack (w.toList.map UInt32.toNat)

def KP : Nat := packA K

def scheduleN (W16 : Nat) : Nat :=
  (List.range' 16 48).foldl (fun W i =>
    let a := limb W (i - 15)
    let b := limb W (i - 2)
    let s0 := rotrN a 7 ^^^ rotrN a 18 ^^^ a >>> 3
    let s1 := rotrN b 17 ^^^ rotrN b 19 ^^^ b >>> 10
    W + add32 (add32 (add32 (limb W (i - 16)) s0) (limb W (i - 7))) s1 <<< (32 * i)) W16

/-- the working variables `a … hh` of `compress`, or the hash state `h[0] … h[7]` -/
structure Regs where
  (a b c d e f g h : Nat)

def roundN (W : Nat) (s : Regs) (i : Nat) : Regs :=
  let s1 := rotrN s.e 6 ^^^ rotrN s.e 11 ^^^ rotrN s.e 25
  let ch := (s.e &&& s.f) ^^^ ((4294967295 - s.e) &&& s.g)
  let t1 := add32 (add32 (add32 (add32 s.h s1) ch) (limb KP i)) (limb W i)
  let s0 := rotrN s.a 2 ^^^ rotrN s.a 13 ^^^ rotrN s.a 22
  let maj := (s.a &&& s.b) ^^^ (s.a &&& s.c) ^^^ (s.b &&& s.c)
  let t2 := add32 s0 maj
  ⟨add32 t1 t2, s.a, s.b, s.c, add32 s.d t1, s.e, s.f, s.g⟩

def compressN (h : Regs) (W16 : Nat) : Regs :=
  let s := (List.range' 0 64).foldl (roundN (scheduleN W16)) h
  ⟨add32 h.a s.a, add32 h.b s.b, add32 h.c s.c, add32 h.d s.d, add32 h.e s.e, add32 h.f s.f, add32 h.g s.g,
    add32 h.h s.h⟩

def wordN (b0 b1 b2 b3 : UInt8) : Nat :=
  b0.toNat <<< 24 ||| b1.toNat <<< 16 ||| b2.toNat <<< 8 ||| b3.toNat

def wordsOfN : List UInt8 → List Nat
  | b0 :: b1 :: b2 :: b3 :: r => wordN b0 b1 b2 b3 :: wordsOfN r
  | _ => []

def blocksN : Nat → List Nat → List (List Nat)
  | 0, _ => []
  | n + 1, ws => if ws.isEmpty then [] else ws.take 16 :: blocksN n (ws.drop 16)

def bytesOfWordN (w : Nat) : List UInt8 :=
  [UInt8.ofNat (w >>> 24), UInt8.ofNat (w >>> 16), UInt8.ofNat (w >>> 8), UInt8.ofNat w]

def digestN (h : Regs) : List UInt8 := [h.a, h.b, h.c, h.d, h.e, h.f, h.g, h.h].flatMap bytesOfWordN

def sha256N (msg : List UInt8) : List UInt8 :=
  let ws := wordsOfN (pad msg)
  digestN ((blocksN (ws.length / 16 + 1) ws).foldl (fun h b => compressN h (pack b))
    ⟨0x6a09e667, 0xbb67ae85, 0x3c6ef372, 0xa54ff53a, 0x510e527f, 0x9b05688c, 0x1f83d9ab, 0x5be0cd19⟩)

theorem limb_pack : ∀ (l : List UInt32) (i : Nat), limb (pack (l.map UInt32.toNat)) i = (l[i]?.getD 0).toNat
  | [], i => by simp [pack, limb_def]
  | x :: l, 0 => by
    have := x.toNat_lt
    simp only [List.map_cons, pack, limb_def, Nat.mul_zero, Nat.shiftRight_zero, List.getElem?_cons_zero, Option.getD_some]
    omega
  | x :: l, i + 1 => by
    have := x.toNat_lt
    rw [List.getElem?_cons_succ, ← limb_pack l i]
    simp only [List.map_cons, pack, limb_def, Nat.mul_add, Nat.mul_one, Nat.add_comm (32 * i) 32, Nat.shiftRight_add]
    congr 2
    rw [Nat.shiftRight_eq_div_pow]
    omega

/-- `w[i]!` is digit `i` of the packed array, also out of range, where both are 0 -/
theorem toNat_getElem! (w : Array UInt32) (i : Nat) : (w[i]!).toNat = limb (packA w) i := by
  rw [packA, limb_pack, getElem!_def, Array.getElem?_toList]
  cases w[i]? <;> rfl

theorem pack_append (x : Nat) : ∀ l : List Nat, pack (l ++ [x]) = pack l + x <<< (32 * l.length)
  | [] => by simp [pack]
  | y :: l => by
    simp only [List.cons_append, pack, pack_append x l, List.length_cons, Nat.mul_add, Nat.mul_one,
      Nat.shiftLeft_eq, Nat.pow_add, Nat.reducePow]
    rw [Nat.mul_left_comm, Nat.mul_comm 4294967296 (2 ^ (32 * l.length))]
    omega

theorem packA_push (w : Array UInt32) (x : UInt32) : packA (w.push x) = packA w + x.toNat <<< (32 * w.size) := by
  simp only [packA, Array.toList_push, List.map_append, List.map_cons, List.map_nil, pack_append, List.length_map,
    Array.length_toList]

theorem toNat_add32 (a b : UInt32) : (a + b).toNat = add32 a.toNat b.toNat := UInt32.toNat_add a b

theorem toNat_not (a : UInt32) : (~~~a).toNat = 4294967295 - a.toNat := UInt32.toNat_not a

theorem toNat_rotr (x n : UInt32) (h0 : 0 < n.toNat) (h : n.toNat < 32) :
    (rotr x n).toNat = rotrN x.toNat n.toNat := by
  have hs : (32 - n).toNat = 32 - n.toNat := UInt32.toNat_sub_of_le _ _ (UInt32.le_iff_toNat_le.2 (Nat.le_of_lt h))
  simp only [rotr, rotrN_def, UInt32.toNat_or, UInt32.toNat_shiftRight, UInt32.toNat_shiftLeft, hs, Nat.mod_eq_of_lt h,
    Nat.mod_eq_of_lt (Nat.sub_lt (Nat.zero_lt_succ 31) h0), Nat.reducePow]

theorem toNat_word (b0 b1 b2 b3 : UInt8) : (word b0 b1 b2 b3).toNat = wordN b0 b1 b2 b3 := by
  have h (b : UInt8) (k : Nat) (hk : k ≤ 24) : b.toNat <<< k % 4294967296 = b.toNat <<< k := by
    rw [Nat.shiftLeft_eq]
    exact Nat.mod_eq_of_lt (Nat.lt_of_le_of_lt
      (Nat.mul_le_mul (Nat.le_of_lt_succ b.toNat_lt) (Nat.pow_le_pow_right (by decide) hk)) (by decide))
  simp only [word, UInt32.toNat_or, UInt32.toNat_shiftLeft, UInt8.toNat_toUInt32, UInt32.reduceToNat,
    Nat.reduceMod, Nat.reducePow, Std.le_refl, h, Nat.reduceLeDiff, wordN]

theorem bytesOfWord_eq (w : UInt32) : bytesOfWord w = bytesOfWordN w.toNat := by
  simp only [bytesOfWord, bytesOfWordN, UInt32.toUInt8, Nat.toUInt8, UInt32.toNat_shiftRight, UInt32.toNat_ofNat,
    Nat.reducePow, Nat.reduceMod]

theorem foldl_range'_sim {α β : Type} (R : Nat → α → β → Prop) (f : α → Nat → α) (g : β → Nat → β)
    (step : ∀ i a b, R i a b → R (i + 1) (f a i) (g b i)) :
    ∀ (n s : Nat) (a : α) (b : β), R s a b → R (s + n) ((List.range' s n).foldl f a) ((List.range' s n).foldl g b)
  | 0, _, _, _, h => h
  | n + 1, s, a, b, h => by
    have := foldl_range'_sim R f g step n (s + 1) _ _ (step s a b h)
    rwa [Nat.add_right_comm, Nat.add_assoc] at this

theorem schedule_eq (w : Array UInt32) (h : w.size = 16) : packA (schedule w) = scheduleN (packA w) := by
  have h48 : [16:64].size = 48 := by decide
  unfold schedule scheduleN
  simp only [Std.Legacy.Range.forIn_eq_forIn_range', List.forIn_pure_yield_eq_foldl, bind_pure, Id.run_pure, h48]
  -- `push` writes digit `w.size`, the evaluator digit `i`: in round `i` the array has `i` words
  refine (foldl_range'_sim (fun i (w : Array UInt32) W => w.size = i ∧ packA w = W) _ _ ?_ 48 16 w _ ⟨h, rfl⟩).2
  rintro i w _ ⟨rfl, rfl⟩
  refine ⟨Array.size_push _, ?_⟩
  simp only [packA_push, toNat_add32, UInt32.toNat_xor, toNat_rotr, UInt32.toNat_shiftRight, toNat_getElem!,
    UInt32.toNat_ofNat, Nat.reduceMod, Nat.reduceLT, Nat.reducePow]

def toN : UInt32 × UInt32 × UInt32 × UInt32 × UInt32 × UInt32 × UInt32 × UInt32 → Regs
  | (a, b, c, d, e, f, g, hh) => ⟨a.toNat, b.toNat, c.toNat, d.toNat, e.toNat, f.toNat, g.toNat, hh.toNat⟩

def regs (h : Array UInt32) : Regs := toN (h[0]!, h[1]!, h[2]!, h[3]!, h[4]!, h[5]!, h[6]!, h[7]!)

theorem regs_mk (a b c d e f g hh : UInt32) : regs #[a, b, c, d, e, f, g, hh] = toN (a, b, c, d, e, f, g, hh) := rfl

theorem compress_eq (h : Array UInt32) (block : List UInt32) (hb : block.length = 16) :
    regs (compress h block) = compressN (regs h) (pack (block.map UInt32.toNat)) := by
  have h64 : [0:64].size = 64 := by decide
  unfold compress compressN
  simp only [Std.Legacy.Range.forIn_eq_forIn_range', List.forIn_pure_yield_eq_foldl, Id.run_pure, h64, pure_bind]
  -- the final state of the model's loop occurs once per register read from it
  generalize hX : List.foldl _ (h[0]!, h[1]!, h[2]!, h[3]!, h[4]!, h[5]!, h[6]!, h[7]!) _ = X
  have hY : toN X = List.foldl (roundN (scheduleN (pack (block.map UInt32.toNat)))) (regs h) (List.range' 0 64) := by
    have hs : packA (schedule block.toArray) = scheduleN (pack (block.map UInt32.toNat)) := schedule_eq _ hb
    rw [← hX, ← hs]
    refine foldl_range'_sim (fun _ s t => toN s = t) _ _ ?_ 64 0 _ _ rfl
    rintro i ⟨a, b, c, d, e, f, g, hh⟩ _ rfl
    simp only [toN, roundN, toNat_add32, UInt32.toNat_xor, UInt32.toNat_and, toNat_not, toNat_rotr, toNat_getElem!,
      UInt32.toNat_ofNat, Nat.reduceMod, Nat.reduceLT, Nat.reducePow, KP]
  rw [← hY]
  obtain ⟨a, b, c, d, e, f, g, hh⟩ := X
  rw [regs_mk]
  simp only [regs, toN, toNat_add32]

theorem wordsOfN_eq : ∀ bs : List UInt8, wordsOfN bs = (wordsOf bs).map UInt32.toNat
  | b0 :: b1 :: b2 :: b3 :: r => by simp only [wordsOfN, wordsOf, List.map_cons, toNat_word, wordsOfN_eq r]
  | [] | [_] | [_, _] | [_, _, _] => rfl

theorem length_wordsOf : ∀ bs : List UInt8, (wordsOf bs).length = bs.length / 4
  | _ :: _ :: _ :: _ :: r => by simp only [wordsOf, List.length_cons, length_wordsOf r]; omega
  | [] | [_] | [_, _] | [_, _, _] => by simp [wordsOf]

theorem length_pad_mod (msg : List UInt8) : (pad msg).length % 64 = 0 := by
  simp only [pad, List.length_append, List.length_cons, List.length_nil, List.length_replicate]
  omega

/-- a word list that is a whole number of blocks is cut into blocks of exactly 16 words, as `compress_eq` needs -/
theorem foldl_compress_eq : ∀ (n : Nat) (ws : List UInt32) (h : Array UInt32), ws.length % 16 = 0 →
    regs ((blocks n ws).foldl compress h) =
      (blocksN n (ws.map UInt32.toNat)).foldl (fun h b => compressN h (pack b)) (regs h)
  | 0, _, _, _ => rfl
  | n + 1, ws, h, hw => by
    by_cases he : ws = []
    · subst he; rfl
    · have hpos : 0 < ws.length := List.length_pos_iff.2 he
      have ht : (ws.take 16).length = 16 := by rw [List.length_take]; omega
      have hd : (ws.drop 16).length % 16 = 0 := by rw [List.length_drop]; omega
      have := foldl_compress_eq n _ (compress h (ws.take 16)) hd
      simpa only [blocks, blocksN, List.isEmpty_iff, he, List.map_eq_nil_iff, if_false, List.foldl_cons, List.map_take,
        List.map_drop, compress_eq h _ ht] using this

theorem compress_size (h : Array UInt32) (b : List UInt32) : (compress h b).size = 8 := rfl

theorem foldl_compress_size : ∀ (bs : List (List UInt32)) (h : Array UInt32), h.size = 8 →
    (bs.foldl compress h).size = 8
  | [], _, hh => hh
  | b :: r, h, _ => foldl_compress_size r _ (compress_size h b)

theorem digest_eq : ∀ h : Array UInt32, h.size = 8 → h.toList.flatMap bytesOfWord = digestN (regs h)
  | ⟨[a, b, c, d, e, f, g, hh]⟩, _ => by
    simp only [regs_mk, toN, digestN, List.flatMap_cons, List.flatMap_nil, bytesOfWord_eq]

theorem sha256_eq_sha256N : sha256 = sha256N := by
  funext msg
  have hw : (wordsOf (pad msg)).length % 16 = 0 := by have := length_pad_mod msg; rw [length_wordsOf]; omega
  simp only [sha256, sha256N, wordsOfN_eq, List.length_map]
  rw [digest_eq _ (foldl_compress_size _ _ rfl), foldl_compress_eq _ _ _ hw]
  rfl

theorem sha256_length (m : List UInt8) : (sha256 m).length = 32 := by
  rw [sha256_eq_sha256N]; rfl

end Ndn.Sha256
