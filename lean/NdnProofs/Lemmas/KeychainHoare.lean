import NdnModel.Keychain
/-!
  A Hoare logic for the keychain's monad `M`, in which the state survives an exception: `Triple P m Q E` has one
  postcondition for normal return and one per exception. `Pres` (an invariant kept also when the operation raises) and
  `NoVE` (never raises ValueError) are instances with their own copies of the rules. A fault point asks the assertion to
  ignore the fault counter (`FI`, `Triple.tick`) or to exclude a scheduled fault (`Triple.tickNF`). `step_ok` /
  `step_error` carry a `Triple` about an operation's program over to `step`, `run_of_pres` an invariant over a history.
-/
namespace Ndn.Keychain
open Ndn.Sql

section Hoare
variable {α β : Type}

@[simp] theorem run_pure (a : α) (s : Sys) : (pure a : M α).run s = (.ok a, s) := rfl
@[simp] theorem run_bind (m : M α) (f : α → M β) (s : Sys) :
    (m >>= f).run s = match m.run s with
      | (.ok a, s') => (f a).run s'
      | (.error e, s') => (.error e, s') := by
  show M.bind m f s = _
  unfold M.bind M.run
  rcases m s with ⟨_ | _, _⟩ <;> rfl
@[simp] theorem run_raise (e : KErr) (s : Sys) : (raise e : M α).run s = (.error e, s) := rfl
@[simp] theorem run_getS (s : Sys) : getS.run s = (.ok s, s) := rfl
@[simp] theorem run_modS (f : Sys → Sys) (s : Sys) : (modS f).run s = (.ok (), f s) := rfl
theorem run_tick (s : Sys) : tick.run s = match s.fault with
    | none => (.ok (), s)
    | some 0 => (.error .injected, { s with fault := none })
    | some (k + 1) => (.ok (), { s with fault := some k }) := rfl
@[simp] theorem run_mk (f : Sys → Except KErr α × Sys) (s : Sys) : (M.mk f).run s = f s := rfl

def Triple (P : Sys → Prop) (m : M α) (Q : α → Sys → Prop) (E : KErr → Sys → Prop) : Prop :=
  ∀ s, P s → match m.run s with
    | (.ok a, s') => Q a s'
    | (.error e, s') => E e s'

variable {P P' : Sys → Prop} {Q Q' : α → Sys → Prop} {E E' : KErr → Sys → Prop} {m : M α}

theorem Triple.conseq (h : Triple P m Q E) (hp : ∀ s, P' s → P s) (hq : ∀ a s, Q a s → Q' a s) (he : ∀ e s, E e s → E' e s) :
    Triple P' m Q' E' := by
  intro s hs
  have := h s (hp s hs)
  rcases hm : m.run s with ⟨_ | _, _⟩ <;> simp only [hm] at this ⊢
  · exact he _ _ this
  · exact hq _ _ this

theorem Triple.ok (h : Triple P m Q E) {s s' : Sys} {a : α} (hs : P s) (hm : m.run s = (.ok a, s')) : Q a s' := by
  have := h s hs
  rwa [hm] at this

theorem Triple.error (h : Triple P m Q E) {s s' : Sys} {e : KErr} (hs : P s) (hm : m.run s = (.error e, s')) :
    E e s' := by
  have := h s hs
  rwa [hm] at this

theorem Triple.and (h : Triple P m Q E) (h' : Triple P' m Q' E') :
    Triple (fun s => P s ∧ P' s) m (fun a s => Q a s ∧ Q' a s) (fun e s => E e s ∧ E' e s) := by
  intro s hs
  have h1 := h s hs.1
  have h2 := h' s hs.2
  rcases hm : m.run s with ⟨_ | _, _⟩ <;> simp only [hm] at h1 h2 ⊢ <;> exact ⟨h1, h2⟩

theorem Triple.weakenE (h : Triple P m Q E) (he : ∀ e s, E e s → E' e s) : Triple P m Q E' :=
  h.conseq (fun _ h => h) (fun _ _ h => h) he

theorem Triple.pull {p : Prop} (h : p → Triple P m Q E) : Triple (fun s => P s ∧ p) m Q E := fun s hs => h hs.2 s hs.1

theorem Triple.ofStart (h : ∀ s0, P s0 → Triple (· = s0) m Q E) : Triple P m Q E := fun s hs => h s hs s rfl

theorem Triple.bind {f : α → M β} {R : β → Sys → Prop} (h1 : Triple P m Q E) (h2 : ∀ a, Triple (Q a) (f a) R E) :
    Triple P (m >>= f) R E := by
  intro s hs
  have := h1 s hs
  rw [run_bind]
  rcases hm : m.run s with ⟨_ | a, s'⟩ <;> simp only [hm] at this ⊢
  · exact this
  · exact h2 a s' this

theorem Triple.pure {a : α} (h : ∀ s, P s → Q a s) : Triple P (pure a : M α) Q E := h

/-- the shape of `Op.prog`: the operation, then a constant result -/
theorem Triple.thenPure {b : β} {R : Sys → Prop} (h : Triple P m (fun _ => R) E) :
    Triple P (m >>= fun _ => (Pure.pure b : M β)) (fun _ => R) E :=
  Triple.bind h fun _ => Triple.pure fun _ h => h

theorem Triple.raise {e : KErr} (h : ∀ s, P s → E e s) : Triple P (raise e : M α) Q E := h

theorem Triple.getS : Triple P getS (fun a s => P s ∧ a = s) E := fun _ hs => ⟨hs, rfl⟩

theorem Triple.getS_keep : Triple P Keychain.getS (fun _ => P) E := fun _ h => h

theorem Triple.modS {f : Sys → Sys} {Q : Unit → Sys → Prop} (h : ∀ s, P s → Q () (f s)) : Triple P (modS f) Q E := h

theorem Triple.ofOpt {e : KErr} {o : Option α} (hs : ∀ a s, o = some a → P s → Q a s) (hn : ∀ s, o = none → P s → E e s) :
    Triple P (ofOpt e o) Q E := by
  cases o with
  | none => exact fun s h => hn s rfl h
  | some a => exact fun s' h => hs a s' rfl h

theorem Triple.ite {c : Prop} [Decidable c] {a b : M α} (ha : c → Triple P a Q E) (hb : ¬c → Triple P b Q E) :
    Triple P (if c then a else b) Q E := by
  split
  · exact ha ‹_›
  · exact hb ‹_›

theorem Triple.raiseIf {c : Bool} {e : KErr} (he : ∀ s, P s → E e s) : Triple P (raiseIf c e) (fun _ => P) E :=
  Triple.ite (fun _ => Triple.raise he) fun _ => Triple.pure fun _ h => h

theorem Triple.whenM {c : Bool} {m : M Unit} (h : Triple P m (fun _ => P) E) : Triple P (whenM c m) (fun _ => P) E :=
  Triple.ite (fun _ => h) fun _ => Triple.pure fun _ h => h

/-- fault-insensitive -/
def FI (P : Sys → Prop) : Prop := ∀ s f, P s → P { s with fault := f }

theorem Triple.tick (h : FI P) (he : ∀ s, P s → E .injected s) : Triple P tick (fun _ => P) E := by
  intro s hs
  rw [run_tick]
  rcases s.fault with _ | _ | k
  · exact hs
  · exact he _ (h s none hs)
  · exact h s (some k) hs

theorem Triple.tickNF (h : ∀ s, P s → s.fault = none) : Triple P Keychain.tick (fun _ => P) E := by
  intro s hs
  rw [run_tick, h s hs]
  exact hs

theorem Triple.commit (h : FI P) (hc : ∀ s, P s → P { s with com := s.cur }) (he : ∀ s, P s → E .injected s) :
    Triple P Keychain.commit (fun _ s => P s ∧ s.com = s.cur) E :=
  Triple.bind (Triple.tick h he) fun _ => Triple.modS fun s hs => ⟨hc s hs, rfl⟩

def Pres (I : Sys → Prop) (m : M α) : Prop := Triple I m (fun _ => I) (fun _ => I)

variable {I : Sys → Prop}

theorem Pres.bind {f : α → M β} (h1 : Pres I m) (h2 : ∀ a, Pres I (f a)) : Pres I (m >>= f) := Triple.bind h1 h2
theorem Pres.pure (a : α) : Pres I (pure a : M α) := Triple.pure fun _ h => h
theorem Pres.raise (e : KErr) : Pres I (raise e : M α) := Triple.raise fun _ h => h
theorem Pres.getS : Pres I getS := fun _ hs => hs
theorem Pres.modS {f : Sys → Sys} (h : ∀ s, I s → I (f s)) : Pres I (modS f) := h
theorem Pres.ofOpt (e : KErr) (o : Option α) : Pres I (ofOpt e o) := Triple.ofOpt (fun _ _ _ h => h) (fun _ _ h => h)
theorem Pres.tick (h : FI I) : Pres I tick := Triple.tick h fun _ h => h
theorem Pres.raiseIf (c : Bool) (e : KErr) : Pres I (raiseIf c e) := Triple.raiseIf fun _ h => h
theorem Pres.whenM {c : Bool} {m : M Unit} (h : Pres I m) : Pres I (whenM c m) := Triple.whenM h
theorem Pres.ite {I : Sys → Prop} {c : Prop} [Decidable c] {a b : M α} (ha : Pres I a) (hb : Pres I b) :
    Pres I (if c then a else b) := by split <;> assumption

theorem Triple.lookupId (n : Nat) : Triple P (Keychain.lookupId n) (fun i s => P s ∧ idRow? s.cur n = some i) (fun _ => P) :=
  Triple.bind Triple.getS fun _ => Triple.ofOpt (fun _ _ ho h => ⟨h.1, h.2 ▸ ho⟩) (fun _ _ h => h.1)

theorem Triple.lookupKey (k : KeyName) :
    Triple P (Keychain.lookupKey k) (fun kr s => P s ∧ ∃ ir, idRow? s.cur k.idn = some ir ∧ keyRow? s.cur ir.rid k = some kr)
      (fun _ => P) :=
  Triple.bind (Triple.lookupId _) fun ir => Triple.bind Triple.getS fun _ =>
    Triple.ofOpt (fun _ _ ho h => ⟨h.1.1, ir, h.1.2, h.2 ▸ ho⟩) (fun _ _ h => h.1.1)

theorem Pres.lookupId (n : Nat) : Pres I (Keychain.lookupId n) := (Triple.lookupId n).conseq (fun _ h => h) (fun _ _ h => h.1) (fun _ _ h => h)
theorem Pres.lookupKey (k : KeyName) : Pres I (Keychain.lookupKey k) :=
  (Triple.lookupKey k).conseq (fun _ h => h) (fun _ _ h => h.1) (fun _ _ h => h)

/-- the loop of `del_identity` -/
theorem Triple.delKeys {P : Sys → Prop} {E : KErr → Sys → Prop} (h : ∀ k, Triple P (delKey k) (fun _ => P) E)
    (ks : List KeyName) : Triple P (Keychain.delKeys ks) (fun _ => P) E := by
  induction ks with
  | nil => exact Triple.pure fun _ h => h
  | cons k r ih => exact Triple.bind (h k) fun _ => ih

end Hoare

/-- `step` is the operation's program between setting the fault schedule and resetting it: a normal return of the
    step is one of the program -/
theorem step_ok {P : Sys → Prop} {Q : Option Signer → Sys → Prop} {E : KErr → Sys → Prop} {op : Op}
    {s s' : Sys} {f : Option Nat} {r : Option Signer} (hm : step s (op, f) = (.ok r, s'))
    (h : Triple P op.prog Q E) (hs : P { s with fault := f }) : ∃ s1, Q r s1 ∧ s' = { s1 with fault := none } :=
  have h1 : (op.prog.run { s with fault := f }).1 = .ok r := congrArg Prod.fst hm
  ⟨_, h.ok hs (Prod.ext h1 rfl), (congrArg Prod.snd hm).symm⟩

theorem step_error {P : Sys → Prop} {Q : Option Signer → Sys → Prop} {E : KErr → Sys → Prop} {op : Op}
    {s s' : Sys} {f : Option Nat} {e : KErr} (hm : step s (op, f) = (.error e, s'))
    (h : Triple P op.prog Q E) (hs : P { s with fault := f }) : ∃ s1, E e s1 ∧ s' = { s1 with fault := none } :=
  have h1 : (op.prog.run { s with fault := f }).1 = .error e := congrArg Prod.fst hm
  ⟨_, h.error hs (Prod.ext h1 rfl), (congrArg Prod.snd hm).symm⟩

theorem step_of_pres {I : Sys → Prop} (hfi : FI I) (hp : ∀ op, Pres I (Op.prog op)) (s : Sys)
    (of : Op × Option Nat) (h : I s) : I (step s of).2 := by
  obtain ⟨op, f⟩ := of
  rcases hm : step s (op, f) with ⟨e | r, s'⟩
  · obtain ⟨s1, h1, rfl⟩ := step_error hm (hp op) (hfi s f h)
    exact hfi s1 none h1
  · obtain ⟨s1, h1, rfl⟩ := step_ok hm (hp op) (hfi s f h)
    exact hfi s1 none h1

theorem run_of_pres {I : Sys → Prop} (hfi : FI I) (hp : ∀ op, Pres I (Op.prog op)) (s : Sys)
    (ops : List (Op × Option Nat)) (h : I s) : I (run s ops) := by
  induction ops generalizing s with
  | nil => exact h
  | cons o r ih => exact ih _ (step_of_pres hfi hp s o h)

theorem run_append (s : Sys) (a b : List (Op × Option Nat)) : run s (a ++ b) = run (run s a) b := by
  induction a generalizing s with
  | nil => rfl
  | cons o r ih => exact ih _

theorem run_fault (s : Sys) (ops : List (Op × Option Nat)) (h : s.fault = none) : (run s ops).fault = none := by
  induction ops generalizing s with
  | nil => exact h
  | cons o r ih => exact ih _ rfl

def NoVE {α : Type} (m : M α) : Prop := Triple (fun _ => True) m (fun _ _ => True) (fun e _ => e ≠ .valueError)

theorem NoVE.bind {α β : Type} {m : M α} {f : α → M β} (h1 : NoVE m) (h2 : ∀ a, NoVE (f a)) : NoVE (m >>= f) :=
  Triple.bind h1 h2
theorem NoVE.pure {α : Type} (a : α) : NoVE (pure a : M α) := Triple.pure fun _ h => h
theorem NoVE.getS : NoVE getS := fun _ _ => trivial
theorem NoVE.modS (f : Sys → Sys) : NoVE (modS f) := fun _ _ => trivial
theorem NoVE.tick : NoVE tick := Triple.tick (fun _ _ h => h) fun _ _ => by decide
theorem NoVE.raise {α : Type} {e : KErr} (h : e ≠ .valueError) : NoVE (raise e : M α) := Triple.raise fun _ _ => h
theorem NoVE.ofOpt {α : Type} {e : KErr} (h : e ≠ .valueError) (o : Option α) : NoVE (ofOpt e o) :=
  Triple.ofOpt (fun _ _ _ h => h) (fun _ _ _ => h)
theorem NoVE.raiseIf {e : KErr} (h : e ≠ .valueError) (c : Bool) : NoVE (raiseIf c e) := Triple.raiseIf fun _ _ => h
theorem NoVE.whenM {c : Bool} {m : M Unit} (h : NoVE m) : NoVE (whenM c m) := Triple.whenM h
theorem NoVE.commit : NoVE commit := NoVE.bind NoVE.tick fun _ => NoVE.modS _
theorem NoVE.execInsertKey (o : Nat) (k : KeyName) (b : Nat) : NoVE (execInsertKey o k b) := by
  refine NoVE.bind NoVE.tick fun _ => NoVE.bind NoVE.getS fun a => ?_
  split
  · exact NoVE.raise (by decide)
  · exact NoVE.modS _
theorem NoVE.execInsertCert (k : KeyName) (c : CertName) : NoVE (execInsertCert k c) := by
  refine NoVE.bind NoVE.tick fun _ => NoVE.bind NoVE.getS fun a => ?_
  split
  · exact NoVE.raise (by decide)
  · split
    · exact NoVE.raise (by decide)
    · exact NoVE.modS _
theorem NoVE.execSetDefaultKey (k : KeyName) : NoVE (execSetDefaultKey k) := NoVE.bind NoVE.tick fun _ => NoVE.modS _

end Ndn.Keychain
