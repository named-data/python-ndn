import NdnModel.NfdMgmt
import NdnProofs.Lemmas.Basic
/-! Trace vocabulary of C17 and the invariants of the registration state machine. Each fact about a trace — the lock
    discipline `Disc`, the timestamps `TRel`, the conservation of routes (these relate the two ends of a piece of
    execution to its output), the returns `RetsAll` (of the output alone; `RetsOk` is the instance `run_retsOk`
    concludes) — composes along `++`; it is shown for `start` (for `Disc` through the `@[simp]` projections of `start`),
    `submit`, `handOver`, `autoNext`, then for `step` (through `step_elim`; the routes exclude `connect` and `down` and
    split on the event), and lifted to `run` by `run_of_step`. At the end, apart from the state machine: the dict
    `parse_response` builds from a decoded record (`respDict`). -/
namespace Ndn.NfdMgmt

/-- signed timestamps of the commands in a trace, in order of emission -/
def tsOf : List Out → List Nat
  | [] => []
  | .cmd _ ts :: t => ts :: tsOf t
  | _ :: t => tsOf t

/-- prefixes of the commands issued for routes (by `starting_task`), in order of emission -/
def autoCmds : List Out → List Nat
  | [] => []
  | .cmd r _ :: t => if r.auto then r.pfx :: autoCmds t else autoCmds t
  | _ :: t => autoCmds t

def countCmd : List Out → Nat
  | [] => 0
  | .cmd _ _ :: t => countCmd t + 1
  | _ :: t => countCmd t

/-- Trace discipline "one at a time": commands and returns alternate and every return belongs to the
    command that is in flight.  `alt cur t = some cur'`: starting with `cur` in flight the trace is
    well-formed and ends with `cur'` in flight. -/
def alt : Option Req → List Out → Option (Option Req)
  | cur, [] => some cur
  | none, .cmd r _ :: t => alt (some r) t
  | some r, .ret r' _ :: t => if r' = r then alt none t else none
  | cur, .connected :: t => alt cur t
  | cur, .unmodelled :: t => alt cur t
  | _, _ => none

theorem tsOf_append (a b : List Out) : tsOf (a ++ b) = tsOf a ++ tsOf b := by
  induction a with
  | nil => rfl
  | cons x t ih => cases x <;> simp [tsOf, ih]

theorem autoCmds_append (a b : List Out) : autoCmds (a ++ b) = autoCmds a ++ autoCmds b := by
  induction a with
  | nil => rfl
  | cons x t ih =>
    cases x with
    | cmd r ts => by_cases h : r.auto <;> simp [autoCmds, h, ih]
    | ret r res => simp [autoCmds, ih]
    | connected => simp [autoCmds, ih]
    | unmodelled => simp [autoCmds, ih]

theorem countCmd_append (a b : List Out) : countCmd (a ++ b) = countCmd a + countCmd b := by
  induction a with
  | nil => simp [countCmd]
  | cons x t ih => cases x <;> simp [countCmd, ih] <;> omega

theorem alt_append (cur : Option Req) (a b : List Out) :
    alt cur (a ++ b) = (alt cur a).bind fun c => alt c b := by
  induction a generalizing cur with
  | nil => simp [alt]
  | cons x t ih =>
    cases x with
    | cmd r ts => cases cur <;> simp [alt, ih]
    | ret r res =>
      cases cur with
      | none => simp [alt]
      | some r0 => by_cases h : r = r0 <;> simp [alt, h, ih]
    | connected => cases cur <;> simp [alt, ih]
    | unmodelled => cases cur <;> simp [alt, ih]

/-- the timestamp `start` signs: the clock after the guard (if any) and the read at signing -/
def startTs (cfg : Cfg) (env : Env) (s : St) : Nat :=
  ((if cfg.guard then guard env s.last s.clock else (s.clock, s.last)).1.signRead env).now

@[simp] theorem start_snd (cfg : Cfg) (env : Env) (s : St) (r : Req) :
    (start cfg env s r).2 = [.cmd r (startTs cfg env s)] := rfl
@[simp] theorem start_inflight (cfg : Cfg) (env : Env) (s : St) (r : Req) :
    (start cfg env s r).1.inflight = some r := rfl
@[simp] theorem start_queue (cfg : Cfg) (env : Env) (s : St) (r : Req) :
    (start cfg env s r).1.queue = s.queue := rfl
@[simp] theorem start_autoTodo (cfg : Cfg) (env : Env) (s : St) (r : Req) :
    (start cfg env s r).1.autoTodo = s.autoTodo := rfl
@[simp] theorem start_nextId (cfg : Cfg) (env : Env) (s : St) (r : Req) :
    (start cfg env s r).1.nextId = s.nextId := rfl
@[simp] theorem start_free (cfg : Cfg) (env : Env) (s : St) (r : Req) :
    (start cfg env s r).1.free = s.free := rfl

theorem submit_cases (cfg : Cfg) (env : Env) (s : St) (v : Verb) (p : Nat) (a : Bool) :
    (s.inflight = none ∧
      submit cfg env s v p a = start cfg env { s with nextId := s.nextId + 1 } ⟨s.nextId, v, p, a⟩) ∨
    (∃ r0, s.inflight = some r0 ∧
      submit cfg env s v p a =
        ({ s with nextId := s.nextId + 1, queue := s.queue ++ [⟨s.nextId, v, p, a⟩] }, [])) := by
  unfold submit
  cases hi : s.inflight with
  | none => left; simp
  | some r0 => right; exact ⟨r0, rfl, rfl⟩

theorem handOver_cases (cfg : Cfg) (env : Env) (s : St) :
    (s.queue = [] ∧ handOver cfg env s = (s, [])) ∨
    (∃ q rest, s.queue = q :: rest ∧ handOver cfg env s = start cfg env { s with queue := rest } q) := by
  unfold handOver
  cases hq : s.queue with
  | nil => left; simp
  | cons q rest => right; exact ⟨q, rest, rfl, rfl⟩

theorem autoNext_cases (cfg : Cfg) (env : Env) (s : St) (r : Req) (res : Except PyErr Bool) :
    autoNext cfg env s r res = (s, []) ∨
    (∃ p todo, s.autoTodo = p :: todo ∧
      autoNext cfg env s r res = submit cfg env { s with autoTodo := todo } .register p true) ∨
    (∃ e, res = .error e ∧ autoNext cfg env s r res = ({ s with autoTodo := [] }, [])) := by
  unfold autoNext
  by_cases ha : r.auto
  · simp only [ha, ↓reduceIte]
    cases res with
    | error e => right; right; exact ⟨e, rfl, rfl⟩
    | ok b =>
      cases ht : s.autoTodo with
      | nil => left; rfl
      | cons p todo => right; left; exact ⟨p, todo, rfl, rfl⟩
  · left; simp [ha]

/-- what the call `r` returns when its command is answered by `k` -/
def replyRes (cfg : Cfg) (r : Req) (k : Reply) : Except PyErr Bool := finish cfg r.verb (expressOutcome cfg.fe k)

theorem finish_ok (cfg : Cfg) (hb : cfg.bodyFix = true) (hd : cfg.decodeFix = true) (v : Verb) (o : Outcome) :
    ∃ b, finish cfg v o = .ok b := by
  cases o with
  | content p =>
    simp only [finish]
    split
    · exact ⟨_, rfl⟩
    · rcases p with _ | ⟨c, body⟩ <;> simp [parseStatus, hb, hd]
  | _ => exact ⟨_, rfl⟩

theorem step_call (cfg : Cfg) (hl : cfg.unregLock = true) (env : Env) (s : St) (v : Verb) (p : Nat) :
    step cfg env s (.call v p) = submit cfg env s v p false := by
  simp [step, hl]

theorem step_call_register (cfg : Cfg) (env : Env) (s : St) (p : Nat) :
    step cfg env s (.call .register p) = submit cfg env s .register p false := by
  simp [step]

theorem step_call_free (cfg : Cfg) (hl : cfg.unregLock = false) (env : Env) (s : St) (p : Nat) :
    step cfg env s (.call .unregister p) = freeRun env s p := by
  simp [step, hl]

theorem step_down_cases (cfg : Cfg) (env : Env) (s : St) :
    (s.queue ≠ [] ∧ step cfg env s .down = (s, [.unmodelled])) ∨
    (s.queue = [] ∧ s.inflight = none ∧ step cfg env s .down = ({ s with autoTodo := [] }, [])) ∨
    (∃ r, s.queue = [] ∧ s.inflight = some r ∧ step cfg env s .down =
      ({ s with inflight := none, autoTodo := [] }, [.ret r (replyRes cfg r .canceled)])) := by
  cases hq : s.queue with
  | cons a t => exact Or.inl ⟨List.cons_ne_nil a t, by simp [step, hq]⟩
  | nil =>
    cases hi : s.inflight with
    | none => exact Or.inr (Or.inl ⟨rfl, rfl, by simp [step, hq, hi]⟩)
    | some r => exact Or.inr (Or.inr ⟨r, rfl, rfl, by simp [step, hq, hi, replyRes]⟩)

theorem step_replyU_nil (cfg : Cfg) (env : Env) (s : St) (i : Nat) (k : Reply) (h : s.free = []) :
    step cfg env s (.replyU i k) = (s, []) := by
  simp [step, h]

theorem step_reply_none (cfg : Cfg) (env : Env) (s : St) (k : Reply) (h : s.inflight = none) :
    step cfg env s (.reply k) = (s, []) := by
  simp [step, h]

theorem step_reply_some (cfg : Cfg) (env : Env) (s : St) (k : Reply) (r : Req) (h : s.inflight = some r) :
    step cfg env s (.reply k) =
      ((autoNext cfg env (handOver cfg env { s with inflight := none }).1 r (replyRes cfg r k)).1,
       .ret r (replyRes cfg r k) :: ((handOver cfg env { s with inflight := none }).2 ++
         (autoNext cfg env (handOver cfg env { s with inflight := none }).1 r (replyRes cfg r k)).2)) := by
  simp [step, h, replyRes]

theorem step_connect_active (cfg : Cfg) (env : Env) (s : St) (rs : List Nat) (h : autoActive s = true) :
    step cfg env s (.connect rs) = (s, [.unmodelled]) := by
  simp [step, h]

theorem step_connect_nil (cfg : Cfg) (env : Env) (s : St) (h : autoActive s = false) :
    step cfg env s (.connect []) = (s, [.connected]) := by
  simp [step, h]

theorem step_connect_cons (cfg : Cfg) (env : Env) (s : St) (p : Nat) (todo : List Nat)
    (h : autoActive s = false) :
    step cfg env s (.connect (p :: todo)) =
      ((submit cfg env { s with autoTodo := todo } .register p true).1,
       .connected :: (submit cfg env { s with autoTodo := todo } .register p true).2) := by
  simp [step, h]

theorem step_elim {cfg : Cfg} {env : Env} {s : St} {motive : St × List Out → Prop}
    (same : motive (s, [])) (unmodelled : motive (s, [.unmodelled])) (connected : motive (s, [.connected]))
    (call : ∀ v p, motive (submit cfg env s v p false))
    (callFree : ∀ p, cfg.unregLock = false → motive (freeRun env s p))
    (replyU : ∀ i r k, s.free[i]? = some r →
      motive ({ s with free := s.free.eraseIdx i }, [.ret r (replyRes cfg r k)]))
    (reply : ∀ r k, s.inflight = some r →
      motive ((autoNext cfg env (handOver cfg env { s with inflight := none }).1 r (replyRes cfg r k)).1,
        .ret r (replyRes cfg r k) :: ((handOver cfg env { s with inflight := none }).2 ++
          (autoNext cfg env (handOver cfg env { s with inflight := none }).1 r (replyRes cfg r k)).2)))
    (downIdle : s.queue = [] → s.inflight = none → motive ({ s with autoTodo := [] }, []))
    (downSome : ∀ r, s.queue = [] → s.inflight = some r →
      motive ({ s with inflight := none, autoTodo := [] }, [.ret r (replyRes cfg r .canceled)]))
    (connect : ∀ p todo, autoActive s = false →
      motive ((submit cfg env { s with autoTodo := todo } .register p true).1,
        .connected :: (submit cfg env { s with autoTodo := todo } .register p true).2))
    (e : Ev) : motive (step cfg env s e) := by
  cases e with
  | call v p =>
    simp only [step]
    split
    · rename_i hc; simp only [Bool.and_eq_true, Bool.not_eq_true'] at hc; exact callFree p hc.2
    · exact call v p
  | replyU i k =>
    simp only [step]
    split
    · exact same
    · rename_i r hr; exact replyU i r k hr
  | reply k =>
    cases hi : s.inflight with
    | none => rw [step_reply_none cfg env s k hi]; exact same
    | some r => rw [step_reply_some cfg env s k r hi]; exact reply r k hi
  | down =>
    rcases step_down_cases cfg env s with ⟨_, he⟩ | ⟨hq, hi, he⟩ | ⟨r, hq, hi, he⟩ <;> rw [he]
    · exact unmodelled
    · exact downIdle hq hi
    · exact downSome r hq hi
  | connect routes =>
    cases ha : autoActive s with
    | true => rw [step_connect_active cfg env s routes ha]; exact unmodelled
    | false =>
      cases routes with
      | nil => rw [step_connect_nil cfg env s ha]; exact connected
      | cons p todo => rw [step_connect_cons cfg env s p todo ha]; exact connect p todo ha

theorem run_of_step {cfg : Cfg} {env : Env} {I : St → Prop} {P : Ev → Prop} {R : St → St → List Out → Prop}
    (refl : ∀ s, I s → R s s [])
    (trans : ∀ {s s1 s2 o1 o2}, R s s1 o1 → R s1 s2 o2 → R s s2 (o1 ++ o2))
    (hstep : ∀ s e, I s → P e → R s (step cfg env s e).1 (step cfg env s e).2 ∧ I (step cfg env s e).1)
    (s : St) (evs : List Ev) (hs : I s) (hp : ∀ e ∈ evs, P e) :
    R s (run cfg env s evs).1 (run cfg env s evs).2 ∧ I (run cfg env s evs).1 := by
  induction evs generalizing s with
  | nil => exact ⟨refl s hs, hs⟩
  | cons e es ih =>
    obtain ⟨h1, hi⟩ := hstep s e hs (hp e List.mem_cons_self)
    obtain ⟨h2, hi'⟩ := ih _ hi fun e' he' => hp e' (List.mem_cons_of_mem _ he')
    exact ⟨trans h1 h2, hi'⟩

/-- well-formedness: waiters exist only while somebody holds the semaphore -/
def WF (s : St) : Prop := s.inflight = none → s.queue = []

/-- what a piece of an execution does to the command lock, read off its trace: commands and returns alternate
    ("one at a time"), the request count is kept, nothing goes out beside the lock -/
structure Disc (s s' : St) (o : List Out) : Prop where
  alt : alt s.inflight o = some s'.inflight
  wf : WF s'
  /-- commands emitted = requests created (`nextId`) + waiters taken off the queue − waiters put on it -/
  count : countCmd o + s'.queue.length + s.nextId = s.queue.length + s'.nextId
  free : s'.free = s.free

theorem Disc.nil (s s' : St) (h : WF s) (hi : s'.inflight = s.inflight) (hq : s'.queue = s.queue)
    (hn : s'.nextId = s.nextId) (hf : s'.free = s.free) : Disc s s' [] :=
  ⟨by simp [NfdMgmt.alt, hi], by unfold WF at *; rw [hi, hq]; exact h, by simp [countCmd, hq, hn], hf⟩

theorem Disc.trans {s s1 s2 : St} {o1 o2 : List Out} (h1 : Disc s s1 o1) (h2 : Disc s1 s2 o2) :
    Disc s s2 (o1 ++ o2) := by
  refine ⟨?_, h2.wf, ?_, h2.free.trans h1.free⟩
  · rw [alt_append, h1.alt]; exact h2.alt
  · have := h1.count
    have := h2.count
    rw [countCmd_append]; omega

theorem Disc.cons_marker {s s' : St} {o : List Out} (x : Out) (hx : x = .connected ∨ x = .unmodelled)
    (h : Disc s s' o) : Disc s s' (x :: o) := by
  refine ⟨?_, h.wf, ?_, h.free⟩
  · have := h.alt
    rcases hx with rfl | rfl <;> cases hs : s.inflight <;> simp [NfdMgmt.alt, hs] at this ⊢ <;> exact this
  · have := h.count
    rcases hx with rfl | rfl <;> simpa [countCmd] using this

theorem Disc.cons_ret {s s' : St} {o : List Out} {r : Req} (res : Except PyErr Bool) (hi : s.inflight = some r)
    (h : Disc { s with inflight := none } s' o) : Disc s s' (.ret r res :: o) :=
  ⟨by rw [hi]; simp only [NfdMgmt.alt, ↓reduceIte]; exact h.alt, h.wf, h.count, h.free⟩

theorem submit_disc (cfg : Cfg) (env : Env) (s : St) (v : Verb) (p : Nat) (a : Bool) :
    Disc s (submit cfg env s v p a).1 (submit cfg env s v p a).2 := by
  rcases submit_cases cfg env s v p a with ⟨hi, he⟩ | ⟨r0, hi, he⟩ <;> rw [he]
  · refine ⟨by simp [alt, hi], by intro hn; simp at hn, ?_, rfl⟩
    simp [countCmd]; omega
  · refine ⟨by simp [alt, hi], by intro hn; simp [hi] at hn, ?_, rfl⟩
    simp [countCmd]; omega

/-- no `WF s` is asked: between release and hand-over the state is not well-formed, the hand-over restores it -/
theorem handOver_disc (cfg : Cfg) (env : Env) (s : St) (hi : s.inflight = none) :
    Disc s (handOver cfg env s).1 (handOver cfg env s).2 := by
  rcases handOver_cases cfg env s with ⟨hq, he⟩ | ⟨q, rest, hq, he⟩ <;> rw [he]
  · exact ⟨by simp [alt], fun _ => hq, by simp [countCmd], rfl⟩
  · exact ⟨by simp [alt, hi], by intro hn; simp at hn, by simp [countCmd, hq]; omega, rfl⟩

theorem autoNext_disc (cfg : Cfg) (env : Env) (s : St) (r : Req) (res : Except PyErr Bool) (h : WF s) :
    Disc s (autoNext cfg env s r res).1 (autoNext cfg env s r res).2 := by
  rcases autoNext_cases cfg env s r res with he | ⟨p, todo, _, he⟩ | ⟨e, _, he⟩ <;> rw [he]
  · exact Disc.nil _ _ h rfl rfl rfl rfl
  · have hb := submit_disc cfg env { s with autoTodo := todo } .register p true
    exact ⟨hb.alt, hb.wf, hb.count, hb.free⟩
  · exact Disc.nil _ _ h rfl rfl rfl rfl

theorem step_disc (cfg : Cfg) (hl : cfg.unregLock = true) (env : Env) (s : St) (e : Ev) (h : WF s)
    (hf : s.free = []) : Disc s (step cfg env s e).1 (step cfg env s e).2 := by
  have hrefl : Disc s s [] := Disc.nil _ _ h rfl rfl rfl rfl
  refine step_elim (motive := fun r => Disc s r.1 r.2) hrefl (hrefl.cons_marker _ (Or.inr rfl))
    (hrefl.cons_marker _ (Or.inl rfl)) (fun v p => submit_disc cfg env s v p false)
    (fun _ hl' => absurd hl (by rw [hl']; exact Bool.false_ne_true))
    (fun i r k hr => by rw [hf] at hr; cases hr) ?_
    (fun _ _ => Disc.nil _ _ h rfl rfl rfl rfl) ?_ ?_ e
  · intro r k hi
    have ha := handOver_disc cfg env { s with inflight := none } rfl
    exact Disc.cons_ret _ hi (ha.trans (autoNext_disc cfg env _ r (replyRes cfg r k) ha.wf))
  · intro r hq hi
    exact Disc.cons_ret _ hi (Disc.nil { s with inflight := none } _ (fun _ => hq) rfl rfl rfl rfl)
  · intro p todo _
    have hb := submit_disc cfg env { s with autoTodo := todo } .register p true
    exact Disc.cons_marker _ (Or.inl rfl) ⟨hb.alt, hb.wf, hb.count, hb.free⟩

theorem run_disc (cfg : Cfg) (hl : cfg.unregLock = true) (env : Env) (s : St) (evs : List Ev) (h : WF s)
    (hf : s.free = []) : Disc s (run cfg env s evs).1 (run cfg env s evs).2 :=
  (run_of_step (I := fun s => WF s ∧ s.free = []) (P := fun _ => True)
    (fun s hs => Disc.nil s s hs.1 rfl rfl rfl rfl) Disc.trans
    (fun s e hs _ => have hd := step_disc cfg hl env s e hs.1 hs.2; ⟨hd, hd.wf, hd.free.trans hs.2⟩)
    s evs ⟨h, hf⟩ fun _ _ => trivial).1

/-- the guard and the clock agree: `_last_command_timestamp` is never ahead of the clock -/
def TInv (s : St) : Prop := s.last ≤ s.clock.now

/-- a building block keeps emitted timestamps strictly increasing, above the old and up to the new
    `_last_command_timestamp` -/
structure TRel (s s' : St) (o : List Out) : Prop where
  inv : TInv s'
  mono : s.last ≤ s'.last
  strict : List.Pairwise (· < ·) (tsOf o)
  bounds : ∀ t ∈ tsOf o, s.last < t ∧ t ≤ s'.last

theorem TRel.nil (s s' : St) (h : TInv s) (hl : s'.last = s.last) (hc : s'.clock = s.clock) : TRel s s' [] :=
  ⟨by unfold TInv at *; rw [hl, hc]; exact h, by omega, by simp [tsOf], by simp [tsOf]⟩

theorem TRel.of_last {s0 s s' : St} {o : List Out} (h : TRel s0 s' o) (hl : s0.last = s.last) : TRel s s' o :=
  ⟨h.inv, hl ▸ h.mono, h.strict, hl ▸ h.bounds⟩

theorem TRel.trans {s s1 s2 : St} {o1 o2 : List Out} (h1 : TRel s s1 o1) (h2 : TRel s1 s2 o2) :
    TRel s s2 (o1 ++ o2) := by
  refine ⟨h2.inv, Nat.le_trans h1.mono h2.mono, ?_, ?_⟩
  · rw [tsOf_append, List.pairwise_append]
    refine ⟨h1.strict, h2.strict, ?_⟩
    intro a ha b hb
    have := (h1.bounds a ha).2
    have := (h2.bounds b hb).1
    omega
  · intro t ht
    rw [tsOf_append, List.mem_append] at ht
    cases ht with
    | inl h => have := h1.bounds t h; have := h2.mono; omega
    | inr h => have := h2.bounds t h; have := h1.mono; omega

theorem TRel.cons_other {s s' : St} {o : List Out} (x : Out) (hx : ∀ o, tsOf (x :: o) = tsOf o)
    (h : TRel s s' o) : TRel s s' (x :: o) :=
  ⟨h.inv, h.mono, by rw [hx]; exact h.strict, by rw [hx]; exact h.bounds⟩

theorem guard_spec (env : Env) (hs : ∀ k, 1 ≤ env.sleepAdv k) (last : Nat) (c : Clock) (h : last ≤ c.now) :
    last < (guard env last c).2 ∧ (guard env last c).2 = (guard env last c).1.now := by
  -- The clock is monotone and `last ≤ now`: a first read that is not fresh equals `last`, so the read after the first
  -- sleep is already above it; iterations 3..10 of the loop are never reached.
  unfold guard
  simp only
  by_cases h0 : last < (c.read env).now
  · simp [h0]
  · have he : (c.read env).now = last := by
      have : c.now ≤ (c.read env).now := by simp [Clock.read]
      omega
    have h1 : last < ((c.read env).sleepRead env).now := by
      have := hs (c.read env).si
      simp only [Clock.sleepRead]
      omega
    simp [h0, guardLoop, h1]

/-- the clock hypothesis of the guard: there is one and every command passes it (`unregister` takes the lock), the
    clock advances across its sleeps, and the timestamp is re-read after signing or the clock does not tick between
    the guarded read and the signed one -/
def ClockOk (cfg : Cfg) (env : Env) : Prop :=
  cfg.guard = true ∧ cfg.unregLock = true ∧ (∀ k, 1 ≤ env.sleepAdv k) ∧
    (cfg.postRead = true ∨ ∀ k, env.signTick k = 0)

theorem start_last (cfg : Cfg) (env : Env) (hok : ClockOk cfg env) (s : St) (r : Req) (h : TInv s) :
    s.last < startTs cfg env s ∧ startTs cfg env s ≤ (start cfg env s r).1.last ∧ TInv (start cfg env s r).1 := by
  obtain ⟨hg, _, hs, hp⟩ := hok
  obtain ⟨h1, h2⟩ := guard_spec env hs s.last s.clock h
  unfold startTs start TInv
  simp only [hg, ↓reduceIte]
  cases hpr : cfg.postRead with
  | true => simp only [↓reduceIte, Clock.postReadC, Clock.signRead]; omega
  | false =>
    have hz : ∀ k, env.signTick k = 0 := hp.resolve_left (by rw [hpr]; exact Bool.false_ne_true)
    simp only [Bool.false_eq_true, ↓reduceIte, Clock.signRead, hz]; omega

theorem start_trel (cfg : Cfg) (env : Env) (hok : ClockOk cfg env) (s : St) (r : Req) (h : TInv s) :
    TRel s (start cfg env s r).1 (start cfg env s r).2 := by
  obtain ⟨h1, h2, h3⟩ := start_last cfg env hok s r h
  rw [start_snd]
  refine ⟨h3, by omega, List.pairwise_singleton _ _, fun t ht => ?_⟩
  cases List.mem_singleton.mp ht
  exact ⟨h1, h2⟩

theorem submit_trel (cfg : Cfg) (env : Env) (hok : ClockOk cfg env) (s : St) (v : Verb) (p : Nat) (a : Bool)
    (h : TInv s) : TRel s (submit cfg env s v p a).1 (submit cfg env s v p a).2 := by
  rcases submit_cases cfg env s v p a with ⟨_, he⟩ | ⟨r0, _, he⟩
  · rw [he]
    exact (start_trel cfg env hok { s with nextId := s.nextId + 1 } ⟨s.nextId, v, p, a⟩ h).of_last rfl
  · rw [he]; exact TRel.nil _ _ h rfl rfl

theorem handOver_trel (cfg : Cfg) (env : Env) (hok : ClockOk cfg env) (s : St) (h : TInv s) :
    TRel s (handOver cfg env s).1 (handOver cfg env s).2 := by
  rcases handOver_cases cfg env s with ⟨_, he⟩ | ⟨q, rest, _, he⟩
  · rw [he]; exact TRel.nil _ _ h rfl rfl
  · rw [he]
    exact (start_trel cfg env hok { s with queue := rest } q h).of_last rfl

theorem autoNext_trel (cfg : Cfg) (env : Env) (hok : ClockOk cfg env) (s : St) (r : Req)
    (res : Except PyErr Bool) (h : TInv s) :
    TRel s (autoNext cfg env s r res).1 (autoNext cfg env s r res).2 := by
  rcases autoNext_cases cfg env s r res with he | ⟨p, todo, _, he⟩ | ⟨e, _, he⟩
  · rw [he]; exact TRel.nil _ _ h rfl rfl
  · rw [he]
    exact (submit_trel cfg env hok { s with autoTodo := todo } .register p true h).of_last rfl
  · rw [he]; exact TRel.nil _ _ h rfl rfl

theorem step_trel (cfg : Cfg) (env : Env) (hok : ClockOk cfg env) (s : St) (e : Ev) (h : TInv s) :
    TRel s (step cfg env s e).1 (step cfg env s e).2 := by
  have hrefl : TRel s s [] := TRel.nil _ _ h rfl rfl
  have hret : ∀ (s' : St) r res, s'.last = s.last → s'.clock = s.clock → TRel s s' [.ret r res] :=
    fun s' _ _ hl hc => TRel.cons_other _ (fun _ => rfl) (TRel.nil _ _ h hl hc)
  refine step_elim (motive := fun r => TRel s r.1 r.2) hrefl (hrefl.cons_other _ fun _ => rfl)
    (hrefl.cons_other _ fun _ => rfl) (fun v p => submit_trel cfg env hok s v p false h)
    (fun _ hl => absurd hok.2.1 (by rw [hl]; exact Bool.false_ne_true)) (fun _ _ _ _ => hret _ _ _ rfl rfl) ?_
    (fun _ _ => TRel.nil _ _ h rfl rfl) (fun _ _ _ => hret _ _ _ rfl rfl) ?_ e
  · intro r k _
    have ha := handOver_trel cfg env hok { s with inflight := none } h
    have hb := autoNext_trel cfg env hok _ r (replyRes cfg r k) ha.inv
    exact TRel.cons_other _ (fun _ => rfl) ((ha.trans hb).of_last rfl)
  · intro p todo _
    exact TRel.cons_other _ (fun _ => rfl)
      ((submit_trel cfg env hok { s with autoTodo := todo } .register p true h).of_last rfl)

theorem run_trel (cfg : Cfg) (env : Env) (hok : ClockOk cfg env) (s : St) (evs : List Ev) (h : TInv s) :
    TRel s (run cfg env s evs).1 (run cfg env s evs).2 :=
  (run_of_step (I := TInv) (P := fun _ => True) (fun s hs => TRel.nil s s hs rfl rfl) TRel.trans
    (fun s e hs _ => have ht := step_trel cfg env hok s e hs; ⟨ht, ht.inv⟩) s evs h fun _ _ => trivial).1

def RetsAll (P : Req → Except PyErr Bool → Prop) (o : List Out) : Prop := ∀ r res, Out.ret r res ∈ o → P r res

section
variable {P : Req → Except PyErr Bool → Prop} {a b o : List Out}

theorem RetsAll.nil : RetsAll P [] := fun _ _ h => nomatch h

theorem RetsAll.append (ha : RetsAll P a) (hb : RetsAll P b) : RetsAll P (a ++ b) :=
  fun r res h => (List.mem_append.mp h).elim (ha r res) (hb r res)

theorem RetsAll.cons_ret {r : Req} {res : Except PyErr Bool} (h : P r res) (ho : RetsAll P o) :
    RetsAll P (.ret r res :: o) := by
  intro r' res' hm
  rcases List.mem_cons.mp hm with he | hm
  · cases he; exact h
  · exact ho r' res' hm

theorem RetsAll.cons_other (x : Out) (hx : ∀ r res, x ≠ .ret r res) (ho : RetsAll P o) : RetsAll P (x :: o) := by
  intro r res hm
  rcases List.mem_cons.mp hm with he | hm
  · exact absurd he.symm (hx r res)
  · exact ho r res hm

end

/-- every return in the trace is a normal return -/
def RetsOk (o : List Out) : Prop := ∀ r res, Out.ret r res ∈ o → ∃ b, res = .ok b

theorem RetsOk.append {a b : List Out} (ha : RetsOk a) (hb : RetsOk b) : RetsOk (a ++ b) := RetsAll.append ha hb

-- the building blocks return from no call
section
variable (P : Req → Except PyErr Bool → Prop) (cfg : Cfg) (env : Env) (s : St)

theorem start_rets (r : Req) : RetsAll P (start cfg env s r).2 :=
  RetsAll.nil.cons_other _ (fun _ _ h => nomatch h)

theorem submit_rets (v : Verb) (p : Nat) (a : Bool) : RetsAll P (submit cfg env s v p a).2 := by
  rcases submit_cases cfg env s v p a with ⟨_, he⟩ | ⟨r0, _, he⟩ <;> rw [he]
  · exact start_rets P _ _ _ _
  · exact RetsAll.nil

theorem handOver_rets : RetsAll P (handOver cfg env s).2 := by
  rcases handOver_cases cfg env s with ⟨_, he⟩ | ⟨q, rest, _, he⟩ <;> rw [he]
  · exact RetsAll.nil
  · exact start_rets P _ _ _ _

theorem autoNext_rets (r : Req) (res : Except PyErr Bool) : RetsAll P (autoNext cfg env s r res).2 := by
  rcases autoNext_cases cfg env s r res with he | ⟨p, todo, _, he⟩ | ⟨e, _, he⟩ <;> rw [he]
  · exact RetsAll.nil
  · exact submit_rets P _ _ _ _ _ _
  · exact RetsAll.nil

end

theorem step_rets (cfg : Cfg) (env : Env) (s : St) (e : Ev) :
    RetsAll (fun r res => ∃ k, res = replyRes cfg r k) (step cfg env s e).2 :=
  step_elim (motive := fun r => RetsAll _ r.2) RetsAll.nil
    (RetsAll.nil.cons_other _ fun _ _ h => nomatch h) (RetsAll.nil.cons_other _ fun _ _ h => nomatch h)
    (fun _ _ => submit_rets _ _ _ _ _ _ _)
    (fun _ _ => RetsAll.nil.cons_other _ fun _ _ h => nomatch h)
    (fun _ _ k _ => RetsAll.nil.cons_ret ⟨k, rfl⟩)
    (fun _ k _ => ((handOver_rets _ _ _ _).append (autoNext_rets _ _ _ _ _ _)).cons_ret ⟨k, rfl⟩)
    (fun _ _ => RetsAll.nil) (fun _ _ _ => RetsAll.nil.cons_ret ⟨.canceled, rfl⟩)
    (fun _ _ _ => (submit_rets _ _ _ _ _ _ _).cons_other _ fun _ _ h => nomatch h) e

theorem run_rets (cfg : Cfg) (env : Env) (s : St) (evs : List Ev) :
    RetsAll (fun r res => ∃ k, res = replyRes cfg r k) (run cfg env s evs).2 :=
  (run_of_step (I := fun _ => True) (P := fun _ => True) (R := fun _ _ o => RetsAll _ o)
    (fun _ _ => RetsAll.nil) RetsAll.append (fun s e _ _ => ⟨step_rets cfg env s e, trivial⟩)
    s evs trivial fun _ _ => trivial).1

theorem run_retsOk (cfg : Cfg) (hb : cfg.bodyFix = true) (hd : cfg.decodeFix = true) (env : Env) (s : St)
    (evs : List Ev) : RetsOk (run cfg env s evs).2 := fun r res h => by
  obtain ⟨k, rfl⟩ := run_rets cfg env s evs r res h
  exact finish_ok cfg hb hd _ _

/-- prefixes of the route registrations that wait for the semaphore -/
def autoWaiting (s : St) : List Nat := (s.queue.filter (·.auto)).map (·.pfx)

/-- route registrations not yet on the wire: waiting for the semaphore, then not yet requested -/
def autoOpen (s : St) : List Nat := autoWaiting s ++ s.autoTodo

theorem start_auto (cfg : Cfg) (env : Env) (s : St) (r : Req) :
    autoCmds (start cfg env s r).2 = (if r.auto then [r.pfx] else []) ∧
    autoOpen (start cfg env s r).1 = autoOpen s := by
  constructor
  · rw [start_snd]; simp only [autoCmds]
  · rfl

/-- Conservation of routes, block by block: what a block puts on the wire (`autoCmds`) is the head of what was open
    (`autoOpen`).  A new request goes behind the waiters; `WF`: with the lock free there are none, so it goes first. -/
theorem submit_auto (cfg : Cfg) (env : Env) (s : St) (v : Verb) (p : Nat) (a : Bool) (h : WF s) :
    autoCmds (submit cfg env s v p a).2 ++ autoOpen (submit cfg env s v p a).1 =
      autoWaiting s ++ ((if a then [p] else []) ++ s.autoTodo) := by
  rcases submit_cases cfg env s v p a with ⟨hi, he⟩ | ⟨r0, hi, he⟩
  · rw [he]
    obtain ⟨h1, h2⟩ := start_auto cfg env { s with nextId := s.nextId + 1 } ⟨s.nextId, v, p, a⟩
    rw [h1, h2]
    have hq := h hi
    simp [autoOpen, autoWaiting, hq]
  · rw [he]
    cases a <;> simp [autoCmds, autoOpen, autoWaiting, List.filter_append]

theorem handOver_auto (cfg : Cfg) (env : Env) (s : St) :
    autoCmds (handOver cfg env s).2 ++ autoOpen (handOver cfg env s).1 = autoOpen s := by
  rcases handOver_cases cfg env s with ⟨_, he⟩ | ⟨q, rest, hq, he⟩
  · rw [he]; rfl
  · rw [he]
    obtain ⟨h1, h2⟩ := start_auto cfg env { s with queue := rest } q
    rw [h1, h2]
    by_cases ha : q.auto <;> simp [autoOpen, autoWaiting, hq, ha]

theorem autoNext_auto (cfg : Cfg) (env : Env) (s : St) (r : Req) (res : Except PyErr Bool)
    (hres : ∃ b, res = .ok b) (h : WF s) :
    autoCmds (autoNext cfg env s r res).2 ++ autoOpen (autoNext cfg env s r res).1 = autoOpen s := by
  rcases autoNext_cases cfg env s r res with he | ⟨p, todo, ht, he⟩ | ⟨e, hr, he⟩
  · rw [he]; rfl
  · rw [he, submit_auto cfg env { s with autoTodo := todo } .register p true h]
    simp [autoOpen, autoWaiting, ht]
  · obtain ⟨b, hb⟩ := hres
    rw [hb] at hr; cases hr

/-- no further connection is established, and the connection is not lost, during `evs` -/
def NoConnect (evs : List Ev) : Prop := ∀ e ∈ evs, e ≠ .down ∧ ∀ rs, e ≠ .connect rs

theorem step_auto (cfg : Cfg) (hl : cfg.unregLock = true) (hb : cfg.bodyFix = true) (hd : cfg.decodeFix = true)
    (env : Env) (s : St) (e : Ev) (hne : e ≠ .down ∧ ∀ rs, e ≠ .connect rs) (h : WF s) (hf : s.free = []) :
    autoCmds (step cfg env s e).2 ++ autoOpen (step cfg env s e).1 = autoOpen s := by
  cases e with
  | call v p => rw [step_call cfg hl, submit_auto cfg env s v p false h]; rfl
  | replyU i k => rw [step_replyU_nil cfg env s i k hf]; rfl
  | reply k =>
    cases hi : s.inflight with
    | none => rw [step_reply_none cfg env s k hi]; rfl
    | some r =>
      rw [step_reply_some cfg env s k r hi]
      have ha := handOver_auto cfg env { s with inflight := none }
      have hb' := autoNext_auto cfg env (handOver cfg env { s with inflight := none }).1 r (replyRes cfg r k)
        (finish_ok cfg hb hd _ _) (handOver_disc cfg env { s with inflight := none } rfl).wf
      show autoCmds (_ ++ _) ++ _ = _
      rw [autoCmds_append, List.append_assoc, hb', ha]; rfl
  | connect rs => exact absurd rfl (hne.2 rs)
  | down => exact absurd rfl hne.1

theorem run_auto (cfg : Cfg) (hl : cfg.unregLock = true) (hb : cfg.bodyFix = true) (hd : cfg.decodeFix = true)
    (env : Env) (s : St) (evs : List Ev) (hne : NoConnect evs) (h : WF s) (hf : s.free = []) :
    autoCmds (run cfg env s evs).2 ++ autoOpen (run cfg env s evs).1 = autoOpen s :=
  (run_of_step (I := fun s => WF s ∧ s.free = []) (P := fun e => e ≠ .down ∧ ∀ rs, e ≠ .connect rs)
    (R := fun s s' o => autoCmds o ++ autoOpen s' = autoOpen s) (fun _ _ => rfl)
    (fun h1 h2 => by rw [autoCmds_append, List.append_assoc, h2, h1])
    (fun s e hs he => have hd' := step_disc cfg hl env s e hs.1 hs.2
      ⟨step_auto cfg hl hb hd env s e he hs.1 hs.2, hd'.wf, hd'.free.trans hs.2⟩)
    s evs ⟨h, hf⟩ hne).1

theorem autoOpen_of_not_active (s : St) (h : autoActive s = false) : autoOpen s = [] := by
  simp only [autoActive, Bool.or_eq_false_iff, Bool.not_eq_false', List.isEmpty_iff] at h
  obtain ⟨⟨h1, _⟩, h3⟩ := h
  have : s.queue.filter (·.auto) = [] := by
    rw [List.filter_eq_nil_iff]
    intro a ha
    have := List.any_eq_false.mp h3 a ha
    simpa using this
  simp [autoOpen, autoWaiting, this, h1]

theorem connect_auto (cfg : Cfg) (env : Env) (s : St) (rs : List Nat) (ha : autoActive s = false) (h : WF s) :
    autoCmds (step cfg env s (.connect rs)).2 ++ autoOpen (step cfg env s (.connect rs)).1 = rs := by
  have ho := autoOpen_of_not_active s ha
  cases rs with
  | nil => rw [step_connect_nil cfg env s ha]; exact ho
  | cons p todo =>
    rw [step_connect_cons cfg env s p todo ha]
    show autoCmds (submit cfg env _ _ _ _).2 ++ _ = _
    rw [submit_auto cfg env { s with autoTodo := todo } .register p true h]
    show autoWaiting s ++ _ = _
    rw [(List.append_eq_nil_iff.mp ho).1]
    rfl

theorem run_replies_idle (cfg : Cfg) (env : Env) (s : St) (ks : List Reply) (h : s.inflight = none) :
    run cfg env s (ks.map .reply) = (s, []) := by
  induction ks with
  | nil => rfl
  | cons k ks ih => simp [run, step_reply_none cfg env s k h, ih]

theorem autoOpen_nil_of_replies (cfg : Cfg) (hb : cfg.bodyFix = true) (hd : cfg.decodeFix = true) (env : Env)
    (s : St) (ks : List Reply) (r : Req) (hq : s.queue = []) (hi : s.inflight = some r) (hr : r.auto = true)
    (hl : s.autoTodo.length + 1 ≤ ks.length) :
    autoOpen (run cfg env s (ks.map .reply)).1 = [] := by
  induction ks generalizing s r with
  | nil => simp at hl
  | cons k ks ih =>
    simp only [List.map_cons, run]
    rw [step_reply_some cfg env s k r hi]
    obtain ⟨b, hb'⟩ := finish_ok cfg hb hd r.verb (expressOutcome cfg.fe k)
    have h1 : handOver cfg env { s with inflight := none } = ({ s with inflight := none }, []) := by
      simp [handOver, hq]
    obtain ht | ⟨p, t, ht⟩ : s.autoTodo = [] ∨ ∃ p t, s.autoTodo = p :: t := by cases s.autoTodo <;> simp
    · have h2 : autoNext cfg env { s with inflight := none } r (replyRes cfg r k) = ({ s with inflight := none }, []) := by
        simp [autoNext, hr, replyRes, hb', ht]
      simp only [h1, h2]
      rw [run_replies_idle cfg env _ ks rfl]
      simp [autoOpen, autoWaiting, hq, ht]
    · have h2 : autoNext cfg env { s with inflight := none } r (replyRes cfg r k) =
          start cfg env { s with inflight := none, autoTodo := t, nextId := s.nextId + 1 }
            ⟨s.nextId, .register, p, true⟩ := by
        simp [autoNext, hr, replyRes, hb', ht, submit]
      simp only [h1, h2]
      exact ih _ ⟨s.nextId, .register, p, true⟩ hq rfl rfl (by rw [ht] at hl; simp at hl ⊢; omega)

/-- the dict `parse_response` returns once an absent body is tolerated: every field of an absent body shows as `None` -/
def respDict (cr : ControlResponseRec) : List (String × DVal) :=
  ("status_code", match cr.statusCode with | some n => .uint n | none => .none) ::
  ("status_text", match cr.statusText with | some t => .text t | none => .none) ::
  cpvFields.map fun k => (k, DVal.ofF (cr.body.bind fun b => lookupField b k))

theorem parseResponseRec_bodyFix (cr : ControlResponseRec) : parseResponseRec true cr = .ok (respDict cr) := by
  unfold parseResponseRec respDict
  cases cr.body <;> rfl

theorem respDict_keys (cr : ControlResponseRec) :
    (respDict cr).map (·.1) = "status_code" :: "status_text" :: cpvFields := by
  simp [respDict, Function.comp_def]

theorem respKeys_nodup : ("status_code" :: "status_text" :: cpvFields).Nodup := by decide +kernel

theorem respDict_lookup (cr : ControlResponseRec) {k : String} {v : DVal} (h : (k, v) ∈ respDict cr) :
    (respDict cr).lookup k = some v :=
  lookup_of_mem (by rw [respDict_keys]; exact respKeys_nodup) h

end Ndn.NfdMgmt
