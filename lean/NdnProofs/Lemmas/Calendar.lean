import NdnModel.Calendar
import NdnProofs.Lemmas.Basic
/-!
  Lemmas about the calendar model (`NdnModel/Calendar.lean`).  Dates: the years divide the ordinals, and the months
  the days of a year, into blocks laid end to end, so a valid date is determined by its ordinal (`ymd2ord_inj`);
  `_ord2ymd` returns a valid date with the ordinal it was given (`ord2ymd_year_day` for the year, `splitMonth_sound`
  for the month), hence the only one.  Instants: a valid instant is its second count `abs` and its microsecond
  (`valid_abs_iff`), and each operation is one range test and one result (`addSeconds_eq`, `toUtc_eq`, `addYears_eq`).
-/
namespace Ndn.Calendar

theorem daysBeforeMonthTbl_eq :
    daysBeforeMonthTbl = [0, 0, 31, 59, 90, 120, 151, 181, 212, 243, 273, 304, 334] := by decide

/-- Blocks of numbers laid end to end: block `i` begins after `s i` and holds `l i` numbers. -/
theorem block_le {s l : Nat → Nat} {i j : Nat} (hs : ∀ m, i ≤ m → m < j → s (m + 1) = s m + l m) (h : i < j) :
    s i + l i ≤ s j := by
  induction j with
  | zero => exact absurd h (Nat.not_lt_zero i)
  | succ j ih =>
    rcases Nat.eq_or_lt_of_le (Nat.le_of_lt_succ h) with rfl | hlt
    · exact Nat.le_of_eq (hs i (Nat.le_refl i) h).symm
    · rw [hs j (Nat.le_of_lt hlt) (Nat.lt_succ_self j)]
      exact Nat.le_trans (ih (fun m h1 h2 => hs m h1 (Nat.lt_succ_of_lt h2)) hlt) (Nat.le_add_right _ _)

theorem block_unique {s l : Nat → Nat} {i j k k' : Nat} (hij : i < j → s i + l i ≤ s j)
    (hji : j < i → s j + l j ≤ s i) (h1 : 1 ≤ k) (hk : k ≤ l i) (h1' : 1 ≤ k') (hk' : k' ≤ l j)
    (h : s i + k = s j + k') : i = j ∧ k = k' := by
  rcases Nat.lt_trichotomy i j with hlt | rfl | hlt
  · have := hij hlt; omega
  · omega
  · have := hji hlt; omega

-- days in a year, `_days_in_month` and `_days_before_month` as functions of the leap flag
def lenL (l : Bool) : Nat := if l then 366 else 365
def dimL (l : Bool) (m : Nat) : Nat := if m == 2 && l then 29 else daysInMonthTbl.getD m 0
def dbmL (l : Bool) (m : Nat) : Nat := daysBeforeMonthTbl.getD m 0 + (if decide (m > 2) && l then 1 else 0)

def yearLen (y : Nat) : Nat := lenL (isLeap y)

theorem lenL_bounds (l : Bool) : 365 ≤ lenL l ∧ lenL l ≤ 366 := by cases l <;> decide

theorem daysInMonth_eq (y m : Nat) : daysInMonth y m = dimL (isLeap y) m := rfl
theorem daysBeforeMonth_eq (y m : Nat) : daysBeforeMonth y m = dbmL (isLeap y) m := rfl

theorem isLeap_iff (y : Nat) : isLeap y = true ↔ 4 ∣ y ∧ (¬ 100 ∣ y ∨ 400 ∣ y) := by
  simp [isLeap, Nat.dvd_iff_mod_eq_zero]

theorem daysBeforeYear_succ (y : Nat) (h : 1 ≤ y) : daysBeforeYear (y + 1) = daysBeforeYear y + yearLen y := by
  obtain ⟨z, rfl⟩ : ∃ z, y = z + 1 := ⟨y - 1, by omega⟩
  simp only [yearLen, lenL, daysBeforeYear, isLeap_iff, Nat.add_sub_cancel, Nat.succ_div]
  -- a multiple of 4, 100, 400 adds `i`, `j`, `k` = 1 to the quotient: the step is linear in the quotients
  have key : ∀ i j k l : Nat, j ≤ i → l + j = i + k →
      (z + 1) * 365 + (z / 4 + i) - (z / 100 + j) + (z / 400 + k)
        = z * 365 + z / 4 - z / 100 + z / 400 + (365 + l) := by
    intros; omega
  have h1 : 400 ∣ z + 1 → 100 ∣ z + 1 := Nat.dvd_trans (by decide)
  have h2 : 100 ∣ z + 1 → 4 ∣ z + 1 := Nat.dvd_trans (by decide)
  by_cases c400 : 400 ∣ z + 1
  · simp only [h2 (h1 c400), h1 c400, c400, if_true, not_true, or_true, and_true]
    exact key 1 1 1 1 (Nat.le_refl _) rfl
  · by_cases c100 : 100 ∣ z + 1
    · simp only [h2 c100, c100, c400, if_true, if_false, not_true, or_false, and_false]
      exact key 1 1 0 0 (Nat.le_refl _) rfl
    · by_cases c4 : 4 ∣ z + 1
      · simp only [c4, c100, c400, if_true, if_false, not_false_iff, true_or, and_true]
        exact key 1 0 0 1 (Nat.zero_le _) rfl
      · simp only [c4, c100, c400, if_false, false_and]
        exact key 0 0 0 0 (Nat.le_refl _) rfl

theorem daysBeforeYear_lt {y y' : Nat} (h : 1 ≤ y) (hlt : y < y') :
    daysBeforeYear y + yearLen y ≤ daysBeforeYear y' :=
  block_le (fun m hm _ => daysBeforeYear_succ m (Nat.le_trans h hm)) hlt

/-- The twelve months of either kind of year: month `m` lies in the year, the next begins where it ends, and the
    days on which `(n + 50) / 32` (the estimate `_ord2ymd` makes of the month of day `n`) is at most `m` lie before
    its end, those on which it is at least `m + 1` after its beginning. -/
theorem months_tbl : ∀ l : Bool, ∀ m, m < 13 → 1 ≤ m → dbmL l m + dimL l m ≤ lenL l ∧
    (m < 12 → dbmL l (m + 1) = dbmL l m + dimL l m) ∧
    min (32 * m - 18) (lenL l) ≤ dbmL l m + dimL l m ∧ dbmL l m + 18 ≤ 32 * m := by
  decide +kernel

theorem dimL_le_tbl : ∀ l : Bool, ∀ m, m < 13 → dimL l m ≤ 31 := by decide +kernel

theorem dbmL_lt (l : Bool) {m m' : Nat} (h : 1 ≤ m) (hlt : m < m') (h12 : m' ≤ 12) :
    dbmL l m + dimL l m ≤ dbmL l m' :=
  block_le (fun i hi hi' => (months_tbl l i (Nat.lt_succ_of_lt (Nat.lt_of_lt_of_le hi' h12)) (Nat.le_trans h hi)).2.1
    (Nat.lt_of_lt_of_le hi' h12)) hlt

/-- the expression in `splitMonth`, folded -/
theorem dimL_eq (l : Bool) (m : Nat) : daysInMonthTbl.getD m 0 + (if m == 2 && l then 1 else 0) = dimL l m := by
  unfold dimL
  split
  next h => rw [beq_iff_eq.1 (Bool.and_eq_true_iff.1 h).1]; rfl
  next => rfl

theorem splitMonth_eq (l : Bool) (n e : Nat) (he : (n + 50) / 32 = e) : splitMonth l n =
    if dbmL l e > n then (e - 1, n - (dbmL l e - dimL l (e - 1)) + 1) else (e, n - dbmL l e + 1) := by
  subst he; unfold splitMonth dbmL; simp only [dimL_eq]

/-- the estimate `(n + 50) / 32` is the month of day `n` (0-based) or the one after it -/
theorem splitMonth_sound (l : Bool) (n : Nat) (hn : n < lenL l) : ∃ m d, splitMonth l n = (m, d) ∧
    1 ≤ m ∧ m ≤ 12 ∧ 1 ≤ d ∧ d ≤ dimL l m ∧ dbmL l m + d = n + 1 := by
  obtain ⟨e, he⟩ : ∃ e, (n + 50) / 32 = e := ⟨_, rfl⟩
  rw [splitMonth_eq l n e he]
  obtain ⟨hlo, hhi, e1, e12⟩ : 32 * e ≤ n + 50 ∧ n + 18 < 32 * e ∧ 1 ≤ e ∧ e < 13 := by
    have := (lenL_bounds l).2
    omega
  clear he
  split
  next hgt =>
    obtain ⟨m, rfl⟩ : ∃ m, e = m + 1 := ⟨e - 1, (Nat.sub_add_cancel e1).symm⟩
    have m1 : 1 ≤ m := Nat.pos_of_ne_zero (by rintro rfl; cases l <;> exact Nat.not_lt_zero n hgt)
    obtain ⟨-, hs, -, hm⟩ := months_tbl l m (Nat.lt_of_succ_lt e12) m1
    rw [Nat.add_sub_cancel, hs (Nat.lt_of_succ_lt_succ e12), Nat.add_sub_cancel]
    exact ⟨m, _, rfl, by omega⟩
  next hle =>
    obtain ⟨-, -, hm, -⟩ := months_tbl l e e12 e1
    exact ⟨e, _, rfl, by omega⟩

/-- a date with a month in 1..12 and a day in 1..days-in-month (the year unbounded above) -/
def validYmd (y m d : Nat) : Prop := 1 ≤ y ∧ 1 ≤ m ∧ m ≤ 12 ∧ 1 ≤ d ∧ d ≤ daysInMonth y m

theorem validYmd_doy {y m d : Nat} (h : validYmd y m d) : daysBeforeMonth y m + d ≤ yearLen y :=
  Nat.le_trans (Nat.add_le_add_left h.2.2.2.2 _) (months_tbl (isLeap y) m (Nat.lt_succ_of_le h.2.2.1) h.2.1).1

theorem ymd2ord_pos {y m d : Nat} (h : validYmd y m d) : 1 ≤ ymd2ord y m d :=
  Nat.le_trans h.2.2.2.1 (Nat.le_add_left _ _)

/-- the ordinal tells the year, and the day of the year tells the month -/
theorem ymd2ord_inj {y m d y' m' d' : Nat} (h : validYmd y m d) (h' : validYmd y' m' d')
    (e : ymd2ord y m d = ymd2ord y' m' d') : y = y' ∧ m = m' ∧ d = d' := by
  have ⟨y1, m1, m12, d1, dle⟩ := h
  have ⟨y1', m1', m12', d1', dle'⟩ := h'
  rw [ymd2ord, ymd2ord, Nat.add_assoc, Nat.add_assoc] at e
  obtain ⟨rfl, e⟩ := block_unique (daysBeforeYear_lt y1) (daysBeforeYear_lt y1')
    (Nat.le_trans d1 (Nat.le_add_left _ _)) (validYmd_doy h) (Nat.le_trans d1' (Nat.le_add_left _ _)) (validYmd_doy h') e
  exact ⟨rfl, block_unique (dbmL_lt _ m1 · m12') (dbmL_lt _ m1' · m12) d1 dle d1' dle' e⟩

theorem daysBeforeYear_digits (a b c e : Nat) (hb : b < 4) (hc : c < 25) (he : e < 4) :
    daysBeforeYear (400 * a + 100 * b + 4 * c + e + 1) = 146097 * a + 36524 * b + 1461 * c + 365 * e := by
  unfold daysBeforeYear
  simp only [Nat.add_sub_cancel]
  omega

theorem isLeap_digits (a b c e : Nat) (hb : b < 4) (hc : c < 25) (he : e < 4) :
    isLeap (400 * a + 100 * b + 4 * c + e + 1) = (e == 3 && (c != 24 || b == 3)) := by
  rw [Bool.eq_iff_iff, isLeap_iff]; simp; omega

theorem ord2ymd_year_day (n : Nat) : ∃ y k, 1 ≤ y ∧ daysBeforeYear y + k = n ∧ k < yearLen y ∧
    ord2ymd (n + 1) = (y, splitMonth (isLeap y) k) := by
  -- the four divisions by a cycle length, as equations between variables
  have h400 := Nat.div_add_mod n 146097
  have l400 := Nat.mod_lt n (show 0 < 146097 by decide)
  have h100 := Nat.div_add_mod (n % 146097) 36524
  have l100 := Nat.mod_lt (n % 146097) (show 0 < 36524 by decide)
  have h4 := Nat.div_add_mod (n % 146097 % 36524) 1461
  have l4 := Nat.mod_lt (n % 146097 % 36524) (show 0 < 1461 by decide)
  have h1 := Nat.div_add_mod (n % 146097 % 36524 % 1461) 365
  have l1 := Nat.mod_lt (n % 146097 % 36524 % 1461) (show 0 < 365 by decide)
  simp only [ord2ymd, DI400Y, DI100Y, DI4Y, Nat.add_sub_cancel]
  generalize n % 146097 % 36524 % 1461 % 365 = k at *
  generalize n % 146097 % 36524 % 1461 / 365 = e at *
  generalize n % 146097 % 36524 % 1461 = r4 at *
  generalize n % 146097 % 36524 / 1461 = c at *
  generalize n % 146097 % 36524 = r100 at *
  generalize n % 146097 / 36524 = b at *
  generalize n % 146097 = r400 at *
  generalize n / 146097 = a at *
  -- 146097 = 4 * 36524 + 1 and 1461 = 4 * 365 + 1: the digits `b` and `e` reach 4 on the last day of a cycle only
  obtain ⟨hn, hk, hb, hc, he⟩ : n = 146097 * a + 36524 * b + 1461 * c + 365 * e + k ∧ k < 365 ∧
      (b < 4 ∨ b = 4 ∧ c = 0 ∧ e = 0 ∧ k = 0) ∧ c < 25 ∧ (e < 4 ∨ e = 4 ∧ c < 24 ∧ k = 0) := by omega
  clear h400 l400 h100 l100 h4 l4 h1 l1
  by_cases hx : e = 4 ∨ b = 4
  · -- the early exit: day 365 of the leap year with digits `b'`, `c'`, 3
    obtain ⟨b', c', hb', hc', hl, hy, hn⟩ : ∃ b' c', b' < 4 ∧ c' < 25 ∧ (c' ≠ 24 ∨ b' = 3) ∧
        a * 400 + 1 + (b * 100 + c * 4 + e) - 1 = 400 * a + 100 * b' + 4 * c' + 3 + 1 ∧
        n = 146097 * a + 36524 * b' + 1461 * c' + 365 * 3 + 365 := by
      rcases hx with rfl | rfl
      · exact ⟨b, c, by omega⟩
      · exact ⟨3, 24, by omega⟩
    have hleap : isLeap (400 * a + 100 * b' + 4 * c' + 3 + 1) = true := by
      rw [isLeap_digits a b' c' 3 hb' hc' (by decide)]; simpa using hl
    refine ⟨400 * a + 100 * b' + 4 * c' + 3 + 1, 365, Nat.le_add_left 1 _, ?_, ?_, ?_⟩
    · rw [daysBeforeYear_digits a b' c' 3 hb' hc' (by decide)]; exact hn.symm
    · rw [yearLen, hleap]; decide
    · rw [if_pos (by simpa using hx), hy, hleap]; rfl
  · have hb : b < 4 := by omega
    have he : e < 4 := by omega
    have hy : a * 400 + 1 + (b * 100 + c * 4 + e) = 400 * a + 100 * b + 4 * c + e + 1 := by omega
    refine ⟨400 * a + 100 * b + 4 * c + e + 1, k, Nat.le_add_left 1 _, ?_, ?_, ?_⟩
    · rw [daysBeforeYear_digits a b c e hb hc he]; omega
    · exact Nat.lt_of_lt_of_le hk (lenL_bounds _).1
    · rw [if_neg (by simpa using hx), hy, isLeap_digits a b c e hb hc he]

theorem ord2ymd_sound (ord : Nat) (h : 1 ≤ ord) :
    validYmd (ord2ymd ord).1 (ord2ymd ord).2.1 (ord2ymd ord).2.2 ∧
      ymd2ord (ord2ymd ord).1 (ord2ymd ord).2.1 (ord2ymd ord).2.2 = ord := by
  obtain ⟨y, k, hy, hn, hk, ho⟩ := ord2ymd_year_day (ord - 1)
  obtain ⟨m, d, hs, m1, m12, d1, dle, hsum⟩ := splitMonth_sound (isLeap y) k hk
  rw [Nat.sub_add_cancel h, hs] at ho
  rw [ho]
  exact ⟨⟨hy, m1, m12, d1, dle⟩, by dsimp only [ymd2ord]; rw [daysBeforeMonth_eq]; omega⟩

theorem ord2ymd_ymd2ord (y m d : Nat) (h : validYmd y m d) : ord2ymd (ymd2ord y m d) = (y, m, d) := by
  obtain ⟨hv, he⟩ := ord2ymd_sound (ymd2ord y m d) (ymd2ord_pos h)
  obtain ⟨e1, e2, e3⟩ := ymd2ord_inj hv h he
  exact Prod.ext e1 (Prod.ext e2 e3)

theorem year_ge_iff (n y : Nat) (hn : 1 ≤ n) (hy : 1 ≤ y) : y ≤ (ord2ymd n).1 ↔ daysBeforeYear y < n := by
  obtain ⟨hv, he⟩ := ord2ymd_sound n hn
  have hd := validYmd_doy hv
  have hd1 := hv.2.2.2.1
  unfold ymd2ord at he
  constructor
  · intro h
    rcases Nat.eq_or_lt_of_le h with rfl | hlt
    · omega
    · have := daysBeforeYear_lt hy hlt; omega
  · intro h
    apply Nat.le_of_not_lt
    intro hlt
    have := daysBeforeYear_lt hv.1 hlt; omega

theorem year_le_9999_iff (n : Nat) (h : 1 ≤ n) : (ord2ymd n).1 ≤ 9999 ↔ n ≤ maxOrdinal := by
  have hiff := year_ge_iff n 10000 h (by decide)
  have : daysBeforeYear 10000 = maxOrdinal := by decide
  omega

theorem ymd2ord_le_max (y m d : Nat) (h : validYmd y m d) (hy : y ≤ 9999) : ymd2ord y m d ≤ maxOrdinal :=
  (year_le_9999_iff _ (ymd2ord_pos h)).1 (by rw [ord2ymd_ymd2ord y m d h]; exact hy)

theorem ord2ymd_inj (a b : Nat) (ha : 1 ≤ a) (hb : 1 ≤ b) (e : ord2ymd a = ord2ymd b) : a = b := by
  rw [← (ord2ymd_sound a ha).2, ← (ord2ymd_sound b hb).2, e]

/-- the years from 1000 on begin at ordinal 364878 = `date(1000, 1, 1).toordinal()` -/
theorem year_ge_1000_iff (n : Nat) (h : 1 ≤ n) : 1000 ≤ (ord2ymd n).1 ↔ 364878 ≤ n :=
  -- `daysBeforeYear 1000 < n` unfolds to `364877 + 1 ≤ n`
  year_ge_iff n 1000 h (by decide)

theorem Instant.ext' {a b : Instant} (h1 : a.ord = b.ord) (h2 : a.sec = b.sec) (h3 : a.us = b.us) : a = b := by
  cases a; cases b; simp_all

/-- the moments a `datetime` can designate (seconds since ordinal 0): 0001-01-01T00:00:00 .. 9999-12-31T23:59:59 -/
def representable (a : Int) : Prop := 86400 ≤ a ∧ a < (maxOrdinal + 1) * 86400

instance (a : Int) : Decidable (representable a) := by unfold representable; infer_instance

def Instant.ofAbs (a : Int) (us : Nat) : Instant := ⟨(a / 86400).toNat, (a % 86400).toNat, us⟩

/-- `abs` and `ofAbs` are inverse bijections between the valid instants with microsecond `u` and the representable
    moments -/
theorem valid_abs_iff (t : Instant) (a : Int) (u : Nat) (hu : u < 1000000) :
    t.valid ∧ t.abs = a ∧ t.us = u ↔ representable a ∧ t = Instant.ofAbs a u := by
  have hq := Int.mul_ediv_add_emod a 86400
  have hr0 := Int.emod_nonneg a (show (86400 : Int) ≠ 0 by decide)
  have hr1 := Int.emod_lt_of_pos a (show (0 : Int) < 86400 by decide)
  unfold Instant.valid representable Instant.abs maxOrdinal Instant.ofAbs
  generalize a / 86400 = q at *
  generalize a % 86400 = r at *
  constructor
  · rintro ⟨⟨h1, h2, h3, _⟩, h, rfl⟩
    exact ⟨by omega, Instant.ext' (by dsimp only; omega) (by dsimp only; omega) rfl⟩
  · rintro ⟨⟨h1, h2⟩, rfl⟩
    dsimp only
    omega

theorem ofAbs_spec {a : Int} {u : Nat} (ha : representable a) (hu : u < 1000000) :
    (Instant.ofAbs a u).valid ∧ (Instant.ofAbs a u).abs = a :=
  have h := (valid_abs_iff (Instant.ofAbs a u) a u hu).2 ⟨ha, rfl⟩
  ⟨h.1, h.2.1⟩

theorem valid_representable (t : Instant) (ht : t.valid) : representable t.abs :=
  ((valid_abs_iff t _ _ ht.2.2.2).1 ⟨ht, rfl, rfl⟩).1

theorem ofAbs_abs (t : Instant) (ht : t.valid) : Instant.ofAbs t.abs t.us = t :=
  ((valid_abs_iff t _ _ ht.2.2.2).1 ⟨ht, rfl, rfl⟩).2.symm

theorem addSeconds_eq (t : Instant) (n : Int) (ht : t.valid) :
    addSeconds t n =
      if representable (t.abs + n) then .ok (Instant.ofAbs (t.abs + n) t.us) else .error .overflowError := by
  obtain ⟨h1, h2, h3, _⟩ := ht
  -- the carry of the second of the day is the carry of the division of the sum by 86400
  have hdiv : (t.ord : Int) + n / 86400 + (if (t.sec : Int) + n % 86400 ≥ 86400 then 1 else 0)
      = (t.abs + n) / 86400 := by
    unfold Instant.abs; split <;> omega
  have hmod : (t.sec : Int) + n % 86400 - 86400 * (if (t.sec : Int) + n % 86400 ≥ 86400 then 1 else 0)
      = (t.abs + n) % 86400 := by
    unfold Instant.abs; split <;> omega
  unfold addSeconds
  simp only [hdiv, hmod]
  by_cases hr : representable (t.abs + n)
  · rw [if_pos hr]
    unfold representable Instant.abs maxOrdinal at *
    rw [if_neg (by omega), if_pos (by omega)]; rfl
  · rw [if_neg hr]
    unfold representable Instant.abs maxOrdinal at *
    split
    · rfl
    · rw [if_neg (by omega)]

/-- seconds since ordinal 0 of the UTC reading: a naive datetime is taken as UTC, an aware one is `o` seconds
    ahead of UTC -/
def utcAbs (t : Instant) : Option Int → Int
  | none => t.abs
  | some o => t.abs - o

theorem toUtc_eq (t : Instant) (off : Option Int) (ht : t.valid) :
    toUtc t off =
      if representable (utcAbs t off) then .ok (Instant.ofAbs (utcAbs t off) t.us) else .error .overflowError := by
  cases off with
  | none => rw [utcAbs, if_pos (valid_representable t ht), ofAbs_abs t ht]; rfl
  | some o =>
    rw [show utcAbs t (some o) = t.abs + -o from Int.sub_eq_add_neg]
    simp only [toUtc, addSeconds_eq t (-o) ht, bind_ite_ok]
    split
    next hr =>
      -- `UTC.fromutc` adds `timedelta(0)` to an instant that is valid already
      obtain ⟨hv, ha⟩ := ofAbs_spec hr ht.2.2.2
      rw [addSeconds_eq _ 0 hv, Int.add_zero, ha, if_pos hr]; rfl
    next => rfl

theorem toUtc_id (t : Instant) (ht : t.valid) (off : Option Int) (ho : off.getD 0 = 0) : toUtc t off = .ok t := by
  have : utcAbs t off = t.abs := by
    cases off with
    | none => rfl
    | some o => obtain rfl : o = 0 := ho; exact Int.sub_zero _
  rw [toUtc_eq t off ht, this, if_pos (valid_representable t ht), ofAbs_abs t ht]

theorem day_in_other_year (l l' : Bool) (m d : Nat) (h : d ≤ dimL l m) :
    d ≤ dimL l' m ↔ ¬ (m = 2 ∧ d = 29 ∧ l' = false) := by
  by_cases hm : m = 2
  · subst hm
    have h28 : daysInMonthTbl[2]?.getD 0 = 28 := rfl
    cases l <;> cases l' <;> simp [dimL, h28] at h ⊢ <;> omega
  · simp [dimL, hm] at h ⊢; exact h

theorem validDate_iff (y m d : Nat) : validDate y m d ↔ validYmd y m d ∧ y ≤ 9999 := by
  unfold validDate validYmd; omega

theorem valid_ord2ymd (t : Instant) (ht : t.valid) :
    validYmd (ord2ymd t.ord).1 (ord2ymd t.ord).2.1 (ord2ymd t.ord).2.2 ∧ (ord2ymd t.ord).1 ≤ 9999 :=
  ⟨(ord2ymd_sound t.ord ht.1).1, (year_le_9999_iff t.ord ht.1).2 ht.2.1⟩

theorem replace_year_valid_iff (y m d k : Nat) (h : validYmd y m d) :
    validDate (y + k) m d ↔ y + k ≤ 9999 ∧ ¬ (m = 2 ∧ d = 29 ∧ isLeap (y + k) = false) := by
  obtain ⟨y1, m1, m12, d1, dle⟩ := h
  rw [daysInMonth_eq] at dle
  rw [← day_in_other_year _ (isLeap (y + k)) m d dle, validDate, daysInMonth_eq]
  omega

theorem replace_year_invalid_iff (y m d k : Nat) (h : validYmd y m d) :
    ¬ validDate (y + k) m d ↔ 9999 < y + k ∨ (m = 2 ∧ d = 29 ∧ isLeap (y + k) = false) := by
  rw [replace_year_valid_iff y m d k h, Decidable.not_and_iff_not_or_not, Nat.not_le, Decidable.not_not]

theorem addYears_eq (t : Instant) (k : Nat) :
    addYears t k =
      if validDate ((ord2ymd t.ord).1 + k) (ord2ymd t.ord).2.1 (ord2ymd t.ord).2.2
      then .ok { t with ord := ymd2ord ((ord2ymd t.ord).1 + k) (ord2ymd t.ord).2.1 (ord2ymd t.ord).2.2 }
      else .error .valueError := by
  unfold addYears mkDate
  by_cases h : validDate ((ord2ymd t.ord).1 + k) (ord2ymd t.ord).2.1 (ord2ymd t.ord).2.2
  · simp only [if_pos h]
  · simp only [if_neg h]

theorem with_date_iff (t t' : Instant) (ht : t.valid) {y m d : Nat} (h : validDate y m d) :
    t' = { t with ord := ymd2ord y m d } ↔
      t'.valid ∧ ord2ymd t'.ord = (y, m, d) ∧ t'.sec = t.sec ∧ t'.us = t.us := by
  obtain ⟨hv, hy⟩ := (validDate_iff _ _ _).1 h
  have hrt := ord2ymd_ymd2ord _ _ _ hv
  have hge := ymd2ord_pos hv
  constructor
  · rintro rfl; exact ⟨⟨hge, ymd2ord_le_max _ _ _ hv hy, ht.2.2.1, ht.2.2.2⟩, hrt, rfl, rfl⟩
  · rintro ⟨hv', ho, hs, hu⟩
    exact Instant.ext' (ord2ymd_inj _ _ hv'.1 hge (ho.trans hrt.symm)) hs hu

theorem fields_range (t : Instant) (ht : t.valid) :
    1 ≤ (fields t).1 ∧ (fields t).1 ≤ 9999 ∧ 1 ≤ (fields t).2.1 ∧ (fields t).2.1 ≤ 12 ∧
    1 ≤ (fields t).2.2.1 ∧ (fields t).2.2.1 ≤ 31 ∧ (fields t).2.2.2.1 < 24 ∧ (fields t).2.2.2.2.1 < 60 ∧
    (fields t).2.2.2.2.2 < 60 := by
  obtain ⟨⟨y1, m1, m12, d1, dle⟩, y9⟩ := valid_ord2ymd t ht
  rw [daysInMonth_eq] at dle
  have hd31 := dimL_le_tbl (isLeap (ord2ymd t.ord).1) (ord2ymd t.ord).2.1 (by omega)
  have hsec := ht.2.2.1
  unfold fields
  dsimp only
  refine ⟨y1, y9, m1, m12, d1, by omega, by omega, by omega, by omega⟩

theorem fields_inj (s t : Instant) (hs : s.valid) (ht : t.valid) (e : fields s = fields t) :
    s.ord = t.ord ∧ s.sec = t.sec := by
  unfold fields at e
  simp only [Prod.mk.injEq] at e
  obtain ⟨e1, e2, e3, e4, e5, e6⟩ := e
  have hs' := hs.2.2.1; have ht' := ht.2.2.1
  exact ⟨ord2ymd_inj _ _ hs.1 ht.1 (Prod.ext e1 (Prod.ext e2 e3)), by omega⟩

end Ndn.Calendar
