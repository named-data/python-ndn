import NdnProofs.Lemmas.NameUri
/-! `Component.from_str` on text of a known shape: with a type prefix (`fromStr_split`, `fromStr_typed`), without
    (`fromStr_generic`), what the printers emit (`fromStr_canonical`) and what `escape_str` makes of arbitrary text
    (`unescape_escapeStr`, `escapeStr_chars`). -/
namespace Ndn
open Comp

theorem pyHexByte_ne_pct (a b : Char) (x : UInt8) (h : pyHexByte a b = some x) : a ≠ '%' ∧ b ≠ '%' := by
  have hp : hexVal? '%' = none := by decide
  constructor <;> intro e <;> subst e <;> unfold pyHexByte at h <;> rw [hp] at h
  · simp at h
  · cases hexVal? a <;> simp at h

/-- The buffer `from_str` sizes in advance (`len − 2·percent_cnt`) is filled exactly. -/
theorem unescape_length (s : Str) : ∀ bs, unescape s = some bs → s.length = bs.length + 2 * s.count '%' := by
  fun_induction unescape s with
  | case1 => intro bs h; simp at h; subst h; simp
  | case2 a b r' x bs' hb hx ih =>
    intro bs h
    simp at h; subst h
    obtain ⟨h1, h2⟩ := pyHexByte_ne_pct a b x hx
    have := ih bs' hb
    simp [h1, h2]
    omega
  | case3 => intro bs h; simp at h
  | case4 => intro bs h; simp at h
  | case5 c r hc ih =>
    intro bs h
    cases hu : unescape r with
    | none => simp [hu] at h
    | some b2 =>
      simp [hu] at h; subst h
      have := ih b2 hu
      simp [hc]; omega

theorem encodeValue_ok (typ : Nat) (rest : Str) (bs : Bytes) (h : unescape rest = some bs) :
    encodeValue typ rest (rest.count '%') = .ok (tlv typ bs) := by
  have hl := unescape_length rest bs h
  unfold encodeValue
  have h1 : ¬ rest.length < 2 * rest.count '%' := by omega
  have h2 : rest.length - 2 * rest.count '%' = bs.length := by omega
  simp only [h1, if_false, h, h2, Nat.lt_irrefl, gt_iff_lt, Nat.sub_self, List.replicate_zero,
    List.append_nil, tlv]

theorem altUriStr_heads : ∀ p ∈ Gen.C09.altUriStr, (p.1.head?.map isAsciiDigit) = some false := by decide

theorem altTypeOfStr_toDec (n : Nat) : altTypeOfStr (toDec n) = none := by
  obtain ⟨c, r, e, hd⟩ := toDec_head n
  have hnone : (Gen.C09.altUriStr.find? fun p => p.1 == toDec n) = none := by
    rw [List.find?_eq_none]
    intro p hp hb
    have h1 := altUriStr_heads p hp
    have h2 : p.1 = toDec n := by simpa using hb
    rw [h2, e] at h1
    simp [hd] at h1
  simp [altTypeOfStr, hnone]

theorem fromStr_split (w rest : Str) (hw : ∀ c ∈ w, inCharset c = true ∧ c ≠ '=')
    (hr : ∀ c ∈ rest, inCharset c = true ∧ c ≠ '=') :
    fromStr (w ++ '=' :: rest) =
      if w = "sha256digest".toList then
        match pyFromHex rest with
        | none => .error .valueError
        | some b => fromBytes b TYPE_IMPLICIT_SHA256
      else if w = "params-sha256".toList then
        match pyFromHex rest with
        | none => .error .valueError
        | some b => fromBytes b TYPE_PARAMETERS_SHA256
      else match altTypeOfStr w with
        | some t =>
          match pyInt rest with
          | none => .error .valueError
          | some n => fromNumber n t
        | none =>
          match pyInt w with
          | none => .error .valueError
          | some typ =>
            if typ ≤ 0 ∨ typ > 65535 then .error .valueError
            else encodeValue typ.toNat rest ((w ++ '=' :: rest).count '%') := by
  have hall : (w ++ '=' :: rest).all inCharset = true := by
    rw [List.all_eq_true]
    intro c hc
    rcases List.mem_append.mp hc with hc | hc
    · exact (hw c hc).1
    · rcases List.mem_cons.mp hc with rfl | hc
      · decide
      · exact (hr c hc).1
  have hcont : rest.contains '=' = false := by
    rw [Bool.eq_false_iff]; intro h; exact (hr _ (List.contains_iff_mem.mp h)).2 rfl
  unfold fromStr
  rw [if_neg (by simp), hall, splitEq_append w rest (fun c hc => (hw c hc).2)]
  simp only [hcont, Bool.not_true, Bool.false_eq_true, if_false]
  rfl

theorem fromStr_typed (t : Nat) (rest : Str) (bs : Bytes) (ht1 : 1 ≤ t) (ht2 : t ≤ 65535)
    (hr : ∀ c ∈ rest, inCharset c = true ∧ c ≠ '=') (hu : unescape rest = some bs) :
    fromStr (toDec t ++ '=' :: rest) = .ok (tlv t bs) := by
  have hd := toDec_chars t
  obtain ⟨c, r, e, hc⟩ := toDec_head t
  have n1 : toDec t ≠ "sha256digest".toList := by rw [e]; intro h; injection h with h; subst h; revert hc; decide
  have n2 : toDec t ≠ "params-sha256".toList := by rw [e]; intro h; injection h with h; subst h; revert hc; decide
  have hpct : (toDec t ++ '=' :: rest).count '%' = rest.count '%' := by
    rw [List.count_append, List.count_eq_zero.mpr (fun hm => absurd (toDec_digits t _ hm) (by decide))]
    simp
  rw [fromStr_split _ rest hd hr, if_neg n1, if_neg n2,
    altTypeOfStr_toDec, pyInt_toDec t (by omega), hpct]
  simp only
  rw [if_neg (by omega), Int.toNat_natCast]
  exact encodeValue_ok t rest bs hu

theorem fromStr_generic (val : Str) (bs : Bytes) (hne : val ≠ [])
    (hr : ∀ c ∈ val, inCharset c = true ∧ c ≠ '=') (hu : unescape val = some bs) :
    fromStr val = .ok (tlv 8 bs) := by
  have hall : val.all inCharset = true := List.all_eq_true.mpr fun c hc => (hr c hc).1
  unfold fromStr
  simp only [hne, if_false, hall, Bool.not_true, Bool.false_eq_true,
    splitEq_none val (fun c hc => (hr c hc).2), TYPE_GENERIC]
  exact encodeValue_ok 8 val bs hu

theorem fromStr_ok {u : Str} {c : Bytes} (h : fromStr u = .ok c) :
    (∀ ch ∈ u, inCharset ch = true) ∧ (u = [] → c = [8, 0]) := by
  by_cases hu : u = []
  · rw [fromStr, if_pos hu] at h
    cases h
    exact ⟨by simp [hu], fun _ => rfl⟩
  · by_cases hall : u.all inCharset = true
    · exact ⟨List.all_eq_true.mp hall, fun e => absurd e hu⟩
    · rw [fromStr, if_neg hu, if_pos (by simpa using hall)] at h
      cases h

theorem fromStr_canonical (t : Nat) (v : Bytes) (ht1 : 1 ≤ t) (ht2 : t ≤ 65535) :
    fromStr (typePrefix t ++ escBytes v) = .ok (tlv t v) := by
  unfold typePrefix
  split
  · rename_i h8; subst h8
    by_cases hv : v = []
    · subst hv; rfl
    · exact fromStr_generic _ v (by rwa [List.nil_append, Ne, escBytes_eq_nil]) (escBytes_chars v)
        (unescape_escBytes v)
  · rw [List.append_assoc, List.singleton_append]
    exact fromStr_typed t _ v ht1 ht2 (escBytes_chars v) (unescape_escBytes v)

theorem inCharset_lt (c : Char) (h : inCharset c = true) : c.toNat < 128 :=
  charset_lt _ (by simpa [inCharset] using h)

theorem utf8_ascii (c : Char) (h : c.toNat < 128) : String.utf8EncodeChar c = [UInt8.ofNat c.toNat] := by
  unfold String.utf8EncodeChar
  have : c.val.toNat ≤ 127 := by show c.toNat ≤ 127; omega
  simp only [this, if_true]; rfl

theorem unescape_escapeStr (s : Str) (h : ∀ c ∈ s, c ≠ '%') :
    unescape (escapeStr s) = some (s.flatMap String.utf8EncodeChar) := by
  have : unescape (escapeStr s ++ []) = _ := unescape_flatMap _ String.utf8EncodeChar s ?_ []
  · simpa [unescape] using this
  · intro c hc r
    by_cases hin : inCharset c = true
    · rw [if_pos hin, List.singleton_append, unescape_plain c r (h c hc), utf8_ascii c (inCharset_lt c hin)]
      rfl
    · rw [if_neg hin]
      have := unescape_flatMap pctByte (fun b => [b]) (String.utf8EncodeChar c) (fun b _ => (pctByte_spec b).2) r
      rwa [List.flatMap_singleton'] at this

theorem escapeStr_chars (s : Str) (h : ∀ c ∈ s, c ≠ '=') :
    ∀ c ∈ escapeStr s, inCharset c = true ∧ c ≠ '=' := by
  intro c hc
  obtain ⟨a, ha, hc⟩ := List.mem_flatMap.mp hc
  split at hc
  · rename_i hin
    rw [List.mem_singleton.mp hc]
    exact ⟨hin, h a ha⟩
  · obtain ⟨b, _, hb⟩ := List.mem_flatMap.mp hc
    exact (pctByte_spec b).1 c hb

theorem escapeStr_id (s : Str) (h : ∀ c ∈ s, inCharset c = true) : escapeStr s = s := by
  induction s with
  | nil => rfl
  | cons c s ih =>
    have hc := h c (by simp)
    have := ih (fun x hx => h x (by simp [hx]))
    simp only [escapeStr, List.flatMap_cons, hc, if_true] at this ⊢
    rw [this]; rfl

end Ndn
