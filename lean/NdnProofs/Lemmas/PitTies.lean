import NdnProofs.Lemmas.Pit
/-!
Events that share an event-loop turn.  `perms` lists exactly the permutations (`mem_perms_iff`), so a linearisation of a
turn is any order of its events with the timers of the instant after any number of them (`Turn.mem_lins`); the set of
states the driver computes turn by turn (`reachable`) is the set of final states of the linearisations of the whole
history (`mem_reachable`), so a fact about every `run fe l` is a fact about every reachable state (`forall_reachable`).
Defines `Plain` (at the end), which `C03.tie_plain_no_tie` is stated with.
-/
namespace Ndn.Pit

theorem mem_inserts {α} {a : α} {l l' : List α} : l' ∈ inserts a l ↔ ∃ x y, l = x ++ y ∧ l' = x ++ a :: y := by
  constructor
  · induction l generalizing l' with
    | nil => intro h; exact ⟨[], [], rfl, List.mem_singleton.mp h⟩
    | cons b r ih =>
      intro h
      rcases List.mem_cons.mp h with rfl | h
      · exact ⟨[], _, rfl, rfl⟩
      · obtain ⟨m, hm, rfl⟩ := List.mem_map.mp h
        obtain ⟨x, y, rfl, rfl⟩ := ih hm
        exact ⟨b :: x, y, rfl, rfl⟩
  · -- by induction over the part in front of `a`, so that `b :: r = x ++ y` is never taken apart
    rintro ⟨x, y, rfl, rfl⟩
    induction x with
    | nil => cases y <;> simp [inserts]
    | cons b x ih => exact List.mem_cons_of_mem _ (List.mem_map_of_mem ih)

theorem perm_of_mem_inserts {α} {a : α} {l l' : List α} (h : l' ∈ inserts a l) : l'.Perm (a :: l) := by
  obtain ⟨x, y, rfl, rfl⟩ := mem_inserts.mp h
  exact List.perm_middle

theorem mem_perms_iff {α} {l l' : List α} : l' ∈ perms l ↔ l'.Perm l := by
  induction l generalizing l' with
  | nil => simp [perms]
  | cons a r ih =>
    simp only [perms, List.mem_flatMap]
    constructor
    · rintro ⟨m, hm, hl⟩
      exact (perm_of_mem_inserts hl).trans (List.Perm.cons a (ih.mp hm))
    · intro h
      obtain ⟨x, y, rfl⟩ := List.append_of_mem (h.symm.subset List.mem_cons_self)
      exact ⟨x ++ y, ih.mpr ((List.perm_cons a).mp (List.perm_middle.symm.trans h)), mem_inserts.mpr ⟨x, y, rfl, rfl⟩⟩

theorem self_mem_perms {α} (l : List α) : l ∈ perms l :=
  mem_perms_iff.mpr (List.Perm.refl _)

theorem Turn.mem_lins {u : Turn} {l : List Ev} :
    l ∈ u.lins ↔ ∃ p, p.Perm u.evs ∧ ∃ k, k ≤ p.length ∧ l = Turn.lin u.t p k := by
  simp only [Turn.lins, List.mem_flatMap, List.mem_map, List.mem_range, mem_perms_iff]
  constructor
  · rintro ⟨p, hp, k, hk, rfl⟩; exact ⟨p, hp, k, Nat.lt_succ_iff.mp hk, rfl⟩
  · rintro ⟨p, hp, k, hk, rfl⟩; exact ⟨p, hp, k, Nat.lt_succ_iff.mpr hk, rfl⟩

theorem Turn.plain_mem_lins (u : Turn) : .tick u.t :: u.evs ∈ u.lins :=
  Turn.mem_lins.mpr ⟨u.evs, List.Perm.refl _, 0, Nat.zero_le _, by simp [Turn.lin]⟩

theorem Turn.lins_tick (t : Nat) : (Turn.mk t []).lins = [[.tick t]] := by
  simp [Turn.lins, perms, Turn.lin]

theorem mem_lins_cons {u : Turn} {h : List Turn} {l : List Ev} :
    l ∈ lins (u :: h) ↔ ∃ a ∈ u.lins, ∃ b ∈ lins h, l = a ++ b := by
  simp only [lins, List.mem_flatMap, List.mem_map]
  constructor
  · rintro ⟨a, ha, b, hb, rfl⟩; exact ⟨a, ha, b, hb, rfl⟩
  · rintro ⟨a, ha, b, hb, rfl⟩; exact ⟨a, ha, b, hb, rfl⟩

theorem mem_lins_append {h h' : List Turn} {l : List Ev} :
    l ∈ lins (h ++ h') ↔ ∃ a ∈ lins h, ∃ b ∈ lins h', l = a ++ b := by
  induction h generalizing l with
  | nil => simp [lins]
  | cons u r ih =>
    rw [List.cons_append, mem_lins_cons]
    constructor
    · rintro ⟨a, ha, b, hb, rfl⟩
      obtain ⟨b1, hb1, b2, hb2, rfl⟩ := ih.mp hb
      exact ⟨a ++ b1, mem_lins_cons.mpr ⟨a, ha, b1, hb1, rfl⟩, b2, hb2, by simp⟩
    · rintro ⟨x, hx, b2, hb2, rfl⟩
      obtain ⟨a, ha, b1, hb1, rfl⟩ := mem_lins_cons.mp hx
      exact ⟨a, ha, b1 ++ b2, ih.mpr ⟨b1, hb1, b2, hb2, rfl⟩, by simp⟩

theorem plain_mem_lins (h : List Turn) : plain h ∈ lins h := by
  induction h with
  | nil => simp [plain, lins]
  | cons u r ih =>
    refine mem_lins_cons.mpr ⟨_, u.plain_mem_lins, _, ih, ?_⟩
    simp [plain]

theorem mem_addNew {α} [DecidableEq α] {acc : List α} {x y : α} : y ∈ addNew acc x ↔ y ∈ acc ∨ y = x := by
  unfold addNew
  split
  · rename_i h
    constructor
    · exact Or.inl
    · rintro (h1 | h1)
      · exact h1
      · rw [h1]; exact h
  · simp

theorem mem_foldl_addNew {α} [DecidableEq α] {l acc : List α} {y : α} :
    y ∈ l.foldl addNew acc ↔ y ∈ acc ∨ y ∈ l := by
  induction l generalizing acc with
  | nil => simp
  | cons x r ih => simp only [List.foldl_cons, ih, mem_addNew, List.mem_cons]; grind

theorem mem_dedup {α} [DecidableEq α] {l : List α} {y : α} : y ∈ dedup l ↔ y ∈ l := by
  unfold dedup; rw [mem_foldl_addNew]; simp

theorem mem_stepTurn {fe : FrontEnd} {S : List State} {u : Turn} {σ' : State} :
    σ' ∈ stepTurn fe S u ↔ ∃ σ ∈ S, ∃ l ∈ u.lins, l.foldl (step fe) σ = σ' := by
  unfold stepTurn
  rw [mem_dedup]
  simp only [List.mem_flatMap, List.mem_map]

theorem mem_foldl_stepTurn {fe : FrontEnd} (h : List Turn) : ∀ (S : List State) (σ : State),
    σ ∈ h.foldl (stepTurn fe) S ↔ ∃ σ0 ∈ S, ∃ l ∈ lins h, l.foldl (step fe) σ0 = σ := by
  induction h with
  | nil => intro S σ; simp [lins]
  | cons u r ih =>
    intro S σ
    rw [List.foldl_cons, ih]
    constructor
    · rintro ⟨σ1, h1, b, hb, rfl⟩
      obtain ⟨σ0, h0, a, ha, rfl⟩ := mem_stepTurn.mp h1
      exact ⟨σ0, h0, a ++ b, mem_lins_cons.mpr ⟨a, ha, b, hb, rfl⟩, by rw [List.foldl_append]⟩
    · rintro ⟨σ0, h0, l, hl, rfl⟩
      obtain ⟨a, ha, b, hb, rfl⟩ := mem_lins_cons.mp hl
      exact ⟨a.foldl (step fe) σ0, mem_stepTurn.mpr ⟨σ0, h0, a, ha, rfl⟩, b, hb, by rw [List.foldl_append]⟩

theorem mem_reachable (fe : FrontEnd) (h : List Turn) (σ : State) :
    σ ∈ reachable fe h ↔ ∃ l ∈ lins h, run fe l = σ := by
  unfold reachable run; rw [mem_foldl_stepTurn]; simp

theorem forall_reachable {fe : FrontEnd} {h : List Turn} {P : State → Prop} (hP : ∀ l ∈ lins h, P (run fe l)) :
    ∀ σ ∈ reachable fe h, P σ := by
  intro σ hσ
  obtain ⟨l, hl, rfl⟩ := (mem_reachable fe h σ).mp hσ
  exact hP l hl

theorem mem_allowed (fe : FrontEnd) (h : List Turn) (v : List IState) :
    v ∈ allowed fe h ↔ ∃ l ∈ lins h, (run fe l).sts = v := by
  simp [allowed]

theorem allowed_iff_reachable (fe : FrontEnd) (h : List Turn) (v : List IState) :
    v ∈ allowed fe h ↔ ∃ σ ∈ reachable fe h, σ.sts = v := by
  rw [mem_allowed]
  constructor
  · rintro ⟨l, hl, rfl⟩; exact ⟨_, (mem_reachable fe h _).mpr ⟨l, hl, rfl⟩, rfl⟩
  · rintro ⟨σ, hσ, rfl⟩
    obtain ⟨l, hl, rfl⟩ := (mem_reachable fe h σ).mp hσ
    exact ⟨l, hl, rfl⟩

/-- no event of the history is a `reach` (they only come from linearisations) -/
def Plain (h : List Turn) : Prop := ∀ u ∈ h, ∀ ev ∈ u.evs, ∀ t, ev ≠ .reach t

end Ndn.Pit
