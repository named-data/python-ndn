import NdnProofs.Lemmas.NameStr
import NdnProofs.Lemmas.NameWire
/-! What `to_str` / `to_canonical_uri` print for a library-shaped component, and that `from_str` reads
    it back. -/
namespace Ndn
open Comp

theorem toCanonicalUri_tlv (t : Nat) (v : Bytes) (ht : t < 2^64) (hv : v.length < 2^64) :
    toCanonicalUri (tlv t v) = .ok (typePrefix t ++ escBytes v) := by
  simp [toCanonicalUri, parseComp_tlv t v ht hv, bind, Except.bind, pure, Except.pure]

/-- the types with a number shorthand (`seg=` …): the keys of `ALTERNATE_URI_TYPE`, `altUriType_keys` -/
def IsNumType (t : Nat) : Prop := t = 50 ∨ t = 52 ∨ t = 54 ∨ t = 56 ∨ t = 58

theorem altUriType_keys : Gen.C09.altUriType.map (·.1) = [50, 52, 54, 56, 58] := by decide

theorem altUri_rows : ∀ e ∈ Gen.C09.altUriType,
    altUriOfType e.1 = some e.2 ∧ altTypeOfStr e.2 = some e.1 ∧ (∀ c ∈ e.2, inCharset c = true ∧ c ≠ '=') ∧
    e.2 ≠ "sha256digest".toList ∧ e.2 ≠ "params-sha256".toList ∧ 1 ≤ e.1 ∧ e.1 ≤ 65535 := by decide +kernel

theorem altUriOfType_none (t : Nat) (h : ¬ IsNumType t) : altUriOfType t = none := by
  have hnone : (Gen.C09.altUriType.find? fun p => p.1 == t) = none := by
    rw [List.find?_eq_none]
    intro p hp hb
    have h3 : p.1 ∈ Gen.C09.altUriType.map (·.1) := List.mem_map.mpr ⟨p, hp, rfl⟩
    rw [altUriType_keys, beq_iff_eq.mp hb] at h3
    exact h (by simpa [IsNumType] using h3)
  simp [altUriOfType, hnone]

theorem altUriType_row (t : Nat) (h : IsNumType t) : ∃ e ∈ Gen.C09.altUriType, e.1 = t := by
  have : t ∈ Gen.C09.altUriType.map (·.1) := by rw [altUriType_keys]; simpa [IsNumType] using h
  obtain ⟨e, he, rfl⟩ := List.mem_map.mp this
  exact ⟨e, he, rfl⟩

theorem toStr_tlv (t : Nat) (v : Bytes) (ht : t < 2^64) (hv : v.length < 2^64) :
    toStr (tlv t v) =
      if t = 1 then .ok ("sha256digest=".toList ++ pyHex v)
      else if t = 2 then .ok ("params-sha256=".toList ++ pyHex v)
      else match altUriOfType t with
        | some s =>
          if v.length = 1 ∨ v.length = 2 ∨ v.length = 4 ∨ v.length = 8 then .ok (s ++ '=' :: toDec (beVal v))
          else .ok (typePrefix t ++ escBytes v)
        | none => .ok (typePrefix t ++ escBytes v) := by
  simp only [toStr, parseComp_tlv t v ht hv, bind, Except.bind, pure, Except.pure,
    TYPE_IMPLICIT_SHA256, TYPE_PARAMETERS_SHA256]
  by_cases h1 : t = 1
  · simp only [h1, if_true]
  · by_cases h2 : t = 2
    · simp only [h2, if_true]
    · simp only [h1, h2, if_false]
      cases altUriOfType t <;> rfl

theorem fromStr_number (n : Nat) (hn : n < 2^64) :
    ∀ e ∈ Gen.C09.altUriType, fromStr (e.2 ++ '=' :: toDec n) = .ok (tlv e.1 (packUint n)) := by
  intro e he
  obtain ⟨_, hs, hc, h1, h2, ht1, ht2⟩ := altUri_rows e he
  rw [fromStr_split e.2 _ hc (toDec_chars n), if_neg h1, if_neg h2, hs,
    pyInt_toDec n hn]
  simp only [fromNumber]
  rw [if_neg (by omega), Int.toNat_natCast]
  exact fromBytes_ok e.1 _ ht1 ht2

theorem digest_words :
    "sha256digest=".toList = "sha256digest".toList ++ ['='] ∧
    "params-sha256=".toList = "params-sha256".toList ++ ['='] ∧
    "params-sha256".toList ≠ "sha256digest".toList ∧
    (∀ c ∈ "sha256digest".toList, inCharset c = true ∧ c ≠ '=') ∧
    (∀ c ∈ "params-sha256".toList, inCharset c = true ∧ c ≠ '=') := by
  -- the literals are first spelt out as character lists: evaluating `toList` on a literal is slow to check
  repeat rw [String.toList_ofList]
  decide +kernel

theorem fromStr_digest (v : Bytes) :
    fromStr ("sha256digest=".toList ++ pyHex v) = .ok (tlv 1 v) ∧
    fromStr ("params-sha256=".toList ++ pyHex v) = .ok (tlv 2 v) := by
  obtain ⟨w1, w2, hne, hc1, hc2⟩ := digest_words
  obtain ⟨hx, hxc⟩ := pyHex_spec v
  constructor
  · rw [w1, List.append_assoc, List.singleton_append, fromStr_split _ _ hc1 hxc, hx, if_pos rfl]
    exact fromBytes_ok 1 v (by omega) (by omega)
  · rw [w2, List.append_assoc, List.singleton_append, fromStr_split _ _ hc2 hxc, hx, if_neg hne, if_pos rfl]
    exact fromBytes_ok 2 v (by omega) (by omega)

/-- typed-number components carry a canonically encoded (minimal 1/2/4/8-byte) number -/
def CanonNumber (t : Nat) (v : Bytes) : Prop := IsNumType t → ∃ n, n < 2^64 ∧ v = packUint n

instance : DecidablePred IsNumType := fun t => by unfold IsNumType; infer_instance

/-- What `from_str` makes of the value that `to_str` printed: a typed number of 1, 2, 4 or 8 bytes comes back in its
    minimal width, every other value as it is. -/
def numCanon (t : Nat) (v : Bytes) : Bytes :=
  if IsNumType t ∧ (v.length = 1 ∨ v.length = 2 ∨ v.length = 4 ∨ v.length = 8) then packUint (beVal v) else v

theorem numCanon_of_canon {t : Nat} {v : Bytes} (h : CanonNumber t v) : numCanon t v = v := by
  unfold numCanon
  split
  · rename_i hn
    obtain ⟨n, hn1, rfl⟩ := h hn.1
    rw [beVal_packUint n hn1]
  · rfl

theorem numCanon_of_width {t : Nat} {v : Bytes} (h : ¬ (v.length = 1 ∨ v.length = 2 ∨ v.length = 4 ∨ v.length = 8)) :
    numCanon t v = v :=
  if_neg fun hn => h hn.2

/-- `to_str` never raises on a library-shaped component (the number shorthand is used only for values of 1, 2, 4 or 8
    bytes, so CPython's digit limit is out of reach), and `from_str` reads what it prints back as the same component up
    to the width of a typed number. -/
theorem toStr_readsBack (t : Nat) (v : Bytes) (ht1 : 1 ≤ t) (ht2 : t ≤ 65535) (hv : v.length < 2^64) :
    (toStr (tlv t v) >>= fromStr) = .ok (tlv t (numCanon t v)) := by
  have hnum : ∀ ht : ¬ IsNumType t, numCanon t v = v := fun ht => if_neg fun h => ht h.1
  rw [toStr_tlv t v (by omega) hv]
  by_cases h1 : t = 1
  · subst h1
    rw [if_pos rfl, exc_ok_bind, hnum (by decide)]
    exact (fromStr_digest v).1
  · by_cases h2 : t = 2
    · subst h2
      rw [if_neg h1, if_pos rfl, exc_ok_bind, hnum (by decide)]
      exact (fromStr_digest v).2
    · rw [if_neg h1, if_neg h2]
      by_cases hn : IsNumType t
      · obtain ⟨e, he, rfl⟩ := altUriType_row t hn
        rw [(altUri_rows e he).1]
        dsimp only
        by_cases hw : v.length = 1 ∨ v.length = 2 ∨ v.length = 4 ∨ v.length = 8
        · rw [if_pos hw, exc_ok_bind, numCanon, if_pos ⟨hn, hw⟩]
          exact fromStr_number _ (beVal_lt_of_width (by omega)) e he
        · rw [if_neg hw, exc_ok_bind, numCanon_of_width hw]
          exact fromStr_canonical e.1 v ht1 ht2
      · rw [altUriOfType_none t hn, hnum hn]
        exact fromStr_canonical t v ht1 ht2

end Ndn
