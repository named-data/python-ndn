import NdnModel.ClientConf
import NdnProofs.Lemmas.PyDict
/-! Lemmas for C20 about the model of `client_conf.py`, in the order of the file: `str.partition` (`part_*`), `dirname`
    / `join` and the two shapes of `resolveLocation`; what a configuration text says, as functions of its logical items
    (`defaultOptions`, `headers`, `qualified`, `hasBogus`, and `assignments` further down: the words in which
    `C20.conf_errors`, `C20.FileSets` and `C20.FileSilent` are stated); the outcome of the reader's second pass from any
    state inside a section (`foldlM_istep`), hence every outcome of `parseConf` (`parseConf_cases`); totality of a
    default-transport table (`defaultTransport_total`); `urlsplit` on `scheme://netloc…` (`urlsplit_simple`) and its
    outcomes (`urlsplit_cases`, `port_cases`); `defaultKeychain_sqlite`. -/
namespace Ndn.ClientConf

instance {ε α} [DecidableEq ε] [DecidableEq α] : DecidableEq (Except ε α)
  | .ok a, .ok b => if h : a = b then isTrue (h ▸ rfl) else isFalse (fun e => h (Except.ok.inj e))
  | .error a, .error b => if h : a = b then isTrue (h ▸ rfl) else isFalse (fun e => h (Except.error.inj e))
  | .ok _, .error _ => isFalse (fun e => nomatch e)
  | .error _, .ok _ => isFalse (fun e => nomatch e)

theorem part_of_not_mem (c : Char) (a b : Str) (h : c ∉ a) :
    part c (a ++ b) = (a ++ (part c b).1, (part c b).2) := by
  induction a with
  | nil => rfl
  | cons x r ih =>
    have hx : x ≠ c := fun e => h (by simp [e])
    have hr : c ∉ r := fun e => h (by simp [e])
    simp [part, hx, ih hr]

theorem part_append (c : Char) (a b : Str) (h : c ∉ a) : part c (a ++ c :: b) = (a, some b) := by
  simp [part_of_not_mem c a _ h, part]

theorem part_none (c : Char) (a : Str) (h : c ∉ a) : part c a = (a, none) := by
  simpa [part] using part_of_not_mem c a [] h

theorem part_fst_no (c : Char) (s : Str) : c ∉ (part c s).1 := by
  induction s with
  | nil => simp [part]
  | cons x r ih =>
    by_cases hx : x = c
    · simp [part, hx]
    · simpa [part, hx, Ne.symm hx] using ih

theorem afterLast_none (c : Char) (s : Str) (h : c ∉ s) : afterLast c s = s := by
  unfold afterLast
  rw [part_none c s.reverse (by simpa using h)]
  simp

theorem dirname_file (dir base : Str) (hb : '/' ∉ base) (hd : dir ≠ [])
    (hl : dir.getLast? ≠ some '/') : dirname (dir ++ '/' :: base) = dir := by
  obtain ⟨init, z, rfl⟩ : ∃ init z, dir = init ++ [z] := by
    rcases List.eq_nil_or_concat dir with h | ⟨i, z, h⟩
    · exact absurd h hd
    · exact ⟨i, z, by simpa using h⟩
  have hz : z ≠ '/' := by simpa using hl
  have hbase : ∀ x ∈ base.reverse, decide (x ≠ '/') = true := fun x hx =>
    decide_eq_true fun e => hb (e ▸ List.mem_reverse.mp hx)
  have hhead : ((init ++ [z] ++ '/' :: base).reverse.dropWhile (· ≠ '/')).reverse = init ++ [z, '/'] := by
    rw [List.reverse_append, List.reverse_cons, List.append_assoc,
      List.dropWhile_append_of_pos hbase]
    simp
  unfold dirname
  simp only [hhead]
  simp [hz]

theorem join_relative (dir loc : Str) (hd : dir ≠ []) (hl : dir.getLast? ≠ some '/')
    (hr : loc.head? ≠ some '/') : join dir loc = dir ++ '/' :: loc := by
  simp [join, hr, hd, hl]

theorem resolveLocation_scheme_loc (path : Str) (defaults : List Str) (ex : Str → Bool) (scheme loc : Str)
    (hs : ':' ∉ scheme) (hl : ':' ∉ loc) :
    resolveLocation path defaults ex (scheme ++ ':' :: loc)
      = .ok (scheme ++ ':' :: resolveLocation.finish path defaults ex loc) := by
  simp [resolveLocation, part_append _ _ _ hs, hl]

theorem resolveLocation_scheme (path : Str) (defaults : List Str) (ex : Str → Bool) (scheme : Str)
    (hs : ':' ∉ scheme) :
    resolveLocation path defaults ex scheme = .ok (scheme ++ ':' :: resolveLocation.finish path defaults ex []) := by
  simp [resolveLocation, part_none _ _ hs]

/-- the option assignments of the DEFAULT section(s), in file order: (name as written, joined value) -/
def defaultOptions : Option Str → List Item → List (Str × Str)
  | _, [] => []
  | _, .header n :: r => defaultOptions (some n) r
  | s, .option k ps :: r =>
    (if s = some dfltName then [(k, joinPieces ps)] else []) ++ defaultOptions s r
  | s, .bogus :: r => defaultOptions s r

/-- names of the sections opened (other than DEFAULT), in order -/
def headers : List Item → List Str
  | [] => []
  | .header n :: r => (if n = dfltName then [] else [n]) ++ headers r
  | _ :: r => headers r

/-- (section, lower-cased option name) of every option line, in order -/
def qualified : Option Str → List Item → List (Str × Str)
  | _, [] => []
  | _, .header n :: r => qualified (some n) r
  | s, .option k _ :: r => (match s with | some n => [(n, lower k)] | none => []) ++ qualified s r
  | s, .bogus :: r => qualified s r

/-- a line that is neither header nor option, or an option with an empty name -/
def hasBogus : List Item → Bool
  | [] => false
  | .bogus :: _ => true
  | .option k _ :: r => decide (k = []) || hasBogus r
  | .header _ :: r => hasBogus r

def Fresh {β : Type} (seen xs : List β) : Prop := xs.Nodup ∧ ∀ x ∈ xs, x ∉ seen

theorem fresh_nil {β : Type} (seen : List β) : Fresh seen [] := ⟨List.nodup_nil, by simp⟩

theorem fresh_cons {β : Type} (seen xs : List β) (x : β) :
    Fresh seen (x :: xs) ↔ x ∉ seen ∧ Fresh (x :: seen) xs := by
  unfold Fresh
  simp only [List.nodup_cons, List.mem_cons, forall_eq_or_imp, not_or]
  constructor
  · rintro ⟨⟨h1, h2⟩, h3, h4⟩
    exact ⟨h3, h2, fun y hy => ⟨fun e => h1 (e ▸ hy), h4 y hy⟩⟩
  · rintro ⟨h3, h2, h4⟩
    exact ⟨⟨fun hx => (h4 x hx).1 rfl, h2⟩, h3, fun y hy => (h4 y hy).2⟩

theorem fresh_nil_left {β : Type} (xs : List β) : Fresh [] xs ↔ xs.Nodup := by simp [Fresh]

/-- What the second pass returns from a state inside a section `s`, in terms of the section names and qualified option
    names still to come against those seen so far.  Every state after the implicit `[DEFAULT]` line is inside a section,
    which is why `MissingSectionHeaderError` has no case.  `hinv`: `elements_added` has every key of the DEFAULT dict,
    so an option that passes the duplicate check is appended to the dict and overwrites nothing. -/
theorem foldlM_istep (items : List Item) (s : Str) (sects : List Str) (added : List (Str × Str))
    (dflt : PyDict Str Str) (bad : Bool) (hinv : ∀ k ∈ PyDict.keys dflt, (dfltName, k) ∈ added) :
    (Fresh sects (headers items) ∧ Fresh added (qualified (some s) items) ∧
      ∃ st', items.foldlM istep ⟨some s, sects, added, dflt, bad⟩ = .ok st' ∧ st'.bad = (bad || hasBogus items) ∧
        st'.dflt = dflt ++ (defaultOptions (some s) items).map fun p => (lower p.1, p.2)) ∨
    (¬ Fresh sects (headers items) ∧
      items.foldlM istep ⟨some s, sects, added, dflt, bad⟩ = .error .duplicateSection) ∨
    (¬ Fresh added (qualified (some s) items) ∧
      items.foldlM istep ⟨some s, sects, added, dflt, bad⟩ = .error .duplicateOption) := by
  induction items generalizing s sects added dflt bad with
  | nil => exact .inl ⟨fresh_nil _, fresh_nil _, _, rfl, by simp [hasBogus], by simp [defaultOptions]⟩
  | cons it r ih =>
    -- each case: rewrite the statement for `it :: r` into the one for `r` from the next state, which is `ih`
    simp only [List.foldlM_cons, bind, Except.bind]
    cases it with
    | header n =>
      simp only [istep, headers, qualified, hasBogus, defaultOptions]
      by_cases hn : n = dfltName
      · simp only [if_pos hn, List.nil_append]
        exact ih n sects added dflt bad hinv
      · by_cases hc : n ∈ sects
        · exact .inr (.inl ⟨by simp [fresh_cons, hn, hc], by simp [hn, hc]⟩)
        · simp only [if_neg hn, List.contains_iff_mem, hc, List.singleton_append, fresh_cons,
            not_false_eq_true, true_and, if_false]
          exact ih n (n :: sects) added dflt bad hinv
    | bogus =>
      simp only [istep, headers, qualified, hasBogus, defaultOptions, Bool.or_true]
      exact ih s sects added dflt true hinv
    | option k ps =>
      simp only [istep, headers, qualified, hasBogus, defaultOptions, List.contains_iff_mem]
      by_cases hc : (s, lower k) ∈ added
      · exact .inr (.inr ⟨by simp [fresh_cons, hc], by simp [hc]⟩)
      · simp only [hc, if_false, List.singleton_append, fresh_cons, not_false_eq_true, true_and, ← Bool.or_assoc]
        by_cases hd : s = dfltName
        · have hk : lower k ∉ PyDict.keys dflt := fun hm => hc (hd ▸ hinv _ hm)
          have := ih dfltName sects ((dfltName, lower k) :: added) (dflt ++ [(lower k, joinPieces ps)])
            (bad || decide (k = [])) fun k' hk' => by
              rw [PyDict.keys, List.map_append, List.mem_append, List.map_singleton, List.mem_singleton] at hk'
              exact hk'.elim (fun h => List.mem_cons_of_mem _ (hinv k' h)) fun h => h ▸ List.mem_cons_self
          simp only [List.append_assoc, List.singleton_append] at this
          simp only [hd, if_true, PyDict.set_of_not_mem _ _ _ hk, List.map_cons, List.singleton_append]
          exact this
        · simp only [hd, Option.some.injEq, if_false, List.nil_append]
          exact ih s sects _ dflt _ fun k' hk' => List.mem_cons_of_mem _ (hinv k' hk')

theorem scan_header (live : Bool) (indent : Nat) (l : Str) (ls : List Str) (n : Str)
    (hc : isComment (strip l) = false) (hne : strip l ≠ []) (hin : indentOf l = 0)
    (hh : header? (strip l) = some n) :
    scan live indent (l :: ls) = ([], .header n :: (scan false 0 ls).2) := by
  have : ¬ (indent < 0) := Nat.not_lt_zero _
  simp [scan, hc, hne, hin, hh, this]

theorem logical_cons (ls : List Str) : logical ls = .header dfltName :: (scan false 0 ls).2 := by
  have h : isComment (strip "[DEFAULT]".toList) = false ∧ strip "[DEFAULT]".toList ≠ [] ∧
      indentOf "[DEFAULT]".toList = 0 ∧ header? (strip "[DEFAULT]".toList) = some dfltName := by
    unfold dfltName
    -- unpacks each literal `"…".toList` into its characters by unification, so that `decide` works on character
    -- lists and the kernel does not run the UTF-8 decoder on the literals
    repeat rw [String.toList_ofList]
    decide +kernel
  rw [logical, scan_header false 0 _ ls dfltName h.1 h.2.1 h.2.2.1 h.2.2.2]

/-- `defaultOptions` of the whole text: it starts outside any section (`none`), and the `[DEFAULT]` header that `logical`
    puts in front opens the first -/
def assignments (ls : List Str) : List (Str × Str) := defaultOptions none (logical ls)

theorem parseConf_cases (ls : List Str) :
    ((headers (logical ls)).Nodup ∧ (qualified none (logical ls)).Nodup ∧
      ((hasBogus (logical ls) = false ∧
          parseConf ls = .ok ((assignments ls).map (fun p => (lower p.1, p.2)))) ∨
        (hasBogus (logical ls) = true ∧ parseConf ls = .error .parsing))) ∨
    (¬ (headers (logical ls)).Nodup ∧ parseConf ls = .error .duplicateSection) ∨
    (¬ (qualified none (logical ls)).Nodup ∧ parseConf ls = .error .duplicateOption) := by
  have h := foldlM_istep (scan false 0 ls).2 dfltName [] [] [] false (fun _ hk => nomatch hk)
  simp only [fresh_nil_left, Bool.false_or, List.nil_append] at h
  -- the implicit `[DEFAULT]` line leads to the state `h` starts from and adds nothing to the four item functions
  simp only [parseConf, assignments, interpret, logical_cons, List.foldlM_cons, istep, bind, Except.bind,
    if_true, headers, qualified, hasBogus, defaultOptions, List.nil_append]
  rcases h with ⟨h1, h2, st, h3, h4, h5⟩ | ⟨h1, h2⟩ | ⟨h1, h2⟩
  · rw [h3, ← h4, ← h5]
    refine .inl ⟨h1, h2, ?_⟩
    cases hb : st.bad <;> simp [hb]
  · rw [h2]; exact .inr (.inl ⟨h1, rfl⟩)
  · rw [h2]; exact .inr (.inr ⟨h1, rfl⟩)

def allAssign : Nat → List (List Bool)
  | 0 => [[]]
  | n + 1 => (allAssign n).flatMap fun a => [false :: a, true :: a]

theorem mem_allAssign (l : List Bool) : l ∈ allAssign l.length := by
  induction l with
  | nil => simp [allAssign]
  | cons b r ih =>
    simp only [List.length_cons, allAssign, List.mem_flatMap]
    exact ⟨r, ih, by cases b <;> simp⟩

def tableTotal (probes : List Str) (table : List (List Bool × Str)) : Bool :=
  (allAssign probes.length).all fun a => (tableLookup a table).isSome

theorem defaultTransport_total (P : Platform) (h : tableTotal P.transportProbes P.transportTable = true)
    (ex : Str → Bool) : ∃ v, defaultTransport P ex = .ok v := by
  have hm := mem_allAssign (P.transportProbes.map ex)
  simp only [List.length_map] at hm
  have := (List.all_eq_true.mp h) _ hm
  unfold defaultTransport
  cases hl : tableLookup (P.transportProbes.map ex) P.transportTable with
  | none => simp [hl] at this
  | some v => exact ⟨v, rfl⟩

theorem splitScheme_ok (pre post : Str) (h3 : pre.head?.map Char.isAlpha = some true)
    (h4 : pre.all schemeChar = true) : splitScheme (pre ++ ':' :: post) = (lower pre, post) := by
  have h1 : ':' ∉ pre := fun hm => by simpa [schemeChar] using List.all_eq_true.mp h4 _ hm
  have h2 : pre ≠ [] := fun e => by simp [e] at h3
  simp [splitScheme, part_append _ _ _ h1, h2, h3, h4]

theorem stripQF_id (p : Str) (hp : ∀ c ∈ p, c ≠ '?' ∧ c ≠ '#') : stripQF p = p := by
  simp [stripQF, part_none _ _ fun hm => (hp _ hm).2 rfl, part_none _ _ fun hm => (hp _ hm).1 rfl]

/-- `scheme://netloc` followed by nothing or by a path, query or fragment -/
theorem urlsplit_simple (scheme nl path : Str) (b : Bool)
    (h3 : scheme.head?.map Char.isAlpha = some true) (h4 : scheme.all schemeChar = true)
    (hx : ∀ c ∈ ['/', '?', '#', '[', ']'], c ∉ nl) (hp : ∀ c, path.head? = some c → notDelim c = false) :
    urlsplit (scheme ++ ':' :: '/' :: '/' :: (nl ++ path)) b
      = .ok { scheme := lower scheme, netloc := nl, path := stripQF path } := by
  simp only [List.forall_mem_cons] at hx
  obtain ⟨x1, x2, x3, x4, x5, -⟩ := hx
  have hnd : ∀ c ∈ nl, notDelim c = true := fun c hc => by
    have : c ≠ '/' ∧ c ≠ '?' ∧ c ≠ '#' := ⟨fun e => x1 (e ▸ hc), fun e => x2 (e ▸ hc), fun e => x3 (e ▸ hc)⟩
    simp [notDelim, this]
  have htw : path.takeWhile notDelim = [] ∧ path.dropWhile notDelim = path := by
    cases path with
    | nil => exact ⟨rfl, rfl⟩
    | cons c r => simp [hp c rfl]
  have hbb : bracketBad nl b = false := by
    unfold bracketBad
    rw [List.contains_eq_mem, List.contains_eq_mem, decide_eq_false x4, decide_eq_false x5]
    rfl
  unfold urlsplit
  rw [splitScheme_ok scheme _ h3 h4]
  simp only [List.take, List.drop, if_true, List.takeWhile_append_of_pos hnd, List.dropWhile_append_of_pos hnd, htw,
    List.append_nil, hbb]
  rfl

theorem urlsplit_cases (s : Str) (b : Bool) :
    urlsplit s b = .error .valueError ∨ ∃ u, urlsplit s b = .ok u ∧ u.scheme = (splitScheme s).1 := by
  unfold urlsplit
  dsimp only
  split
  · split
    · exact .inl rfl
    · exact .inr ⟨_, rfl, rfl⟩
  · exact .inr ⟨_, rfl, rfl⟩

theorem port_cases (netloc : Str) : port netloc = .error .valueError ∨ ∃ p, port netloc = .ok p := by
  unfold port
  split
  · exact .inr ⟨_, rfl⟩
  · split
    · split
      · exact .inr ⟨_, rfl⟩
      · exact .inl rfl
    · exact .inl rfl

theorem defaultKeychain_sqlite (x y : Str) :
    defaultKeychain ("pib-sqlite3".toList ++ ':' :: x) ("tpm-file".toList ++ ':' :: y)
      = .ok (.sqlite (join x "pib.db".toList) y) := by
  have h : ':' ∉ "pib-sqlite3".toList ∧ ':' ∉ "tpm-file".toList := by
    repeat rw [String.toList_ofList]
    decide +kernel
  rw [defaultKeychain, part_append _ _ _ h.1, part_append _ _ _ h.2]
  simp only [if_true]

end Ndn.ClientConf
