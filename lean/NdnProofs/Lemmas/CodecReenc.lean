import NdnProofs.Lemmas.CodecAccept
/-! Re-encoding what the decoder accepted.  `enc` of a legal assignment fails only with `ValueError` (an integer too
    wide for its field) or `struct.error` (a Type or Length that does not fit 64 bits): `reErr_all`.  Without
    `fixed_len` and with Types below 2^64 (`reS`) it succeeds for integers below 2^64 as soon as the size `esz` of what
    it would write is below 2^64 (`total_all`).  For an accepted value that size is at most the length of the wire:
    the scan loop adds to `eszFs` of the accumulator no more than the bytes it consumes (`size_step`, from
    `elem_budget` for one element). -/
namespace Ndn.Codec
open Ndn

mutual
/-- a schema whose Type numbers fit 64 bits and whose integer fields have no `fixed_len` -/
def reS : Schema → Bool
  | .uint t fl => decide (t < 2 ^ 64) && fl.isNone
  | .bool t => decide (t < 2 ^ 64)
  | .bytes t _ => decide (t < 2 ^ 64)
  | .name t => decide (t < 2 ^ 64)
  | .model t fs _ => decide (t < 2 ^ 64) && reFs fs
  | .repeated e => reS e
  | .map k v => reS k && reS v
  | .marker => true
def reFs : List Schema → Bool
  | [] => true
  | s :: r => reS s && reFs r
end

mutual
/-- the number of bytes `encode` writes for a value (the arithmetic of `encoded_length`, without its errors);
    tied to `enc` by `total_all`, and through `encLen_enc` to `encLen` -/
def esz : Schema → Value → Nat
  | _, .none => 0
  | .uint t fl, .uint v => tlNumSize t + 1 + uintWidth fl v
  | .bool t, .bool => tlNumSize t + 1
  | .bytes t _, .bytes b => tlNumSize t + tlNumSize b.length + b.length
  | .name _, .name cs => 1 + tlNumSize (concatB cs).length + (concatB cs).length
  | .model t fs _, .model vs => tlNumSize t + tlNumSize (eszFs fs vs) + eszFs fs vs
  | .repeated e, .list vs => eszList e vs
  | .map k v, .map es => eszMap k v es
  | _, _ => 0
def eszFs : List Schema → List Value → Nat
  | s :: ss, v :: vs => esz s v + eszFs ss vs
  | _, _ => 0
def eszList : Schema → List Value → Nat
  | _, [] => 0
  | e, v :: vs => esz e v + eszList e vs
def eszMap : Schema → Schema → List (Value × Value) → Nat
  | _, _, [] => 0
  | k, v, (a, b) :: r => esz k a + esz v b + eszMap k v r
end

theorem reFs_get : ∀ (fs : List Schema) (i : Nat) (s : Schema), reFs fs = true → fs[i]? = some s → reS s = true :=
  allFs_get (fun _ _ => by rw [reFs])

/-- of `bounded N v` only the integers' `< 2 ^ 64` is used (byte strings and names are bounded by `esz s v < 2 ^ 64`):
    `N` is arbitrary, the hypothesis has the form `parse_accept` delivers -/
theorem total_all (N : Nat) :
    (∀ s v, fits s v = true → reS s = true → bounded N v = true → esz s v < 2 ^ 64 →
      ∃ b, enc s v = .ok b ∧ b.length = esz s v) ∧
    (∀ fs vs, fitsFs fs vs = true → reFs fs = true → boundedL N vs = true → eszFs fs vs < 2 ^ 64 →
      ∃ b, encFields fs vs = .ok b ∧ b.length = eszFs fs vs) ∧
    (∀ e vs, fitsList e vs = true → reS e = true → boundedL N vs = true → eszList e vs < 2 ^ 64 →
      ∃ b, encList e vs = .ok b ∧ b.length = eszList e vs) ∧
    (∀ k v es, fitsMap k v es = true → reS k = true → reS v = true →
      boundedM N es = true → eszMap k v es < 2 ^ 64 → ∃ b, encMap k v es = .ok b ∧ b.length = eszMap k v es) := by
  apply fits_induct
  case none => intro s _ _ _ _; exact ⟨[], enc_none s, (esz.eq_1 s).symm⟩
  case uint =>
    intro t fl v hr hb _
    simp only [reS, Bool.and_eq_true, decide_eq_true_eq, Option.isNone_iff_eq_none] at hr
    obtain ⟨ht, rfl⟩ := hr
    simp only [bounded, decide_eq_true_eq] at hb
    have hleg := uintWidth_legal (t := t) none v rfl
    refine ⟨_, enc_uint_none ht hb, ?_⟩
    rw [tlv_length, ← beN_uintWidth, beN_length (uintWidth none v) v hleg,
      tlNumSize_eq_one (v := uintWidth none v) (by omega), esz]
  case bool =>
    intro t hr _ _
    simp only [reS, decide_eq_true_eq] at hr
    exact ⟨tlv t [], enc_bool hr, by simp [tlv_length, esz, tlNumSize]⟩
  case bytes =>
    intro t isStr x _ hr _ hsz
    simp only [reS, decide_eq_true_eq] at hr
    simp only [esz] at hsz
    have : x.length < 2 ^ 64 := by omega
    exact ⟨tlv t x, enc_bytes isStr hr this, by simp [tlv_length, esz]⟩
  case name =>
    intro t cs _ _ _ hsz
    simp only [esz] at hsz
    have : (concatB cs).length < 2 ^ 64 := by omega
    have h7 : tlNumSize 7 = 1 := by decide
    exact ⟨tlv 7 (concatB cs), enc_name t this, by simp [tlv_length, esz, h7]⟩
  case model =>
    intro t fs ic vs ih hr hb hsz
    simp only [reS, Bool.and_eq_true, decide_eq_true_eq] at hr
    simp only [bounded] at hb
    simp only [esz] at hsz
    obtain ⟨body, hbody, hlen⟩ := ih hr.2 hb (by omega)
    have : body.length < 2 ^ 64 := by omega
    refine ⟨tlv t body, enc_model ic hbody hr.1 this, ?_⟩
    simp only [tlv_length, esz, hlen]
  case list => intro e vs ih; exact ih
  case map =>
    intro k v es _ ih hr hb hsz
    simp only [reS, Bool.and_eq_true] at hr
    exact ih hr.1 hr.2 hb hsz
  case fnil => intro _ _ _; exact ⟨[], rfl, rfl⟩
  case fcons =>
    intro s ss v vs ih1 ih2 hr hb hsz
    simp only [reFs, Bool.and_eq_true] at hr
    simp only [boundedL, Bool.and_eq_true] at hb
    simp only [eszFs] at hsz
    obtain ⟨a, ha, hla⟩ := ih1 hr.1 hb.1 (by omega)
    obtain ⟨c, hc, hlc⟩ := ih2 hr.2 hb.2 (by omega)
    exact ⟨a ++ c, by simp only [encFields, ha, hc, bind, Except.bind, pure, Except.pure],
      by simp only [eszFs, List.length_append, hla, hlc]⟩
  case lnil => intro e _ _ _; exact ⟨[], rfl, rfl⟩
  case lcons =>
    intro e v vs _ ih1 ih2 hr hb hsz
    simp only [boundedL, Bool.and_eq_true] at hb
    simp only [eszList] at hsz
    obtain ⟨a, ha, hla⟩ := ih1 hr hb.1 (by omega)
    obtain ⟨c, hc, hlc⟩ := ih2 hr hb.2 (by omega)
    exact ⟨a ++ c, by simp only [encList, ha, hc, bind, Except.bind, pure, Except.pure],
      by simp only [eszList, List.length_append, hla, hlc]⟩
  case mnil => intro k v _ _ _ _; exact ⟨[], rfl, rfl⟩
  case mcons =>
    intro k v x y r _ _ ih1 ih2 ih3 hrk hrv hb hsz
    simp only [boundedM, Bool.and_eq_true] at hb
    simp only [eszMap] at hsz
    obtain ⟨a, ha, hla⟩ := ih1 hrk hb.1.1 (by omega)
    obtain ⟨c, hc, hlc⟩ := ih2 hrv hb.1.2 (by omega)
    obtain ⟨d, hd, hld⟩ := ih3 hrk hrv hb.2 (by omega)
    exact ⟨a ++ c ++ d, by simp only [encMap, ha, hc, hd, bind, Except.bind, pure, Except.pure],
      by simp only [eszMap, List.length_append, hla, hlc, hld]⟩

theorem encFields_total (N : Nat) : ∀ (fs : List Schema) (vs : List Value), reFs fs = true →
    fitsFs fs vs = true → boundedL N vs = true → eszFs fs vs < 2 ^ 64 →
    ∃ b, encFields fs vs = .ok b ∧ b.length = eszFs fs vs :=
  fun fs vs hr hfit hb hsz => (total_all N).2.1 fs vs hfit hr hb hsz
theorem encList_total (N : Nat) : ∀ (e : Schema) (vs : List Value), wfS e = true → reS e = true →
    fitsList e vs = true → boundedL N vs = true → eszList e vs < 2 ^ 64 →
    ∃ b, encList e vs = .ok b ∧ b.length = eszList e vs :=
  fun e vs _ hr hfit hb hsz => (total_all N).2.2.1 e vs hfit hr hb hsz
theorem encMap_total (N : Nat) : ∀ (k v : Schema) (es : List (Value × Value)), wfS k = true → wfS v = true →
    reS k = true → reS v = true → fitsMap k v es = true → boundedM N es = true → eszMap k v es < 2 ^ 64 →
    ∃ b, encMap k v es = .ok b ∧ b.length = eszMap k v es :=
  fun k v es _ _ hrk hrv hfit hb hsz => (total_all N).2.2.2 k v es hfit hrk hrv hb hsz

/-- a shortest-form re-encoding of the head element's (possibly truncated) Value and what is left behind it fit into `rest` -/
theorem elem_budget {rest : Bytes} {typ st len sl : Nat} (h1 : parseTlNum rest 0 = .ok (typ, st))
    (h2 : parseTlNum rest st = .ok (len, sl)) :
    tlNumSize typ + tlNumSize (pySlice rest (st + sl) (st + sl + len)).length +
      (pySlice rest (st + sl) (st + sl + len)).length + (rest.drop (st + sl + len)).length ≤ rest.length := by
  have a1 := parseTlNum_size_ge h1
  have a2 := parseTlNum_size_ge h2
  have a3 := parseTlNum_le h2
  have hbl : (pySlice rest (st + sl) (st + sl + len)).length ≤ len := by simp [pySlice]; omega
  have a4 := tlNumSize_mono hbl
  have hb2 : (pySlice rest (st + sl) (st + sl + len)).length + (rest.drop (st + sl + len)).length + (st + sl)
      ≤ rest.length := by simp [pySlice]; omega
  omega

theorem eszFs_set_le {d : Nat} : ∀ (fs : List Schema) (acc : List Value) (i : Nat) (s : Schema) (x : Value),
    fs[i]? = some s → (∀ a, acc[i]? = some a → esz s x ≤ esz s a + d) →
    eszFs fs (acc.set i x) ≤ eszFs fs acc + d
  | [], _, _, _, _, h, _ => by simp at h
  | _ :: _, [], _, _, _, _, _ => by simp
  | s0 :: ss, v :: vs, 0, s, x, h, hx => by
    simp at h; subst h
    have := hx v (by simp)
    simp only [List.set_cons_zero, eszFs]; omega
  | s0 :: ss, v :: vs, i + 1, s, x, h, hx => by
    simp at h
    have := eszFs_set_le ss vs i s x h (by simpa using hx)
    simp only [List.set_cons_succ, eszFs]; omega

theorem eszList_append_one (e : Schema) : ∀ (l : List Value) (v : Value),
    eszList e (l ++ [v]) = eszList e l + esz e v
  | [], v => by simp [eszList]
  | a :: r, v => by simp only [List.cons_append, eszList, eszList_append_one e r v]; omega

theorem eszMap_mapSet_le (ks vs : Schema) (k v : Value) : ∀ (l : List (Value × Value)),
    eszMap ks vs (mapSet l k v) ≤ eszMap ks vs l + esz ks k + esz vs v
  | [] => by simp [mapSet, eszMap]
  | (k', v') :: r => by
    simp only [mapSet]; split
    · simp only [eszMap]; omega
    · have := eszMap_mapSet_le ks vs k v r
      simp only [eszMap]; omega

theorem esz_upd {s : Schema} {a v : Value} (hm : isMapS s = false) :
    esz s (upd s (some a) v) ≤ esz s a + esz (elemOf s) v := by
  cases s with
  | repeated e =>
    have : eszList e (listOf (some a)) ≤ esz (.repeated e) a := by
      cases a <;> simp [listOf, esz, eszList]
    simp only [upd, isRep, if_true, esz, eszList_append_one, elemOf]; omega
  | map k w => simp [isMapS] at hm
  | _ => exact Nat.le_add_left _ _

theorem esz_updMap {ks vs : Schema} {a k w : Value} :
    esz (.map ks vs) (.map (mapSet (mapOf (some a)) k w)) ≤ esz (.map ks vs) a + (esz ks k + esz vs w) := by
  have : eszMap ks vs (mapOf (some a)) ≤ esz (.map ks vs) a := by
    cases a <;> simp [mapOf, esz, eszMap]
  have := eszMap_mapSet_le ks vs k w (mapOf (some a))
  simp only [esz]; omega

theorem eszFs_init : ∀ (fs : List Schema), eszFs fs (fs.map initVal) = 0
  | [] => rfl
  | s :: r => by
    simp only [List.map_cons, eszFs, eszFs_init r]
    cases s <;> simp [initVal, esz, eszList, eszMap]

theorem typ_elemOf (s : Schema) : (elemOf s).typ = s.typ := by cases s <;> rfl

theorem reS_elemOf {s : Schema} (h : reS s = true) : reS (elemOf s) = true := by
  cases s with
  | repeated e => exact h
  | map k v => simp only [reS, Bool.and_eq_true] at h; exact h.1
  | _ => exact h

/-- the element a value was read from: header at the start of `elem`, `body` its (truncated) Value -/
def HeadOf (elem body : Bytes) (typ len : Nat) : Prop :=
  ∃ st sl, parseTlNum elem 0 = .ok (typ, st) ∧ parseTlNum elem st = .ok (len, sl) ∧
    body = pySlice elem (st + sl) (st + sl + len)

theorem size_step : ∀ (fuel : Nat),
    (∀ (fs : List Schema) (ic : Bool) (rest : Bytes) (off pos : Nat) (acc vs : List Value),
      wfFs fs = true → reFs fs = true →
      parseFields fuel fs ic rest off pos acc = .ok vs → eszFs fs vs ≤ eszFs fs acc + rest.length) ∧
    (∀ (s : Schema) (typ len : Nat) (body elem : Bytes) (v : Value),
      isElemKind s = true → wfS s = true → reS s = true → s.typ = some typ → leafCheck s len body = .ok () →
      HeadOf elem body typ len → parseValue fuel s body elem = .ok v →
      esz s v ≤ tlNumSize typ + tlNumSize body.length + body.length)
  | 0 => ⟨fun _ _ _ _ _ _ _ _ _ h => by simp [parseFields] at h,
          fun _ _ _ _ _ _ _ _ _ _ _ _ h => by simp [parseValue] at h⟩
  | f + 1 => by
    obtain ⟨ihF, ihV⟩ := size_step f
    refine ⟨?_, ?_⟩
    · intro fs ic rest off pos acc vs hw hr h
      obtain ⟨_, rfl⟩ | ⟨typ, st, len, sl, h1, h2, hstep⟩ := parseFields_ok h
      · omega
      have hbud := elem_budget h1 h2
      obtain ⟨_, h⟩ | ⟨i, s, v, _, hs, htyp, hl, hv, hstep⟩ := hstep
      · have := ihF _ _ _ _ _ _ _ hw hr h
        omega
      have hws := wfFs_get fs i s hw hs
      have hrs := reFs_get fs i s hr hs
      rw [skipMarkers_id fs acc pos i off hw] at hstep
      have hsz := ihV _ typ _ _ _ v (wfS_elemOf hws).1 (wfS_elemOf hws).2 (reS_elemOf hrs)
        (by rw [typ_elemOf]; exact htyp) hl ⟨st, sl, h1, h2, rfl⟩ hv
      obtain ⟨hm, h⟩ | ⟨ks, vs', len2, body2, elem2, rest3, off3, w, rfl, hfm, hl2, hw2, h⟩ := hstep
      · have hih := ihF _ _ _ _ _ _ _ hw hr h
        have hset := eszFs_set_le fs acc i s (upd s acc[i]? v) hs
          (fun a ha => by rw [ha]; exact esz_upd hm)
        omega
      · obtain ⟨typ2, st2, sl2, g1, g2, g3, gb, gr, ge⟩ := findMapValue_accepted _ _ _ _ _ _ _ _ _ _ hfm
        have hbud2 := elem_budget g1 g2
        rw [← gb, ← gr] at hbud2
        simp only [reS, Bool.and_eq_true] at hrs
        have hszv := ihV vs' typ2 _ _ _ w (wfS_mapVal hws).1 (wfS_mapVal hws).2 hrs.2 g3.symm hl2
          ⟨st2, sl2, g1, g2, gb⟩ hw2
        have hih := ihF _ _ _ _ _ _ _ hw hr h
        have hset := eszFs_set_le fs acc i _ (.map (mapSet (mapOf acc[i]?) v w)) hs
          (fun a ha => by rw [ha]; exact esz_updMap)
        simp only [elemOf] at hsz
        omega
    · intro s typ len body elem v hk hws hrs htyp hl hhead h
      obtain ⟨t, fl, rfl, rfl⟩ | ⟨t, rfl, rfl⟩ | ⟨t, isStr, rfl, rfl, _⟩ | ⟨t, cs, rfl, hcs, rfl⟩ |
        ⟨t, fs', ic', vs, rfl, hvs, rfl⟩ := parseValue_ok hk h
      all_goals simp only [Schema.typ, Option.some.injEq] at htyp; subst htyp
      · simp only [reS, Bool.and_eq_true, decide_eq_true_eq, Option.isNone_iff_eq_none] at hrs
        obtain ⟨_, rfl⟩ := hrs
        have hb := beVal_lt body
        obtain ⟨rfl, hleg⟩ := leafCheck_uint hl
        simp only [esz]
        have : uintWidth none (beVal body) ≤ body.length := uintWidth_none_le hleg hb
        have := tlNumSize_eq_one (v := body.length) (by omega)
        omega
      · have := tlNumSize_pos body.length
        simp only [esz]; omega
      · simp only [esz]; omega
      · have h7 : t = 7 := by simpa [wfS] using hws
        subst h7
        obtain ⟨typ', st', len', sl', e1, e2, hlen', hle, _⟩ := decodeName_accepted hcs
        obtain ⟨st, sl, g1, g2, gb⟩ := hhead
        cases g1.symm.trans e1
        cases g2.symm.trans e2
        have hbl : (concatB cs).length = body.length := by rw [hlen', gb]; simp [pySlice]; omega
        have h7 : tlNumSize 7 = 1 := by decide
        simp only [esz, hbl, h7]; omega
      · simp only [wfS, Bool.and_eq_true] at hws
        simp only [reS, Bool.and_eq_true] at hrs
        have := ihF fs' ic' body 0 0 _ vs hws.1 hrs.2 hvs
        rw [eszFs_init] at this
        have hm := tlNumSize_mono (a := eszFs fs' vs) (b := body.length) (by omega)
        simp only [esz]; omega

theorem parse_size (fs : List Schema) (ic : Bool) (w : Bytes) (vs : List Value) (hw : wfFs fs = true)
    (hr : reFs fs = true) (h : parse fs ic w = .ok vs) : eszFs fs vs ≤ w.length := by
  have := (size_step _).1 fs ic w 0 0 _ vs hw hr h
  rw [eszFs_init] at this; omega

/-- **re-encoding succeeds**: for a schema without `fixed_len` integers (Type numbers below 2^64) and a wire
    shorter than 2^64 bytes, `encode` of what `parse` accepted succeeds and is no longer than the wire -/
theorem reencode_ok (fs : List Schema) (ic : Bool) (w : Bytes) (vs : List Value) (hw : wfFs fs = true)
    (hr : reFs fs = true) (hlen : w.length < 2 ^ 64) (h : parse fs ic w = .ok vs) :
    ∃ b, encFields fs vs = .ok b ∧ b.length ≤ w.length := by
  obtain ⟨hfit, hb⟩ := parse_accept fs ic w vs hw h
  have hsz := parse_size fs ic w vs hw hr h
  obtain ⟨b, h1, h2⟩ := encFields_total w.length fs vs hr hfit hb (by omega)
  exact ⟨b, h1, by omega⟩

/-- a result that is a value, `ValueError` (an integer too big for the width of its field) or `struct.error` (a Type
    or Length that does not fit 64 bits) -/
def ReErr {α} (x : Except PyErr α) : Prop := ∀ e, x = .error e → e = .valueError ∨ e = .structError

theorem ReErr.ok {α} (a : α) : ReErr (Except.ok a : Except PyErr α) := by intro e h; cases h

theorem ReErr.bind {α β} {x : Except PyErr α} {f : α → Except PyErr β}
    (hx : ReErr x) (hf : ∀ a, x = .ok a → ReErr (f a)) : ReErr (x >>= f) := by
  cases x with
  | error e => intro e' h; cases h; exact hx e rfl
  | ok a => exact hf a rfl

theorem tlvE_reErr (t : Nat) (b : Bytes) : ReErr (tlvE t b) := by
  unfold tlvE; split
  · exact ReErr.ok _
  · intro e h; cases h; exact .inr rfl

theorem reErr_all :
    (∀ s v, fits s v = true → ReErr (enc s v)) ∧ (∀ fs vs, fitsFs fs vs = true → ReErr (encFields fs vs)) ∧
    (∀ e vs, fitsList e vs = true → ReErr (encList e vs)) ∧ (∀ k v es, fitsMap k v es = true → ReErr (encMap k v es)) := by
  apply fits_induct
  case none => intro s _; rw [enc_none]; exact ReErr.ok _
  case uint =>
    intro t fl v; simp only [enc]; split
    · intro e h; cases h; exact .inl rfl
    · exact tlvE_reErr _ _
  case bool => intro t; exact tlvE_reErr _ _
  case bytes => intro t s b _; exact tlvE_reErr _ _
  case name => intro t cs _; exact tlvE_reErr _ _
  case model => intro t fs ic vs ih; simp only [enc]; exact ReErr.bind ih (fun _ _ => tlvE_reErr _ _)
  case list => intro e vs ih; exact ih
  case map => intro k v es _ ih; exact ih
  case fnil => exact ReErr.ok _
  case fcons =>
    intro s ss v vs h1 h2; simp only [encFields]
    exact ReErr.bind h1 (fun _ _ => ReErr.bind h2 (fun _ _ => ReErr.ok _))
  case lnil => intro e; exact ReErr.ok _
  case lcons =>
    intro e v vs _ h1 h2; simp only [encList]
    exact ReErr.bind h1 (fun _ _ => ReErr.bind h2 (fun _ _ => ReErr.ok _))
  case mnil => intro k v; exact ReErr.ok _
  case mcons =>
    intro k v x y r _ _ h1 h2 h3; simp only [encMap]
    exact ReErr.bind h1 (fun _ _ => ReErr.bind h2 (fun _ _ => ReErr.bind h3 (fun _ _ => ReErr.ok _)))

theorem enc_reErr : ∀ (s : Schema) (v : Value), fits s v = true → ReErr (enc s v) := reErr_all.1
theorem encFields_reErr : ∀ (fs : List Schema) (vs : List Value), fitsFs fs vs = true → ReErr (encFields fs vs) :=
  reErr_all.2.1
theorem encList_reErr : ∀ (e : Schema) (vs : List Value), fitsList e vs = true → ReErr (encList e vs) :=
  reErr_all.2.2.1
theorem encMap_reErr : ∀ (k v : Schema) (es : List (Value × Value)), fitsMap k v es = true → ReErr (encMap k v es) :=
  reErr_all.2.2.2

end Ndn.Codec
