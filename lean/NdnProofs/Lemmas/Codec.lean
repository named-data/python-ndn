import NdnModel.CodecWF
import NdnProofs.Lemmas.TlNum
/-! The encoder of the generic codec: what `enc` writes for a leaf and a sub-model (`enc_none … enc_model`); the two
    inductions that theorems about encoded values go by, `enc_ok_induct` over successful encodings and `fits_induct`
    over legal assignments; the first pass (`encLen`) announces the length of what the second (`enc`) writes. -/
namespace Ndn.Codec
open Ndn

theorem concatB_cons (c : Bytes) (r : List Bytes) : concatB (c :: r) = c ++ concatB r := rfl

theorem concatB_eq_flatten (cs : List Bytes) : concatB cs = cs.flatten := by
  induction cs with
  | nil => rfl
  | cons c cs ih => rw [concatB, ih, List.flatten_cons]

theorem concatB_app (x y : List Bytes) : concatB (x ++ y) = concatB x ++ concatB y := by
  simp only [concatB_eq_flatten, List.flatten_append]

theorem length_le_concatB {x : Bytes} {l : List Bytes} (h : x ∈ l) : x.length ≤ (concatB l).length := by
  induction l with
  | nil => cases h
  | cons y t ih =>
    rw [concatB, List.length_append]
    rcases List.mem_cons.mp h with rfl | h
    · omega
    · have := ih h; omega

theorem tlvE_ok {t : Nat} {b r : Bytes} (h : tlvE t b = .ok r) :
    r = tlv t b ∧ t < 2 ^ 64 ∧ b.length < 2 ^ 64 := by
  unfold tlvE at h; split at h
  · rename_i hc; cases h; exact ⟨rfl, hc.1, hc.2⟩
  · cases h

theorem tlvE_eq (t : Nat) (b : Bytes) (ht : t < 2 ^ 64) (hb : b.length < 2 ^ 64) : tlvE t b = .ok (tlv t b) := by
  unfold tlvE; rw [if_pos ⟨ht, hb⟩]

theorem beN_length (w v : Nat) (h : w = 1 ∨ w = 2 ∨ w = 4 ∨ w = 8) : (beN w v).length = w := by
  rcases h with h | h | h | h <;> subst h <;> simp [beN]

theorem beVal_beN (w v : Nat) (hw : w = 1 ∨ w = 2 ∨ w = 4 ∨ w = 8) (hv : v < 256 ^ w) :
    beVal (beN w v) = v := by
  rcases hw with h | h | h | h <;> subst h
  · simpa [beN] using beVal_be1 v (by simpa using hv)
  · simpa [beN] using beVal_be2 v (by simpa using hv)
  · simpa [beN] using beVal_be4 v (by simpa using hv)
  · simpa [beN] using beVal_be8 v (by simpa using hv)

theorem uintWidth_legal {t : Nat} (fl : Option Nat) (v : Nat) (h : wfS (.uint t fl) = true) :
    uintWidth fl v = 1 ∨ uintWidth fl v = 2 ∨ uintWidth fl v = 4 ∨ uintWidth fl v = 8 := by
  unfold uintWidth
  cases fl with
  | none => simp only []; repeat' split
            all_goals simp
  | some w =>
    simp [wfS] at h
    simp only []; omega

theorem uintWidth_none_fits (v : Nat) (hv : v < 2 ^ 64) : v < 256 ^ uintWidth none v := by
  unfold uintWidth
  simp only []
  repeat' split
  all_goals (simp only [Nat.reducePow]; omega)

theorem uintWidth_none_le {v w : Nat} (hw : w = 1 ∨ w = 2 ∨ w = 4 ∨ w = 8) (hv : v < 256 ^ w) :
    uintWidth none v ≤ w := by
  unfold uintWidth
  simp only []
  rcases hw with h | h | h | h <;> subst h <;> simp only [Nat.reducePow] at hv <;> (repeat' split) <;> omega

theorem beN_uintWidth (r : Nat) : beN (uintWidth none r) r = packUint r := by
  simp only [uintWidth, packUint, beN]
  by_cases h1 : r ≤ 0xFF
  · simp [h1]
  · by_cases h2 : r ≤ 0xFFFF
    · simp [h1, h2]
    · by_cases h3 : r ≤ 0xFFFFFFFF <;> simp [h1, h2, h3]

theorem enc_none (s : Schema) : enc s .none = .ok [] := enc.eq_1 s

theorem enc_uint_ok {t v : Nat} {fl : Option Nat} {bs : Bytes} (h : enc (.uint t fl) (.uint v) = .ok bs) :
    v < 256 ^ uintWidth fl v ∧ t < 2 ^ 64 ∧ bs = tlv t (beN (uintWidth fl v) v) := by
  simp only [enc] at h
  split at h
  · cases h
  · rename_i hv
    have := tlvE_ok h
    exact ⟨by omega, this.2.1, this.1⟩

theorem enc_uint_none {t v : Nat} (ht : t < 2 ^ 64) (hv : v < 2 ^ 64) :
    enc (.uint t none) (.uint v) = .ok (tlv t (packUint v)) := by
  simp only [enc]
  rw [if_neg (Nat.not_le.2 (uintWidth_none_fits v hv)), beN_uintWidth]
  exact tlvE_eq t _ ht (Nat.lt_of_le_of_lt (packUint_length_le v) (by decide))

theorem enc_bool {t : Nat} (ht : t < 2 ^ 64) : enc (.bool t) .bool = .ok (tlv t []) := tlvE_eq t [] ht (by decide)

theorem enc_bytes {t : Nat} (isStr : Bool) {b : Bytes} (ht : t < 2 ^ 64) (hb : b.length < 2 ^ 64) :
    enc (.bytes t isStr) (.bytes b) = .ok (tlv t b) := tlvE_eq t b ht hb

theorem enc_name (t : Nat) {cs : List Bytes} (hb : (concatB cs).length < 2 ^ 64) :
    enc (.name t) (.name cs) = .ok (tlv 7 (concatB cs)) := tlvE_eq 7 _ (by decide) hb

theorem enc_model {t : Nat} {fs : List Schema} (ic : Bool) {vs : List Value} {body : Bytes}
    (h : encFields fs vs = .ok body) (ht : t < 2 ^ 64) (hb : body.length < 2 ^ 64) :
    enc (.model t fs ic) (.model vs) = .ok (tlv t body) := by
  simp only [enc, h]
  exact tlvE_eq t body ht hb

theorem encFields_cons_ok {s : Schema} {ss : List Schema} {v : Value} {vs : List Value} {b : Bytes} :
    encFields (s :: ss) (v :: vs) = .ok b ↔ ∃ a c, enc s v = .ok a ∧ encFields ss vs = .ok c ∧ b = a ++ c := by
  constructor
  · intro h
    simp only [encFields] at h
    obtain ⟨a, ha, h⟩ := bind_ok h
    obtain ⟨c, hc, h⟩ := bind_ok h
    cases h
    exact ⟨a, c, ha, hc, rfl⟩
  · rintro ⟨a, c, ha, hc, rfl⟩
    simp only [encFields, ha, hc]; rfl

theorem encFields_pair (s₁ s₂ : Schema) (v₁ v₂ : Value) (a b : Bytes) (ha : enc s₁ v₁ = .ok a)
    (hb : enc s₂ v₂ = .ok b) : encFields [s₁, s₂] [v₁, v₂] = .ok (a ++ b) := by
  simp [encFields, ha, hb, bind, Except.bind, pure, Except.pure]

theorem encFields_append_one (fs : List Schema) (vs : List Value) (s : Schema) (v : Value) (p b : Bytes)
    (hlen : vs.length = fs.length) (h : encFields fs vs = .ok p) (hb : enc s v = .ok b) :
    encFields (fs ++ [s]) (vs ++ [v]) = .ok (p ++ b) := by
  induction fs generalizing vs p with
  | nil =>
    cases vs with
    | nil => simp [encFields] at h; subst h; simp [encFields, hb, bind, Except.bind, pure, Except.pure]
    | cons _ _ => simp at hlen
  | cons f fr ih =>
    cases vs with
    | nil => simp at hlen
    | cons x xs =>
      obtain ⟨a, c, ha, hc, rfl⟩ := encFields_cons_ok.1 h
      have := ih xs c (by simpa using hlen) hc
      simp [encFields, ha, this, bind, Except.bind, pure, Except.pure, List.append_assoc]

theorem fitsFs_append_one : ∀ (fs : List Schema) (vs : List Value) (s : Schema) (v : Value),
    fitsFs fs vs = true → fits s v = true → fitsFs (fs ++ [s]) (vs ++ [v]) = true
  | [], [], _, _, _, hv => by simp only [List.nil_append, fitsFs, hv, Bool.and_self]
  | [], _ :: _, _, _, h, _ => by simp [fitsFs] at h
  | _ :: _, [], _, _, h, _ => by simp [fitsFs] at h
  | f :: fr, x :: xs, s, v, h, hv => by
    simp only [fitsFs, Bool.and_eq_true, List.cons_append] at h ⊢
    exact ⟨h.1, fitsFs_append_one fr xs s v h.2 hv⟩

theorem fitsFs_length : ∀ (fs : List Schema) (vs : List Value), fitsFs fs vs = true → vs.length = fs.length
  | [], [], _ => rfl
  | [], _ :: _, h => by simp [fitsFs] at h
  | _ :: _, [], h => by simp [fitsFs] at h
  | s :: ss, v :: vs, h => by
    simp only [fitsFs, Bool.and_eq_true] at h
    simp [fitsFs_length ss vs h.2]

/-- `enc.mutual_induct` read for successful results: the failing branches and the catch-all case (a value of another
    kind than the schema) are gone, and each rule comes with the bounds `tlvE` checked. -/
theorem enc_ok_induct
    {P : Schema → Value → Bytes → Prop} {PF : List Schema → List Value → Bytes → Prop}
    {PL : Schema → List Value → Bytes → Prop} {PM : Schema → Schema → List (Value × Value) → Bytes → Prop}
    (none : ∀ s, P s .none [])
    (marker : ∀ v, P .marker v [])
    (uint : ∀ t fl v, v < 256 ^ uintWidth fl v → t < 2 ^ 64 → (beN (uintWidth fl v) v).length < 2 ^ 64 →
      P (.uint t fl) (.uint v) (tlv t (beN (uintWidth fl v) v)))
    (bool : ∀ t, t < 2 ^ 64 → P (.bool t) .bool (tlv t []))
    (bytes : ∀ t isStr b, t < 2 ^ 64 → b.length < 2 ^ 64 → P (.bytes t isStr) (.bytes b) (tlv t b))
    (name : ∀ t cs, (concatB cs).length < 2 ^ 64 → P (.name t) (.name cs) (tlv 7 (concatB cs)))
    (model : ∀ t fs ic vs body, encFields fs vs = .ok body → PF fs vs body → t < 2 ^ 64 → body.length < 2 ^ 64 →
      P (.model t fs ic) (.model vs) (tlv t body))
    (list : ∀ e vs b, PL e vs b → P (.repeated e) (.list vs) b)
    (map : ∀ k v es b, PM k v es b → P (.map k v) (.map es) b)
    (fnil : ∀ vs, PF [] vs []) (fshort : ∀ s ss, PF (s :: ss) [] [])
    (fcons : ∀ s ss v vs a c, enc s v = .ok a → P s v a → PF ss vs c → PF (s :: ss) (v :: vs) (a ++ c))
    (lnil : ∀ e, PL e [] [])
    (lcons : ∀ e v vs a c, enc e v = .ok a → P e v a → PL e vs c → PL e (v :: vs) (a ++ c))
    (mnil : ∀ k v, PM k v [] [])
    (mcons : ∀ k v x y r a c d, enc k x = .ok a → enc v y = .ok c → P k x a → P v y c → PM k v r d →
      PM k v ((x, y) :: r) (a ++ c ++ d)) :
    (∀ s v b, enc s v = .ok b → P s v b) ∧ (∀ fs vs b, encFields fs vs = .ok b → PF fs vs b) ∧
    (∀ e vs b, encList e vs = .ok b → PL e vs b) ∧ (∀ k v es b, encMap k v es = .ok b → PM k v es b) := by
  refine (fun h => ⟨h.1, h.2.2.2, h.2.2.1, h.2.1⟩) (enc.mutual_induct (fun s v => ∀ b, enc s v = .ok b → P s v b)
    (fun k v es => ∀ b, encMap k v es = .ok b → PM k v es b) (fun e vs => ∀ b, encList e vs = .ok b → PL e vs b)
    (fun fs vs => ∀ b, encFields fs vs = .ok b → PF fs vs b) ?_ ?_ ?_ ?_ ?_ ?_ ?_ ?_ ?_ ?_ ?_ ?_ ?_ ?_ ?_ ?_ ?_ ?_)
  · intro s b h; rw [enc_none] at h; cases h; exact none s
  · intro t fl v w hv b h; simp only [enc] at h; rw [if_pos hv] at h; cases h
  · intro t fl v w hv b h
    simp only [enc] at h; rw [if_neg hv] at h
    obtain ⟨rfl, ht, hb⟩ := tlvE_ok h
    exact uint t fl v (Nat.lt_of_not_ge hv) ht hb
  · intro t b h; obtain ⟨rfl, ht, _⟩ := tlvE_ok h; exact bool t ht
  · intro t s x b h; obtain ⟨rfl, ht, hb⟩ := tlvE_ok h; exact bytes t s x ht hb
  · intro t cs b h; obtain ⟨rfl, _, hb⟩ := tlvE_ok h; exact name t cs hb
  · intro t fs ic vs ih b h
    simp only [enc] at h
    obtain ⟨body, hb, h2⟩ := bind_ok h
    obtain ⟨rfl, ht, hl⟩ := tlvE_ok h2
    exact model t fs ic vs body hb (ih body hb) ht hl
  · intro e vs ih b h; exact list e vs b (ih b (by simpa only [enc] using h))
  · intro k v es ih b h; exact map k v es b (ih b (by simpa only [enc] using h))
  · intro v hv b h; rw [enc.eq_9 v hv] at h; cases h; exact marker v
  -- the catch-all clause: Lean's equation for it has the side conditions this case comes with
  · intro v s h1 h2 h3 h4 h5 h6 h7 h8 h9 b h
    rw [enc.eq_10 s v h1 h2 h3 h4 h5 h6 h7 h8 h9] at h; cases h
  · intro e b h; simp only [encList] at h; cases h; exact lnil e
  · intro e v vs ih1 ih2 b h
    simp only [encList] at h
    obtain ⟨a, ha, h⟩ := bind_ok h
    obtain ⟨c, hc, h⟩ := bind_ok h
    cases h
    exact lcons e v vs a c ha (ih1 a ha) (ih2 c hc)
  · intro vs b h; simp only [encFields] at h; cases h; exact fnil vs
  · intro s ss b h; simp only [encFields] at h; cases h; exact fshort s ss
  · intro s ss v vs ih1 ih2 b h
    obtain ⟨a, c, ha, hc, rfl⟩ := encFields_cons_ok.1 h
    exact fcons s ss v vs a c ha (ih1 a ha) (ih2 c hc)
  · intro k v b h; simp only [encMap] at h; cases h; exact mnil k v
  · intro k v x y r ih1 ih2 ih3 b h
    simp only [encMap] at h
    obtain ⟨a, ha, h⟩ := bind_ok h
    obtain ⟨c, hc, h⟩ := bind_ok h
    obtain ⟨d, hd, h⟩ := bind_ok h
    cases h
    exact mcons k v x y r a c d ha hc (ih1 a ha) (ih2 c hc) (ih3 d hd)

/-- `fits.mutual_induct` read for `fits … = true`, the catch-all cases gone. -/
theorem fits_induct
    {P : Schema → Value → Prop} {PF : List Schema → List Value → Prop}
    {PL : Schema → List Value → Prop} {PM : Schema → Schema → List (Value × Value) → Prop}
    (none : ∀ s, fits s .none = true → P s .none)
    (uint : ∀ t fl v, P (.uint t fl) (.uint v))
    (bool : ∀ t, P (.bool t) .bool)
    (bytes : ∀ t isStr b, (!isStr || utf8Valid b) = true → P (.bytes t isStr) (.bytes b))
    (name : ∀ t cs, cs.all compOk = true → P (.name t) (.name cs))
    (model : ∀ t fs ic vs, PF fs vs → P (.model t fs ic) (.model vs))
    (list : ∀ e vs, PL e vs → P (.repeated e) (.list vs))
    (map : ∀ k v es, keysDistinct es = true → PM k v es → P (.map k v) (.map es))
    (fnil : PF [] [])
    (fcons : ∀ s ss v vs, P s v → PF ss vs → PF (s :: ss) (v :: vs))
    (lnil : ∀ e, PL e [])
    (lcons : ∀ e v vs, v ≠ .none → P e v → PL e vs → PL e (v :: vs))
    (mnil : ∀ k v, PM k v [])
    (mcons : ∀ k v x y r, x ≠ .none → y ≠ .none → P k x → P v y → PM k v r → PM k v ((x, y) :: r)) :
    (∀ s v, fits s v = true → P s v) ∧ (∀ fs vs, fitsFs fs vs = true → PF fs vs) ∧
    (∀ e vs, fitsList e vs = true → PL e vs) ∧ (∀ k v es, fitsMap k v es = true → PM k v es) := by
  refine (fun h => ⟨h.1, h.2.1, h.2.2.2, h.2.2.1⟩) (fits.mutual_induct (fun s v => fits s v = true → P s v) (fun fs vs => fitsFs fs vs = true → PF fs vs)
    (fun k v es => fitsMap k v es = true → PM k v es) (fun e vs => fitsList e vs = true → PL e vs)
    ?_ ?_ ?_ ?_ ?_ ?_ ?_ ?_ ?_ ?_ ?_ ?_ ?_ ?_ ?_ ?_ ?_ ?_)
  · intro e vs ih h; exact list e vs (ih (by simpa only [fits] using h))
  · intro v e hv h; rw [fits.eq_2 v e hv] at h; cases h
  · intro k v es ih h
    simp only [fits, Bool.and_eq_true] at h
    exact map k v es h.2 (ih h.1)
  · intro v k w hv h; rw [fits.eq_4 v k w hv] at h; cases h
  · intro s _ _ h; exact none s h
  · intro t fl v _; exact uint t fl v
  · intro t _; exact bool t
  · intro t s b h; exact bytes t s b (by simpa only [fits] using h)
  · intro t cs h; exact name t cs (by simpa only [fits] using h)
  · intro t fs ic vs ih h; exact model t fs ic vs (ih (by simpa only [fits] using h))
  -- the catch-all clause, as in `enc_ok_induct`; its equation takes `v ≠ .none` third, the induction rule fifth
  · intro v s h1 h2 h3 h4 h5 h6 h7 h8 h9 h10 h
    rw [fits.eq_11 s v h1 h2 h5 h3 h4 h6 h7 h8 h9 h10] at h; cases h
  · intro _; exact fnil
  · intro s ss v vs ih1 ih2 h
    simp only [fitsFs, Bool.and_eq_true] at h
    exact fcons s ss v vs (ih1 h.1) (ih2 h.2)
  · intro vs fs h1 h2 h; rw [fitsFs.eq_3 fs vs h1 h2] at h; cases h
  · intro e _; exact lnil e
  · intro e v vs ih1 ih2 h
    simp only [fitsList, Bool.and_eq_true] at h
    exact lcons e v vs (by intro hv; subst hv; simp at h) (ih1 h.1.2) (ih2 h.2)
  · intro k v _; exact mnil k v
  · intro k v x y r ih1 ih2 ih3 h
    simp only [fitsMap, Bool.and_eq_true] at h
    exact mcons k v x y r (by intro hv; subst hv; simp [notNone] at h) (by intro hv; subst hv; simp [notNone] at h)
      (ih1 h.1.1.2) (ih2 h.1.2) (ih3 h.2)

theorem encLen_all :
    (∀ s v b, enc s v = .ok b → wfS s = true → encLen s v = .ok b.length) ∧
    (∀ fs vs b, encFields fs vs = .ok b → wfFs fs = true → encLenFields fs vs = .ok b.length) ∧
    (∀ e vs b, encList e vs = .ok b → wfS e = true → encLenList e vs = .ok b.length) ∧
    (∀ k v es b, encMap k v es = .ok b → wfS k = true → wfS v = true → encLenMap k v es = .ok b.length) := by
  apply enc_ok_induct
  case none => intro s _; exact encLen.eq_1 s
  case marker => intro v hw; cases hw
  case uint =>
    intro t fl v hv _ _ hw
    have hleg := uintWidth_legal fl v hw
    simp only [encLen, Nat.not_le.2 hv, if_false, tlv_length, beN_length _ v hleg,
      tlNumSize_eq_one (v := uintWidth fl v) (by omega)]
  case bool => intro t _ _; simp [encLen, tlv_length, tlNumSize]
  case bytes => intro t s b _ _ _; simp [encLen, tlv_length]
  case name => intro t cs _ _; simp [encLen, tlv_length, tlNumSize]
  case model =>
    intro t fs ic vs body _ ih _ _ hw
    simp only [wfS, Bool.and_eq_true] at hw
    simp [encLen, ih hw.1, tlv_length, bind, Except.bind, pure, Except.pure]
  case list => intro e vs b ih hw; simp only [wfS, Bool.and_eq_true] at hw; simpa [encLen] using ih hw.2
  case map =>
    intro k v es b ih hw
    simp only [wfS, Bool.and_eq_true] at hw
    simpa [encLen] using ih hw.1.1.1.2 hw.1.2
  case fnil => intro vs _; simp [encLenFields]
  case fshort => intro s ss _; simp [encLenFields]
  case fcons =>
    intro s ss v vs a c _ ih1 ih2 hw
    simp only [wfFs, Bool.and_eq_true] at hw
    simp [encLenFields, ih1 hw.1, ih2 hw.2, bind, Except.bind, pure, Except.pure]
  case lnil => intro e _; simp [encLenList]
  case lcons =>
    intro e v vs a c _ ih1 ih2 hw
    simp [encLenList, ih1 hw, ih2 hw, bind, Except.bind, pure, Except.pure]
  case mnil => intro k v _ _; simp [encLenMap]
  case mcons =>
    intro k v x y r a c d _ _ ih1 ih2 ih3 hk hv
    simp [encLenMap, ih1 hk, ih2 hv, ih3 hk hv, bind, Except.bind, pure, Except.pure, Nat.add_assoc]

theorem encLen_enc : ∀ (s : Schema) (v : Value) (b : Bytes), wfS s = true →
    enc s v = .ok b → encLen s v = .ok b.length :=
  fun s v b hw h => encLen_all.1 s v b h hw
theorem encLenFields_enc : ∀ (fs : List Schema) (vs : List Value) (b : Bytes), wfFs fs = true →
    encFields fs vs = .ok b → encLenFields fs vs = .ok b.length :=
  fun fs vs b hw h => encLen_all.2.1 fs vs b h hw
theorem encLenList_enc : ∀ (e : Schema) (vs : List Value) (b : Bytes), wfS e = true →
    encList e vs = .ok b → encLenList e vs = .ok b.length :=
  fun e vs b hw h => encLen_all.2.2.1 e vs b h hw
theorem encLenMap_enc : ∀ (k v : Schema) (es : List (Value × Value)) (b : Bytes), wfS k = true → wfS v = true →
    encMap k v es = .ok b → encLenMap k v es = .ok b.length :=
  fun k v es b hk hv h => encLen_all.2.2.2 k v es b h hk hv

end Ndn.Codec
