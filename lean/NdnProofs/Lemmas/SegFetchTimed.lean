import NdnProofs.Lemmas.SegFetchRounds
import NdnProofs.Lemmas.Pit
/-!
The timed `ask` of `NdnModel/SegFetchTimed.lean`: one Interest expressed in the pending-Interest table and awaited.
`await` moves one waiting Interest in an otherwise quiet table (`Kept`, by `Pit.step_eff` of `Lemmas/Pit`), and what it
comes to is `scan` of the packets in flight (`await_spec`). With a producer that only sends packets of the object
(`PktOk`, `dataFor_spec`) the world between two Interests satisfies `WInv`, and `ask` is an `ask` as `SegFetchRounds`
wants it (`ask_spec`, `ask_ok`).
-/
namespace Ndn.SegFetchT
open Ndn.SegFetch (Req Seg Obj End Outcome)
open Ndn.Pit (Inv IState specReact specFire isExpress clockStep)

/-- what a packet does to a waiting request: the outcome it resolves it with, if it concerns it at all
    (`Pit.Matches` / `Pit.Named`: the specification vocabulary of C03) -/
def react (r : Pit.Req) : Pkt → Option Pit.Outcome
  | .data n d => if Pit.Matches r n d then some (.data d) else none
  | .nack n rsn => if Pit.Named r n none then some (.nack rsn) else none

/-- What an Interest with request `r` and deadline `dl` comes to: the first packet in flight that arrives before the deadline
    and concerns the request decides, earlier ones that do not concern it are dropped, later ones stay in flight. -/
def scan (r : Pit.Req) (dl : Nat) : Flight → Pit.Outcome × Flight
  | [] => (.timeout, [])
  | (ta, p) :: rest =>
    if dl ≤ ta then (.timeout, (ta, p) :: rest)
    else match react r p with
      | some o => (o, rest)
      | none => scan r dl rest

def Others (σ : Pit.State) (i : Nat) : Prop := ∀ (j : Nat) (s : IState), j ≠ i → σ.sts[j]? = some s → ∃ o t, s = IState.done o t

def AllDone (σ : Pit.State) : Prop := ∀ (j : Nat) (s : IState), σ.sts[j]? = some s → ∃ o t, s = IState.done o t

theorem allDone_of {σ : Pit.State} {i : Nat} {o : Pit.Outcome} {t : Nat} (ho : Others σ i)
    (hs : σ.sts[i]? = some (.done o t)) : AllDone σ := by
  intro j s hj
  by_cases hji : j = i
  · subst hji; rw [hs] at hj; exact ⟨o, t, (Option.some.inj hj).symm⟩
  · exact ho j s hji hj

/-- the table went from `σ` to `σ'` by events, without an express and without an error, every Interest but `i` still done -/
structure Kept (σ σ' : Pit.State) (i : Nat) : Prop where
  inv : Inv σ'
  run : ∃ evs : List Pit.Ev, σ' = evs.foldl (Pit.step .v1) σ
  ints : σ'.ints = σ.ints
  errs : σ'.errs = σ.errs
  others : Others σ' i

theorem Kept.trans {σ σ' σ'' : Pit.State} {i : Nat} (h : Kept σ σ' i) (h' : Kept σ' σ'' i) : Kept σ σ'' i := by
  obtain ⟨evs, e⟩ := h.run
  obtain ⟨evs', e'⟩ := h'.run
  exact ⟨h'.inv, ⟨evs ++ evs', by rw [List.foldl_append, ← e, ← e']⟩, h'.ints.trans h.ints, h'.errs.trans h.errs, h'.others⟩

theorem step_keep {σ : Pit.State} (h : Inv σ) (ev : Pit.Ev) (hne : isExpress ev = false) {i : Nat} {I : Pit.Interest} {s : IState}
    (hi : σ.ints[i]? = some I) (hs : σ.sts[i]? = some s) (ho : Others σ i) :
    Kept σ (Pit.step .v1 σ ev) i ∧ (Pit.step .v1 σ ev).sts[i]? = some (specReact .v1 σ.clock i I.toReq s ev) ∧
    (Pit.step .v1 σ ev).clock = clockStep σ.clock ev := by
  obtain ⟨a, e⟩ := Pit.step_eff h .v1 ev hne
  refine ⟨⟨a, ⟨[ev], rfl⟩, e.ints, e.errs, ?_⟩, e.sts i I s hi hs, e.clock⟩
  intro j s' hj hs'
  obtain ⟨J, s0, _, hs0, rfl⟩ := e.sts_inv (Pit.inv_clock h _) hs'
  obtain ⟨o, t, rfl⟩ := ho j s0 hj hs0
  exact ⟨o, t, Pit.specReact_done ..⟩

theorem deliver_spec {σ : Pit.State} (h : Inv σ) {i : Nat} {I : Pit.Interest} (hi : σ.ints[i]? = some I)
    (hs : σ.sts[i]? = some .waiting) (ho : Others σ i) (hv : I.verdict = .pass) (hl : I.lat = 0)
    (ha : I.awaitAt ≤ σ.clock) (p : Pkt) :
    Kept σ (deliver σ p) i ∧ (deliver σ p).clock = σ.clock ∧
    (deliver σ p).sts[i]? = some (match react I.toReq p with | some o => .done o σ.clock | none => .waiting) := by
  cases p with
  | data n d =>
    obtain ⟨k, f, g⟩ := step_keep h (.data n d d) rfl hi hs ho
    refine ⟨k, g, ?_⟩
    show (Pit.step .v1 σ (.data n d d)).sts[i]? = _
    rw [f]
    by_cases hm : Pit.Matches I.toReq n d
    · simp [specReact, react, hm, Pit.taken_pass hv hl ha]
    · simp [specReact, react, hm]
  | nack n rsn =>
    obtain ⟨k, f, g⟩ := step_keep h (.nack n none rsn) rfl hi hs ho
    refine ⟨k, g, ?_⟩
    show (Pit.step .v1 σ (.nack n none rsn)).sts[i]? = _
    rw [f]
    by_cases hm : Pit.Named I.toReq n none
    · simp [specReact, react, hm, Pit.resolve, ha]
    · simp [specReact, react, hm]

theorem tick_spec {σ : Pit.State} (h : Inv σ) {i : Nat} {I : Pit.Interest} (hi : σ.ints[i]? = some I)
    (hs : σ.sts[i]? = some .waiting) (ho : Others σ i) (t : Nat) :
    Kept σ (Pit.step .v1 σ (.tick t)) i ∧ (Pit.step .v1 σ (.tick t)).clock = max σ.clock t ∧
    (Pit.step .v1 σ (.tick t)).sts[i]? =
      some (if I.deadline ≤ max σ.clock t then .done .timeout I.deadline else .waiting) := by
  obtain ⟨k, f, g⟩ := step_keep h (.tick t) rfl hi hs ho
  exact ⟨k, g, by rw [f]; simp [specReact, specFire]⟩

theorem expire_spec {σ : Pit.State} (h : Inv σ) {i : Nat} {I : Pit.Interest} (hi : σ.ints[i]? = some I)
    (hs : σ.sts[i]? = some .waiting) (ho : Others σ i) :
    Kept σ (Pit.step .v1 σ (.tick I.deadline)) i ∧
    ∃ t, (Pit.step .v1 σ (.tick I.deadline)).sts[i]? = some (.done .timeout t) := by
  obtain ⟨k, _, g⟩ := tick_spec h hi hs ho I.deadline
  rw [if_pos (by omega)] at g
  exact ⟨k, _, g⟩

theorem await_spec {i : Nat} {I : Pit.Interest} (hv : I.verdict = .pass) (hl : I.lat = 0) :
    ∀ (fl : Flight) (σ : Pit.State), Inv σ → σ.ints[i]? = some I → σ.sts[i]? = some .waiting → Others σ i →
      I.awaitAt ≤ σ.clock → σ.clock < I.deadline →
      Kept σ (await i I.deadline σ fl).1 i ∧
      (∃ t, (await i I.deadline σ fl).1.sts[i]? = some (.done (scan I.toReq I.deadline fl).1 t)) ∧
      (await i I.deadline σ fl).2 = (scan I.toReq I.deadline fl).2 := by
  intro fl
  induction fl with
  | nil =>
    intro σ h hi hs ho _ _
    obtain ⟨k, e⟩ := expire_spec h hi hs ho
    exact ⟨k, e, rfl⟩
  | cons x rest ih =>
    intro σ h hi hs ho ha hc
    obtain ⟨ta, p⟩ := x
    by_cases hd : I.deadline ≤ ta
    · obtain ⟨k, e⟩ := expire_spec h hi hs ho
      simp only [await, scan, hd, if_true]
      exact ⟨k, e, trivial⟩
    · obtain ⟨k, f, g⟩ := tick_spec h hi hs ho ta
      rw [if_neg (by omega)] at g
      obtain ⟨k', f', g'⟩ := deliver_spec k.inv (k.ints ▸ hi) g k.others hv hl (by rw [f]; omega) p
      simp only [await, scan, hd, if_false]
      cases hr : react I.toReq p with
      | some o =>
        rw [hr] at g'
        have hdone : isDone (deliver (Pit.step .v1 σ (.tick ta)) p) i = true := by simp only [isDone, g']
        simp only [hdone, if_true]
        exact ⟨k.trans k', ⟨_, g'⟩, trivial⟩
      | none =>
        rw [hr] at g'
        have hdone : isDone (deliver (Pit.step .v1 σ (.tick ta)) p) i = false := by simp only [isDone, g']
        simp only [hdone, Bool.false_eq_true, if_false]
        obtain ⟨r1, r5, r6⟩ := ih (deliver (Pit.step .v1 σ (.tick ta)) p) k'.inv ((k.trans k').ints ▸ hi) g' k'.others
          (by rw [f', f]; omega) (by rw [f', f]; omega)
        exact ⟨(k.trans k').trans r1, r5, r6⟩

theorem react_some {r : Pit.Req} {p : Pkt} {o : Pit.Outcome} (h : react r p = some o) :
    Plain o ∧ ∀ d, o = .data d → ∃ n, p = .data n d ∧ Pit.Matches r n d := by
  cases p with
  | data n d' =>
    simp only [react] at h
    split at h <;> cases h
    exact ⟨trivial, fun d hd => by cases hd; exact ⟨n, rfl, ‹_›⟩⟩
  | nack n rsn =>
    simp only [react] at h
    split at h <;> cases h
    exact ⟨trivial, nofun⟩

theorem scan_facts (r : Pit.Req) (dl : Nat) (fl : Flight) :
    Plain (scan r dl fl).1 ∧
    (∀ d, (scan r dl fl).1 = .data d → ∃ x ∈ fl, ∃ n, x.2 = Pkt.data n d ∧ Pit.Matches r n d) ∧
    (∀ x ∈ (scan r dl fl).2, x ∈ fl) := by
  fun_induction scan r dl fl with
  | case1 => exact ⟨trivial, nofun, fun _ h => h⟩
  | case2 => exact ⟨trivial, nofun, fun _ h => h⟩
  | case3 ta p rest _ o hr =>
    obtain ⟨r1, r2⟩ := react_some hr
    refine ⟨r1, fun d hd' => ?_, fun x hx => List.mem_cons_of_mem _ hx⟩
    obtain ⟨n, e, hm⟩ := r2 d hd'
    exact ⟨(ta, p), List.mem_cons_self, n, e, hm⟩
  | case4 ta p rest _ _ ih =>
    obtain ⟨i1, i2, i3⟩ := ih
    refine ⟨i1, fun d hd' => ?_, fun x hx => List.mem_cons_of_mem _ (i3 x hx)⟩
    obtain ⟨x, hx, h⟩ := i2 d hd'
    exact ⟨x, List.mem_cons_of_mem _ hx, h⟩

theorem mem_insertPkt (t : Nat) (p : Pkt) : ∀ (fl : Flight) (x : Nat × Pkt), x ∈ insertPkt t p fl ↔ x = (t, p) ∨ x ∈ fl := by
  intro fl
  induction fl with
  | nil => intro x; simp [insertPkt]
  | cons y rest ih =>
    intro x
    obtain ⟨t', p'⟩ := y
    simp only [insertPkt]
    by_cases h : t < t'
    · simp [h]
    · simp only [h, if_false, List.mem_cons, ih]
      constructor
      · rintro (h1 | h1 | h1) <;> simp [h1]
      · rintro (h1 | h1 | h1) <;> simp [h1]

theorem idSeg_segId (k : Nat) (b : Bool) : idSeg (segId k b) = some k := by
  unfold idSeg segId
  cases b <;> simp <;> omega

theorem idSeg_unsegId (b : Bool) : idSeg (unsegId b) = none := by
  unfold idSeg unsegId
  cases b <;> simp

theorem idValid_segId (k : Nat) (b : Bool) : idValid (segId k b) = b := by
  unfold idValid segId
  cases b <;> simp <;> omega

theorem idValid_unsegId (b : Bool) : idValid (unsegId b) = b := by
  unfold idValid unsegId
  cases b <;> simp

/-- the request of the fetcher's Interest for `q` expressed at `now` -/
def reqOf (C : Cfg) (now : Nat) (q : Req) : Pit.Req := Pit.mkReq .v1 now (reqName q) none (reqCbp q) C.life .pass 0 0

/-- does the Data asked for exist? -/
def exB (C : Cfg) (q : Req) : Bool :=
  match C.obj, q with
  | .unseg _, .disc => true
  | .unseg _, .seg _ => false
  | .segs l, .disc => decide (C.disc < l.length)
  | .segs l, .seg i => decide (i < l.length)

/-- a packet of the object: a Data bears the name of the segment it carries -/
def PktOk (obj : Obj) : Pkt → Prop
  | .data nm d =>
    match obj with
    | .unseg _ => nm = unsegName ∧ idSeg d = none
    | .segs l => ∃ k, k < l.length ∧ nm = segName k ∧ idSeg d = some k
  | .nack _ _ => True

theorem dataFor_spec (C : Cfg) (q : Req) (b : Bool) :
    (exB C q = false ∧ dataFor C q b = none) ∨
    (exB C q = true ∧ ∃ n d, dataFor C q b = some (.data n d) ∧ idValid d = b ∧ PktOk C.obj (.data n d) ∧
      (∀ now, Pit.Matches (reqOf C now q) n d) ∧ (∀ l, C.obj = .segs l → q = .disc → idSeg d = some C.disc)) := by
  have hpre : ∀ now n d, prefixName <+: n → prefixName ≠ n → Pit.Matches (reqOf C now .disc) n d :=
    fun now n d h1 h2 => ⟨.inr ⟨rfl, h1, h2⟩, .inl rfl⟩
  unfold dataFor exB
  cases C.obj with
  | unseg c =>
    cases q with
    | disc =>
      exact .inr ⟨rfl, _, _, rfl, idValid_unsegId b, ⟨rfl, idSeg_unsegId b⟩,
        fun now => hpre now _ _ (by simp [prefixName, unsegName]) (by simp [prefixName, unsegName]), nofun⟩
    | seg i => exact .inl ⟨rfl, rfl⟩
  | segs l =>
    cases q with
    | disc =>
      by_cases hlt : C.disc < l.length
      · dsimp only
        rw [if_pos hlt, decide_eq_true hlt]
        exact .inr ⟨rfl, _, _, rfl, idValid_segId _ b, ⟨_, hlt, rfl, idSeg_segId _ _⟩,
          fun now => hpre now _ _ (by simp [prefixName, segName]) (by simp [prefixName, segName]),
          fun _ _ _ => idSeg_segId _ _⟩
      · dsimp only
        rw [if_neg hlt, decide_eq_false hlt]
        exact .inl ⟨rfl, rfl⟩
    | seg i =>
      by_cases hlt : i < l.length
      · dsimp only
        rw [if_pos hlt, decide_eq_true hlt]
        exact .inr ⟨rfl, _, _, rfl, idValid_segId _ b, ⟨_, hlt, rfl, idSeg_segId _ _⟩,
          fun now => ⟨.inl rfl, .inl rfl⟩, nofun⟩
      · dsimp only
        rw [if_neg hlt, decide_eq_false hlt]
        exact .inl ⟨rfl, rfl⟩

theorem respond_ok (C : Cfg) (q : Req) (o : Outcome) (p : Pkt) (h : respond C q o = some p) : PktOk C.obj p := by
  have hd : ∀ b, dataFor C q b = some p → PktOk C.obj p := fun b hb => by
    rcases dataFor_spec C q b with ⟨_, hn⟩ | ⟨_, n, d, hs, _, hok, _⟩
    · rw [hn] at hb; cases hb
    · rw [hs] at hb; cases hb; exact hok
  cases o with
  | data => exact hd true h
  | invalid => exact hd false h
  | timeout => cases h
  | nack => cases h; trivial

/-- the invariant of the timed world between two Interests: the table is a reachable state of the C03 model, satisfies
    its invariant, nothing is pending, and every Data in flight is a Data of the object -/
structure WInv (C : Cfg) (w : World) : Prop where
  inv : Inv w.σ
  done : AllDone w.σ
  reach : ∃ evs, w.σ = Pit.run .v1 evs
  fl : ∀ x ∈ w.fl, PktOk C.obj x.2

theorem flightWith_ok (C : Cfg) (w : World) (q : Req) (hfl : ∀ x ∈ w.fl, PktOk C.obj x.2) :
    ∀ x ∈ flightWith C w q, PktOk C.obj x.2 := by
  intro x hx
  unfold flightWith at hx
  cases hr : respond C q (pop w.script).1.1 with
  | none => rw [hr] at hx; exact hfl x hx
  | some p =>
    rw [hr] at hx
    rcases (mem_insertPkt _ _ _ _).mp hx with rfl | h
    · exact respond_ok C q _ p hr
    · exact hfl x h

theorem reqOf_deadline (C : Cfg) (now : Nat) (q : Req) : (reqOf C now q).deadline = now + C.life := by
  simp [reqOf, Pit.mkReq, Pit.expiry_v1]

theorem ask_spec (C : Cfg) (w : World) (q : Req) (hw : WInv C w) :
    WInv C (ask C w q).2 ∧ (ask C w q).2.σ.errs = w.σ.errs ∧
    (ask C w q).1 = (if C.life = 0 then .timeout
      else (scan (reqOf C w.σ.clock q) (w.σ.clock + C.life) (flightWith C w q)).1) ∧
    (ask C w q).2.fl = (if C.life = 0 then flightWith C w q
      else (scan (reqOf C w.σ.clock q) (w.σ.clock + C.life) (flightWith C w q)).2) := by
  obtain ⟨hinv, hdone, ⟨evs0, hreach⟩, hfl⟩ := hw
  obtain ⟨a, b, c, e, nid, f⟩ := Pit.step_eff_express hinv .v1 (reqName q) none (reqCbp q) C.life .pass 0 0 false
  have hfl1 := flightWith_ok C w q hfl
  have hreach1 := Pit.run_snoc .v1 evs0 (.express (reqName q) none (reqCbp q) C.life .pass 0 0 false)
  rw [← hreach] at hreach1
  have hdl : (reqOf C w.σ.clock q).deadline = w.σ.clock + C.life := reqOf_deadline C w.σ.clock q
  simp only [ask]
  generalize Pit.step .v1 w.σ (.express (reqName q) none (reqCbp q) C.life .pass 0 0 false) = σ1 at *
  have hI : σ1.ints[w.σ.ints.length]? = some ⟨reqOf C w.σ.clock q, nid⟩ := by rw [f]; simp [reqOf]
  have hoth : Others σ1 w.σ.ints.length := by
    intro j s hj hs
    have hjl : j < w.σ.sts.length := by
      have := lt_of_getElem? hs
      rw [e, List.length_append, List.length_singleton, hinv.len] at this
      rw [hinv.len]; omega
    rw [e, List.getElem?_append_left hjl] at hs
    exact hdone j s hs
  have hst : σ1.sts[w.σ.ints.length]? = some (if C.life = 0 then .done .timeout (w.σ.clock + C.life) else .waiting) := by
    rw [e, ← hinv.len]
    simp only [List.getElem?_append_right (Nat.le_refl _), Nat.sub_self, List.getElem?_cons_zero, Pit.initSt,
      Pit.silent_v1, Bool.false_eq_true, if_false, specFire, show (Pit.mkReq .v1 w.σ.clock (reqName q) none (reqCbp q)
        C.life .pass 0 0).deadline = _ from hdl]
    by_cases h0 : C.life = 0
    · simp [h0]
    · rw [if_neg (by omega), if_neg h0]
  by_cases h0 : C.life = 0
  · rw [if_pos h0] at hst
    have hdn : isDone σ1 w.σ.ints.length = true := by simp only [isDone, hst]
    simp only [settle, hdn, if_true, if_pos h0]
    exact ⟨⟨a, allDone_of hoth hst, ⟨_, hreach1.symm⟩, hfl1⟩, b, by simp only [outcomeOf, hst], trivial⟩
  · rw [if_neg h0] at hst
    have hdn : isDone σ1 w.σ.ints.length = false := by simp only [isDone, hst]
    have hdl' : deadlineOf σ1 w.σ.ints.length = (⟨reqOf C w.σ.clock q, nid⟩ : Pit.Interest).deadline := by
      simp only [deadlineOf, hI]
    obtain ⟨k, ⟨t, r5⟩, r6⟩ := await_spec (I := ⟨reqOf C w.σ.clock q, nid⟩) (i := w.σ.ints.length) rfl rfl
      (flightWith C w q) σ1 a hI hst hoth (by rw [c]; simp [reqOf, Pit.mkReq])
      (by rw [c]; show w.σ.clock < (reqOf C w.σ.clock q).deadline; omega)
    obtain ⟨evs1, hev⟩ := k.run
    simp only [settle, hdn, Bool.false_eq_true, if_false, hdl', if_neg h0]
    rw [show (⟨reqOf C w.σ.clock q, nid⟩ : Pit.Interest).deadline = w.σ.clock + C.life from hdl] at r5 r6 hev ⊢
    refine ⟨⟨k.inv, allDone_of k.others r5, ⟨_, by rw [hev, ← hreach1, ← Pit.run_append]⟩, fun x hx => ?_⟩,
      k.errs.trans b, ?_, r6⟩
    · exact hfl1 x ((scan_facts _ _ _).2.2 x (r6 ▸ hx))
    · simp only [outcomeOf, r5]

theorem data_genuine {C : Cfg} {q : Req} {n : Name} {d : Nat} {now : Nat} (hok : PktOk C.obj (.data n d))
    (hm : Pit.Matches (reqOf C now q) n d) : Genuine C.obj q (.data d) := by
  refine ⟨trivial, fun d' hd' => ?_⟩
  cases hd'
  have hm1 : reqName q = n ∨ (reqCbp q = true ∧ reqName q <+: n ∧ reqName q ≠ n) := hm.1
  cases hobj : C.obj with
  | unseg c =>
    rw [hobj] at hok
    obtain ⟨e2, e3⟩ := hok
    cases q with
    | disc => exact e3
    | seg i => simp [reqName, reqCbp, e2, segName, unsegName] at hm1
  | segs l =>
    rw [hobj] at hok
    obtain ⟨k, e2, e3, e4⟩ := hok
    cases q with
    | disc => exact ⟨k, e4, e2⟩
    | seg i =>
      simp only [reqName, reqCbp, Bool.false_eq_true, false_and, or_false, e3, segName, List.cons.injEq, and_true,
        true_and] at hm1
      exact hm1 ▸ ⟨e4, e2⟩

theorem ask_ok (C : Cfg) : AskOk (ask C) C.obj (WInv C) := by
  intro w q hw
  obtain ⟨h1, _, h4, _⟩ := ask_spec C w q hw
  refine ⟨h1, ?_⟩
  rw [h4]
  by_cases h0 : C.life = 0
  · rw [if_pos h0]; exact ⟨trivial, nofun⟩
  · rw [if_neg h0]
    obtain ⟨s1, s2, _⟩ := scan_facts (reqOf C w.σ.clock q) (w.σ.clock + C.life) (flightWith C w q)
    refine ⟨s1, fun d hd => ?_⟩
    obtain ⟨x, hx, n, e1, hm⟩ := s2 d hd
    exact (data_genuine (e1 ▸ flightWith_ok C w q hw.fl x hx) hm).2 d rfl

theorem winv_init (C : Cfg) (sc : List (Outcome × Nat)) : WInv C { script := sc } :=
  ⟨Pit.inv_init, by intro j s h; simp at h, ⟨[], rfl⟩, by intro x h; simp at h⟩

end Ndn.SegFetchT
