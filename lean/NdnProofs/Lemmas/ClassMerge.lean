import NdnModel.ClassMerge
import NdnProofs.Lemmas.PyDict
/-! The metaclass model (`NdnModel/ClassMerge.lean`) keeps a field list and an `index_dict` of positions; that is a
    fold of `PyDict.set` over the assignments the class body stands for (`MState.Inv`, `put_spec`, `mergeClass_legal`),
    and such a fold lists the names in the order of their first occurrence, each with its last value
    (`assignAll_keys`, `assignAll_get?`). -/
namespace Ndn.Codec
open Ndn
variable {κ α : Type} [DecidableEq κ]

/-- a sequence of assignments `name ← value` carried out on an empty Python dict -/
def assignAll (xs : List (κ × α)) : PyDict κ α := xs.foldl (fun d p => PyDict.set d p.1 p.2) []

theorem classDict_eq_assignAll (body : List (κ × Decl α)) : classDict body = assignAll body := rfl

/-- the names of a list, each at its first occurrence -/
def firstOcc : List κ → List κ
  | [] => []
  | k :: r => k :: (firstOcc r).filter (· ≠ k)

/-- the value of the last assignment to `k` -/
def lastVal : List (κ × α) → κ → Option α
  | [], _ => none
  | (k', v) :: r, k =>
    match lastVal r k with
    | some w => some w
    | none => if k' = k then some v else none

/-- the assignments a class body stands for: an own field under its attribute name; at an `IncludeBase`
    the fields of that base under their names, in the base's order; nothing for any other attribute, and
    nothing for a base class that is not included -/
def expand (bases : List (BaseCls κ α)) (dict : List (κ × Decl α)) : List (κ × α) :=
  dict.flatMap fun p =>
    match p.2 with
    | .field f => [(p.1, f)]
    | .includeBase i => match bases[i]? with
      | some (some fs) => fs
      | _ => []
    | .other => []

/-- every `IncludeBase` names a direct base class that is a TlvModel -/
def Legal (bases : List (BaseCls κ α)) (dict : List (κ × Decl α)) : Prop :=
  ∀ p ∈ dict, ∀ i, p.2 = .includeBase i → ∃ fs, bases[i]? = some (some fs)

theorem posOf_none_iff (d : List (κ × α)) (k : κ) : posOf d k = none ↔ k ∉ PyDict.keys d := by
  induction d with
  | nil => simp [posOf, PyDict.keys]
  | cons p r ih =>
    obtain ⟨a, b⟩ := p
    by_cases h : a = k
    · simp [posOf, PyDict.keys, h]
    · have h' : ¬ k = a := fun e => h e.symm
      simp only [posOf, h, if_false, Option.map_eq_none_iff, ih, PyDict.keys, List.map_cons, List.mem_cons, h',
        false_or]

theorem set_of_posOf_none (d : List (κ × α)) (k : κ) (v : α) (h : posOf d k = none) :
    PyDict.set d k v = d ++ [(k, v)] :=
  PyDict.set_of_not_mem d k v ((posOf_none_iff d k).1 h)

theorem set_of_posOf_some (d : List (κ × α)) (k : κ) (v : α) (i : Nat) (h : posOf d k = some i) :
    PyDict.set d k v = d.set i (k, v) := by
  induction d generalizing i with
  | nil => simp [posOf] at h
  | cons p r ih =>
    obtain ⟨a, b⟩ := p
    by_cases hk : a = k
    · simp only [posOf, hk, if_true, Option.some.injEq] at h
      subst h; simp [PyDict.set, hk]
    · simp only [posOf, hk, if_false, Option.map_eq_some_iff] at h
      obtain ⟨j, hj, rfl⟩ := h
      simp [PyDict.set, hk, ih j hj]

theorem posOf_set_none (d : List (κ × α)) (k k' : κ) (v : α) (h : posOf d k = none) :
    posOf (PyDict.set d k v) k' = if k = k' then some d.length else posOf d k' := by
  induction d with
  | nil => simp [PyDict.set, posOf]
  | cons p r ih =>
    obtain ⟨a, b⟩ := p
    by_cases hk : a = k
    · simp [posOf, hk] at h
    · simp only [posOf, hk, if_false, Option.map_eq_none_iff] at h
      simp only [PyDict.set, hk, if_false, posOf, ih h, List.length_cons]
      by_cases h1 : a = k'
      · have : ¬ k = k' := fun e => hk (e ▸ h1)
        simp [h1, this]
      · by_cases h2 : k = k' <;> simp [h1, h2]

theorem posOf_set_some (d : List (κ × α)) (k k' : κ) (v : α) (i : Nat) (h : posOf d k = some i) :
    posOf (PyDict.set d k v) k' = posOf d k' := by
  induction d generalizing i with
  | nil => simp [posOf] at h
  | cons p r ih =>
    obtain ⟨a, b⟩ := p
    by_cases hk : a = k
    · subst hk; simp [PyDict.set, posOf]
    · simp only [posOf, hk, if_false, Option.map_eq_some_iff] at h
      obtain ⟨j, hj, _⟩ := h
      simp [PyDict.set, hk, posOf, ih j hj]

/-- the invariant of the metaclass loop: `index_dict` holds the position of every name in the list -/
def MState.Inv (st : MState κ α) : Prop := ∀ k, PyDict.get? st.index k = posOf st.fields k

theorem put_spec (st : MState κ α) (k : κ) (f : α) (h : st.Inv) :
    (st.put k f).fields = PyDict.set st.fields k f ∧ (st.put k f).Inv := by
  unfold MState.put
  cases hg : PyDict.get? st.index k with
  | none =>
    have hp : posOf st.fields k = none := by rw [← h k]; exact hg
    refine ⟨(set_of_posOf_none _ _ _ hp).symm, ?_⟩
    intro k'
    simp only [PyDict.get?_set, ← set_of_posOf_none _ _ _ hp, posOf_set_none _ _ _ _ hp, h k']
  | some i =>
    have hp : posOf st.fields k = some i := by rw [← h k]; exact hg
    refine ⟨(set_of_posOf_some _ _ _ _ hp).symm, ?_⟩
    intro k'
    simp only [← set_of_posOf_some _ _ _ _ hp, posOf_set_some _ _ _ _ _ hp, h k']

theorem putAll_spec (fs : List (κ × α)) (st : MState κ α) (h : st.Inv) :
    (st.putAll fs).fields = fs.foldl (fun d p => PyDict.set d p.1 p.2) st.fields ∧ (st.putAll fs).Inv := by
  induction fs generalizing st with
  | nil => exact ⟨rfl, h⟩
  | cons p r ih =>
    have hp := put_spec st p.1 p.2 h
    have := ih (st.put p.1 p.2) hp.2
    simp only [MState.putAll, List.foldl_cons] at this ⊢
    rw [this.1, hp.1]; exact ⟨rfl, this.2⟩

theorem mergeStep_legal (bases : List (BaseCls κ α)) (st : MState κ α) (p : κ × Decl α) (h : st.Inv)
    (hl : ∀ i, p.2 = .includeBase i → ∃ fs, bases[i]? = some (some fs)) :
    ∃ s1, mergeStep bases st p = .ok s1 ∧
      s1.fields = (expand bases [p]).foldl (fun d p => PyDict.set d p.1 p.2) st.fields ∧ s1.Inv := by
  unfold mergeStep
  simp only [expand, List.flatMap_cons, List.flatMap_nil, List.append_nil]
  cases hd : p.2 with
  | field f => exact ⟨_, rfl, put_spec st p.1 f h⟩
  | other => exact ⟨_, rfl, rfl, h⟩
  | includeBase i =>
    obtain ⟨fs, hb⟩ := hl i hd
    simp only [hb]
    exact ⟨_, rfl, putAll_spec fs st h⟩

theorem mergeStep_ok_legal {bases : List (BaseCls κ α)} {st s1 : MState κ α} {p : κ × Decl α}
    (h : mergeStep bases st p = .ok s1) : ∀ i, p.2 = .includeBase i → ∃ fs, bases[i]? = some (some fs) := by
  intro i hi
  unfold mergeStep at h
  simp only [hi] at h
  split at h
  · cases h
  · cases h
  · rename_i fs hb; exact ⟨fs, hb⟩

theorem foldlM_mergeStep_legal (bases : List (BaseCls κ α)) (dict : List (κ × Decl α)) (st : MState κ α)
    (h : st.Inv) (hl : Legal bases dict) :
    ∃ st', dict.foldlM (mergeStep bases) st = .ok st' ∧
      st'.fields = (expand bases dict).foldl (fun d p => PyDict.set d p.1 p.2) st.fields ∧ st'.Inv := by
  induction dict generalizing st with
  | nil => exact ⟨st, rfl, rfl, h⟩
  | cons p r ih =>
    obtain ⟨s1, hs, hf, hi⟩ := mergeStep_legal bases st p h (hl p (by simp))
    obtain ⟨st', hr, hf', hi'⟩ := ih s1 hi (fun q hq => hl q (List.mem_cons_of_mem _ hq))
    refine ⟨st', by simp only [List.foldlM_cons, hs, bind, Except.bind, hr], ?_, hi'⟩
    rw [hf', hf]
    simp [expand, List.flatMap_cons, List.foldl_append]

theorem foldlM_mergeStep_ok_legal (bases : List (BaseCls κ α)) (dict : List (κ × Decl α)) (st st' : MState κ α)
    (h : dict.foldlM (mergeStep bases) st = .ok st') : Legal bases dict := by
  induction dict generalizing st with
  | nil => intro q hq; cases hq
  | cons p r ih =>
    simp only [List.foldlM_cons, bind, Except.bind] at h
    cases hs : mergeStep bases st p with
    | error e => simp [hs] at h
    | ok s1 =>
      simp only [hs] at h
      intro q hq
      rcases List.mem_cons.1 hq with rfl | hq
      · exact mergeStep_ok_legal hs
      · exact ih s1 h q hq

theorem keys_foldl_set (xs : List (κ × α)) (d : PyDict κ α) :
    PyDict.keys (xs.foldl (fun d p => PyDict.set d p.1 p.2) d)
      = PyDict.keys d ++ (firstOcc (xs.map (·.1))).filter (· ∉ PyDict.keys d) := by
  induction xs generalizing d with
  | nil => simp [firstOcc]
  | cons p r ih =>
    obtain ⟨k, v⟩ := p
    simp only [List.foldl_cons, List.map_cons, firstOcc]
    rw [ih, PyDict.keys_set]
    by_cases hk : k ∈ PyDict.keys d
    · simp only [hk, if_true, List.filter_cons, not_true_eq_false, decide_false, Bool.false_eq_true, if_false,
        List.filter_filter]
      congr 1
      apply List.filter_congr
      intro x _
      by_cases hx : x = k
      · subst hx; simp [hk]
      · simp [hx]
    · simp only [hk, if_false, List.filter_cons, not_false_eq_true, decide_true, if_true, List.append_assoc,
        List.singleton_append, List.filter_filter]
      congr 2
      apply List.filter_congr
      intro x _
      by_cases hx : x = k
      · subst hx; simp
      · simp [hx]

theorem get?_foldl_set (xs : List (κ × α)) (d : PyDict κ α) (k : κ) :
    PyDict.get? (xs.foldl (fun d p => PyDict.set d p.1 p.2) d) k
      = match lastVal xs k with
        | some w => some w
        | none => PyDict.get? d k := by
  induction xs generalizing d with
  | nil => simp [lastVal]
  | cons p r ih =>
    obtain ⟨k', v⟩ := p
    simp only [List.foldl_cons, ih, lastVal, PyDict.get?_set]
    cases lastVal r k with
    | some w => rfl
    | none => by_cases h : k' = k <;> simp [h]

theorem nodup_keys_foldl_set (xs : List (κ × α)) (d : PyDict κ α) (h : (PyDict.keys d).Nodup) :
    (PyDict.keys (xs.foldl (fun d p => PyDict.set d p.1 p.2) d)).Nodup := by
  induction xs generalizing d with
  | nil => exact h
  | cons p r ih => exact ih _ (PyDict.nodup_keys_set d p.1 p.2 h)

theorem foldl_set_nodup (xs : List (κ × α)) (d : PyDict κ α)
    (h : (PyDict.keys d ++ xs.map (·.1)).Nodup) :
    xs.foldl (fun d p => PyDict.set d p.1 p.2) d = d ++ xs := by
  induction xs generalizing d with
  | nil => simp
  | cons p r ih =>
    obtain ⟨k, v⟩ := p
    have hk : k ∉ PyDict.keys d := by
      intro hm
      rw [List.nodup_append] at h
      exact h.2.2 k hm k (by simp) rfl
    have hs : PyDict.set d k v = d ++ [(k, v)] := PyDict.set_of_not_mem d k v hk
    simp only [List.foldl_cons, hs]
    rw [ih]
    · simp
    · simpa [PyDict.keys, List.append_assoc] using h

theorem assignAll_keys (xs : List (κ × α)) : PyDict.keys (assignAll xs) = firstOcc (xs.map (·.1)) := by
  unfold assignAll
  rw [keys_foldl_set]
  simp [PyDict.keys]

theorem assignAll_get? (xs : List (κ × α)) (k : κ) : PyDict.get? (assignAll xs) k = lastVal xs k := by
  simp only [assignAll, get?_foldl_set, PyDict.get?]
  cases lastVal xs k <;> rfl

theorem assignAll_nodup (xs : List (κ × α)) : (PyDict.keys (assignAll xs)).Nodup :=
  nodup_keys_foldl_set xs [] (by simp [PyDict.keys])

theorem assignAll_of_nodup (xs : List (κ × α)) (h : (xs.map (·.1)).Nodup) : assignAll xs = xs := by
  simpa [assignAll] using foldl_set_nodup xs [] (by simpa [PyDict.keys] using h)

theorem mem_firstOcc (l : List κ) (k : κ) : k ∈ firstOcc l ↔ k ∈ l := by
  induction l with
  | nil => simp [firstOcc]
  | cons a r ih =>
    simp only [firstOcc, List.mem_cons, List.mem_filter, ih, decide_eq_true_eq]
    by_cases h : k = a <;> simp [h]

theorem mergeClass_legal (bases : List (BaseCls κ α)) (dict : List (κ × Decl α)) (hl : Legal bases dict) :
    mergeClass bases dict = .ok (assignAll (expand bases dict)) := by
  obtain ⟨st, hst, hf, _⟩ := foldlM_mergeStep_legal bases dict ⟨[], []⟩ (fun k => by simp [PyDict.get?, posOf]) hl
  unfold mergeClass
  rw [hst]
  exact congrArg Except.ok hf

theorem mergeClass_isOk (bases : List (BaseCls κ α)) (dict : List (κ × Decl α)) :
    (∃ r, mergeClass bases dict = .ok r) ↔ Legal bases dict := by
  refine ⟨fun ⟨r, h⟩ => ?_, fun hl => ⟨_, mergeClass_legal bases dict hl⟩⟩
  unfold mergeClass at h
  split at h
  · rename_i st hst; exact foldlM_mergeStep_ok_legal bases dict _ st hst
  · cases h

theorem mergeClass_ok (bases : List (BaseCls κ α)) (dict : List (κ × Decl α)) (r : List (κ × α))
    (h : mergeClass bases dict = .ok r) : r = assignAll (expand bases dict) := by
  rw [mergeClass_legal bases dict ((mergeClass_isOk bases dict).1 ⟨r, h⟩)] at h
  cases h; rfl

theorem mergeStep_set_base (bases : List (BaseCls κ α)) (j : Nat) (b : BaseCls κ α) (st : MState κ α)
    (p : κ × Decl α) (h : p.2 ≠ .includeBase j) : mergeStep (bases.set j b) st p = mergeStep bases st p := by
  unfold mergeStep
  cases hd : p.2 with
  | field f => rfl
  | other => rfl
  | includeBase i =>
    have : j ≠ i := by
      intro e; subst e; exact h hd
    simp only [List.getElem?_set_ne this]

theorem foldlM_set_base (bases : List (BaseCls κ α)) (j : Nat) (b : BaseCls κ α) (dict : List (κ × Decl α))
    (st : MState κ α) (h : ∀ p ∈ dict, p.2 ≠ .includeBase j) :
    dict.foldlM (mergeStep (bases.set j b)) st = dict.foldlM (mergeStep bases) st := by
  induction dict generalizing st with
  | nil => rfl
  | cons p r ih =>
    simp only [List.foldlM_cons, mergeStep_set_base bases j b st p (h p (by simp))]
    cases mergeStep bases st p with
    | error e => rfl
    | ok s1 => exact ih s1 (fun q hq => h q (List.mem_cons_of_mem _ hq))

theorem expand_of_no_include {κ α : Type} (bases : List (BaseCls κ α)) (d : List (κ × Decl α))
    (hd : ∀ p ∈ d, ∀ i, p.2 ≠ .includeBase i) :
    expand bases d = d.filterMap fun p =>
      match p.2 with
      | .field f => some (p.1, f)
      | _ => none := by
  induction d with
  | nil => rfl
  | cons p r ih =>
    have ih := ih (fun q hq => hd q (List.mem_cons_of_mem _ hq))
    simp only [expand, List.flatMap_cons] at ih ⊢
    rw [ih]
    cases hp : p.2 with
    | field f => simp [hp]
    | other => simp [hp]
    | includeBase i => exact absurd hp (hd p (by simp) i)

theorem keys_ownFields_sublist {κ α : Type} (d : List (κ × Decl α)) :
    List.Sublist ((d.filterMap fun p =>
      match p.2 with
      | .field f => some (p.1, f)
      | _ => none).map (·.1)) (PyDict.keys d) := by
  induction d with
  | nil => simp [PyDict.keys]
  | cons p r ih =>
    cases hp : p.2 with
    | field f => simpa [List.filterMap_cons, hp, PyDict.keys] using ih
    | other => simpa [List.filterMap_cons, hp, PyDict.keys] using ih.trans (List.sublist_cons_self _ _)
    | includeBase i => simpa [List.filterMap_cons, hp, PyDict.keys] using ih.trans (List.sublist_cons_self _ _)

end Ndn.Codec
