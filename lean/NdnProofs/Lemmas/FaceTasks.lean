import NdnModel.FaceTasks
import NdnProofs.Lemmas.StreamReader
/-! The task layer (NdnModel/FaceTasks.lean).  `afterPass_eq` / `runTasks_eq` say which fields a pass of the reader task
    and a batch of tasks touch; `step_cases` lists what one event can do in those terms, `runFrom_keeps` lifts a
    per-event fact along a history.  `Grows`: what no event undoes.  `Inv` ties what has been spawned to `frames` of
    what has been fed, in every history, through the reader's invariant `Sim` and its pass lemma `sim_readerPass`
    (`inv_step`; `open_step`, `close_open` and `closing_step` go beneath `readerPass`, to `Sim.pass` and `pump1_spec`);
    `Open` (nothing has ended the connection) and `Closing` (after `shutdown()`) refine it; `AppInv` (no receive step
    marked as raising) is about the tables and the failed tasks alone.  `core` / `ucore` (isolation) compare two runs
    event by event.  `Udp` at the end: the datagram face, which has no reader. -/
namespace Ndn.FaceTasks
open Ndn Ndn.Framing Ndn.StreamReader

theorem take1_prefix {α} (l : List α) : l.take 1 <+: l := List.take_prefix 1 l

theorem rank5_pos (ph : Phase) : 1 ≤ rank5 ph := by cases ph <;> simp [rank5]

theorem rank5_le (ph : Phase) : rank5 ph ≤ 5 := by cases ph <;> simp [rank5]

theorem next_rank5 {ph ph' : Phase} {d : Bytes} (hn : ph.next d = .inl ph') : rank5 ph' < rank5 ph := by
  cases ph <;> simp only [Phase.next] at hn <;> (try split at hn) <;> cases hn <;> simp [rank5]

theorem pump1_spec (caught : List RdErr) : ∀ (fuel : Nat) (r : Reader) (ph : Phase), Consistent ph → r.exc = none →
    rank5 ph ≤ fuel →
    (pump1 caught fuel r ph).2 = (frames (ph.bio ++ r.buf)).1.take 1 ∧
    ((pump1 caught fuel r ph).1.status = .running → readPacket (ph.bio ++ r.buf) = none ∧
        Consistent (pump1 caught fuel r ph).1.phase ∧
        (pump1 caught fuel r ph).1.phase.bio ++ (pump1 caught fuel r ph).1.reader.buf = ph.bio ++ r.buf ∧
        (pump1 caught fuel r ph).1.reader.eof = false ∧ (pump1 caught fuel r ph).1.reader.exc = none)
  | 0, r, ph, _, _, hf => by have := rank5_pos ph; omega
  | fuel + 1, r, ph, hc, hx, hf => by
    have rs := read_step hc hx
    simp only [pump1]
    split
    next h =>
      rw [h] at rs
      rw [frames_none rs.1]
      exact ⟨rfl, fun _ => ⟨rs.1, hc, rfl, rs.2, hx⟩⟩
    next e r' h =>
      rw [h] at rs
      rw [frames_none rs.1]
      exact ⟨rfl, fun h' => absurd h' (handled_ne_running _ _)⟩
    next d r' h =>
      rw [h] at rs
      obtain ⟨_, hx', rs⟩ := rs
      split
      next ph' hn =>
        rw [hn] at rs
        rw [← rs.2]
        exact pump1_spec caught fuel r' ph' rs.1 hx' (by have := next_rank5 hn; omega)
      next p hn =>
        rw [hn] at rs
        rw [frames_some rs]
        exact ⟨rfl, fun h' => by cases h'⟩

theorem sim_readerPass (caught : List RdErr) (fl : Bool) {acc : Face × List Pkt} {s : Bytes} (h : Sim acc s)
    {r : Reader} {c : Bytes} (hb : r.buf = acc.1.reader.buf ++ c) (hx : r.exc = none) :
    acc.2 ++ (readerPass caught fl r acc.1.phase).2 <+: (frames (s ++ c)).1 ∧
    ((readerPass caught fl r acc.1.phase).1.status = .running →
      Sim ((readerPass caught fl r acc.1.phase).1, acc.2 ++ (readerPass caught fl r acc.1.phase).2) (s ++ c)) := by
  cases fl with
  | true =>
    obtain ⟨p1, p2, p3⟩ := h.pass caught hb hx
    refine ⟨p1 ▸ List.prefix_refl _, fun hr => ?_⟩
    cases he : r.eof with
    | true => exact absurd ((p3 he).symm.trans hr) (handled_ne_running _ _)
    | false => exact p2 he
  | false =>
    -- at most the packet in progress; none if `run()` still waits, and then nothing was consumed
    obtain ⟨p1, p2⟩ := pump1_spec caught 5 r acc.1.phase h.cons hx (rank5_le _)
    rw [hb, ← List.append_assoc, h.rem] at p1 p2
    have e := frames_append s c
    rw [readerPass, if_neg Bool.false_ne_true, p1]
    refine ⟨?_, fun hr => ?_⟩
    · rw [e, ← h.out]
      exact (List.prefix_append_right_inj _).2 (List.take_prefix 1 _)
    · obtain ⟨hnone, q2, q3, q4, q5⟩ := p2 hr
      rw [frames_none hnone] at e ⊢
      exact ⟨hr, q2, q3.trans (congrArg Prod.snd e).symm, q4, q5, by rw [e, ← h.out]; rfl⟩

variable {σ : Type}

theorem afterPass_eq (H : Hooks σ) (st : St σ) (res : Face × List Pkt) :
    afterPass H st res = { st with face := res.1, queue := st.queue ++ res.2,
                                   running := if res.1.status = .running then st.running else false,
                                   app := if res.1.status = .running then st.app else H.cleanup st.app } := by
  unfold afterPass; split <;> rfl

theorem runTask_eq (H : Hooks σ) (st : St σ) (p : Pkt) :
    runTask H st p = { st with processed := st.processed ++ [p], app := (runTask H st p).app,
                               errors := (runTask H st p).errors } := by
  unfold runTask; split <;> rfl

theorem runTasks_eq (H : Hooks σ) : ∀ (ps : List Pkt) (st : St σ),
    runTasks H st ps = { st with processed := st.processed ++ ps, app := (runTasks H st ps).app,
                                 errors := (runTasks H st ps).errors }
  | [], st => by rw [runTasks, List.append_nil]
  | p :: ps, st => by
    rw [runTasks, runTasks_eq H ps, runTask_eq]
    simp only [List.append_assoc, List.singleton_append]

theorem processed_prefix_spawned (st : St σ) : st.processed <+: st.spawned := List.prefix_append _ _

theorem spawned_afterPass (st : St σ) (f : Face) (l : List Pkt) (b : Bool) (a : σ) :
    ({ st with face := f, queue := st.queue ++ l, running := b, app := a } : St σ).spawned = st.spawned ++ l :=
  (List.append_assoc ..).symm

theorem spawned_runTasks (st : St σ) {ps q : List Pkt} (hq : st.queue = ps ++ q) (a : σ) (e : List Nat) :
    ({ st with queue := q, processed := st.processed ++ ps, app := a, errors := e } : St σ).spawned = st.spawned := by
  simp only [St.spawned, hq, List.append_assoc]

-- `pass` covers `feed` and `close` (they differ in `r.eof`), `tasks` covers `turn` (`ps` the whole queue) and `step1`
-- (`ps` its head, or nothing)
theorem step_cases (caught : List RdErr) (H : Hooks σ) (st : St σ) (ev : Ev) {P : St σ → Prop}
    (pass : ∀ c r res, ev = .feed c ∧ r.eof = st.face.reader.eof ∨ ev = .close c ∧ r.eof = true →
      st.face.status = .running → r.buf = st.face.reader.buf ++ c → r.exc = st.face.reader.exc →
      res = readerPass caught st.running r st.face.phase →
      P { st with face := res.1, queue := st.queue ++ res.2,
                  running := if res.1.status = .running then st.running else false,
                  app := if res.1.status = .running then st.app else H.cleanup st.app })
    (ended : ∀ r, st.face.status ≠ .running → P { st with face := { st.face with reader := r } })
    (exc : ∀ e, ev = .exc e → st.face.status = .running →
      P { st with face := { st.face with reader := st.face.reader.apply (.setException e),
                                          status := handled caught e },
                  running := false, app := H.cleanup st.app })
    (shutdown : ev = .shutdown → P { st with running := false })
    (tasks : ∀ ps q, ev = .turn ∨ ev = .step1 → st.queue = ps ++ q →
      P { st with queue := q, processed := st.processed ++ ps, app := (runTasks H st ps).app,
                  errors := (runTasks H st ps).errors })
    (raise : ∀ k, ev = .raise k → P { st with bad := k :: st.bad }) : P (step caught H st ev) := by
  have reader : ∀ {A B : St σ}, (st.face.status = .running → P A) → (st.face.status ≠ .running → P B) →
      P (match st.face.status with | .running => A | _ => B) := by
    intro A B hA hB
    split
    · rename_i h; exact hA h
    · rename_i h; exact hB fun h' => h h'
  have tasks' : ∀ ps q, ev = .turn ∨ ev = .step1 → st.queue = ps ++ q → P { runTasks H st ps with queue := q } := by
    intro ps q hev hq
    rw [runTasks_eq]
    exact tasks ps q hev hq
  cases ev with
  | feed c =>
    exact reader (fun hr => afterPass_eq H st _ ▸
      pass c (st.face.reader.apply (.feed c)) _ (.inl ⟨rfl, rfl⟩) hr rfl rfl rfl) (ended _)
  | close c =>
    exact reader (fun hr => afterPass_eq H st _ ▸
      pass c ((st.face.reader.apply (.feed c)).apply .feedEof) _ (.inr ⟨rfl, rfl⟩) hr rfl rfl rfl) (ended _)
  | exc e => exact reader (exc e rfl) (ended _)
  | shutdown => exact shutdown rfl
  | turn => exact tasks' st.queue [] (.inl rfl) (List.append_nil _).symm
  | step1 =>
    simp only [step]
    split
    · exact tasks' [] st.queue (.inr rfl) rfl
    · rename_i p q hq
      exact tasks' [p] q (.inr rfl) hq
  | raise k => exact raise k rfl

theorem runFrom_keeps (caught : List RdErr) (H : Hooks σ) {P : St σ → Bytes → Prop} (h : List Ev)
    (hstep : ∀ st s, ∀ ev ∈ h, P st s → P (step caught H st ev) (s ++ ev.bytes)) {st : St σ} {s : Bytes}
    (h0 : P st s) : P (runFrom caught H st h) (s ++ fed h) := by
  induction h generalizing st s with
  | nil => rwa [fed, List.append_nil]
  | cons e es ih =>
    have := ih (fun st s ev hev => hstep st s ev (List.mem_cons_of_mem _ hev)) (hstep st s e List.mem_cons_self h0)
    rwa [List.append_assoc] at this

/-- what no event undoes: a task once created stays created, a packet once delivered stays delivered, `face.running`
    once False stays False, and a `run()` that has ended stays ended and creates nothing more -/
structure Grows (st st' : St σ) : Prop where
  spawned : st.spawned <+: st'.spawned
  processed : st.processed <+: st'.processed
  flag : st.running = false → st'.running = false
  ended : st.face.status ≠ .running → st'.spawned = st.spawned ∧ st'.face.status = st.face.status

theorem Grows.of_eq {st st' : St σ} (hs : st'.spawned = st.spawned) (hp : st.processed <+: st'.processed)
    (hf : st.running = false → st'.running = false) (hst : st'.face.status = st.face.status) : Grows st st' :=
  ⟨hs ▸ List.prefix_refl _, hp, hf, fun _ => ⟨hs, hst⟩⟩

theorem Grows.trans {a b c : St σ} (h1 : Grows a b) (h2 : Grows b c) : Grows a c :=
  ⟨h1.spawned.trans h2.spawned, h1.processed.trans h2.processed, fun h => h2.flag (h1.flag h), fun h =>
    have e1 := h1.ended h
    have e2 := h2.ended (e1.2 ▸ h)
    ⟨e2.1.trans e1.1, e2.2.trans e1.2⟩⟩

theorem grows_step (caught : List RdErr) (H : Hooks σ) (st : St σ) (ev : Ev) : Grows st (step caught H st ev) :=
  step_cases caught H st ev (P := Grows st)
    (fun _ _ _ _ hr _ _ _ =>
      ⟨spawned_afterPass st .. ▸ List.prefix_append _ _, List.prefix_refl _,
        fun hf => by rw [hf]; exact ite_self _, fun hne => absurd hr hne⟩)
    (fun _ _ => .of_eq rfl (List.prefix_refl _) id rfl)
    (fun _ _ hr => ⟨List.prefix_refl _, List.prefix_refl _, fun _ => rfl, fun hne => absurd hr hne⟩)
    (fun _ => .of_eq rfl (List.prefix_refl _) (fun _ => rfl) rfl)
    (fun _ _ _ hq => .of_eq (spawned_runTasks st hq ..) (List.prefix_append _ _) id rfl)
    (fun _ _ => .of_eq rfl (List.prefix_refl _) id rfl)

theorem grows_runFrom (caught : List RdErr) (H : Hooks σ) (h : List Ev) (st : St σ) :
    Grows st (runFrom caught H st h) :=
  runFrom_keeps caught H (P := fun st' _ => Grows st st') (s := []) h
    (fun st' _ ev _ hp => hp.trans (grows_step caught H st' ev)) (.of_eq rfl (List.prefix_refl _) id rfl)

theorem processed_step_prefix (caught : List RdErr) (H : Hooks σ) (st : St σ) (ev : Ev) :
    st.processed <+: (step caught H st ev).processed :=
  (grows_step caught H st ev).processed

theorem runFrom_append (caught : List RdErr) (H : Hooks σ) (st : St σ) (h1 h2 : List Ev) :
    runFrom caught H st (h1 ++ h2) = runFrom caught H (runFrom caught H st h1) h2 := by
  induction h1 generalizing st with
  | nil => rfl
  | cons e es ih => exact ih _

theorem run_append (caught : List RdErr) (H : Hooks σ) (a : σ) (h1 h2 : List Ev) :
    run caught H a (h1 ++ h2) = runFrom caught H (run caught H a h1) h2 := runFrom_append ..

theorem fed_append (h1 h2 : List Ev) : fed (h1 ++ h2) = fed h1 ++ fed h2 := by
  induction h1 with
  | nil => rfl
  | cons e es ih => simp only [List.cons_append, fed, ih, List.append_assoc]

theorem turn_processed (caught : List RdErr) (H : Hooks σ) (st : St σ) :
    (step caught H st .turn).processed = st.spawned ∧ (step caught H st .turn).queue = [] :=
  ⟨congrArg St.processed (runTasks_eq H st.queue st), rfl⟩

theorem run_ended (caught : List RdErr) (H : Hooks σ) (a : σ) (h : List Ev) (ev : Ev) (more : List Ev) {cls : RdErr}
    {sp : List Pkt} (hst : (step caught H (run caught H a h) ev).face.status = handled caught cls)
    (hsp : (step caught H (run caught H a h) ev).spawned = sp) :
    (run caught H a (h ++ ev :: more)).face.status = handled caught cls ∧
    (run caught H a (h ++ ev :: more)).spawned = sp ∧
    (run caught H a (h ++ ev :: more ++ [.turn])).processed = sp := by
  obtain ⟨e1, e2⟩ := (grows_runFrom caught H more _).ended (by rw [hst]; exact handled_ne_running _ _)
  have h1 : run caught H a (h ++ ev :: more) = runFrom caught H (step caught H (run caught H a h) ev) more :=
    run_append ..
  have h2 : run caught H a (h ++ ev :: more ++ [.turn]) = step caught H (run caught H a (h ++ ev :: more)) .turn :=
    run_append ..
  rw [h2, h1]
  exact ⟨e2.trans hst, e1.trans hsp, ((turn_processed caught H _).1.trans e1).trans hsp⟩

/-- `s` has been fed: what has been spawned is a prefix of the packets of `s`; while `run()` is suspended in a read it
    is all of them, and the reader holds the rest; once `run()` has ended `face.running` is False (`shutdown()` in the
    `except` clause, or `main_loop`'s `finally`) -/
structure Inv (st : St σ) (s : Bytes) : Prop where
  pre : st.spawned <+: (frames s).1
  sim : st.face.status = .running → Sim (st.face, st.spawned) s
  stopped : st.face.status ≠ .running → st.running = false

theorem inv_init (caught : List RdErr) (a : σ) : Inv (init caught a) [] := by
  obtain ⟨h1, h2, h3, h4, h5, _⟩ := sim_start caught
  exact ⟨List.nil_prefix, fun _ => ⟨h1, h2, h3, h4, h5, rfl⟩, fun hne => absurd h1 hne⟩

theorem inv_of_ended {st st' : St σ} {s : Bytes} (hi : Inv st s) (c : Bytes) (hs : st'.spawned = st.spawned)
    (hne : st'.face.status ≠ .running) (hf : st'.running = false) : Inv st' (s ++ c) :=
  ⟨by rw [hs]; exact hi.pre.trans (frames_prefix_append s c), fun h => absurd h hne, fun _ => hf⟩

theorem inv_of_same {st st' : St σ} {s : Bytes} (hi : Inv st s) (hs : st'.spawned = st.spawned)
    (hf : st'.face = st.face) (hfl : st.running = false → st'.running = false) : Inv st' s :=
  ⟨by rw [hs]; exact hi.pre, fun h => by rw [hf] at h ⊢; rw [hs]; exact hi.sim h,
    fun h => hfl (hi.stopped (hf ▸ h))⟩

theorem inv_step (caught : List RdErr) (H : Hooks σ) {st : St σ} {s : Bytes} (hi : Inv st s) (ev : Ev) :
    Inv (step caught H st ev) (s ++ ev.bytes) := by
  refine step_cases caught H st ev (P := fun st' => Inv st' (s ++ ev.bytes)) ?_ ?_ ?_ ?_ ?_ ?_
  · rintro c r _ hev hr hb hx rfl
    have : ev.bytes = c := by rcases hev with ⟨rfl, _⟩ | ⟨rfl, _⟩ <;> rfl
    have hs := hi.sim hr
    obtain ⟨pa, pb⟩ := sim_readerPass caught st.running hs hb (hx.trans hs.exc)
    rw [this]
    exact ⟨spawned_afterPass st .. ▸ pa, fun hr' => spawned_afterPass st .. ▸ pb hr', fun hne => if_neg hne⟩
  · intro r hne
    exact inv_of_ended hi _ rfl hne (hi.stopped hne)
  · intro e _ _
    exact inv_of_ended hi _ rfl (handled_ne_running _ _) rfl
  · intro he
    rw [he, show s ++ Ev.bytes .shutdown = s from List.append_nil s]
    exact inv_of_same hi rfl rfl fun _ => rfl
  · intro ps q hev hq
    have : ev.bytes = [] := by rcases hev with rfl | rfl <;> rfl
    rw [this, List.append_nil]
    exact inv_of_same hi (spawned_runTasks st hq ..) rfl id
  · intro k he
    rw [he, show s ++ Ev.bytes (.raise k) = s from List.append_nil s]
    exact inv_of_same hi rfl rfl id

theorem inv_run (caught : List RdErr) (H : Hooks σ) (a : σ) (h : List Ev) : Inv (run caught H a h) (fed h) := by
  have := runFrom_keeps caught H (P := Inv) h (fun _ _ ev _ hp => inv_step caught H hp ev) (inv_init caught a)
  rwa [List.nil_append] at this

def Open (st : St σ) : Prop := st.running = true ∧ st.face.status = .running

theorem open_init (caught : List RdErr) (a : σ) : Open (init caught a) :=
  ⟨rfl, (sim_start caught).running⟩

theorem open_step (caught : List RdErr) (H : Hooks σ) {st : St σ} {s : Bytes} (hi : Inv st s) (ho : Open st)
    (ev : Ev) (hq : ev.quiet = true) : Open (step caught H st ev) := by
  obtain ⟨hfl, hr⟩ := ho
  refine step_cases caught H st ev (P := Open) ?_ (fun _ hne => absurd hr hne) ?_ ?_ (fun _ _ _ _ => ⟨hfl, hr⟩)
    (fun _ _ => ⟨hfl, hr⟩)
  · -- more bytes, no end of stream: `run()` goes on waiting
    rintro c r _ hev _ hb hx rfl
    obtain ⟨rfl, he⟩ | ⟨rfl, _⟩ := hev
    · have hs := hi.sim hr
      have hrun : (readerPass caught st.running r st.face.phase).1.status = .running := by
        rw [hfl]
        exact ((hs.pass caught hb (hx.trans hs.exc)).2.1 (he.trans hs.eof)).running
      exact ⟨(if_pos hrun).trans hfl, hrun⟩
    · cases hq
  · intro e he; rw [he] at hq; cases hq
  · intro he; rw [he] at hq; cases hq

theorem quiet_run (caught : List RdErr) (H : Hooks σ) (a : σ) (h : List Ev) (hq : h.all Ev.quiet = true) :
    Open (run caught H a h) ∧ Inv (run caught H a h) (fed h) ∧ (run caught H a h).spawned = (frames (fed h)).1 := by
  obtain ⟨hi, ho⟩ := runFrom_keeps caught H (P := fun st s => Inv st s ∧ Open st) h
    (fun _ _ ev hev hp => ⟨inv_step caught H hp.1 ev, open_step caught H hp.1 hp.2 ev (List.all_eq_true.1 hq ev hev)⟩)
    ⟨inv_init caught a, open_init caught a⟩
  rw [List.nil_append] at hi
  exact ⟨ho, hi, (hi.sim ho.2).out⟩

theorem step_close (caught : List RdErr) (H : Hooks σ) {st : St σ} (hr : st.face.status = .running) (c : Bytes) :
    step caught H st (.close c) = afterPass H st
      (readerPass caught st.running ((st.face.reader.apply (.feed c)).apply .feedEof) st.face.phase) := by
  simp only [step, hr]

theorem close_open (caught : List RdErr) (H : Hooks σ) {st : St σ} {s : Bytes} (hi : Inv st s) (ho : Open st)
    (c : Bytes) :
    (step caught H st (.close c)).face.status = handled caught .incompleteRead ∧
    (step caught H st (.close c)).spawned = (frames (s ++ c)).1 := by
  obtain ⟨hfl, hr⟩ := ho
  have hs := hi.sim hr
  obtain ⟨p1, _, p3⟩ := hs.pass caught (r := (st.face.reader.apply (.feed c)).apply .feedEof) rfl hs.exc
  rw [step_close caught H hr, afterPass_eq, hfl, readerPass, if_pos rfl]
  exact ⟨p3 rfl, (spawned_afterPass st ..).trans p1⟩

theorem exc_running (caught : List RdErr) (H : Hooks σ) {st : St σ} (hr : st.face.status = .running) (e : RdErr) :
    (step caught H st (.exc e)).face.status = handled caught e ∧
    (step caught H st (.exc e)).spawned = st.spawned := by
  simp only [step, hr, St.spawned, and_self]

/-- after `shutdown()` with `n` tasks spawned: at most one more, and none while `run()` is still waiting -/
structure Closing (st : St σ) (n : Nat) : Prop where
  flag : st.running = false
  le : st.spawned.length ≤ n + 1
  wait : st.face.status = .running → st.spawned.length ≤ n

theorem closing_step (caught : List RdErr) (H : Hooks σ) {st : St σ} {s : Bytes} {n : Nat} (hi : Inv st s)
    (hcl : Closing st n) (ev : Ev) : Closing (step caught H st ev) n := by
  suffices hh : (step caught H st ev).spawned.length ≤ n + 1 ∧
      ((step caught H st ev).face.status = .running → (step caught H st ev).spawned.length ≤ n) from
    ⟨(grows_step caught H st ev).flag hcl.flag, hh.1, hh.2⟩
  refine step_cases caught H st ev
    (P := fun st' => st'.spawned.length ≤ n + 1 ∧ (st'.face.status = .running → st'.spawned.length ≤ n))
    ?_ (fun _ hne => ⟨hcl.le, fun h => absurd h hne⟩) ?_
    (fun _ => ⟨hcl.le, hcl.wait⟩) ?_ (fun _ _ => ⟨hcl.le, hcl.wait⟩)
  · -- `running` is False: the pass hands over at most one packet, and none if `run()` still waits afterwards
    rintro c r _ _ hr _ hx rfl
    have hs := hi.sim hr
    obtain ⟨p1, p2⟩ := pump1_spec caught 5 r st.face.phase hs.cons (hx.trans hs.exc)
      (rank5_le _)
    have hw := hcl.wait hr
    rw [spawned_afterPass, hcl.flag, List.length_append]
    refine ⟨?_, fun hr' => ?_⟩
    · have : (pump1 caught 5 r st.face.phase).2.length ≤ 1 := by rw [p1, List.length_take]; omega
      exact Nat.add_le_add hw this
    · rw [show (readerPass caught false r st.face.phase).2 = _ from p1, frames_none (p2 hr').1]
      exact hw
  · intro e _ hr
    exact ⟨Nat.le_succ_of_le (hcl.wait hr), fun h => absurd h (handled_ne_running _ _)⟩
  · intro ps q _ hq
    rw [spawned_runTasks st hq]
    exact ⟨hcl.le, hcl.wait⟩

theorem shutdown_run (caught : List RdErr) (H : Hooks σ) {st : St σ} {s : Bytes} (hi : Inv st s) (more : List Ev) :
    st.spawned <+: (runFrom caught H (step caught H st .shutdown) more).spawned ∧
    (runFrom caught H (step caught H st .shutdown) more).spawned.length ≤ st.spawned.length + 1 ∧
    (runFrom caught H (step caught H st .shutdown) more).spawned <+: (frames (s ++ fed more)).1 ∧
    (runFrom caught H (step caught H st .shutdown) more).running = false := by
  obtain ⟨hi2, hcl⟩ := runFrom_keeps caught H (P := fun st' s' => Inv st' s' ∧ Closing st' st.spawned.length) more
    (fun _ _ ev _ hp => ⟨inv_step caught H hp.1 ev, closing_step caught H hp.1 hp.2 ev⟩)
    ⟨inv_step caught H hi .shutdown, rfl, Nat.le_succ _, fun _ => Nat.le_refl _⟩
  rw [show s ++ Ev.bytes .shutdown = s from List.append_nil s] at hi2
  exact ⟨(grows_runFrom caught H more (step caught H st .shutdown)).spawned, hcl.le, hi2.pre, hcl.flag⟩

/-- the part of the state the task layer's control flow depends on -/
def core (st : St σ) : Face × Bool × List Pkt × List Pkt := (st.face, st.running, st.queue, st.processed)

theorem core_step {τ : Type} (caught : List RdErr) (H : Hooks σ) (H' : Hooks τ) (st1 : St σ) (st2 : St τ)
    (hc : core st1 = core st2) (ev : Ev) : core (step caught H st1 ev) = core (step caught H' st2 ev) := by
  obtain ⟨f, r, q, p, _, _, _⟩ := st1
  obtain ⟨_, _, _, _, _, _, _⟩ := st2
  cases hc
  cases ev with
  | feed c => cases hs : f.status <;> simp only [step, hs, afterPass_eq] <;> rfl
  | close c => cases hs : f.status <;> simp only [step, hs, afterPass_eq] <;> rfl
  | exc e => cases hs : f.status <;> simp only [step, hs] <;> rfl
  | shutdown => rfl
  | turn =>
    show core { runTasks H _ q with queue := [] } = core { runTasks H' _ q with queue := [] }
    rw [runTasks_eq H, runTasks_eq H']
    rfl
  | step1 =>
    cases q with
    | nil => rfl
    | cons x q =>
      show core { runTasks H _ [x] with queue := q } = core { runTasks H' _ [x] with queue := q }
      rw [runTasks_eq H, runTasks_eq H']
      rfl
  | raise k => rfl

theorem core_runFrom {τ : Type} (caught : List RdErr) (H : Hooks σ) (H' : Hooks τ) (h : List Ev) :
    ∀ (st1 : St σ) (st2 : St τ), core st1 = core st2 →
    core (runFrom caught H st1 h) = core (runFrom caught H' st2 (h.filter (fun e => !e.isRaise))) := by
  induction h with
  | nil => intro st1 st2 hc; exact hc
  | cons e es ih =>
    intro st1 st2 hc
    cases hr : e.isRaise with
    | true =>
      -- a mark changes nothing the control flow looks at
      cases e <;> cases hr
      simp only [List.filter, Ev.isRaise, Bool.not_true, runFrom]
      exact ih _ _ hc
    | false =>
      simp only [List.filter, hr, Bool.not_false, runFrom]
      exact ih _ _ (core_step caught H H' st1 st2 hc e)

/-- the effect of the receive steps of `ps` on the tables, one after the other -/
def recvAll (H : Hooks σ) (a : σ) (ps : List Pkt) : σ := ps.foldl (fun a p => (H.recv a p).1) a

theorem recvAll_append (H : Hooks σ) (a : σ) (ps qs : List Pkt) :
    recvAll H a (ps ++ qs) = recvAll H (recvAll H a ps) qs := List.foldl_append ..

theorem runTasks_app (H : Hooks σ) : ∀ (ps : List Pkt) (st : St σ), st.bad = [] →
    (runTasks H st ps).app = recvAll H st.app ps ∧
    ((∀ a p, (H.recv a p).2 = false) → (runTasks H st ps).errors = st.errors)
  | [], st, _ => ⟨rfl, fun _ => rfl⟩
  | p :: ps, st, hb => by
    have e : runTask H st p =
        { st with processed := st.processed ++ [p], app := (H.recv st.app p).1,
                  errors := if (H.recv st.app p).2 then st.errors ++ [st.processed.length] else st.errors } := by
      rw [runTask, hb]; rfl
    obtain ⟨h1, h2⟩ := runTasks_app H ps (runTask H st p) ((congrArg St.bad (runTask_eq H st p)).trans hb)
    simp only [runTasks]
    rw [e] at h1 h2 ⊢
    exact ⟨h1, fun hH => (h2 hH).trans (if_neg (Bool.eq_false_iff.1 (hH _ _)))⟩

/-- no `raise` mark so far: until `run()` ends (and `_clean_up` runs) the tables are the receive steps of the packets
    delivered, applied in order to the initial tables; a task fails only if the black box says so -/
structure AppInv (H : Hooks σ) (a : σ) (st : St σ) : Prop where
  bad : st.bad = []
  app : st.face.status = .running → st.app = recvAll H a st.processed
  errors : (∀ a p, (H.recv a p).2 = false) → st.errors = []

theorem appInv_step (caught : List RdErr) (H : Hooks σ) (a : σ) {st : St σ} (ha : AppInv H a st) (ev : Ev)
    (hr : ev.isRaise = false) : AppInv H a (step caught H st ev) :=
  step_cases caught H st ev (P := AppInv H a)
    (fun _ _ _ _ hrun _ _ _ => ⟨ha.bad, fun h => (if_pos h).trans (ha.app hrun), ha.errors⟩)
    (fun _ hne => ⟨ha.bad, fun h => absurd h hne, ha.errors⟩)
    (fun _ _ _ => ⟨ha.bad, fun h => absurd h (handled_ne_running _ _), ha.errors⟩)
    (fun _ => ⟨ha.bad, ha.app, ha.errors⟩)
    (fun ps _ _ _ => ⟨ha.bad, fun h =>
      ((runTasks_app H ps st ha.bad).1.trans (congrArg (recvAll H · ps) (ha.app h))).trans (recvAll_append ..).symm,
      fun hH => ((runTasks_app H ps st ha.bad).2 hH).trans (ha.errors hH)⟩)
    (fun _ he => by rw [he] at hr; cases hr)

theorem appInv_run (caught : List RdErr) (H : Hooks σ) (a : σ) (h : List Ev)
    (hr : h.all (fun e => !e.isRaise) = true) : AppInv H a (run caught H a h) :=
  runFrom_keeps caught H (P := fun st _ => AppInv H a st) (s := []) h
    (fun _ _ ev hev hp => appInv_step caught H a hp ev (by simpa using List.all_eq_true.1 hr ev hev))
    ⟨rfl, fun _ => rfl, fun _ => rfl⟩

theorem close_turn_app (caught : List RdErr) (H : Hooks σ) {st : St σ} {s : Bytes} (hi : Inv st s) (ho : Open st)
    (hb : st.bad = []) (c : Bytes) :
    let fin := step caught H (step caught H st (.close c)) .turn
    fin.processed = (frames (s ++ c)).1 ∧
    fin.app = recvAll H (H.cleanup st.app) ((frames (s ++ c)).1.drop st.processed.length) := by
  obtain ⟨c1, c2⟩ := close_open caught H hi ho c
  have e := (step_close caught H ho.2 c).trans (afterPass_eq ..)
  have hbad : (step caught H st (.close c)).bad = [] := by rw [e]; exact hb
  have happ : (step caught H st (.close c)).app = H.cleanup st.app := by
    rw [e] at c1 ⊢; exact if_neg (c1 ▸ handled_ne_running _ _)
  have hq : (step caught H st (.close c)).queue = (frames (s ++ c)).1.drop st.processed.length := by
    rw [← c2, e]; exact (List.drop_left ..).symm
  exact ⟨(turn_processed caught H _).1.trans c2, (runTasks_app H _ _ hbad).1.trans (by rw [happ, hq])⟩

namespace Udp

theorem accepted_append (a b : List Bytes) : accepted (a ++ b) = accepted a ++ accepted b := by
  simp [accepted, List.filterMap_append]

theorem dgrams_append (a b : List Ev) : dgrams (a ++ b) = dgrams a ++ dgrams b := by
  induction a with
  | nil => rfl
  | cons e es ih => cases e <;> simp [dgrams, ih]

theorem step_spawned (caught : List PyErr) (H : Hooks σ) (u : USt σ) (ev : Ev) :
    (step caught H u ev).st.spawned = u.st.spawned ++ accepted (dgrams [ev]) := by
  cases ev with
  | dgram d =>
    simp only [step, Recv.datagramReceived, dgrams, accepted, List.filterMap_cons, List.filterMap_nil]
    cases h : parseTlNum d 0 with
    | ok p => obtain ⟨t, o⟩ := p; simp [St.spawned]
    | error e => by_cases hc : e ∈ caught <;> simp [hc]
  | lost => simp only [step]; split <;> simp [St.spawned, dgrams, accepted]
  | shutdown => simp [step, St.spawned, dgrams, accepted]
  | turn =>
    have e := congrArg St.processed (runTasks_eq H u.st.queue u.st)
    simp [step, St.spawned, dgrams, accepted, e]
  | step1 =>
    simp only [step]; split
    · simp [dgrams, accepted]
    · next p q hq =>
      have e := congrArg St.processed (runTask_eq H u.st p)
      simp [St.spawned, dgrams, accepted, e, hq]
  | raise k => simp [step, St.spawned, dgrams, accepted]

theorem runFrom_spawned (caught : List PyErr) (H : Hooks σ) (h : List Ev) : ∀ u : USt σ,
    (runFrom caught H u h).st.spawned = u.st.spawned ++ accepted (dgrams h) := by
  induction h with
  | nil => intro u; simp [runFrom, dgrams, accepted]
  | cons e es ih =>
    intro u
    simp only [runFrom]
    rw [ih, step_spawned]
    have : dgrams (e :: es) = dgrams [e] ++ dgrams es := dgrams_append [e] es
    rw [this, accepted_append, List.append_assoc]

theorem runFrom_append (caught : List PyErr) (H : Hooks σ) (u : USt σ) (h1 h2 : List Ev) :
    runFrom caught H u (h1 ++ h2) = runFrom caught H (runFrom caught H u h1) h2 := by
  induction h1 generalizing u with
  | nil => rfl
  | cons e es ih => simp only [List.cons_append, runFrom]; exact ih _

theorem turn_processed (caught : List PyErr) (H : Hooks σ) (u : USt σ) :
    (step caught H u .turn).st.processed = u.st.spawned ∧ (step caught H u .turn).st.queue = [] :=
  -- a turn does not look at the `except` tuple, so any will do for the stream lemma
  FaceTasks.turn_processed [] H u.st

theorem step_cbErrors (caught : List PyErr) (H : Hooks σ) (hc : ∀ d, ∃ r, Recv.datagramReceived caught d = .ok r)
    (u : USt σ) (ev : Ev) : (step caught H u ev).cbErrors = u.cbErrors := by
  cases ev with
  | dgram d =>
    obtain ⟨r, hr⟩ := hc d
    simp only [step, hr]
    cases r <;> rfl
  | lost => simp only [step]; split <;> rfl
  | shutdown => rfl
  | turn => rfl
  | step1 => simp only [step]; split <;> rfl
  | raise k => rfl

theorem runFrom_cbErrors (caught : List PyErr) (H : Hooks σ) (hc : ∀ d, ∃ r, Recv.datagramReceived caught d = .ok r)
    (h : List Ev) : ∀ u : USt σ, (runFrom caught H u h).cbErrors = u.cbErrors := by
  induction h with
  | nil => intro u; rfl
  | cons e es ih => intro u; simp only [runFrom]; rw [ih, step_cbErrors caught H hc]

def ucore (u : USt σ) : Status × Bool × List Pkt × List Pkt × List PyErr :=
  (u.st.face.status, u.st.running, u.st.queue, u.st.processed, u.cbErrors)

theorem ucore_step {τ : Type} (caught : List PyErr) (H : Hooks σ) (H' : Hooks τ) (u1 : USt σ) (u2 : USt τ)
    (hc : ucore u1 = ucore u2) (ev : Ev) : ucore (step caught H u1 ev) = ucore (step caught H' u2 ev) := by
  obtain ⟨⟨⟨_, _, s⟩, _, q, _, _, _, _⟩, _⟩ := u1
  obtain ⟨⟨⟨_, _, _⟩, _, _, _, _, _, _⟩, _⟩ := u2
  cases hc
  cases ev with
  | dgram d =>
    simp only [step]
    cases Recv.datagramReceived caught d with
    | ok r => cases r <;> rfl
    | error e => rfl
  | lost => cases s <;> rfl
  | shutdown => rfl
  | turn =>
    simp only [step]
    rw [runTasks_eq H, runTasks_eq H']
    rfl
  | step1 =>
    cases q with
    | nil => rfl
    | cons x q =>
      simp only [step]
      rw [runTask_eq H, runTask_eq H']
      rfl
  | raise k => rfl

theorem ucore_runFrom {τ : Type} (caught : List PyErr) (H : Hooks σ) (H' : Hooks τ) (h : List Ev) :
    ∀ (u1 : USt σ) (u2 : USt τ), ucore u1 = ucore u2 →
    ucore (runFrom caught H u1 h) = ucore (runFrom caught H' u2 (h.filter (fun e => !e.isRaise))) := by
  induction h with
  | nil => intro u1 u2 hc; exact hc
  | cons e es ih =>
    intro u1 u2 hc
    cases hr : e.isRaise with
    | true =>
      cases e <;> simp [Ev.isRaise] at hr
      simp only [List.filter, Ev.isRaise, Bool.not_true, runFrom]
      exact ih _ _ hc
    | false =>
      simp only [List.filter, hr, Bool.not_false, runFrom]
      exact ih _ _ (ucore_step caught H H' u1 u2 hc e)

end Udp

end Ndn.FaceTasks
