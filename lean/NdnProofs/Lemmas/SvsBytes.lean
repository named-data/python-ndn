import NdnModel.SvsBytes
import NdnProofs.Lemmas.Svs
import NdnProofs.Lemmas.CodecReenc
/-! The byte-level half of C18.  Encode side: what `express_sync_interest` builds from a well-formed vector, and that
    encoding it fails only with `struct.error`.  Decode side: entries read off values that fit the `StateVecEntry`
    schema are well-formed (`fitsList_entries_wf`), the entries of a vector denote it (`vecOf_entriesOf`), and events
    carrying only well-formed entries keep the local vector well-formed (`step_wfVec`). -/
namespace Ndn.Svs
open Ndn Ndn.Codec

/-- `StateVecEntry` as a field of `StateVec` -/
def elemSchema : Schema := .model 202 [.name 7, .uint 204 none] false

/-- the regenerated class is the one these lemmas are about (a source edit breaks this `rfl`) -/
theorem wrapperSchema_eq : wrapperSchema = [.model 201 [.repeated elemSchema] false] := rfl

theorem wrapper_wf : wfTop wrapperSchema = true := by decide
theorem wrapper_p : pFs wrapperSchema = true := by decide

/-- a node id as the library produces it: `Name.to_bytes` of a non-empty name whose components are single
    TLV elements -/
def WfId (i : Bytes) : Prop :=
  ∃ cs : List Bytes, cs ≠ [] ∧ cs.all compOk = true ∧ (concatB cs).length < 2 ^ 64 ∧ i = tlv 7 (concatB cs)

/-- a vector whose node ids are well-formed names and whose sequence numbers fit 64 bits -/
def WfVec (v : Vec) : Prop := ∀ p ∈ v, WfId p.1 ∧ p.2 < 2 ^ 64

/-- the entries a vector consists of -/
def entriesOf (v : Vec) : List Entry := v.map fun p => (some p.1, some p.2)

theorem nodeIdBytes_of_ne_nil {cs : List Bytes} (h : cs ≠ []) : nodeIdBytes cs = tlv 7 (concatB cs) := by
  cases cs with
  | nil => exact absurd rfl h
  | cons _ _ => rfl

theorem WfId.ne_nil {i : Bytes} (h : WfId i) : i ≠ [] := by
  obtain ⟨cs, _, _, _, rfl⟩ := h
  exact tlv_ne_nil _ _

theorem wfVec_cons {p : Bytes × Nat} {r : Vec} (h : WfVec (p :: r)) : (WfId p.1 ∧ p.2 < 2 ^ 64) ∧ WfVec r :=
  ⟨h p (by simp), fun x hx => h x (List.mem_cons_of_mem _ hx)⟩

theorem wfVec_set (d : Vec) (k : Bytes) (q : Nat) (h : WfVec d) (hk : WfId k) (hq : q < 2 ^ 64) :
    WfVec (PyDict.set d k q) :=
  fun p hp => (PyDict.mem_set_cases _ _ _ _ hp).elim (fun e => e ▸ ⟨hk, hq⟩) (h p)

theorem vecValues_wf (v : Vec) (h : WfVec v) : ∃ es, vecValues v = .ok es ∧
    fitsList elemSchema es = true ∧ es.map entryOfValue = entriesOf v ∧
    ∀ x ∈ es, ∃ cs q, x = Value.model [.name cs, .uint q] ∧ q < 2 ^ 64 := by
  induction v with
  | nil => exact ⟨[], rfl, rfl, rfl, fun _ hx => nomatch hx⟩
  | cons p r ih =>
    obtain ⟨i, q⟩ := p
    obtain ⟨⟨⟨cs, hne, hall, hl, hi⟩, hq⟩, hr⟩ := wfVec_cons h
    obtain ⟨rest, hrest, f1, f2, f3⟩ := ih hr
    dsimp only at hi
    subst hi
    -- `Name.from_bytes` on a well-formed id gives back its components
    have hdec : decodeName (tlv 7 (concatB cs)) 0 = .ok cs := by
      have := decodeName_ok cs [] hall hl
      rwa [List.append_nil] at this
    refine ⟨.model [.name cs, .uint q] :: rest, ?_, ?_, ?_, ?_⟩
    · simp only [vecValues, hdec, hrest, bind, Except.bind]; rfl
    · simp only [elemSchema] at f1
      simp [fitsList, fits, fitsFs, elemSchema, hall, f1]
    · simp only [List.map_cons, entryOfValue, nodeIdBytes_of_ne_nil hne, f2, entriesOf]
    · intro x hx
      rcases List.mem_cons.mp hx with rfl | hx
      · exact ⟨cs, q, rfl, hq⟩
      · exact f3 x hx

/-- a result that is a value or `struct.error` (a Type or Length that does not fit 64 bits) -/
def OkOrStructError {α} (x : Except PyErr α) : Prop := ∀ e, x = .error e → e = .structError

theorem OkOrStructError.ok {α} (a : α) : OkOrStructError (Except.ok a : Except PyErr α) := by intro e h; cases h

theorem OkOrStructError.bind {α β} {x : Except PyErr α} {f : α → Except PyErr β}
    (hx : OkOrStructError x) (hf : ∀ a, x = .ok a → OkOrStructError (f a)) : OkOrStructError (x >>= f) := by
  cases x with
  | error e => intro e' h; cases h; exact hx e rfl
  | ok a => exact hf a rfl

theorem tlvE_fails_struct (t : Nat) (b : Bytes) : OkOrStructError (tlvE t b) := by
  unfold tlvE; split
  · exact OkOrStructError.ok _
  · intro e h; cases h; rfl

theorem enc_entry_fails_struct (cs : List Bytes) (q : Nat) (hq : q < 2 ^ 64) :
    OkOrStructError (enc elemSchema (.model [.name cs, .uint q])) := by
  have hw : ¬ (q ≥ 256 ^ uintWidth none q) := by
    have := uintWidth_none_fits q hq; omega
  simp only [elemSchema, enc, encFields, hw, if_false]
  apply OkOrStructError.bind
  · apply OkOrStructError.bind (tlvE_fails_struct _ _); intro a _
    apply OkOrStructError.bind
    · apply OkOrStructError.bind (tlvE_fails_struct _ _); intro b _
      exact OkOrStructError.ok _
    · intro c _; exact OkOrStructError.ok _
  · intro body _; exact tlvE_fails_struct _ _

theorem encList_entries_fails_struct : ∀ (es : List Value),
    (∀ x ∈ es, ∃ cs q, x = Value.model [.name cs, .uint q] ∧ q < 2 ^ 64) → OkOrStructError (encList elemSchema es)
  | [], _ => by simp only [encList]; exact OkOrStructError.ok _
  | x :: r, h => by
    obtain ⟨cs, q, rfl, hq⟩ := h x (by simp)
    simp only [encList]
    apply OkOrStructError.bind (enc_entry_fails_struct cs q hq); intro a _
    apply OkOrStructError.bind (encList_entries_fails_struct r (fun y hy => h y (List.mem_cons_of_mem _ hy))); intro b _
    exact OkOrStructError.ok _

theorem encodeVector_fails_struct (v : Vec) (h : WfVec v) : OkOrStructError (encodeVector v) := by
  obtain ⟨es, hes, _, _, hshape⟩ := vecValues_wf v h
  unfold encodeVector
  rw [hes]
  show OkOrStructError (encFields wrapperSchema [.model [.list es]])
  rw [wrapperSchema_eq]
  simp only [encFields, enc]
  apply OkOrStructError.bind
  · apply OkOrStructError.bind
    · apply OkOrStructError.bind (encList_entries_fails_struct es hshape); intro a _
      exact OkOrStructError.ok _
    · intro body _; exact tlvE_fails_struct _ _
  · intro a _; exact OkOrStructError.ok _

theorem decodeVectorE_error {comp : Bytes} {e : PyErr} (h : decodeVectorE comp = .error e) :
    parse wrapperSchema false comp = .error e :=
  (bind_error_cases h).elim id fun ⟨_, _, h'⟩ => nomatch h'

theorem decodeVector_some {comp : Bytes} {es : List Entry} :
    decodeVector comp = some es ↔ decodeVectorE comp = .ok es := by
  unfold decodeVector
  cases decodeVectorE comp <;> simp

theorem decodeVector_none {comp : Bytes} :
    decodeVector comp = none ↔ ∃ e, decodeVectorE comp = .error e := by
  unfold decodeVector
  cases decodeVectorE comp <;> simp

theorem caught_iff (e : PyErr) : caught e = true ↔ (e = .decodeError ∨ e = .indexError) := by
  cases e <;> decide

/-- an entry as the decoder delivers it: the node id is absent, empty or the encoding of a non-empty name whose
    components are single TLV elements; the sequence number, when present, fits 64 bits -/
def EntryWf (e : Entry) : Prop :=
  (∀ i, e.1 = some i → i = [] ∨ WfId i) ∧ (∀ q, e.2 = some q → q < 2 ^ 64)

theorem entryOfValue_wf (n : Nat) (hn : n < 2 ^ 64) (z : Value) (hf : fits elemSchema z = true)
    (hb : bounded n z = true) : EntryWf (entryOfValue z) := by
  unfold entryOfValue
  split
  · rename_i a b
    simp only [elemSchema, fits, fitsFs, Bool.and_eq_true] at hf
    simp only [bounded, boundedL, Bool.and_eq_true] at hb
    refine ⟨fun i hi => ?_, fun q hq => ?_⟩
    · dsimp only at hi
      split at hi
      · rename_i cs
        cases hi
        by_cases hc : cs = []
        · exact .inl (by rw [hc]; rfl)
        · have ha := hf.1
          have ba := hb.1
          simp only [fits] at ha
          simp only [bounded, decide_eq_true_eq] at ba
          exact .inr ⟨cs, hc, ha, by omega, nodeIdBytes_of_ne_nil hc⟩
      · cases hi
    · dsimp only at hq
      split at hq
      · cases hq
        have bb := hb.2.1
        simpa only [bounded, decide_eq_true_eq] using bb
      · cases hq
  · exact ⟨fun _ hi => (nomatch hi), fun _ hq => (nomatch hq)⟩

theorem fitsList_entries_wf (n : Nat) (hn : n < 2 ^ 64) : ∀ (zs : List Value),
    fitsList elemSchema zs = true → boundedL n zs = true → ∀ e ∈ zs.map entryOfValue, EntryWf e
  | [], _, _, e, he => by simp at he
  | z :: r, hf, hb, e, he => by
    simp only [fitsList, Bool.and_eq_true] at hf
    simp only [boundedL, Bool.and_eq_true] at hb
    simp only [List.map_cons, List.mem_cons] at he
    rcases he with rfl | he
    · exact entryOfValue_wf n hn z hf.1.2 hb.1
    · exact fitsList_entries_wf n hn r hf.2 hb.2 e he

theorem vecOfF_entriesOf (v : Vec) (hn : (PyDict.keys v).Nodup) (hne : ∀ p ∈ v, p.1 ≠ [])
    (f : Bytes → Nat) (k : Bytes) :
    vecOfF (entriesOf v) f k = if k ∈ PyDict.keys v then vget v k else f k := by
  induction v generalizing f with
  | nil => rfl
  | cons p r ih =>
    obtain ⟨i, q⟩ := p
    obtain ⟨hi, hr⟩ := List.nodup_cons.mp hn
    have hi : i ∉ PyDict.keys r := hi
    simp only [entriesOf, List.map_cons, vecOfF, if_neg (hne (i, q) List.mem_cons_self)]
    refine (ih hr (fun p hp => hne p (List.mem_cons_of_mem _ hp)) _).trans ?_
    rw [vget_cons]
    -- the later entries of a dict do not repeat `i`
    by_cases e : i = k
    · subst e
      have : i ∈ PyDict.keys ((i, q) :: r) := List.mem_cons_self
      rw [if_neg hi, if_pos rfl, if_pos this, if_pos rfl]
    · have : k ∈ PyDict.keys ((i, q) :: r) ↔ k ∈ PyDict.keys r :=
        ⟨fun h => (List.mem_cons.mp h).resolve_left (Ne.symm e), List.mem_cons_of_mem _⟩
      simp only [if_neg e, this]

theorem vecOf_entriesOf (v : Vec) (hn : (PyDict.keys v).Nodup) (hne : ∀ p ∈ v, p.1 ≠ []) (k : Bytes) :
    vecOf (entriesOf v) k = vget v k := by
  unfold vecOf
  rw [vecOfF_entriesOf v hn hne]
  split
  · rfl
  · exact (vget_of_not_mem ‹_›).symm

theorem not_overclaims_entriesOf (v : Vec) (hn : (PyDict.keys v).Nodup) (selfId : Bytes) (selfSeq : Nat)
    (h : vget v selfId ≤ selfSeq) : ¬ overclaims selfId selfSeq (entriesOf v) := by
  rintro ⟨q, hm, _, hlt⟩
  obtain ⟨⟨i, q'⟩, hp, he⟩ := List.mem_map.mp hm
  cases he
  rw [vget_of_mem hn hp] at h
  exact Nat.not_lt.mpr h hlt

/-- the events that keep the local vector well-formed: received vectors whose entries are well-formed (all
    vectors that come out of the decoder are), undecodable Interests, publications, timer expiries -/
def GoodEv : Ev → Prop
  | .recv es => ∀ e ∈ es, EntryWf e
  | _ => True

/-- one step keeps the local vector well-formed (a publication needs the next sequence number to fit) -/
theorem step_wfVec (s : State) (e : Ev) (hv : WfVec s.loc) (hid : WfId s.selfId) (he : GoodEv e)
    (hq : e = .publish → s.selfSeq + 1 < 2 ^ 64) : WfVec (step s e).1.loc := by
  refine step_loc_inv WfVec s e hv (fun h => wfVec_set _ _ _ hv hid (hq h)) fun es rsv hes hb p hp d hd => ?_
  subst hes
  -- `rsv_dict` holds only non-empty ids of well-formed entries
  have hr : WfVec rsv := by
    refine buildRsv_inv WfVec _ _ es (fun i q hm hne d hd => ?_) [] rsv (fun _ hp => nomatch hp) hb
    obtain ⟨h1, h2⟩ := he _ hm
    exact wfVec_set d i q hd ((h1 i rfl).resolve_left hne) (h2 q rfl)
  exact wfVec_set d _ _ hd (hr p hp).1 (hr p hp).2

end Ndn.Svs
