import NdnProofs.Lemmas.NameToStr
/-! `Name.from_str` on a printed name (`name_fromStr_print`), for any component printer whose text `Component.from_str`
    reads back: `Name.to_str` and `Name.to_canonical_uri` are both `printName`.  What `from_str` accepts is CHARSET text,
    so it has no `/`, and splitting at slashes undoes joining (`splitSlash_joinSlash`). -/
namespace Ndn
open Comp

theorem splitSlash_noslash (u : Str) (h : ∀ c ∈ u, c ≠ '/') : splitSlash u = [u] := by
  induction u with
  | nil => rfl
  | cons c u ih =>
    have hc := h c (by simp)
    simp [splitSlash, hc, ih (fun x hx => h x (by simp [hx]))]

theorem splitSlash_append (u rest : Str) (h : ∀ c ∈ u, c ≠ '/') :
    splitSlash (u ++ '/' :: rest) = u :: splitSlash rest := by
  induction u with
  | nil => simp [splitSlash]
  | cons c u ih =>
    have hc := h c (by simp)
    simp [splitSlash, hc, ih (fun x hx => h x (by simp [hx]))]

theorem joinSlash_cons2 (u u2 : Str) (us : List Str) :
    joinSlash (u :: u2 :: us) = u ++ '/' :: joinSlash (u2 :: us) := by
  rw [joinSlash]
  all_goals simp

theorem splitSlash_joinSlash (us : List Str) (hne : us ≠ []) (h : ∀ u ∈ us, ∀ c ∈ u, c ≠ '/') :
    splitSlash (joinSlash us) = us := by
  induction us with
  | nil => exact absurd rfl hne
  | cons u us ih =>
    cases us with
    | nil => simp [joinSlash]; exact splitSlash_noslash u (h u (by simp))
    | cons u2 us =>
      rw [joinSlash_cons2, splitSlash_append u _ (h u (by simp)), ih (by simp) (fun x hx => h x (by simp [hx]))]

theorem joinSlash_last (us : List Str) (hne : us ≠ []) : ∃ X, joinSlash us = X ++ us.getLast hne := by
  induction us with
  | nil => exact absurd rfl hne
  | cons u us ih =>
    cases us with
    | nil => exact ⟨[], by simp [joinSlash]⟩
    | cons u2 us =>
      obtain ⟨X, hX⟩ := ih (by simp)
      refine ⟨u ++ '/' :: X, ?_⟩
      rw [joinSlash_cons2, hX]; simp

/-- the part of `Name.from_str` after the slashes have been stripped -/
def finish (p : Str × Nat) : Except PyErr (List Bytes) :=
  if p.1 = [] ∧ p.2 ≤ 1 then .ok []
  else (splitSlash p.1).mapM fun comp => Comp.fromStr (Comp.escapeStr comp)

theorem fromStr_eq_finish (val : Str) : Name.fromStr val = finish (Name.stripTrail (Name.stripLead val)) := rfl

theorem finish_of (x : Str) (k : Nat) (h : x ≠ [] ∨ 2 ≤ k) :
    finish (x, k) = (splitSlash x).mapM fun comp => Comp.fromStr (Comp.escapeStr comp) := by
  rw [finish, if_neg]
  rcases h with h | h
  · exact fun e => h e.1
  · exact fun e => by have := e.2; omega

theorem finish_succ (x : Str) (k : Nat) (h : x ≠ [] ∨ k = 0) : finish (x, k + 1) = finish (x, k) := by
  rcases h with h | rfl <;> simp [finish, *]

theorem stripTrail_succ (x : Str) (k : Nat) :
    Name.stripTrail (x, k + 1) = ((Name.stripTrail (x, k)).1, (Name.stripTrail (x, k)).2 + 1) := by
  unfold Name.stripTrail; split <;> rfl

theorem stripTrail_snoc (x : Str) (k : Nat) : Name.stripTrail (x ++ ['/'], k) = (x, k + 1) := by
  simp [Name.stripTrail]

theorem stripTrail_of_ne (p : Str × Nat) (h : p.1.getLast? ≠ some '/') : Name.stripTrail p = p := by
  simp [Name.stripTrail, h]

theorem stripLead_ne (c : Char) (r : Str) (hc : c ≠ '/') : Name.stripLead (c :: r) = (c :: r, 0) := by
  unfold Name.stripLead
  split
  · rename_i r' e; injection e with e1 _; exact absurd e1 hc
  · rfl

/-- `Name.to_str` and `Name.to_canonical_uri`, for the component printer `g` -/
def printName (g : Bytes → Except PyErr Str) (n : List Bytes) : Except PyErr Str := do
  let ss ← n.mapM g
  pure ('/' :: (joinSlash ss ++ (if n.getLast? = some [8, 0] then ['/'] else [])))

theorem name_fromStr_print (g : Bytes → Except PyErr Str) (n : List Bytes)
    (h : ∀ c ∈ n, (g c >>= Comp.fromStr) = .ok c) : (printName g n >>= Name.fromStr) = .ok n := by
  -- `f c` is the text printed for `c`; being accepted by `from_str` it is CHARSET text, so without `/`, and it is
  -- empty only for `08 00` (`fromStr_ok`)
  obtain ⟨f, h⟩ : ∃ f : Bytes → Str, ∀ c ∈ n, g c = .ok (f c) ∧ Comp.fromStr (f c) = .ok c := by
    refine ⟨fun c => match g c with | .ok u => u | .error _ => [], fun c hc => ?_⟩
    obtain ⟨u, hu, hr⟩ := Codec.bind_ok (h c hc)
    dsimp only
    rw [hu]
    exact ⟨rfl, hr⟩
  have hch : ∀ c ∈ n, ∀ ch ∈ f c, inCharset ch = true := fun c hc => (fromStr_ok (h c hc).2).1
  have hp := mapM_map_ok g id f n (fun c hc => (h c hc).1)
  rw [List.map_id] at hp
  rw [printName, hp]
  show Name.fromStr _ = _
  by_cases hn : n = []
  · subst hn; rfl
  · have hus : n.map f ≠ [] := by simpa using hn
    have hsplit := splitSlash_joinSlash (n.map f) hus (by
      intro u hu c hc
      obtain ⟨a, ha, rfl⟩ := List.mem_map.mp hu
      exact inCharset_ne_slash c (hch a ha c hc))
    have hmap := mapM_map_ok (fun comp => Comp.fromStr (escapeStr comp)) f id n (fun a ha => by
      rw [escapeStr_id _ (hch a ha)]
      exact (h a ha).2)
    rw [List.map_id] at hmap
    have hlast : n.getLast? = some (n.getLast hn) := List.getLast?_eq_some_getLast hn
    rw [fromStr_eq_finish]
    show finish (Name.stripTrail (_, 1)) = _
    by_cases hl : n.getLast hn = [8, 0]
    · rw [hlast, hl, if_pos rfl, stripTrail_snoc, finish_of _ _ (Or.inr (Nat.le_refl 2)), hsplit, hmap]
    · -- the last component prints as non-empty text without `/`, so no trailing slash is stripped
      obtain ⟨X, hX⟩ := joinSlash_last (n.map f) hus
      have hlm : (n.map f).getLast hus = f (n.getLast hn) := by simp [List.getLast_map]
      have hfne : f (n.getLast hn) ≠ [] := fun e => hl ((fromStr_ok (h _ (List.getLast_mem hn)).2).2 e)
      rw [hlm] at hX
      have ha : joinSlash (n.map f) ≠ [] := by rw [hX]; simp [hfne]
      have hb : (joinSlash (n.map f)).getLast? ≠ some '/' := by
        rw [hX, List.getLast?_append, List.getLast?_eq_some_getLast hfne, Option.some_or]
        intro e
        injection e with e
        exact inCharset_ne_slash _ (hch _ (List.getLast_mem hn) _ (List.getLast_mem hfne)) e
      rw [hlast, if_neg (by simpa using hl), List.append_nil, stripTrail_of_ne _ hb, finish_of _ _ (Or.inl ha),
        hsplit, hmap]

end Ndn
