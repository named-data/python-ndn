import NdnProofs.Lemmas.CodecTotal
import NdnModel.CodecStrict
/-! The strict decoder (`NdnModel/CodecStrict.lean`) against the faithful one, for schemas without MapField (`pFs`):
    they agree on every byte string except where the strict reading stops at an overrun (`agree_step`); what it
    accepts is well nested (`nested_step`); on a well-nested input it never stops at an overrun (`wellNested_noov`). -/
namespace Ndn.Codec
open Ndn

/-- `x` (strict) and `y` (faithful) agree: same value, same error; where the strict reading stops at an
    overrunning integer or Name element the faithful decoder fails too (with some error). -/
def Agree {α} (x : Except SErr α) (y : Except PyErr α) : Prop :=
  match x with
  | .ok a => y = .ok a
  | .error (.py e) => y = .error e
  | .error (.overrun k) => (k = .integer ∨ k = .name) → ∃ e, y = .error e

theorem Agree.lift {α} (y : Except PyErr α) : Agree (lift y) y := by
  cases y <;> simp [Agree, Codec.lift]

theorem lift_ok_eq {α} (a : α) : Codec.lift (Except.ok a : Except PyErr α) = .ok a := rfl

theorem lift_ok {α} {x : Except PyErr α} {a : α} (h : Codec.lift x = .ok a) : x = .ok a := by
  cases x with
  | error e => cases h
  | ok b => cases h; rfl

theorem Agree.ok {α} (a : α) : Agree (Except.ok a : Except SErr α) (Except.ok a) := rfl

theorem Agree.err {α} (e : PyErr) : Agree (Except.error (.py e) : Except SErr α) (Except.error e) := rfl

theorem Agree.bind {α β} {x : Except SErr α} {y : Except PyErr α} {f : α → Except SErr β}
    {g : α → Except PyErr β} (h : Agree x y) (hf : ∀ a, x = .ok a → y = .ok a → Agree (f a) (g a)) :
    Agree (x >>= f) (y >>= g) := by
  cases x with
  | ok a =>
    have hy : y = .ok a := h
    subst hy
    exact hf a rfl rfl
  | error e =>
    cases e with
    | py e =>
      have hy : y = .error e := h
      subst hy; rfl
    | overrun k =>
      intro hk
      obtain ⟨e, he⟩ := h hk
      subst he
      exact ⟨e, rfl⟩

theorem Agree.only_overruns {α} {x : Except SErr α} {y : Except PyErr α} {a : α} (ha : Agree x y)
    (h : y = .ok a) :
    x = .ok a ∨ ∃ k, x = .error (.overrun k) ∧
      (k = .byteString ∨ k = .subModel ∨ k = .boolean ∨ k = .unrecognised) := by
  subst h
  cases x with
  | ok a' => cases (ha : Except.ok a = .ok a'); exact .inl rfl
  | error e =>
    cases e with
    | py e => cases (ha : Except.ok a = .error e)
    | overrun k =>
      have hv : (k = .integer ∨ k = .name) → ∃ e, Except.ok a = .error e := ha
      refine .inr ⟨k, rfl, ?_⟩
      cases k with
      | integer => obtain ⟨e, he⟩ := hv (.inl rfl); cases he
      | name => obtain ⟨e, he⟩ := hv (.inr rfl); cases he
      | _ => simp

theorem Agree.bind_lift {α β} {y : Except PyErr α} {f : α → Except SErr β} {g : α → Except PyErr β}
    (hf : ∀ a, y = .ok a → Agree (f a) (g a)) : Agree (Codec.lift y >>= f) (y >>= g) :=
  Agree.bind (Agree.lift y) (fun a _ h => hf a h)

theorem Agree.of_ok {α} {x : Except SErr α} {y : Except PyErr α} {a : α} (h : Agree x y) (hx : x = .ok a) :
    y = .ok a := by subst hx; exact h

theorem Agree.of_err {α} {x : Except SErr α} {y : Except PyErr α} {e : PyErr} (h : Agree x y)
    (hx : x = .error (.py e)) : y = .error e := by subst hx; exact h

/-- the strict reading does not stop at an overrunning element -/
def NoOv {α} (x : Except SErr α) : Prop := ∀ k, x ≠ .error (.overrun k)

theorem NoOv.ok {α} (a : α) : NoOv (Except.ok a : Except SErr α) := by intro k h; cases h
theorem NoOv.py {α} (e : PyErr) : NoOv (Except.error (.py e) : Except SErr α) := by intro k h; cases h
theorem NoOv.lift {α} (y : Except PyErr α) : NoOv (Codec.lift y) := by
  cases y with
  | ok a => exact NoOv.ok a
  | error e => exact NoOv.py e
theorem NoOv.bind {α β} {x : Except SErr α} {f : α → Except SErr β}
    (hx : NoOv x) (hf : ∀ a, x = .ok a → NoOv (f a)) : NoOv (x >>= f) := by
  cases x with
  | ok a => exact hf a rfl
  | error e =>
    cases e with
    | py e => exact NoOv.py e
    | overrun k => exact absurd rfl (hx k)

/-- the shape of "the strict reading accepts iff the decoder accepts and the input is nested (`N`)": what is
    accepted strictly is `N`, and on an `N` input the strict reading meets no overrun -/
theorem Agree.ok_iff {α} {x : Except SErr α} {y : Except PyErr α} {a : α} {N : Prop} (h : Agree x y)
    (h1 : x = .ok a → N) (h2 : N → NoOv x) : x = .ok a ↔ (y = .ok a ∧ N) := by
  refine ⟨fun hx => ⟨h.of_ok hx, h1 hx⟩, fun ⟨hy, hn⟩ => ?_⟩
  rcases h.only_overruns hy with h' | ⟨k, hk, _⟩
  · exact h'
  · exact absurd hk (h2 hn k)

theorem strictFields_isEmpty {f : Nat} {fs : List Schema} {ic : Bool} {rest : Bytes} {off pos : Nat}
    {acc : List Value} (h : rest.isEmpty = true) : strictFields (f + 1) fs ic rest off pos acc = .ok acc := by
  unfold strictFields; rw [if_pos h]

theorem strictFields_hdr_error {f : Nat} {fs : List Schema} {ic : Bool} {rest : Bytes} {off pos : Nat}
    {acc : List Value} {e : PyErr} (hne : rest.isEmpty = false)
    (h : parseTlNum rest 0 = .error e ∨
      ∃ typ st, parseTlNum rest 0 = .ok (typ, st) ∧ parseTlNum rest st = .error e) :
    strictFields (f + 1) fs ic rest off pos acc = .error (.py e) := by
  unfold strictFields
  obtain h1 | ⟨typ, st, h1, h2⟩ := h
  · simp only [hne, Bool.false_eq_true, if_false, h1, Codec.lift, bind, Except.bind]
  · simp only [hne, Bool.false_eq_true, if_false, h1, h2, Codec.lift, bind, Except.bind]

theorem strictFields_overrun {f : Nat} {fs : List Schema} {ic : Bool} {rest : Bytes} {off pos : Nat}
    {acc : List Value} {typ st len sl : Nat} (h1 : parseTlNum rest 0 = .ok (typ, st))
    (h2 : parseTlNum rest st = .ok (len, sl)) (ho : st + sl + len > rest.length) :
    strictFields (f + 1) fs ic rest off pos acc = .error (.overrun (kindAt fs pos typ)) := by
  unfold strictFields
  simp only [isEmpty_of_tl h1, Bool.false_eq_true, if_false, h1, h2, Codec.lift, bind, Except.bind, ho, if_true]

theorem strictFields_unknown {f : Nat} {fs : List Schema} {ic : Bool} {rest : Bytes} {off pos : Nat}
    {acc : List Value} {typ st len sl : Nat} (h1 : parseTlNum rest 0 = .ok (typ, st))
    (h2 : parseTlNum rest st = .ok (len, sl)) (ho : ¬ st + sl + len > rest.length)
    (hfind : findField fs pos typ = none) :
    strictFields (f + 1) fs ic rest off pos acc =
      if typ % 2 = 1 ∧ ¬ ic then .error (.py .decodeError)
      else strictFields f fs ic (rest.drop (st + sl + len)) (off + (st + sl) + len) pos acc := by
  conv => lhs; unfold strictFields
  simp only [isEmpty_of_tl h1, Bool.false_eq_true, if_false, h1, h2, Codec.lift, bind, Except.bind, ho, hfind]

theorem strictFields_field {f : Nat} {fs : List Schema} {ic : Bool} {rest : Bytes} {off pos : Nat}
    {acc : List Value} {typ st len sl i : Nat} {s : Schema} (h1 : parseTlNum rest 0 = .ok (typ, st))
    (h2 : parseTlNum rest st = .ok (len, sl)) (ho : ¬ st + sl + len > rest.length)
    (hfind : findField fs pos typ = some i) (hs : fs[i]? = some s) (hm : isMapS s = false) :
    strictFields (f + 1) fs ic rest off pos acc =
      (Codec.lift (leafCheck (elemOf s) len (pySlice rest (st + sl) (st + sl + len))) >>= fun _ =>
       strictValue f (elemOf s) (pySlice rest (st + sl) (st + sl + len)) rest >>= fun v =>
       strictFields f fs ic (rest.drop (st + sl + len)) (off + (st + sl) + len) (if isRep s then i else i + 1)
         ((skipMarkers fs acc pos i off).set i (upd s (skipMarkers fs acc pos i off)[i]? v))) := by
  conv => lhs; unfold strictFields
  simp only [isEmpty_of_tl h1, Bool.false_eq_true, if_false, h1, h2, Codec.lift, bind, Except.bind, ho, hfind, hs]
  cases s with
  | map k w => simp [isMapS] at hm
  | _ => rfl

theorem fieldAt_field {fs : List Schema} {pos typ i : Nat} {s : Schema} (hfind : findField fs pos typ = some i)
    (hs : fs[i]? = some s) (hm : isMapS s = false) :
    fieldAt fs pos typ = some (elemOf s, i, if isRep s then i else i + 1) := by
  unfold fieldAt
  simp only [hfind, hs]
  cases s with
  | map k w => simp [isMapS] at hm
  | _ => rfl

theorem fieldAt_eq_none {fs : List Schema} {pos typ : Nat} :
    fieldAt fs pos typ = none ↔ findField fs pos typ = none := by
  unfold fieldAt
  cases hfind : findField fs pos typ with
  | none => simp
  | some i =>
    obtain ⟨s, hs, _⟩ := findField_get fs pos typ i hfind
    simp only [hs]
    cases s <;> simp

/-- an integer or Name element that the decoder reads lies inside the buffer -/
theorem leaf_inside {s : Schema} {f : Nat} {rest : Bytes} {typ st len sl : Nat} {v : Value}
    (h1 : parseTlNum rest 0 = .ok (typ, st)) (h2 : parseTlNum rest st = .ok (len, sl))
    (hk : leafKind s = .integer ∨ leafKind s = .name)
    (hl : leafCheck s len (pySlice rest (st + sl) (st + sl + len)) = .ok ())
    (hv : parseValue f s (pySlice rest (st + sl) (st + sl + len)) rest = .ok v) :
    st + sl + len ≤ rest.length := by
  cases s with
  | uint t fl =>
    -- `struct.unpack_from` wants as many bytes as the Length says, and the slice is cut at the end of the wire
    have := leafCheck_uint hl
    have := pySlice_len_le rest (st + sl) (st + sl + len)
    omega
  | name t =>
    cases f with
    | zero => cases hv
    | succ f =>
      unfold parseValue at hv
      obtain ⟨cs, hcs, _⟩ := bind_ok hv
      obtain ⟨_, _, _, _, g1, g2, _, hle, _⟩ := decodeName_accepted hcs
      cases h1.symm.trans g1
      cases h2.symm.trans g2
      exact hle
  | _ => simp [leafKind] at hk

theorem ok_bind {ε α β} (a : α) (f : α → Except ε β) : (Except.ok a >>= f) = f a := rfl
theorem err_bind {ε α β} (e : ε) (f : α → Except ε β) : ((Except.error e : Except ε α) >>= f) = .error e := rfl

theorem parseFields_overrun_fails (f : Nat) (fs : List Schema) (ic : Bool) (rest : Bytes) (off pos : Nat)
    (acc : List Value) (typ st len sl : Nat) (hp : pFs fs = true)
    (h1 : parseTlNum rest 0 = .ok (typ, st)) (h2 : parseTlNum rest st = .ok (len, sl))
    (ho : st + sl + len > rest.length)
    (hk : kindAt fs pos typ = .integer ∨ kindAt fs pos typ = .name) :
    ∃ e, parseFields (f + 1) fs ic rest off pos acc = .error e := by
  unfold kindAt at hk
  cases hfind : findField fs pos typ with
  | none => simp [fieldAt, hfind] at hk
  | some i =>
    obtain ⟨s, hs, hm, _, _⟩ := pFs_field hp hfind
    rw [fieldAt_field hfind hs hm] at hk
    cases hr : parseFields (f + 1) fs ic rest off pos acc with
    | error e => exact ⟨e, rfl⟩
    | ok vs =>
      rw [parseFields_field h1 h2 hfind hs hm] at hr
      obtain ⟨_, hl, hr⟩ := bind_ok hr
      obtain ⟨v, hv, _⟩ := bind_ok hr
      exact absurd (leaf_inside h1 h2 hk hl hv) (Nat.not_le.2 ho)

theorem strictValue_of_not_model {s : Schema} (h : ∀ t fs ic, s ≠ .model t fs ic) (f : Nat) (body elem : Bytes) :
    strictValue f s body elem = Codec.lift (parseValue f s body elem) := by
  cases f with
  | zero => rfl
  | succ f =>
    cases s with
    | model t fs ic => exact absurd rfl (h t fs ic)
    | _ => rfl

theorem agree_step : ∀ (fuel : Nat),
    (∀ (fs : List Schema) (ic : Bool) (rest : Bytes) (off pos : Nat) (acc : List Value), pFs fs = true →
      Agree (strictFields fuel fs ic rest off pos acc) (parseFields fuel fs ic rest off pos acc)) ∧
    (∀ (s : Schema) (body elem : Bytes), pS s = true →
      Agree (strictValue fuel s body elem) (parseValue fuel s body elem))
  | 0 => ⟨fun _ _ _ _ _ _ _ => Agree.err _, fun _ _ _ _ => Agree.err _⟩
  | f + 1 => by
    obtain ⟨ihF, ihV⟩ := agree_step f
    refine ⟨?_, ?_⟩
    · intro fs ic rest off pos acc hp
      obtain hne | ⟨hne, ⟨e, herr⟩ | ⟨typ, st, len, sl, h1, h2⟩⟩ := hdr_cases rest
      · rw [strictFields_isEmpty hne, parseFields_isEmpty hne]; exact Agree.ok _
      · rw [strictFields_hdr_error hne herr, parseFields_hdr_error hne herr]; exact Agree.err _
      by_cases ho : st + sl + len > rest.length
      · rw [strictFields_overrun h1 h2 ho]
        intro hk
        exact parseFields_overrun_fails f fs ic rest off pos acc typ st len sl hp h1 h2 ho hk
      cases hfind : findField fs pos typ with
      | none =>
        rw [strictFields_unknown h1 h2 ho hfind, parseFields_unknown h1 h2 hfind]
        split
        · exact Agree.err _
        · exact ihF _ _ _ _ _ _ hp
      | some i =>
        obtain ⟨s, hs, hm, hpe, _⟩ := pFs_field hp hfind
        rw [strictFields_field h1 h2 ho hfind hs hm, parseFields_field h1 h2 hfind hs hm]
        exact Agree.bind_lift (fun _ _ => Agree.bind (ihV _ _ _ hpe) (fun _ _ _ => ihF _ _ _ _ _ _ hp))
    · intro s body elem hps
      cases s with
      | model t fs' ic' =>
        simp only [pS] at hps
        rw [strictValue, parseValue]
        exact Agree.bind (ihF _ _ _ _ _ _ hps) (fun _ _ _ => Agree.ok _)
      | _ => rw [strictValue_of_not_model (fun _ _ _ h => by cases h)]; exact Agree.lift _

theorem decodeComps_nested : ∀ (fuel : Nat) (buf : Bytes) (off length : Nat) (cs : List Bytes),
    decodeComps fuel buf off length = .ok cs → CompsNested buf off length
  | 0, _, _, _, _, h => by simp [decodeComps] at h
  | fuel + 1, buf, off, length, cs, h => by
    unfold decodeComps at h
    split at h
    · rename_i h0; subst h0; exact .done _
    · obtain ⟨⟨t, st⟩, h1, h⟩ := bind_ok h
      obtain ⟨⟨lc, sl⟩, h2, h⟩ := bind_ok h
      simp only [] at h
      split at h
      · cases h
      · obtain ⟨r, hr, _⟩ := bind_ok h
        exact .comp h1 h2 (by omega) (decodeComps_nested fuel _ _ _ _ hr)

theorem decodeName_nested {rest : Bytes} {cs : List Bytes} {typ st len sl : Nat}
    (h : decodeName rest 0 = .ok cs) (h1 : parseTlNum rest 0 = .ok (typ, st))
    (h2 : parseTlNum rest st = .ok (len, sl)) : CompsNested rest (st + sl) len := by
  unfold decodeName at h
  simp only [h1, ok_bind, Nat.zero_add, h2] at h
  split at h
  · cases h
  · split at h
    · cases h
    · exact decodeComps_nested _ _ _ _ _ h

theorem wn_of_value {f : Nat} {fs : List Schema} {pos : Nat} {rest : Bytes} {typ st len sl : Nat}
    {s : Schema} {i next : Nat} {v : Value}
    (h1 : parseTlNum rest 0 = .ok (typ, st)) (h2 : parseTlNum rest st = .ok (len, sl))
    (ho : ¬ st + sl + len > rest.length)
    (hfa : fieldAt fs pos typ = some (s, i, next)) (hk : isElemKind s = true)
    (hv : strictValue f s (pySlice rest (st + sl) (st + sl + len)) rest = .ok v)
    (hsub : ∀ t fs' ic', s = .model t fs' ic' → WellNested fs' 0 (pySlice rest (st + sl) (st + sl + len)))
    (htail : WellNested fs next (rest.drop (st + sl + len))) : WellNested fs pos rest := by
  have hE : ElemAt rest typ (st + sl) len := ⟨st, sl, h1, h2, rfl, by omega⟩
  cases s with
  | uint t fl | bool t | bytes t b => exact .leaf hE hfa rfl htail
  | model t fs' ic' => exact .sub hE hfa (hsub _ _ _ rfl) htail
  | name t =>
    refine .name hE hfa ?_ htail
    cases f with
    | zero => cases hv
    | succ f =>
      unfold strictValue at hv
      have hv := lift_ok hv
      unfold parseValue at hv
      obtain ⟨cs, hcs, _⟩ := bind_ok hv
      exact decodeName_nested hcs h1 h2
  | _ => simp [isElemKind] at hk

theorem nested_step : ∀ (fuel : Nat),
    (∀ (fs : List Schema) (ic : Bool) (rest : Bytes) (off pos : Nat) (acc vs : List Value), pFs fs = true →
      strictFields fuel fs ic rest off pos acc = .ok vs → WellNested fs pos rest) ∧
    (∀ (t : Nat) (fs : List Schema) (ic : Bool) (body elem : Bytes) (v : Value), pFs fs = true →
      strictValue fuel (.model t fs ic) body elem = .ok v → WellNested fs 0 body)
  | 0 => ⟨fun _ _ _ _ _ _ _ _ h => (by cases h), fun _ _ _ _ _ _ _ h => (by cases h)⟩
  | f + 1 => by
    obtain ⟨ihF, ihV⟩ := nested_step f
    refine ⟨?_, ?_⟩
    · intro fs ic rest off pos acc vs hp h
      obtain hne | ⟨hne, ⟨e, herr⟩ | ⟨typ, st, len, sl, h1, h2⟩⟩ := hdr_cases rest
      · have : rest = [] := by simpa using hne
        subst this; exact .done _ _
      · rw [strictFields_hdr_error hne herr] at h; cases h
      by_cases ho : st + sl + len > rest.length
      · rw [strictFields_overrun h1 h2 ho] at h; cases h
      cases hfind : findField fs pos typ with
      | none =>
        rw [strictFields_unknown h1 h2 ho hfind] at h
        split at h
        · cases h
        · exact .skip ⟨st, sl, h1, h2, rfl, by omega⟩ (fieldAt_eq_none.2 hfind) (ihF _ _ _ _ _ _ _ hp h)
      | some i =>
        obtain ⟨s, hs, hm, hpe, hke⟩ := pFs_field hp hfind
        rw [strictFields_field h1 h2 ho hfind hs hm] at h
        obtain ⟨_, _, h⟩ := bind_ok h
        obtain ⟨v, hv, h⟩ := bind_ok h
        refine wn_of_value h1 h2 ho (fieldAt_field hfind hs hm) hke hv ?_ (ihF _ _ _ _ _ _ _ hp h)
        intro t fs' ic' he
        rw [he] at hv hpe
        exact ihV _ _ _ _ _ _ (by simpa [pS] using hpe) hv
    · intro t fs ic body elem v hp h
      rw [strictValue] at h
      obtain ⟨vs, hvs, _⟩ := bind_ok h
      exact ihF _ _ _ _ _ _ _ hp hvs

theorem fieldAt_some {fs : List Schema} {pos typ : Nat} {s : Schema} {i next : Nat} (hp : pFs fs = true)
    (hfa : fieldAt fs pos typ = some (s, i, next)) :
    ∃ s0, findField fs pos typ = some i ∧ fs[i]? = some s0 ∧ isMapS s0 = false ∧ s = elemOf s0 ∧
      next = (if isRep s0 then i else i + 1) ∧ pS s = true := by
  cases hfind : findField fs pos typ with
  | none => rw [fieldAt_eq_none.2 hfind] at hfa; cases hfa
  | some j =>
    obtain ⟨s0, hs0, hm, hpe, _⟩ := pFs_field hp hfind
    rw [fieldAt_field hfind hs0 hm] at hfa
    cases hfa
    exact ⟨s0, rfl, hs0, hm, rfl, rfl, hpe⟩

theorem noov_of_not_model {s : Schema} {body elem : Bytes} (h : ∀ t fs ic, s ≠ .model t fs ic) (f : Nat) :
    NoOv (strictValue f s body elem) := by
  rw [strictValue_of_not_model h]; exact NoOv.lift _

theorem noov_at {fs : List Schema} {rest : Bytes} {pos typ hdr len : Nat} {s : Schema} {i next : Nat}
    (hp : pFs fs = true) (hE : ElemAt rest typ hdr len) (hfa : fieldAt fs pos typ = some (s, i, next))
    (hval : ∀ fuel, NoOv (strictValue fuel s (pySlice rest hdr (hdr + len)) rest))
    (htail : ∀ fuel ic off acc, NoOv (strictFields fuel fs ic (rest.drop (hdr + len)) off next acc)) :
    ∀ fuel ic off acc, NoOv (strictFields fuel fs ic rest off pos acc) := by
  intro fuel ic off acc
  cases fuel with
  | zero => exact NoOv.py _
  | succ f =>
    obtain ⟨st, sl, h1, h2, rfl, hb⟩ := hE
    obtain ⟨s0, hfind, hs0, hm, rfl, rfl, _⟩ := fieldAt_some hp hfa
    rw [strictFields_field h1 h2 (by omega) hfind hs0 hm]
    exact NoOv.bind (NoOv.lift _) (fun _ _ => NoOv.bind (hval f) (fun _ _ => htail _ _ _ _))

theorem noov_skip {fs : List Schema} {rest : Bytes} {pos typ hdr len : Nat} (hE : ElemAt rest typ hdr len)
    (hfa : fieldAt fs pos typ = none)
    (htail : ∀ fuel ic off acc, NoOv (strictFields fuel fs ic (rest.drop (hdr + len)) off pos acc)) :
    ∀ fuel ic off acc, NoOv (strictFields fuel fs ic rest off pos acc) := by
  intro fuel ic off acc
  cases fuel with
  | zero => exact NoOv.py _
  | succ f =>
    obtain ⟨st, sl, h1, h2, rfl, hb⟩ := hE
    rw [strictFields_unknown h1 h2 (by omega) (fieldAt_eq_none.1 hfa)]
    split
    · exact NoOv.py _
    · exact htail _ _ _ _

theorem wellNested_noov {fs : List Schema} {pos : Nat} {rest : Bytes} (h : WellNested fs pos rest) :
    pFs fs = true → ∀ (fuel : Nat) (ic : Bool) (off : Nat) (acc : List Value),
      NoOv (strictFields fuel fs ic rest off pos acc) := by
  induction h with
  | done fs pos =>
    intro _ fuel ic off acc
    cases fuel with
    | zero => exact NoOv.py _
    | succ f => rw [strictFields_isEmpty rfl]; exact NoOv.ok _
  | skip hE hfa _ ih => exact fun hp => noov_skip hE hfa (ih hp)
  | leaf hE hfa hl _ ih =>
    exact fun hp => noov_at hp hE hfa (noov_of_not_model fun _ _ _ he => by subst he; cases hl) (ih hp)
  | name hE hfa _ _ ih =>
    exact fun hp => noov_at hp hE hfa (noov_of_not_model fun _ _ _ he => by cases he) (ih hp)
  | sub hE hfa _ _ ihsub ih =>
    intro hp
    obtain ⟨_, _, _, _, _, _, hps⟩ := fieldAt_some hp hfa
    refine noov_at hp hE hfa (fun fuel => ?_) (ih hp)
    cases fuel with
    | zero => exact NoOv.py _
    | succ f => rw [strictValue]; exact NoOv.bind (ihsub (by simpa only [pS] using hps) f _ 0 _) (fun _ _ => NoOv.ok _)

end Ndn.Codec
