import NdnProofs.Lemmas.CodecRT
/-!
  The scan loop on schemas with `Schema.marker` pseudo-fields (the OffsetMarkers and ProcedureArguments of
  DataPacketValue and InterestPacketValue): a block of `k` markers followed by marker-free fields.  When the loop reaches the first element that
  belongs to a field behind the block, every marker of the block records that element's offset; within
  the marker-free stretch `skipping_process` changes nothing.
-/
namespace Ndn.Codec
open Ndn

theorem noMarkerIn_mono : ∀ (fs : List Schema) (lo hi lo' hi' : Nat),
    noMarkerIn fs lo hi = true → lo ≤ lo' → hi' ≤ hi → noMarkerIn fs lo' hi' = true
  | [], _, _, _, _, _, _, _ => rfl
  | s :: ss, lo, hi, lo', hi', h, h1, h2 => by
    simp only [noMarkerIn, Bool.and_eq_true] at h ⊢
    refine ⟨?_, noMarkerIn_mono ss _ _ _ _ h.2 (Nat.sub_le_sub_right h1 1) (Nat.sub_le_sub_right h2 1)⟩
    by_cases hc : lo' = 0 ∧ 0 < hi'
    · rw [if_pos hc, ← h.1, if_pos ⟨Nat.le_zero.mp (hc.1 ▸ h1), Nat.lt_of_lt_of_le hc.2 h2⟩]
    · rw [if_neg hc]

theorem noMarkerIn_len : ∀ (fs : List Schema) (lo hi : Nat),
    noMarkerIn fs lo fs.length = true → noMarkerIn fs lo hi = true
  | [], _, _, _ => rfl
  | s :: ss, lo, hi, h => by
    simp only [noMarkerIn, Bool.and_eq_true, List.length_cons, Nat.add_sub_cancel] at h ⊢
    refine ⟨?_, noMarkerIn_len ss _ _ h.2⟩
    by_cases hc : lo = 0 ∧ 0 < hi
    · rw [if_pos hc, ← h.1, if_pos ⟨hc.1, Nat.succ_pos _⟩]
    · rw [if_neg hc]

theorem noMarkerIn_append_shift : ∀ (A B : List Schema) (lo hi : Nat),
    noMarkerIn (A ++ B) (A.length + lo) (A.length + hi) = noMarkerIn B lo hi
  | [], B, lo, hi => by simp only [List.nil_append, List.length_nil, Nat.zero_add]
  | a :: A, B, lo, hi => by
    have e : ∀ x, (a :: A).length + x - 1 = A.length + x := fun x => by rw [List.length_cons]; omega
    have hne : ¬ ((a :: A).length + lo = 0 ∧ 0 < (a :: A).length + hi) := fun h => by
      rw [List.length_cons] at h; omega
    simp only [List.cons_append, noMarkerIn, if_neg hne, Bool.true_and, e, noMarkerIn_append_shift A B lo hi]

theorem skipMarkers_append : ∀ (fs1 fs2 : List Schema) (acc1 acc2 : List Value) (lo hi off : Nat),
    acc1.length = fs1.length →
    skipMarkers (fs1 ++ fs2) (acc1 ++ acc2) lo hi off =
      skipMarkers fs1 acc1 lo hi off ++ skipMarkers fs2 acc2 (lo - fs1.length) (hi - fs1.length) off
  | [], fs2, [], acc2, lo, hi, off, _ => by rw [skipMarkers_nil]; rfl
  | s :: ss, fs2, v :: vs, acc2, lo, hi, off, h => by
    have ih := skipMarkers_append ss fs2 vs acc2 (lo - 1) (hi - 1) off (Nat.succ.inj h)
    rw [Nat.sub_sub, Nat.sub_sub, Nat.add_comm 1] at ih
    simp only [List.cons_append, skipMarkers, List.length_cons, ih]

theorem skipMarkers_markers : ∀ (k : Nat) (d : List Value) (hi off : Nat), d.length = k → k ≤ hi →
    skipMarkers (List.replicate k Schema.marker) d 0 hi off = List.replicate k (Value.uint off)
  | 0, [], _, _, _, _ => rfl
  | k + 1, x :: d, hi, off, hd, hhi => by
    have h0 : 0 < hi := Nat.lt_of_lt_of_le (Nat.succ_pos k) hhi
    simp only [List.replicate_succ, skipMarkers, h0, and_self, if_true,
      skipMarkers_markers k d (hi - 1) off (Nat.succ.inj hd) (Nat.le_sub_one_of_lt hhi)]

theorem runItems_noop (fs : List Schema) (lo hi : Nat) (hno : noMarkerIn fs lo hi = true) :
    ∀ (items : List Item) (pos off : Nat) (acc : List Value), lo ≤ pos →
      ItemsOK fs pos items → (∀ it ∈ items, it.idx ≤ hi) →
      runItems fs pos off acc items = items.foldl applyItem acc
  | [], _, _, _, _, _, _ => rfl
  | x :: r, pos, off, acc, hp, ⟨h1, _, h3⟩, hall => by
    simp only [runItems, List.foldl]
    rw [skipMarkers_noop fs acc pos x.idx off
      (noMarkerIn_mono fs lo hi pos x.idx hno hp (hall x (List.mem_cons_self ..)))]
    have := nextPos_bounds x
    exact runItems_noop fs lo hi hno r _ _ _ (by omega) h3
      (fun it hit => hall it (List.mem_cons_of_mem _ hit))

theorem runItems_block (P S : List Schema) (k n pos off : Nat)
    (hP : noMarkerIn P pos P.length = true) (hS : noMarkerIn S 0 n = true)
    (hpos : pos ≤ P.length)
    (accP d accS : List Value) (hlP : accP.length = P.length) (hd : d.length = k)
    (it : Item) (r : List Item)
    (hok : ItemsOK (P ++ (List.replicate k Schema.marker ++ S)) pos (it :: r))
    (hidx : ∀ x ∈ it :: r, P.length + k ≤ x.idx ∧ x.idx < P.length + k + n) :
    runItems (P ++ (List.replicate k Schema.marker ++ S)) pos off (accP ++ (d ++ accS)) (it :: r)
      = (it :: r).foldl applyItem (accP ++ (List.replicate k (Value.uint off) ++ accS)) := by
  obtain ⟨h1, _, h3⟩ := hok
  have hi := hidx it (List.mem_cons_self ..)
  have hfs : noMarkerIn (P ++ (List.replicate k Schema.marker ++ S)) (P.length + k) (P.length + k + n) = true := by
    have := noMarkerIn_append_shift (P ++ List.replicate k Schema.marker) S 0 n
    rwa [List.length_append, List.length_replicate, Nat.add_zero, List.append_assoc, hS] at this
  simp only [runItems, List.foldl]
  have hstep : skipMarkers (P ++ (List.replicate k Schema.marker ++ S)) (accP ++ (d ++ accS)) pos it.idx off
      = accP ++ (List.replicate k (Value.uint off) ++ accS) := by
    rw [skipMarkers_append P _ accP _ pos it.idx off hlP,
      skipMarkers_noop P accP pos it.idx off (noMarkerIn_len P pos it.idx hP),
      skipMarkers_append (List.replicate k Schema.marker) S d accS _ _ off (by simpa using hd)]
    simp only [Nat.sub_eq_zero_of_le hpos, List.length_replicate, Nat.zero_sub]
    rw [skipMarkers_markers k d (it.idx - P.length) off hd (Nat.le_sub_of_add_le' hi.1),
      skipMarkers_noop S accS 0 _ off (noMarkerIn_mono S 0 n 0 _ hS (Nat.le_refl _) (by omega))]
  rw [hstep]
  exact runItems_noop _ _ _ hfs r _ _ _ (Nat.le_trans hi.1 (nextPos_bounds it).1) h3
    (fun x hx => Nat.le_of_lt (hidx x (List.mem_cons_of_mem _ hx)).2)

/-- One phase of the scan: `k` markers, then the fields `S`, whose encoding `B` is scanned.  `B ≠ []`: the markers
    take the offset of the first element met; with nothing to scan they stay as they are. -/
theorem runItems_phase (P S T : List Schema) (k pos off : Nat) (vs : List Value) (B : Bytes)
    (hP : noMarkerIn P pos P.length = true) (hS : noMarkerIn (S ++ T) 0 S.length = true)
    (hpos : pos ≤ P.length) (hrt : SuffixRT (P ++ List.replicate k Schema.marker) S vs B) (hne : B ≠ [])
    (accP d accT : List Value) (hlP : accP.length = P.length) (hd : d.length = k) :
    ∃ it r, ItemsOK (P ++ List.replicate k Schema.marker ++ S) (P.length + k) (it :: r) ∧
      ItemsOK (P ++ (List.replicate k Schema.marker ++ (S ++ T))) pos (it :: r) ∧
      encItems (it :: r) = B ∧ vs.length = S.length ∧
      runItems (P ++ (List.replicate k Schema.marker ++ (S ++ T))) pos off
          (accP ++ (d ++ (S.map initVal ++ accT))) (it :: r)
        = accP ++ (List.replicate k (Value.uint off) ++ (vs ++ accT)) := by
  obtain ⟨items, hok, henc, hfold⟩ := hrt
  have hl : (P ++ List.replicate k Schema.marker).length = P.length + k := by
    rw [List.length_append, List.length_replicate]
  rw [hl] at hok hfold
  obtain ⟨it, r, rfl⟩ := List.exists_cons_of_ne_nil (l := items) (fun e => hne (by rw [← henc, e]; rfl))
  have hlen : vs.length = S.length := by
    have := congrArg List.length (hfold (accP ++ d) (by rw [List.length_append, hlP, hd]))
    rw [foldl_applyItem_length] at this
    simpa using this.symm
  have hb := ItemsOK_bounds _ _ _ hok
  have hext := ItemsOK_extend _ T _ _ hok
  simp only [List.append_assoc] at hext
  have hokp := ItemsOK_mono _ _ _ pos (Nat.le_trans hpos (Nat.le_add_right _ k)) hext
  have hidx : ∀ x ∈ it :: r, P.length + k ≤ x.idx ∧ x.idx < P.length + k + S.length := fun x hx => by
    have := hb x hx
    rwa [List.length_append, hl] at this
  refine ⟨it, r, hok, hokp, henc, hlen, ?_⟩
  rw [runItems_block P (S ++ T) k S.length pos off hP hS hpos accP d _ hlP hd it r hokp hidx,
    ← List.append_assoc, ← List.append_assoc, ← List.append_assoc,
    foldl_applyItem_append _ _ _ (fun x hx => by
      have := (hidx x hx).2
      rwa [List.length_append, List.length_append, List.length_replicate, List.length_map, hlP]),
    hfold _ (by rw [List.length_append, List.length_replicate, hlP])]
  simp only [List.append_assoc]

/-- DataPacketValue: `k` leading markers and no other -/
theorem parse_lead_markers (k : Nat) (ss : List Schema) (vs : List Value) (B : Bytes)
    (hw : wfFs ss = true) (hn : nodupB (typs (List.replicate k Schema.marker ++ ss)) = true)
    (hfit : fitsFs ss vs = true) (henc : encFields ss vs = .ok B) (hne : B ≠ []) :
    parse (List.replicate k Schema.marker ++ ss) false B = .ok (List.replicate k (Value.uint 0) ++ vs) := by
  obtain ⟨it, r, _, hok, henc, _, hrun⟩ := runItems_phase [] ss [] k 0 0 vs B rfl (noMarkerIn_of_wf _ _ _ (by rwa [List.append_nil]))
    (Nat.le_refl _) (rt_suffix (List.replicate k Schema.marker) ss vs B hw hfit henc) hne []
    (List.replicate k Value.none) [] rfl (List.length_replicate ..)
  simp only [List.nil_append, List.append_nil] at hok hrun
  rw [← henc, parse_encItems _ false hn _ hok, ← hrun]
  simp [initVal]

end Ndn.Codec
