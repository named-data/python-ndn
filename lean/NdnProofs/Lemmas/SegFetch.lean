import NdnModel.SegFetch
/-! The untimed fetcher (`NdnModel/SegFetch.lean`) round by round: what the segment loop and `fetch` come to when the round's
    `retry` (called `r` below) returned Data and when it did not. -/
namespace Ndn.SegFetch

/-- number of Interests sent for one request before giving up (`trial_times >= retry_times` after increment) -/
def attempts (limit : Nat) : Nat := max 1 limit

theorem attempts_pos (limit : Nat) : 0 < attempts limit := by simp only [attempts]; omega

theorem retry_succ (limit : Nat) (ex : Bool) (fuel trial : Nat) (sc : List Outcome) :
    retry limit ex (fuel + 1) trial sc =
      match eff (pop sc).1 ex with
      | .data => (.ok, (pop sc).2, [.data])
      | .nack => (.nack, (pop sc).2, [.nack])
      | .invalid => (.invalid, (pop sc).2, [.invalid])
      | .timeout =>
        if trial + 1 ≥ limit then (.timeout, (pop sc).2, [.timeout])
        else ((retry limit ex fuel (trial + 1) (pop sc).2).1, (retry limit ex fuel (trial + 1) (pop sc).2).2.1,
              .timeout :: (retry limit ex fuel (trial + 1) (pop sc).2).2.2) := rfl

theorem retry_missing_not_ok (limit : Nat) : ∀ (fuel trial : Nat) (sc : List Outcome),
    (retry limit false fuel trial sc).1 ≠ .ok := by
  intro fuel
  induction fuel with
  | zero => exact fun _ _ => nofun
  | succ n ih =>
    intro trial sc
    rw [retry_succ]
    have he : eff (pop sc).1 false = .timeout ∨ eff (pop sc).1 false = .nack := by
      cases (pop sc).1 <;> simp [eff]
    rcases he with he | he <;> rw [he]
    · by_cases h : trial + 1 ≥ limit
      · simp only [h, if_true]; exact nofun
      · simp only [h, if_false]; exact ih _ _
    · exact nofun

theorem ok_exists (limit : Nat) (segs : List Seg) (i : Nat) (sc : List Outcome)
    (hok : (retry limit (decide (i < segs.length)) (limit + 1) 0 sc).1 = .ok) : i < segs.length := by
  by_cases h : i < segs.length
  · exact h
  · simp only [h, decide_false] at hok
    exact absurd hok (retry_missing_not_ok _ _ _ _)

theorem fetchLoop_ok {limit : Nat} {segs : List Seg} {i : Nat} {sc : List Outcome} {r : RRes × List Outcome × List Outcome}
    (hr : retry limit (decide (i < segs.length)) (limit + 1) 0 sc = r) (hok : r.1 = .ok) (fuel : Nat) :
    ∃ h : i < segs.length, fetchLoop limit segs (fuel + 1) i sc =
      if segs[i].fbi = some i then ⟨[segs[i].content], r.2.2.map fun o => (Req.seg i, o), .done⟩
      else ⟨segs[i].content :: (fetchLoop limit segs fuel (i + 1) r.2.1).yielded,
            (r.2.2.map fun o => (Req.seg i, o)) ++ (fetchLoop limit segs fuel (i + 1) r.2.1).log,
            (fetchLoop limit segs fuel (i + 1) r.2.1).end_⟩ := by
  subst hr
  have h := ok_exists limit segs i sc hok
  exact ⟨h, by simp only [fetchLoop, hok, List.getElem?_eq_getElem h]⟩

theorem fetchLoop_fail {limit : Nat} {segs : List Seg} {i : Nat} {sc : List Outcome} {r : RRes × List Outcome × List Outcome}
    (hr : retry limit (decide (i < segs.length)) (limit + 1) 0 sc = r) (hne : r.1 ≠ .ok) (fuel : Nat) :
    fetchLoop limit segs (fuel + 1) i sc = ⟨[], r.2.2.map fun o => (Req.seg i, o), endOf r.1⟩ := by
  subst hr
  simp only [fetchLoop]
  split <;> first | rfl | contradiction

theorem fetch_unseg {c disc limit : Nat} {sc : List Outcome} {r : RRes × List Outcome × List Outcome}
    (hr : retry limit true (limit + 1) 0 sc = r) :
    fetch ⟨.unseg c, disc, sc, limit⟩ =
      if r.1 = .ok then ⟨[c], r.2.2.map fun o => (Req.disc, o), .done⟩
      else ⟨[], r.2.2.map fun o => (Req.disc, o), endOf r.1⟩ := by
  subst hr
  simp only [fetch]
  split <;> simp_all

theorem fetch_segs_ok {limit : Nat} {l : List Seg} {disc : Nat} {sc : List Outcome} {r : RRes × List Outcome × List Outcome}
    (hr : retry limit (decide (disc < l.length)) (limit + 1) 0 sc = r) (hok : r.1 = .ok) :
    ∃ h : disc < l.length, fetch ⟨.segs l, disc, sc, limit⟩ =
      if disc = 0 then
        if l[disc].fbi = some 0 then ⟨[l[disc].content], r.2.2.map fun o => (Req.disc, o), .done⟩
        else ⟨l[disc].content :: (fetchLoop limit l (l.length + 1) 1 r.2.1).yielded,
              (r.2.2.map fun o => (Req.disc, o)) ++ (fetchLoop limit l (l.length + 1) 1 r.2.1).log,
              (fetchLoop limit l (l.length + 1) 1 r.2.1).end_⟩
      else ⟨(fetchLoop limit l (l.length + 1) 0 r.2.1).yielded,
            (r.2.2.map fun o => (Req.disc, o)) ++ (fetchLoop limit l (l.length + 1) 0 r.2.1).log,
            (fetchLoop limit l (l.length + 1) 0 r.2.1).end_⟩ := by
  subst hr
  have h := ok_exists limit l disc sc hok
  refine ⟨h, ?_⟩
  by_cases hd : disc = 0
  · subst hd
    simp only [fetch, hok, List.getElem?_eq_getElem h, if_true]
  · simp only [fetch, hok, hd, if_false]

theorem fetch_segs_fail {limit : Nat} {l : List Seg} {disc : Nat} {sc : List Outcome} {r : RRes × List Outcome × List Outcome}
    (hr : retry limit (decide (disc < l.length)) (limit + 1) 0 sc = r) (hne : r.1 ≠ .ok) :
    fetch ⟨.segs l, disc, sc, limit⟩ = ⟨[], r.2.2.map fun o => (Req.disc, o), endOf r.1⟩ := by
  subst hr
  -- the last alternative of the `match`: `simp` discharges its side condition with `hne`
  simp only [fetch]

end Ndn.SegFetch
