import NdnProofs.Lemmas.KeychainTable
import NdnProofs.Lemmas.KeychainHoare
/-!
  The keychain as a system (C15). The invariant `SysInv` (three tables each with `TabInv`, no orphan rows, every key row
  matched by its private-key file, no file shared; a slot `J` for a further property of the private-key directory,
  `JOk`) is kept by each edit of the state (`SysInv.setCur` … `SysInv.fileRemoved`), and so by every operation under
  every fault schedule (`pres_prog`); the `*_spec` theorems give exact results; a `new_key` that raises ValueError has
  changed nothing but the fault counter (`newKey_valueError`), and with the guard on it does raise it when the explicit
  key name already has a file (`newKey_refuses`). Each is carried over to `step` and `run` (`SysInv.step`, `SysInv.run`,
  the `*_step` theorems).
-/
namespace Ndn.Keychain
open Ndn.Sql

structure DbInv (d : Db) : Prop where
  ids : TabInv false d.ids
  keys : TabInv true d.keys
  certs : TabInv true d.certs

/-- cross-table consistency: every key row hangs below the identity row it is named after, every
    certificate row below an existing key row (no orphans: a re-used row id never adopts leftovers) -/
structure Linked (d : Db) : Prop where
  keyHome : ∀ k ∈ d.keys.rows, ∃ i ∈ d.ids.rows, i.rid = k.owner ∧ i.name = k.name.idn
  certKey : ∀ c ∈ d.certs.rows, ∃ k ∈ d.keys.rows, k.rid = c.owner

theorem Linked.empty : Linked Db.empty := ⟨(fun _ h => by cases h), (fun _ h => by cases h)⟩

theorem Linked.keyIter_idn {d : Db} (h : Linked d) (hr : RidsU d.ids.rows) {i : Row Nat} (hi : i ∈ d.ids.rows)
    {k : KeyName} (hk : k ∈ keyIter d i.rid) : k.idn = i.name := by
  obtain ⟨kr, hkr, ho, rfl⟩ := mem_keyIter.mp hk
  obtain ⟨i', hi', h1, h2⟩ := h.keyHome kr hkr
  rw [← h2, pairwise_inj hr hi' hi (h1.trans ho)]

theorem Linked.ids {d : Db} (h : Linked d) {T : Tab Nat} (hi : ColsSub d.ids.rows T.rows) : Linked { d with ids := T } :=
  ⟨fun k hk =>
    let ⟨i, him, h1, h2⟩ := h.keyHome k hk
    let ⟨i', hi'm, hs⟩ := hi i him
    ⟨i', hi'm, hs.1.trans h1, hs.2.2.trans h2⟩, h.certKey⟩

theorem Linked.keys {d : Db} (h : Linked d) {T : Tab KeyName} (hb : ColsSub d.keys.rows T.rows)
    (hf : ∀ k' ∈ T.rows, (∃ k ∈ d.keys.rows, SameCols k k') ∨ ∃ i ∈ d.ids.rows, i.rid = k'.owner ∧ i.name = k'.name.idn) :
    Linked { d with keys := T } := by
  refine ⟨fun k' hk' => (hf k' hk').elim (fun ⟨k, hkm, hs⟩ => ?_) id, fun c hc => ?_⟩
  · obtain ⟨i, him, h1, h2⟩ := h.keyHome k hkm
    exact ⟨i, him, h1.trans hs.2.1, by rw [h2, hs.2.2]⟩
  · obtain ⟨k, hkm, h1⟩ := h.certKey c hc
    obtain ⟨k', hk'm, hs⟩ := hb k hkm
    exact ⟨k', hk'm, hs.1.trans h1⟩

theorem Linked.certs {d : Db} (h : Linked d) {T : Tab CertName}
    (hf : ∀ c' ∈ T.rows, (∃ c ∈ d.certs.rows, SameCols c c') ∨ ∃ k ∈ d.keys.rows, k.rid = c'.owner) :
    Linked { d with certs := T } :=
  ⟨h.keyHome, fun c' hc' => (hf c' hc').elim
    (fun ⟨c, hcm, hs⟩ => let ⟨k, hkm, h1⟩ := h.certKey c hcm; ⟨k, hkm, h1.trans hs.2.1⟩) id⟩

theorem Linked.delCerts {d : Db} (h : Linked d) (p : Row CertName → Bool) :
    Linked { d with certs := d.certs.delete true p } :=
  h.certs fun c hc => Or.inl ⟨c, (List.mem_filter.mp hc).1, rfl, rfl, rfl⟩

theorem Linked.delKeys {d : Db} (h : Linked d) (p : Row KeyName → Bool)
    (hp : ∀ c ∈ d.certs.rows, ∀ kr ∈ d.keys.rows, p kr = true → c.owner ≠ kr.rid) :
    Linked { d with keys := d.keys.delete true p } := by
  refine ⟨fun k hk => h.keyHome k (List.mem_filter.mp hk).1, fun c hc => ?_⟩
  obtain ⟨k, hkm, h1⟩ := h.certKey c hc
  refine ⟨k, List.mem_filter.mpr ⟨hkm, ?_⟩, h1⟩
  cases hpk : p k
  · rfl
  · exact absurd h1.symm (hp c hc k hkm hpk)

theorem Linked.delIds {d : Db} (h : Linked d) (p : Row Nat → Bool)
    (hp : ∀ k ∈ d.keys.rows, ∀ ir ∈ d.ids.rows, p ir = true → k.owner ≠ ir.rid) :
    Linked { d with ids := d.ids.delete false p } := by
  refine ⟨fun k hk => ?_, h.certKey⟩
  obtain ⟨i, him, h1, h2⟩ := h.keyHome k hk
  refine ⟨i, List.mem_filter.mpr ⟨him, ?_⟩, h1, h2⟩
  cases hpi : p i
  · rfl
  · exact absurd h1.symm (hp k hk i him hpi)

/-- every key row has its private-key file, and the file holds the private key that belongs to the public
    key in the row (`key_bits`) -/
def Matched (fn : KeyName → FileName) (t : List (FileName × Nat)) (d : Db) : Prop :=
  ∀ r ∈ d.keys.rows, fileGet t (fn r.name) = some r.data

theorem Matched.empty (fn : KeyName → FileName) (t : List (FileName × Nat)) : Matched fn t Db.empty :=
  fun _ h => by cases h

theorem Matched.sub {fn : KeyName → FileName} {t : List (FileName × Nat)} {d d' : Db} (h : Matched fn t d)
    (hs : NameData d.keys.rows d'.keys.rows) : Matched fn t d' := by
  intro r' hr'
  obtain ⟨r, hr, h1, h2⟩ := hs r' hr'
  rw [← h1, ← h2]; exact h r hr

theorem Matched.write {fn : KeyName → FileName} {t : List (FileName × Nat)} {d : Db} {f : FileName} (p : Nat)
    (h : Matched fn t d) (hf : fileGet t f = none) : Matched fn (writeFile t f p) d :=
  fun r hr => fileGet_write_of_some hf (h r hr)

/-- key names in the database (as the connection sees it, and as committed) -/
def KN (s : Sys) : List KeyName := (s.cur.keys.rows ++ s.com.keys.rows).map (·.name)

/-- files distinct: no two key names in the database share a private-key file name -/
def FD (s : Sys) : Prop := ∀ a ∈ KN s, ∀ b ∈ KN s, s.cfg.fn a = s.cfg.fn b → a = b

def Alone (k : KeyName) (s : Sys) : Prop := ∀ a ∈ KN s, s.cfg.fn a = s.cfg.fn k → a = k

theorem mem_KN {s : Sys} {a : KeyName} :
    a ∈ KN s ↔ (∃ r ∈ s.cur.keys.rows, r.name = a) ∨ (∃ r ∈ s.com.keys.rows, r.name = a) := by
  simp only [KN, List.map_append, List.mem_append, List.mem_map]

theorem FD.mono {s s' : Sys} (hc : s'.cfg = s.cfg) (hk : ∀ a ∈ KN s', a ∈ KN s) (h : FD s) : FD s' := by
  intro a ha b hb e
  rw [hc] at e
  exact h a (hk a ha) b (hk b hb) e

theorem Alone.mono {k : KeyName} {s s' : Sys} (hc : s'.cfg = s.cfg) (hk : ∀ a ∈ KN s', a ∈ KN s) (h : Alone k s) :
    Alone k s' := by
  intro a ha e
  rw [hc] at e
  exact h a (hk a ha) e

theorem FD.alone {s : Sys} {k : KeyName} (h : FD s) (hk : k ∈ KN s) : Alone k s :=
  fun a ha e => h a ha k hk e

theorem FD.fi : FI FD := fun _ _ h => h
theorem Alone.fi (k : KeyName) : FI (Alone k) := fun _ _ h => h

theorem KN_cur_nd {s : Sys} {d : Db} (h : NameData s.cur.keys.rows d.keys.rows) :
    ∀ a ∈ KN { s with cur := d }, a ∈ KN s := by
  intro a ha
  rw [mem_KN] at ha ⊢
  rcases ha with ⟨r, hr, e⟩ | ha
  · obtain ⟨r0, hr0, e0, _⟩ := h r hr
    exact Or.inl ⟨r0, hr0, e0.trans e⟩
  · exact Or.inr ha

theorem KN_commit {s : Sys} : ∀ a ∈ KN { s with com := s.cur }, a ∈ KN s :=
  fun _ ha => mem_KN.mpr (Or.inl ((mem_KN.mp ha).elim id id))

theorem KN_reopen {s : Sys} : ∀ a ∈ KN { s with cur := s.com, cache := [] }, a ∈ KN s :=
  fun _ ha => mem_KN.mpr (Or.inr ((mem_KN.mp ha).elim id id))

/-- what the slot `J` of `SysInv` must satisfy: it survives writing the next key pair to a file and removing files -/
structure JOk (J : List (FileName × Nat) → Nat → Prop) : Prop where
  write : ∀ t n f, J t n → J (writeFile t f n) (n + 1)
  filt : ∀ t n (p : FileName × Nat → Bool), J t n → J (t.filter p) n

theorem JOk.trivial : JOk (fun _ _ => True) := ⟨fun _ _ _ _ => True.intro, fun _ _ _ _ => True.intro⟩

/-- the invariant, with a slot `J` for an additional property of (private-key directory, number of key pairs) -/
structure SysInv (J : List (FileName × Nat) → Nat → Prop) (s : Sys) : Prop where
  cur : DbInv s.cur
  com : DbInv s.com
  /-- a cached signer is the one `tpm.get_signer(key, locator)` would return now: the key's file still holds
      the private key the signer loaded -/
  cache : ∀ e ∈ s.cache, e.2.key = e.1.1 ∧ e.2.loc = e.1.2 ∧ fileGet s.tpm (s.cfg.fn e.1.1) = some e.2.priv
  /-- the key pairs in the private-key directory have been generated -/
  kids : ∀ e ∈ s.tpm, e.2 < s.nextKid
  /-- no private key is stored in two files -/
  privs : s.tpm.Pairwise fun a b => a.2 ≠ b.2
  matched : Matched s.cfg.fn s.tpm s.cur ∧ Matched s.cfg.fn s.tpm s.com
  /-- `TpmFile.generate_key` as repaired -/
  guard : s.cfg.guard = true
  /-- holds for EVERY file-name function, also one with collisions: the repaired `generate_key` refuses a name whose
      file exists -/
  fd : FD s
  link : Linked s.cur ∧ Linked s.com
  extra : J s.tpm s.nextKid

variable {J : List (FileName × Nat) → Nat → Prop}

theorem SysInv.init (fn : KeyName → FileName) (h : J [] 0) : SysInv J (Sys.init fn) :=
  { cur := ⟨TabInv.empty _, TabInv.empty _, TabInv.empty _⟩
    com := ⟨TabInv.empty _, TabInv.empty _, TabInv.empty _⟩
    cache := fun _ h => by cases h
    kids := fun _ h => by cases h
    privs := List.Pairwise.nil
    matched := ⟨Matched.empty _ _, Matched.empty _ _⟩
    guard := rfl
    fd := fun _ h => by cases h
    link := ⟨Linked.empty, Linked.empty⟩
    extra := h }

theorem SysInv.fi : FI (SysInv J) := fun _ _ h => { h with }

theorem SysInv.withJ {J' : List (FileName × Nat) → Nat → Prop} {s : Sys} (h : SysInv J s) (h' : J' s.tpm s.nextKid) :
    SysInv J' s := { h with extra := h' }

theorem SysInv.setCur {s : Sys} (h : SysInv J s) {d : Db} (hd : DbInv d) (hk : NameData s.cur.keys.rows d.keys.rows)
    (hl : Linked d) : SysInv J { s with cur := d } :=
  { h with cur := hd, matched := ⟨h.matched.1.sub hk, h.matched.2⟩, fd := FD.mono (s := s) rfl (KN_cur_nd hk) h.fd,
           link := ⟨hl, h.link.2⟩ }

theorem SysInv.commit {s : Sys} (h : SysInv J s) : SysInv J { s with com := s.cur } :=
  { h with com := h.cur, matched := ⟨h.matched.1, h.matched.1⟩, fd := FD.mono (s := s) rfl KN_commit h.fd,
           link := ⟨h.link.1, h.link.1⟩ }

theorem SysInv.reopen {s : Sys} (h : SysInv J s) : SysInv J { s with cur := s.com, cache := [] } :=
  { h with cur := h.com, cache := fun _ he => (by cases he), matched := ⟨h.matched.2, h.matched.2⟩,
           fd := FD.mono (s := s) rfl KN_reopen h.fd, link := ⟨h.link.2, h.link.2⟩ }

theorem SysInv.clearCache {s : Sys} (h : SysInv J s) : SysInv J { s with cache := [] } :=
  { h with cache := fun _ he => by cases he }

theorem SysInv.insertKey {s : Sys} (h : SysInv J s) {o b : Nat} {k : KeyName} {t : Table KeyName}
    (ht : insertCF true o k s.cur.keys.rows = some t) (hk : fileGet s.tpm (s.cfg.fn k) = some b) (hal : Alone k s)
    (hpar : ∃ i ∈ s.cur.ids.rows, i.rid = o ∧ i.name = k.idn) :
    SysInv J { s with cur := { s.cur with keys := s.cur.keys.apply true fun _ => setData k b t } } := by
  have hnames : ∀ x ∈ KN { s with cur := { s.cur with keys := s.cur.keys.apply true fun _ => setData k b t } },
      x = k ∨ x ∈ KN s := by
    intro x hx
    rcases mem_KN.mp hx with ⟨r, hr, e⟩ | hx
    · rcases insertData_mem ht hr with ⟨e1, _⟩ | ⟨r0, hr0, e1, _⟩
      · exact Or.inl (e.symm.trans e1)
      · exact Or.inr (mem_KN.mpr (Or.inl ⟨r0, hr0, e1.trans e⟩))
    · exact Or.inr (mem_KN.mpr (Or.inr hx))
  refine { h with cur := ⟨h.cur.ids, (h.cur.keys.insert ht).setData k b, h.cur.certs⟩,
                  matched := ⟨fun r hr => ?_, h.matched.2⟩, fd := fun x hx y hy e => ?_, link := ⟨?_, h.link.2⟩ }
  · show fileGet s.tpm (s.cfg.fn r.name) = some r.data
    rcases insertData_mem ht hr with ⟨e1, e2⟩ | ⟨r0, hr0, e1, e2⟩
    · rw [e1, e2]; exact hk
    · rw [← e1, ← e2]; exact h.matched.1 r0 hr0
  · have e : s.cfg.fn x = s.cfg.fn y := e
    rcases hnames x hx with rfl | hx' <;> rcases hnames y hy with rfl | hy'
    · rfl
    · exact (hal y hy' e.symm).symm
    · exact hal x hx' e
    · exact h.fd x hx' y hy' e
  · refine h.link.1.keys ((insertCF_new_of_old ht).trans (setData_rewritten k b t).new_of_old) fun k' hk' => ?_
    obtain ⟨k1, hk1, hs1⟩ := (setData_rewritten k b t).old_of_new k' hk'
    rcases insertCF_old_of_new ht hk1 with ⟨k0, hk0, hs⟩ | ⟨h1, h2⟩
    · exact Or.inl ⟨k0, hk0, hs.trans hs1⟩
    · obtain ⟨i, hi, hi1, hi2⟩ := hpar
      exact Or.inr ⟨i, hi, by rw [hi1, ← hs1.2.1, h1], by rw [hi2, ← hs1.2.2, h2]⟩

/-- the state after `save_key` wrote the next key pair to a file that did not exist -/
theorem SysInv.written (hJ : JOk J) {s : Sys} (h : SysInv J s) {f : FileName} (hf : fileGet s.tpm f = none) :
    SysInv J { s with nextKid := s.nextKid + 1, tpm := writeFile s.tpm f s.nextKid } := by
  refine { h with cache := fun e he => ?_, kids := fun e he => ?_, privs := ?_,
                  matched := ⟨h.matched.1.write _ hf, h.matched.2.write _ hf⟩, extra := hJ.write _ _ _ h.extra }
  · obtain ⟨h1, h2, h3⟩ := h.cache e he
    exact ⟨h1, h2, fileGet_write_of_some hf h3⟩
  · show e.2 < s.nextKid + 1
    rcases mem_writeFile he with he | rfl
    · exact Nat.lt_succ_of_lt (h.kids e he)
    · exact Nat.lt_succ_self _
  · show (removeFile s.tpm f ++ [(f, s.nextKid)]).Pairwise _
    rw [List.pairwise_append]
    refine ⟨List.Pairwise.filter _ h.privs, List.pairwise_singleton _ _, fun a ha b hb => ?_⟩
    rw [List.mem_singleton.mp hb]
    exact Nat.ne_of_lt (h.kids a (List.mem_filter.mp ha).1)

def NoRow (k : KeyName) (d : Db) : Prop := ∀ r ∈ d.keys.rows, r.name ≠ k

/-- `tpm.delete_key(k)` and the emptying of the signer cache -/
theorem SysInv.fileRemoved (hJ : JOk J) {s : Sys} {k : KeyName} (h : SysInv J s) (ha : Alone k s)
    (h1 : NoRow k s.cur) (h2 : NoRow k s.com) :
    SysInv J { s with tpm := removeFile s.tpm (s.cfg.fn k), cache := [] } := by
  have key : ∀ d : Db, (∀ r ∈ d.keys.rows, r.name ∈ KN s) → NoRow k d → Matched s.cfg.fn s.tpm d →
      Matched s.cfg.fn (removeFile s.tpm (s.cfg.fn k)) d := by
    intro d hsub hno hm r hr
    rw [fileGet_remove_ne fun e => hno r hr (ha _ (hsub r hr) e)]
    exact hm r hr
  exact { h with cache := fun _ he => (by cases he), kids := fun x hx => h.kids x (List.mem_filter.mp hx).1,
                 privs := List.Pairwise.filter _ h.privs,
                 matched := ⟨key _ (fun r hr => mem_KN.mpr (Or.inl ⟨r, hr, rfl⟩)) h1 h.matched.1,
                   key _ (fun r hr => mem_KN.mpr (Or.inr ⟨r, hr, rfl⟩)) h2 h.matched.2⟩,
                 extra := hJ.filt _ _ _ h.extra }

theorem pres_tick : Pres (SysInv J) tick := Pres.tick SysInv.fi

theorem pres_commit : Pres (SysInv J) commit := Pres.bind pres_tick fun _ => Pres.modS fun _ h => h.commit

theorem pres_execSetDefaultId (n : Nat) : Pres (SysInv J) (execSetDefaultId n) :=
  Pres.bind pres_tick fun _ => Pres.modS fun _ h => by
    rw [upd_trs]
    exact h.setCur ⟨h.cur.ids.setDefault n, h.cur.keys, h.cur.certs⟩ (NameData.refl _)
      (h.link.1.ids ((setDefaultCF_rewritten _ _ _).new_of_old))

theorem pres_execSetDefaultKey (k : KeyName) : Pres (SysInv J) (execSetDefaultKey k) :=
  Pres.bind pres_tick fun _ => Pres.modS fun _ h => by
    rw [upd_trs]
    exact h.setCur ⟨h.cur.ids, h.cur.keys.setDefault k, h.cur.certs⟩ (setDefaultCF_nameData _ _ _)
      (h.link.1.keys ((setDefaultCF_rewritten _ _ _).new_of_old) fun k' hk' => Or.inl ((setDefaultCF_rewritten _ _ _).old_of_new k' hk'))

theorem pres_execSetDefaultCert (c : CertName) : Pres (SysInv J) (execSetDefaultCert c) :=
  Pres.bind pres_tick fun _ => Pres.modS fun _ h => by
    rw [upd_trs]
    exact h.setCur ⟨h.cur.ids, h.cur.keys, h.cur.certs.setDefault c⟩ (NameData.refl _)
      (h.link.1.certs fun c' hc' => Or.inl ((setDefaultCF_rewritten _ _ _).old_of_new c' hc'))

theorem pres_execInsertId (n : Nat) : Pres (SysInv J) (execInsertId n) := by
  refine Pres.bind pres_tick fun _ => Triple.bind Triple.getS fun a => ?_
  split
  · exact Triple.raise fun _ h => h.1
  · rename_i t ht
    rw [ins_trs] at ht
    refine Triple.modS fun s h => ?_
    obtain ⟨h, rfl⟩ := h
    exact h.setCur ⟨h.cur.ids.insert ht, h.cur.keys, h.cur.certs⟩ (NameData.refl _) (h.link.1.ids (insertCF_new_of_old ht))

theorem triple_execInsertKey (o : Nat) (k : KeyName) (b : Nat) :
    Triple (fun s => SysInv J s ∧ fileGet s.tpm (s.cfg.fn k) = some b ∧ Alone k s ∧ ∃ i ∈ s.cur.ids.rows, i.rid = o ∧ i.name = k.idn)
      (execInsertKey o k b) (fun _ => SysInv J) (fun _ => SysInv J) := by
  refine Triple.bind (Triple.tick (fun s f h => ⟨SysInv.fi s f h.1, h.2⟩) fun _ h => h.1) fun _ =>
    Triple.bind Triple.getS fun a => ?_
  split
  · exact Triple.raise fun _ h => h.1.1
  · rename_i t ht
    rw [ins_trs] at ht
    refine Triple.modS fun s h => ?_
    obtain ⟨⟨h, hk, hal, hpar⟩, rfl⟩ := h
    exact h.insertKey ht hk hal hpar

theorem pres_execInsertCert (k : KeyName) (c : CertName) : Pres (SysInv J) (execInsertCert k c) := by
  refine Pres.bind pres_tick fun _ => Triple.bind Triple.getS fun a => ?_
  split
  · exact Triple.raise fun _ h => h.1
  · rename_i kr hkr
    split
    · exact Triple.raise fun _ h => h.1
    · rename_i t ht
      rw [ins_trs] at ht
      refine Triple.modS fun s h => ?_
      obtain ⟨h, rfl⟩ := h
      exact h.setCur ⟨h.cur.ids, h.cur.keys, h.cur.certs.insert ht⟩ (NameData.refl _)
        (h.link.1.certs fun c' hc' => (insertCF_old_of_new ht hc').imp_right fun hn =>
          ⟨kr, List.mem_of_find?_eq_some hkr, hn.1.symm⟩)

theorem pres_setDefaultIdentity (n : Nat) : Pres (SysInv J) (setDefaultIdentity n) :=
  Pres.bind (pres_execSetDefaultId n) fun _ => pres_commit

theorem pres_newIdentity (n : Nat) : Pres (SysInv J) (newIdentity n) :=
  Pres.bind Pres.getS fun _ => Pres.bind (Pres.raiseIf _ _) fun _ =>
    Pres.bind (pres_execInsertId n) fun _ => Pres.bind pres_commit fun _ => Pres.bind Pres.getS fun _ =>
    Pres.bind (Pres.whenM (pres_setDefaultIdentity n)) fun _ =>
    Pres.bind (Pres.lookupId n) fun _ => Pres.pure _

theorem Triple.lookupId_mem {P : Sys → Prop} (n : Nat) :
    Triple P (Keychain.lookupId n) (fun i s => P s ∧ i ∈ s.cur.ids.rows ∧ i.name = n) (fun _ => P) :=
  (Triple.lookupId n).conseq (fun _ h => h) (fun _ _ h => ⟨h.1, idRow?_some h.2⟩) (fun _ _ h => h)

theorem pres_newKey (hJ : JOk J) (n : Nat) (bad : Bool) (spec : KeyIdSpec) : Pres (SysInv J) (newKey n bad spec) := by
  refine Triple.bind (Triple.lookupId_mem n) fun i => ?_
  -- the parent row stays where it is until the key row is inserted
  let A : Sys → Prop := fun s => SysInv J s ∧ i ∈ s.cur.ids.rows ∧ i.name = n
  have fiA : FI A := fun s f h => ⟨SysInv.fi s f h.1, h.2⟩
  refine Triple.bind (Q := fun _ => A) (Triple.tick fiA fun _ h => h.1) fun _ =>
    Triple.bind (Q := fun _ => A) (Triple.raiseIf fun _ h => h.1) fun _ =>
    Triple.bind (Q := fun a s => A s ∧ a = s) Triple.getS fun a => ?_
  refine Triple.bind (Q := fun _ s => A s ∧ a = s) (Triple.ofOpt (fun _ _ _ h => h) (fun _ _ h => h.1.1)) fun kid => ?_
  -- the repaired `generate_key` goes on only when the key name has no file
  refine Triple.bind (Q := fun _ s => (A s ∧ a = s) ∧ fileGet a.tpm (a.cfg.fn ⟨n, kid⟩) = none)
    (Triple.ite (fun _ => Triple.raise fun _ h => h.1.1) fun hc => Triple.pure fun s h => ⟨h, ?_⟩) fun _ => ?_
  · obtain ⟨⟨hi, _⟩, rfl⟩ := h
    rw [hi.guard, Bool.true_and] at hc
    exact Option.not_isSome_iff_eq_none.mp hc
  let B : Sys → Prop := fun s => A s ∧ s.cfg = a.cfg ∧ fileGet s.tpm (a.cfg.fn ⟨n, kid⟩) = some a.nextKid ∧
    Alone ⟨n, kid⟩ s
  have fiB : FI B := fun s f h => ⟨fiA s f h.1, h.2⟩
  refine Triple.bind (Q := fun _ => B) (Triple.modS fun s h => ?_) fun _ => ?_
  · obtain ⟨⟨⟨h, hi⟩, rfl⟩, hf⟩ := h
    refine ⟨⟨h.written hJ hf, hi⟩, rfl, by show fileGet (writeFile _ _ _) _ = _; rw [fileGet_write, if_pos rfl], ?_⟩
    -- every stored key name has its file: none of them has the file name that was free a moment ago
    intro x hx e
    have e : a.cfg.fn x = a.cfg.fn ⟨n, kid⟩ := e
    have hx : x ∈ KN a := hx
    rcases mem_KN.mp hx with ⟨r, hr, rfl⟩ | ⟨r, hr, rfl⟩
    · have := h.matched.1 r hr
      rw [e, hf] at this; cases this
    · have := h.matched.2 r hr
      rw [e, hf] at this; cases this
  · refine Triple.bind (Q := fun _ => B) (Triple.tick fiB fun _ h => h.1.1) fun _ =>
      Triple.bind (Q := fun _ => B) Triple.getS_keep fun _ =>
      Triple.bind (Q := fun _ => B) (Triple.raiseIf fun _ h => h.1.1) fun _ =>
      Triple.bind (Q := fun _ => SysInv J) ((triple_execInsertKey i.rid ⟨n, kid⟩ a.nextKid).conseq
        (fun s h => ⟨h.1.1, by rw [h.2.1]; exact h.2.2.1, h.2.2.2, i, h.1.2.1, rfl, h.1.2.2⟩) (fun _ _ h => h) (fun _ _ h => h)) fun _ => ?_
    exact Pres.bind (pres_execInsertCert _ _) fun _ =>
      Pres.bind pres_commit fun _ => Pres.bind Pres.getS fun _ =>
      Pres.bind (Pres.whenM (Pres.bind (pres_execSetDefaultKey _) fun _ => pres_commit)) fun _ =>
      Pres.bind Pres.getS fun _ => Pres.bind (Pres.ofOpt _ _) fun _ => Pres.pure _

theorem pres_touchIdentity (hJ : JOk J) (n : Nat) : Pres (SysInv J) (touchIdentity n) :=
  Pres.bind Pres.getS fun _ =>
    Pres.bind (Pres.whenM (Pres.bind (pres_execInsertId n) fun _ => Pres.bind pres_commit fun _ => pres_newKey hJ n false .random)) fun _ =>
    Pres.bind Pres.getS fun _ => Pres.bind (Pres.whenM (pres_setDefaultIdentity n)) fun _ =>
    Pres.bind (Pres.lookupId n) fun _ => Pres.pure _

theorem pres_clearCache : Pres (SysInv J) clearCache := Pres.modS fun _ h => h.clearCache

theorem pres_delKey (hJ : JOk J) (k : KeyName) : Pres (SysInv J) (delKey k) := by
  refine Triple.bind (Q := fun kr s => SysInv J s ∧ kr ∈ s.cur.keys.rows ∧ kr.name = k) ((Triple.lookupKey k).conseq
    (fun _ h => h) (fun _ _ ⟨h, _, _, hkr⟩ => ⟨h, (keyRow?_some hkr).1, (keyRow?_some hkr).2.1⟩) fun _ _ h => h) fun kr => ?_
  let A : Sys → Prop := fun s => SysInv J s ∧ Alone k s ∧ kr ∈ s.cur.keys.rows ∧ kr.name = k
  have fiA : FI A := fun s f h => ⟨SysInv.fi s f h.1, h.2⟩
  -- `FD`: the file that will be removed at the end is nobody else's
  refine Triple.conseq (P := A) ?_ (fun s h => ⟨h.1, h.1.fd.alone (mem_KN.mpr (Or.inl ⟨kr, h.2.1, h.2.2⟩)), h.2⟩)
    (fun _ _ h => h) (fun _ _ h => h)
  refine Triple.bind (Q := fun _ => A) (Triple.tick fiA fun _ h => h.1) fun _ => ?_
  -- after the certificates below the key row are gone, the key row can go
  let B : Sys → Prop := fun s => A s ∧ ∀ c ∈ s.cur.certs.rows, c.owner ≠ kr.rid
  have fiB : FI B := fun s f h => ⟨fiA s f h.1, h.2⟩
  refine Triple.bind (Q := fun _ => B) (Triple.modS fun s h => ?_) fun _ => ?_
  · obtain ⟨h, hal, hk⟩ := h
    refine ⟨⟨h.setCur ⟨h.cur.ids, h.cur.keys, h.cur.certs.delete _⟩ (NameData.refl _) (h.link.1.delCerts _), hal, hk⟩,
      fun c hc => ?_⟩
    simpa using (List.mem_filter.mp hc).2
  refine Triple.bind (Q := fun _ => B) (Triple.tick fiB fun _ h => h.1.1) fun _ => ?_
  let C : Sys → Prop := fun s => SysInv J s ∧ Alone k s ∧ NoRow k s.cur
  have fiC : FI C := fun s f h => ⟨SysInv.fi s f h.1, h.2⟩
  refine Triple.bind (Q := fun _ => C) (Triple.modS fun s h => ?_) fun _ => ?_
  · obtain ⟨⟨h, hal, hkm, hkn⟩, hc⟩ := h
    refine ⟨h.setCur ⟨h.cur.ids, h.cur.keys.delete _, h.cur.certs⟩ (NameData.filter _ _) ?_,
      Alone.mono (s := s) rfl (KN_cur_nd (NameData.filter _ _)) hal, fun r hr => ?_⟩
    · refine h.link.1.delKeys _ fun c hcm kr' hkr' hp => ?_
      have hn : kr'.name = k := by simpa using hp
      rw [pairwise_inj h.cur.keys.names hkr' hkm (hn.trans hkn.symm)]
      exact hc c hcm
    · simpa using (List.mem_filter.mp hr).2
  let D : Sys → Prop := fun s => SysInv J s ∧ Alone k s ∧ NoRow k s.cur ∧ NoRow k s.com
  have fiD : FI D := fun s f h => ⟨SysInv.fi s f h.1, h.2⟩
  refine Triple.bind (Q := fun _ => D) (Triple.bind (Q := fun _ => C) (Triple.tick fiC fun _ h => h.1) fun _ =>
    Triple.modS fun s h => ⟨h.1.commit, Alone.mono (s := s) rfl KN_commit h.2.1, h.2.2, h.2.2⟩) fun _ => ?_
  refine Triple.bind (Q := fun _ => D) (Triple.tick fiD fun _ h => h.1) fun _ => ?_
  intro s h
  simp only [run_bind, run_modS, clearCache]
  exact h.1.fileRemoved hJ h.2.1 h.2.2.1 h.2.2.2

/-- `s` is `s0` up to the fault counter: what holds while an operation has only read and passed fault points -/
structure SameButFault (s0 s : Sys) : Prop where
  cfg : s.cfg = s0.cfg
  cur : s.cur = s0.cur
  com : s.com = s0.com
  tpm : s.tpm = s0.tpm
  cache : s.cache = s0.cache
  kid : s.nextKid = s0.nextKid

theorem SameButFault.refl (s : Sys) (f : Option Nat) : SameButFault s { s with fault := f } := ⟨rfl, rfl, rfl, rfl, rfl, rfl⟩

theorem SameButFault.fi (s0 : Sys) : FI (SameButFault s0) := fun _ _ h => { h with }

theorem SameButFault.eq {s0 s : Sys} (h : SameButFault s0 s) (hf : s.fault = s0.fault) : s = s0 := by
  obtain ⟨h1, h2, h3, h4, h5, h6⟩ := h
  cases s; cases s0
  simp only at h1 h2 h3 h4 h5 h6 hf
  subst h1 h2 h3 h4 h5 h6 hf
  rfl

theorem getSigner_spec (sel : Sel) (loc : Option Nat) (s0 : Sys) :
    Triple (fun s => SysInv J s ∧ SameButFault s0 s) (getSigner sel loc)
      (fun sg s => SysInv J s ∧ ∃ k c, resolve s0.cur sel = some (k, c) ∧ sg.key = k ∧ sg.loc = locOf loc c ∧
        fileGet s0.tpm (s0.cfg.fn k) = some sg.priv)
      (fun _ => SysInv J) := by
  -- `a` is the snapshot `getS` returns, `s` the running state (only its fault counter moves on): both stay `SameButFault s0`
  refine Triple.bind (Q := fun a s => SysInv J s ∧ SameButFault s0 s ∧ SameButFault s0 a) (fun s h => ⟨h.1, h.2, h.2⟩) fun a => ?_
  refine Triple.bind (Q := fun kc s => (SysInv J s ∧ SameButFault s0 s ∧ SameButFault s0 a) ∧ resolve s0.cur sel = some kc)
    (Triple.ofOpt (fun kc s ho h => ⟨h, by rw [← h.2.2.cur]; exact ho⟩) (fun _ _ h => h.1)) fun kc => ?_
  obtain ⟨k, c⟩ := kc
  dsimp only
  split
  · -- cache hit
    rename_i sg hc
    refine Triple.pure fun s h => ?_
    obtain ⟨⟨hi, hs, ha⟩, hr⟩ := h
    have hmem := cacheGet_some hc
    rw [ha.cache, ← hs.cache] at hmem
    obtain ⟨h1, h2, h3⟩ := hi.cache _ hmem
    exact ⟨hi, k, c, hr, h1, h2, by rw [← hs.tpm, ← hs.cfg]; exact h3⟩
  · refine Triple.bind (Triple.tick (fun s f h => ⟨⟨SysInv.fi s f h.1.1, { h.1.2.1 with }, h.1.2.2⟩, h.2⟩) fun _ h => h.1.1) fun _ => ?_
    split
    · -- miss: the signer read from the key's file is appended to the cache
      rename_i p hk
      refine Triple.bind (Q := fun _ s => SysInv J s ∧ resolve s0.cur sel = some (k, c) ∧ fileGet s0.tpm (s0.cfg.fn k) = some p)
        (Triple.modS fun s h => ?_) fun _ => Triple.pure fun s h => ⟨h.1, k, c, h.2.1, rfl, rfl, h.2.2⟩
      obtain ⟨⟨hi, hs, ha⟩, hr⟩ := h
      rw [ha.tpm, ha.cfg] at hk
      refine ⟨{ hi with cache := fun e he => (List.mem_append.mp he).elim (hi.cache e) fun he => ?_ }, hr, hk⟩
      rw [List.mem_singleton.mp he]
      exact ⟨rfl, rfl, by rw [← hs.tpm, ← hs.cfg] at hk; exact hk⟩
    · exact Triple.raise fun _ h => h.1.1

theorem pres_getSigner (sel : Sel) (loc : Option Nat) : Pres (SysInv J) (getSigner sel loc) :=
  Triple.ofStart fun s0 h0 => (getSigner_spec sel loc s0).conseq (fun s e => by subst e; exact ⟨h0, rfl, rfl, rfl, rfl, rfl, rfl⟩)
    (fun _ _ h => h.1) (fun _ _ h => h)

theorem getSigner_step {s s' : Sys} (hs : SysInv J s) {sel : Sel} {loc : Option Nat} {f : Option Nat} {sg : Signer}
    (h : step s (.getSigner sel loc, f) = (.ok (some sg), s')) :
    ∃ k c, resolve s.cur sel = some (k, c) ∧ sg.key = k ∧ sg.loc = locOf loc c ∧
      fileGet s.tpm (s.cfg.fn k) = some sg.priv := by
  obtain ⟨_, h1, _⟩ := step_ok h (Q := fun r _ => ∀ sg, r = some sg → ∃ k c, resolve s.cur sel = some (k, c) ∧
      sg.key = k ∧ sg.loc = locOf loc c ∧ fileGet s.tpm (s.cfg.fn k) = some sg.priv)
    (Triple.bind (getSigner_spec sel loc s) fun _ => Triple.pure fun _ h _ e => Option.some.inj e ▸ h.2)
    ⟨SysInv.fi s f hs, SameButFault.refl s f⟩
  exact h1 sg rfl

/-- `com`, the cache and the fault counter are left free, so that `commit`, `clearCache` and every fault point keep it -/
def AtDb (d : Db) (t : List (FileName × Nat)) (n : Nat) (c : Cfg) (s : Sys) : Prop :=
  s.cur = d ∧ s.tpm = t ∧ s.nextKid = n ∧ s.cfg = c

theorem AtDb.fi (d : Db) (t : List (FileName × Nat)) (n : Nat) (c : Cfg) : FI (AtDb d t n c) := fun _ _ h => h

theorem AtDb.modCur {d : Db} {t : List (FileName × Nat)} {n : Nat} {c : Cfg} {E : KErr → Sys → Prop} (f : Db → Db) :
    Triple (AtDb d t n c) (Keychain.modCur f) (fun _ => AtDb (f d) t n c) E :=
  Triple.modS fun _ h => ⟨congrArg f h.1, h.2⟩

/-- what a successful `del_key k` did, `s0` being the state it started from -/
structure DelKeyPost (k : KeyName) (s0 s' : Sys) : Prop where
  found : ∃ ir kr, idRow? s0.cur k.idn = some ir ∧ keyRow? s0.cur ir.rid k = some kr ∧
    s'.cur.certs.rows = s0.cur.certs.rows.filter (fun c => !(c.owner == kr.rid))
  keys : s'.cur.keys.rows = s0.cur.keys.rows.filter (fun r => !decide (r.name = k))
  ids : s'.cur.ids = s0.cur.ids
  tpm : s'.tpm = removeFile s0.tpm (s0.cfg.fn k)
  kid : s'.nextKid = s0.nextKid
  cfg : s'.cfg = s0.cfg
  committed : s'.com = s'.cur
  cache : s'.cache = []

theorem delKey_spec (k : KeyName) (s0 : Sys) :
    Triple (AtDb s0.cur s0.tpm s0.nextKid s0.cfg) (delKey k) (fun _ s' => DelKeyPost k s0 s') (fun _ _ => True) := by
  refine Triple.bind ((Triple.lookupKey k).conseq (fun _ h => h) (fun kr s h => (⟨h.1, by rw [← h.1.1]; exact h.2⟩ :
    _ ∧ ∃ ir, idRow? s0.cur k.idn = some ir ∧ keyRow? s0.cur ir.rid k = some kr)) fun _ _ _ => trivial) fun kr =>
    Triple.pull fun ⟨ir, hir, hkr⟩ => ?_
  refine Triple.bind (Triple.tick (AtDb.fi _ _ _ _) fun _ _ => trivial) fun _ => Triple.bind (AtDb.modCur _) fun _ =>
    Triple.bind (Triple.tick (AtDb.fi _ _ _ _) fun _ _ => trivial) fun _ => Triple.bind (AtDb.modCur _) fun _ =>
    Triple.bind (Triple.commit (AtDb.fi _ _ _ _) (fun _ h => h) fun _ _ => trivial) fun _ =>
    Triple.bind (Triple.tick (fun _ _ h => h) fun _ _ => trivial) fun _ => ?_
  refine Triple.bind (Q := fun _ s => AtDb _ (removeFile s0.tpm (s0.cfg.fn k)) s0.nextKid s0.cfg s ∧ s.com = s.cur)
    (Triple.modS fun s h => ⟨⟨h.1.1, by show removeFile s.tpm (s.cfg.fn k) = _; rw [h.1.2.1, h.1.2.2.2], h.1.2.2⟩, h.2⟩) fun _ => ?_
  refine Triple.modS fun s h => ?_
  obtain ⟨⟨h1, h2, h3, h3'⟩, h4⟩ := h
  exact { found := ⟨ir, kr, hir, hkr, congrArg (·.certs.rows) h1⟩, keys := congrArg (·.keys.rows) h1, ids := congrArg (·.ids) h1
          tpm := h2, kid := h3, cfg := h3', committed := h4, cache := rfl }

theorem delKey_step {s s' : Sys} {k : KeyName} {f : Option Nat} {r : Option Signer}
    (h : step s (.delKey k, f) = (.ok r, s')) : DelKeyPost k s s' := by
  obtain ⟨_, h1, rfl⟩ := step_ok h (delKey_spec k s).thenPure ⟨rfl, rfl, rfl, rfl⟩
  exact { h1 with }

structure DelKeysPost (ks : List KeyName) (s0 s' : Sys) : Prop where
  keys : s'.cur.keys.rows = s0.cur.keys.rows.filter (fun r => !decide (r.name ∈ ks))
  certs : ∀ c ∈ s'.cur.certs.rows, c ∈ s0.cur.certs.rows ∧
    ∀ kr ∈ s0.cur.keys.rows, kr.name ∈ ks → c.owner ≠ kr.rid
  ids : s'.cur.ids = s0.cur.ids
  tpm : s'.tpm = s0.tpm.filter (fun e => !decide (e.1 ∈ ks.map s0.cfg.fn))
  kid : s'.nextKid = s0.nextKid
  cfg : s'.cfg = s0.cfg

theorem delKeys_spec (ks : List KeyName) : ∀ s0 : Sys, NamesU s0.cur.keys.rows →
    Triple (AtDb s0.cur s0.tpm s0.nextKid s0.cfg) (delKeys ks) (fun _ s' => DelKeysPost ks s0 s') (fun _ _ => True) := by
  induction ks with
  | nil =>
    intro s0 _
    refine Triple.pure fun s h => ?_
    obtain ⟨h1, h2, h3, h4⟩ := h
    exact { keys := by rw [h1]; exact (List.filter_eq_self.mpr fun _ _ => by simp).symm
            certs := fun c hc => ⟨by rw [← h1]; exact hc, fun _ _ hk => by cases hk⟩
            ids := by rw [h1]
            tpm := by rw [h2]; exact (List.filter_eq_self.mpr fun _ _ => by simp).symm
            kid := h3
            cfg := h4 }
  | cons k r ih =>
    intro s0 hn
    refine Triple.bind (delKey_spec k s0) fun _ => Triple.ofStart fun s1 h1 => ?_
    have hn1 : NamesU s1.cur.keys.rows := by rw [h1.keys]; exact List.Pairwise.filter _ hn
    refine (ih s1 hn1).conseq (fun s e => by subst e; exact ⟨rfl, rfl, rfl, rfl⟩) (fun _ s' h2 => ?_) (fun _ _ h => h)
    obtain ⟨ir, kr0, hir, hkr0, hcerts⟩ := h1.found
    obtain ⟨hkr0m, hkr0n, _⟩ := keyRow?_some hkr0
    refine { keys := ?_, certs := fun c hc => ?_, ids := h2.ids.trans h1.ids, tpm := ?_, kid := h2.kid.trans h1.kid,
             cfg := h2.cfg.trans h1.cfg }
    · rw [h2.keys, h1.keys, List.filter_filter]
      apply List.filter_congr
      intro x _
      by_cases hx : x.name = k <;> simp [hx]
    · obtain ⟨hc1, hc2⟩ := h2.certs c hc
      rw [hcerts, List.mem_filter] at hc1
      refine ⟨hc1.1, fun kr hkr hmem => ?_⟩
      by_cases hk : kr.name = k
      · rw [pairwise_inj hn hkr hkr0m (hk.trans hkr0n.symm)]
        simpa using hc1.2
      · refine hc2 kr ?_ ((List.mem_cons.mp hmem).resolve_left hk)
        rw [h1.keys, List.mem_filter]
        exact ⟨hkr, by simp [hk]⟩
    · rw [h2.tpm, h1.tpm, h1.cfg]
      unfold removeFile
      rw [List.filter_filter]
      apply List.filter_congr
      intro x _
      by_cases hx : x.1 = s0.cfg.fn k <;> simp [hx]

/-- what a successful `del_identity n` did -/
structure DelIdPost (n : Nat) (s0 s' : Sys) : Prop where
  found : ∃ ir, idRow? s0.cur n = some ir ∧
    s'.cur.keys.rows = s0.cur.keys.rows.filter (fun r => !decide (r.name ∈ keyIter s0.cur ir.rid)) ∧
    (∀ c ∈ s'.cur.certs.rows, c ∈ s0.cur.certs.rows ∧
      ∀ kr ∈ s0.cur.keys.rows, kr.name ∈ keyIter s0.cur ir.rid → c.owner ≠ kr.rid) ∧
    s'.tpm = s0.tpm.filter (fun e => !decide (e.1 ∈ (keyIter s0.cur ir.rid).map s0.cfg.fn)) ∧ s'.nextKid = s0.nextKid
  idsGone : s'.cur.ids.rows = s0.cur.ids.rows.filter (fun r => !decide (r.name = n))
  committed : s'.com = s'.cur
  cache : s'.cache = []

theorem delIdentity_spec (n : Nat) (s0 : Sys) (hn : NamesU s0.cur.keys.rows) :
    Triple (AtDb s0.cur s0.tpm s0.nextKid s0.cfg) (delIdentity n) (fun _ s' => DelIdPost n s0 s') (fun _ _ => True) := by
  refine Triple.bind ((Triple.lookupId n).weakenE fun _ _ _ => trivial) fun ir => Triple.bind Triple.getS fun a => ?_
  -- the part of the postcondition that the remaining steps do not touch
  let Core : Sys → Prop := fun s =>
    idRow? s0.cur n = some ir ∧
    s.cur.keys.rows = s0.cur.keys.rows.filter (fun r => !decide (r.name ∈ keyIter s0.cur ir.rid)) ∧
    (∀ c ∈ s.cur.certs.rows, c ∈ s0.cur.certs.rows ∧
      ∀ kr ∈ s0.cur.keys.rows, kr.name ∈ keyIter s0.cur ir.rid → c.owner ≠ kr.rid) ∧
    s.tpm = s0.tpm.filter (fun e => !decide (e.1 ∈ (keyIter s0.cur ir.rid).map s0.cfg.fn)) ∧ s.nextKid = s0.nextKid
  refine Triple.bind (Q := fun _ s => Core s ∧ s.cur.ids = s0.cur.ids) (Triple.ofStart fun s h => ?_) fun _ => ?_
  · obtain ⟨⟨h1, h2⟩, rfl⟩ := h
    rw [h1.1] at h2 ⊢
    exact (delKeys_spec (keyIter s0.cur ir.rid) s0 hn).conseq (fun s e => e ▸ h1)
      (fun _ _ h => ⟨⟨h2, h.keys, h.certs, h.tpm, h.kid⟩, h.ids⟩) (fun _ _ h => h)
  refine Triple.bind (Triple.tick (fun _ _ h => h) fun _ _ => trivial) fun _ => ?_
  let Pd : Sys → Prop := fun s => Core s ∧ s.cur.ids.rows = s0.cur.ids.rows.filter (fun r => !decide (r.name = n))
  refine Triple.bind (Q := fun _ => Pd) (Triple.modS fun s h => ⟨h.1, ?_⟩) fun _ => ?_
  · show (s.cur.ids.delete false _).rows = _
    rw [h.2]; rfl
  refine Triple.bind (Triple.commit (P := Pd) (fun _ _ h => h) (fun _ h => h) fun _ _ => trivial) fun _ => ?_
  refine Triple.modS fun s h => ?_
  obtain ⟨⟨⟨h1, h2, h3, h4, h4'⟩, h5⟩, h6⟩ := h
  exact { found := ⟨ir, h1, h2, h3, h4, h4'⟩, idsGone := h5, committed := h6, cache := rfl }

theorem delIdentity_step {s s' : Sys} {n : Nat} {f : Option Nat} {r : Option Signer} (hn : NamesU s.cur.keys.rows)
    (h : step s (.delIdentity n, f) = (.ok r, s')) : DelIdPost n s s' := by
  obtain ⟨_, h1, rfl⟩ := step_ok h (delIdentity_spec n s hn).thenPure ⟨rfl, rfl, rfl, rfl⟩
  exact { h1 with }

theorem pres_delIdentity (hJ : JOk J) (n : Nat) : Pres (SysInv J) (delIdentity n) := by
  refine Triple.bind (Triple.lookupId_mem n) fun ir => ?_
  let A : Sys → Prop := fun s => SysInv J s ∧ ir ∈ s.cur.ids.rows ∧ ir.name = n
  refine Triple.bind (Q := fun a s => A s ∧ a = s) Triple.getS fun a => ?_
  -- after the loop no key row is left below the identity row
  let B : Sys → Prop := fun s => A s ∧ ∀ kr ∈ s.cur.keys.rows, kr.owner ≠ ir.rid
  have fiB : FI B := fun s f h => ⟨⟨SysInv.fi s f h.1.1, h.1.2⟩, h.2⟩
  refine Triple.bind (Q := fun _ => B) ?_ fun _ => ?_
  · refine Triple.ofStart fun _ h => ?_
    obtain ⟨⟨hi, hir, hn⟩, rfl⟩ := h
    refine ((Triple.delKeys (pres_delKey hJ) _).and (delKeys_spec _ a hi.cur.keys.names)).conseq
      (fun _ e => by subst e; exact ⟨hi, rfl, rfl, rfl, rfl⟩) (fun _ _ ⟨h1, h2⟩ => ?_) (fun _ _ h => h.1)
    refine ⟨⟨h1, by rw [h2.ids]; exact hir, hn⟩, fun kr hkr hown => ?_⟩
    rw [h2.keys, List.mem_filter] at hkr
    simpa [mem_keyIter.mpr ⟨kr, hkr.1, hown, rfl⟩] using hkr.2
  refine Triple.bind (Q := fun _ => B) (Triple.tick fiB fun _ h => h.1.1) fun _ => ?_
  refine Triple.bind (Q := fun _ => SysInv J) (Triple.modS fun s h => ?_) fun _ => Pres.bind pres_commit fun _ => pres_clearCache
  obtain ⟨⟨h, hir, hn⟩, hk⟩ := h
  refine h.setCur ⟨h.cur.ids.delete _, h.cur.keys, h.cur.certs⟩ (NameData.refl _)
    (h.link.1.delIds _ fun kr hkr ir' hir' hp => ?_)
  have hn' : ir'.name = n := by simpa using hp
  rw [pairwise_inj h.cur.ids.names hir' hir (hn'.trans hn.symm)]
  exact hk kr hkr

theorem pres_prog (hJ : JOk J) : ∀ op : Op, Pres (SysInv J) op.prog
  | .newIdentity _ => Triple.thenPure (pres_newIdentity _)
  | .touchIdentity _ => Triple.thenPure (pres_touchIdentity hJ _)
  | .newKey _ _ _ => Triple.thenPure (pres_newKey hJ _ _ _)
  | .importCert _ _ => Triple.thenPure (Pres.bind (pres_execInsertCert _ _) fun _ => pres_commit)
  | .setDefaultIdentity _ => Triple.thenPure (pres_setDefaultIdentity _)
  | .setDefaultKey _ _ => Triple.thenPure (Pres.bind (Pres.lookupId _) fun _ => Pres.bind (pres_execSetDefaultKey _) fun _ =>
      pres_commit)
  | .setDefaultCert _ _ => Triple.thenPure (Pres.bind (Pres.lookupKey _) fun _ => Pres.bind (pres_execSetDefaultCert _) fun _ =>
      pres_commit)
  | .delIdentity _ => Triple.thenPure (pres_delIdentity hJ _)
  | .delKey _ => Triple.thenPure (pres_delKey hJ _)
  | .delCert _ => Triple.thenPure (Pres.bind pres_tick fun _ => Pres.bind (Pres.modS fun _ h =>
      h.setCur ⟨h.cur.ids, h.cur.keys, h.cur.certs.delete _⟩ (NameData.refl _) (h.link.1.delCerts _)) fun _ =>
      Pres.bind pres_commit fun _ => pres_clearCache)
  | .delCertViaKey _ _ => Triple.thenPure (Pres.bind (Pres.lookupKey _) fun _ => Pres.raise _)
  | .getSigner _ _ => Pres.bind (pres_getSigner _ _) fun _ => Pres.pure _
  | .reopen => Triple.thenPure (Pres.modS fun _ h => h.reopen)

theorem SysInv.step (hJ : JOk J) {s : Sys} (h : SysInv J s) (of : Op × Option Nat) : SysInv J (Keychain.step s of).2 :=
  step_of_pres SysInv.fi (pres_prog hJ) s of h

theorem SysInv.run (hJ : JOk J) {s : Sys} (h : SysInv J s) (ops : List (Op × Option Nat)) :
    SysInv J (Keychain.run s ops) :=
  run_of_pres SysInv.fi (pres_prog hJ) s ops h

abbrev Inv : Sys → Prop := SysInv fun _ _ => True

theorem sysInv_run (fn : KeyName → FileName) (ops : List (Op × Option Nat)) : Inv (run (Sys.init fn) ops) :=
  (SysInv.init fn True.intro).run JOk.trivial ops

theorem newKey_valueError (n : Nat) (bad : Bool) (spec : KeyIdSpec) (s0 : Sys) :
    Triple (SameButFault s0) (newKey n bad spec) (fun _ _ => True) (fun e s => e = .valueError → SameButFault s0 s) := by
  refine Triple.bind (Q := fun _ => SameButFault s0) ((Triple.lookupId n).conseq (fun _ h => h) (fun _ _ h => h.1) fun _ _ h _ => h) fun i =>
    Triple.bind (Q := fun _ => SameButFault s0) (Triple.tick (SameButFault.fi s0) fun _ h _ => h) fun _ =>
    Triple.bind (Q := fun _ => SameButFault s0) (Triple.raiseIf fun _ h _ => h) fun _ =>
    Triple.bind (Q := fun _ => SameButFault s0) Triple.getS_keep fun a =>
    Triple.bind (Q := fun _ => SameButFault s0) (Triple.ofOpt (fun _ _ _ h => h) (fun _ _ h _ => h)) fun kid =>
    Triple.bind (Q := fun _ => SameButFault s0) (Triple.raiseIf fun _ h _ => h) fun _ =>
    -- from here on the state changes, but no ValueError is raised any more
    Triple.bind (Q := fun _ _ => True) (Triple.modS fun _ _ => trivial) fun _ => Triple.weakenE (E := fun e _ => e ≠ .valueError) ?_
      fun _ _ h e => absurd e h
  exact NoVE.bind NoVE.tick fun _ => NoVE.bind NoVE.getS fun _ => NoVE.bind (NoVE.raiseIf (by decide) _) fun _ =>
    NoVE.bind (NoVE.execInsertKey _ _ _) fun _ => NoVE.bind (NoVE.execInsertCert _ _) fun _ =>
    NoVE.bind NoVE.commit fun _ => NoVE.bind NoVE.getS fun _ =>
    NoVE.bind (NoVE.whenM (NoVE.bind (NoVE.execSetDefaultKey _) fun _ => NoVE.commit)) fun _ =>
    NoVE.bind NoVE.getS fun _ => NoVE.bind (NoVE.ofOpt (by decide) _) fun _ => NoVE.pure _

/-- `hf` holds between steps (`run_fault`); with it the fault counter too is back where it was -/
theorem newKey_step_valueError {s : Sys} (hf : s.fault = none) {n : Nat} {bad : Bool} {spec : KeyIdSpec} {f : Option Nat}
    (he : (step s (.newKey n bad spec, f)).1 = .error .valueError) : (step s (.newKey n bad spec, f)).2 = s := by
  rcases hm : step s (.newKey n bad spec, f) with ⟨e | r, s1⟩ <;> rw [hm] at he
  · obtain ⟨s2, h2, rfl⟩ := step_error hm (newKey_valueError n bad spec s).thenPure (SameButFault.refl s f)
    exact SameButFault.eq (SameButFault.fi s s2 none (h2 (Except.error.inj he))) hf.symm
  · cases he

theorem newKey_refuses (n : Nat) (bad : Bool) (x : Nat) :
    Triple (fun s => s.fault = none ∧ (idRow? s.cur n).isSome = true ∧ s.cfg.guard = true ∧
        fileHas s.tpm (s.cfg.fn ⟨n, .lit x⟩) = true)
      (newKey n bad (.explicit x)) (fun _ _ => False) (fun e _ => e = .valueError) := by
  let P : Sys → Prop := fun s => s.fault = none ∧ (idRow? s.cur n).isSome = true ∧ s.cfg.guard = true ∧
        fileHas s.tpm (s.cfg.fn ⟨n, .lit x⟩) = true
  refine Triple.bind (Q := fun _ => P) (Triple.bind Triple.getS fun a => Triple.ofOpt (fun _ _ _ h => h.1) fun s ho h => ?_) fun i => ?_
  · obtain ⟨h, rfl⟩ := h
    have h2 : (idRow? a.cur n).isSome = true := h.2.1
    rw [ho] at h2
    cases h2
  refine Triple.bind (Q := fun _ => P) (Triple.tickNF fun _ h => h.1) fun _ =>
    Triple.bind (Q := fun _ => P) (Triple.raiseIf fun _ _ => rfl) fun _ =>
    Triple.bind (Q := fun a s => P s ∧ a = s) Triple.getS fun a => ?_
  refine Triple.bind (Q := fun kid s => (P s ∧ a = s) ∧ kid = .lit x)
    (Triple.ofOpt (fun kid _ ho h => ⟨h, by simpa [mkKid] using ho.symm⟩) (fun _ ho _ => by simp [mkKid] at ho)) fun kid => ?_
  refine Triple.bind (Q := fun _ _ => False)
    (Triple.ite (fun _ => Triple.raise fun _ _ => rfl) fun hc => Triple.pure fun s h => ?_) fun _ => fun _ h => h.elim
  obtain ⟨⟨h, rfl⟩, rfl⟩ := h
  rw [h.2.2.1, h.2.2.2] at hc
  exact absurd rfl hc

theorem newKey_step_refuses {s : Sys} {n x : Nat} (bad : Bool) (hf : s.fault = none)
    (hid : (idRow? s.cur n).isSome = true) (hg : s.cfg.guard = true)
    (hfile : fileHas s.tpm (s.cfg.fn ⟨n, .lit x⟩) = true) :
    step s (.newKey n bad (.explicit x), none) = (.error .valueError, s) := by
  rcases hm : step s (.newKey n bad (.explicit x), none) with ⟨e | u, s1⟩
  · obtain ⟨_, rfl, _⟩ := step_error hm (newKey_refuses n bad x).thenPure ⟨rfl, hid, hg, hfile⟩
    have := newKey_step_valueError hf (n := n) (bad := bad) (spec := .explicit x) (f := none) (by rw [hm])
    rw [hm] at this
    rw [show s1 = s from this]
  · obtain ⟨_, h1, _⟩ := step_ok hm (newKey_refuses n bad x).thenPure ⟨rfl, hid, hg, hfile⟩
    exact h1.elim

end Ndn.Keychain
