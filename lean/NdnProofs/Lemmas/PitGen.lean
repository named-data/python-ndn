import NdnModel.Pit
/-!
The entries of the generated table `Ndn.Gen.C03` (lean/NdnGen/C03.lean, extracted from the source text on every check
run) that the pending-Interest model computes with, each asserted equal to the literal the proofs rely on (`Ndn.C03.gen_*`;
`gen_lifetimes` also asserts `msPerSecond`, which the model does not compute with), and what the table-driven definitions of
the model come to for these values (`Ndn.Pit.*`).  A source edit that changes such an entry stops its assertion from
checking, and with it every file that imports this one.
-/
namespace Ndn.C03
open Ndn Ndn.Pit

/-- `DEFAULT_LIFETIME`, `100 if lifetime is None else lifetime`, the substitution is `is not None` (not `or`, which
    would also replace lifetime 0), and `wait_for` is given `lifetime/1000.0` seconds -/
theorem gen_lifetimes :
    Gen.C03.v2.defaultLifetime = 4000 ∧ Gen.C03.v2.lifetimeDflt = .ifNotNone ∧
    Gen.C03.v1.defaultLifetime = 100 ∧ Gen.C03.v1.lifetimeDflt = .ifNotNone ∧
    Gen.C03.v2.msPerSecond = 1000 ∧ Gen.C03.v1.msPerSecond = 1000 := by decide

/-- `_wait_for_data`: current = until the deadline, `if lifetime <= 0: lifetime = 100`; legacy = the whole lifetime -/
theorem gen_wait_budget :
    Gen.C03.v2.budget = .untilDeadline .le 100 ∧ Gen.C03.v1.budget = .fullLifetime := by decide

/-- `no_response` is honoured by appv2 before anything is recorded; the legacy front-end has no such parameter -/
theorem gen_no_response : Gen.C03.v2.noResponse = true ∧ Gen.C03.v1.noResponse = false := by decide

/-- how a verdict becomes an outcome: current = `PASS` / `ALLOW_BYPASS` deliver, `TimeoutError` / `CancelledError` of
    the validator read as `TIMEOUT`, nothing else is caught; legacy = truthiness, nothing caught -/
theorem gen_data_verdict :
    Gen.C03.v2.dataDelivers = .only [.pass, .allowBypass] ∧ Gen.C03.v2.dataCaught = [.timeoutError, .cancelledError] ∧
    Gen.C03.v2.dataCaughtAs = .timeout ∧ Gen.C03.v1.dataDelivers = .truthy ∧ Gen.C03.v1.dataCaught = [] := by decide

/-- every entry the model computes with was recognised by the extractor -/
theorem gen_table_ok : Pit.tableOk = true := by decide

end Ndn.C03

namespace Ndn.Pit

/-- what `validatorOutcome` comes to for the entries of `gen_data_verdict` -/
def validatorOutcomeRef (fe : FrontEnd) (v : Verdict) (d : Nat) : Option Outcome :=
  match fe, v with
  | _, .pass => some (.data d)
  | .v2, .allowBypass => some (.data d)
  | .v2, .raiseOther => none
  | .v2, .raiseTimeout => some (.valFail d .timeout)
  | .v2, v => some (.valFail d v)
  | .v1, .allowBypass => some (.data d)
  | .v1, .raiseOther => some (.validatorError d)
  | .v1, .raiseTimeout => some (.validatorError d)
  | .v1, _ => some (.valFail d .fail)

theorem validatorOutcome_eq_ref (fe : FrontEnd) (v : Verdict) (d : Nat) :
    validatorOutcome fe v d = validatorOutcomeRef fe v d := by
  obtain ⟨h1, h2, h3, h4, h5⟩ := C03.gen_data_verdict
  unfold validatorOutcome
  cases fe <;> simp only [shape, h1, h2, h3, h4, h5] <;> cases v <;> rfl

theorem grace_eq : grace = 100 := by
  unfold grace; rw [C03.gen_wait_budget.1]; rfl

theorem expiry_v1 (now life defer : Nat) : expiry .v1 now life defer = now + defer + life := by
  unfold expiry shape; rw [C03.gen_wait_budget.2]; rfl

theorem expiry_v2 (now life defer : Nat) :
    expiry .v2 now life defer = if now + defer < now + life then now + life else now + defer + 100 := by
  unfold expiry shape; rw [C03.gen_wait_budget.1]
  show (if decide (now + life ≤ now + defer) = true then now + defer + 100 else now + life) = _
  by_cases h : now + defer < now + life
  · rw [if_pos h, if_neg (by simp; omega)]
  · rw [if_neg h, if_pos (by simp; omega)]

@[simp] theorem silent_v1 (nr : Bool) : silent .v1 nr = false := by
  unfold silent shape; rw [C03.gen_no_response.2]; rfl
@[simp] theorem silent_v2 (nr : Bool) : silent .v2 nr = nr := by
  unfold silent shape; rw [C03.gen_no_response.1]; cases nr <;> rfl

end Ndn.Pit
