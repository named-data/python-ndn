import NdnProofs.Lemmas.KeychainHoare
/-!
  What the keychain's operations do to the committed / uncommitted phases of the store, whatever the tables hold
  (C15). `Phases C D T` lists what predicates `C` (nothing uncommitted) and `D` (uncommitted work allowed) must respect;
  `Phases.prog` is the one walk over all operations. Two instances: the configuration never changes (`run_cfg`), and an
  operation without injected failure that starts committed ends committed unless key generation met an IntegrityError
  (`step_committed`).
-/
namespace Ndn.Keychain
open Ndn.Sql

/-- `T`: what is known when a fault point raises in `D` -/
structure Phases (C D T : Sys → Prop) : Prop where
  toD : ∀ s, C s → D s
  tickC : Pres C tick
  tickD : Triple D tick (fun _ => D) (fun _ => T)
  cur : ∀ (f : Db → Db) s, D s → D { s with cur := f s.cur }
  com : ∀ s, D s → C { s with com := s.cur }
  rest : ∀ s (t : List (FileName × Nat)) (c : List ((KeyName × Loc) × Signer)) (n : Nat), C s →
    C { s with tpm := t, cache := c, nextKid := n }
  reopen : ∀ s, C s → C { s with cur := s.com, cache := [] }

/-- what is known when an operation raises: nothing is uncommitted, or a fault point raised in `D`, or `R`, the
    operation's own way of raising with work uncommitted -/
def Phases.Err (C T : Sys → Prop) (R : KErr → Sys → Prop) (e : KErr) (s : Sys) : Prop := C s ∨ T s ∨ R e s

/-- the operations that call `new_key` -/
def Op.keyGen : Op → Bool
  | .newKey _ _ _ => true
  | .touchIdentity _ => true
  | _ => false

theorem Pres.err {α : Type} {C T : Sys → Prop} {R : KErr → Sys → Prop} {m : M α} (h : Pres C m) :
    Triple C m (fun _ => C) (Phases.Err C T R) := h.weakenE fun _ _ => Or.inl

namespace Phases
variable {C D T : Sys → Prop} {R : KErr → Sys → Prop} (ph : Phases C D T)

include ph

theorem tickDirty : Triple D tick (fun _ => D) (Err C T R) := ph.tickD.weakenE fun _ _ h => Or.inr (Or.inl h)

theorem commit : Triple D Keychain.commit (fun _ => C) (Err C T R) :=
  Triple.bind ph.tickDirty fun _ => Triple.modS ph.com

theorem writeD (f : Db → Db) : Triple D (modCur f) (fun _ => D) (Err C T R) := Triple.modS (ph.cur f)

theorem write (f : Db → Db) : Triple C (modCur f) (fun _ => D) (Err C T R) :=
  (ph.writeD f).conseq ph.toD (fun _ _ h => h) (fun _ _ h => h)

/-- the three `UPDATE … SET is_default=1` statements (`execSetDefaultId`, `execSetDefaultKey`, `execSetDefaultCert`) -/
theorem tickWrite (f : Db → Db) : Triple C (do tick; modCur f) (fun _ => D) (Err C T R) :=
  Triple.bind ph.tickC.err fun _ => ph.write _

/-- an insert raises its IntegrityError before anything is written -/
theorem execInsertId (n : Nat) : Triple C (Keychain.execInsertId n) (fun _ => D) (Err C T R) := by
  refine Triple.bind ph.tickC.err fun _ => Triple.bind Pres.getS.err fun a => ?_
  split
  · exact Triple.raise fun _ => Or.inl
  · exact ph.write _

theorem execInsertKey (o : Nat) (k : KeyName) (b : Nat) :
    Triple C (Keychain.execInsertKey o k b) (fun _ => D) (Err C T R) := by
  refine Triple.bind ph.tickC.err fun _ => Triple.bind Pres.getS.err fun a => ?_
  split
  · exact Triple.raise fun _ => Or.inl
  · exact ph.write _

theorem execInsertCert (k : KeyName) (c : CertName) :
    Triple C (Keychain.execInsertCert k c) (fun _ => D) (Err C T R) := by
  refine Triple.bind ph.tickC.err fun _ => Triple.bind Pres.getS.err fun a => ?_
  split
  · exact Triple.raise fun _ => Or.inl
  · split
    · exact Triple.raise fun _ => Or.inl
    · exact ph.write _

/-- `execInsertCert` with work uncommitted, as inside `new_key` -/
theorem execInsertCert_dirty (k : KeyName) (c : CertName) :
    Triple D (Keychain.execInsertCert k c) (fun _ => D) (Err C T fun e s => e = .integrityError ∧ D s) := by
  refine Triple.bind ph.tickDirty fun _ => Triple.bind (Q := fun _ => D) Triple.getS_keep fun a => ?_
  split
  · exact Triple.raise fun _ h => Or.inr (Or.inr ⟨rfl, h⟩)
  · split
    · exact Triple.raise fun _ h => Or.inr (Or.inr ⟨rfl, h⟩)
    · exact ph.writeD _

theorem setDefaultIdentity (n : Nat) : Triple C (Keychain.setDefaultIdentity n) (fun _ => C) (Err C T R) :=
  Triple.bind (ph.tickWrite _) fun _ => ph.commit

theorem newIdentity (n : Nat) : Triple C (Keychain.newIdentity n) (fun _ => C) (Err C T R) :=
  Triple.bind Pres.getS.err fun _ => Triple.bind (Pres.raiseIf _ _).err fun _ =>
    Triple.bind (ph.execInsertId n) fun _ => Triple.bind ph.commit fun _ => Triple.bind Pres.getS.err fun _ =>
    Triple.bind (Triple.whenM (ph.setDefaultIdentity n)) fun _ =>
    Triple.bind (Pres.lookupId n).err fun _ => Triple.pure fun _ h => h

/-- `new_key` can raise with work uncommitted: IntegrityError when the name of its self-signed certificate is taken -/
theorem newKey (n : Nat) (bad : Bool) (spec : KeyIdSpec) :
    Triple C (Keychain.newKey n bad spec) (fun _ => C) (Err C T fun e s => e = .integrityError ∧ D s) :=
  Triple.bind (Pres.lookupId n).err fun _ => Triple.bind ph.tickC.err fun _ =>
    Triple.bind (Pres.raiseIf _ _).err fun _ => Triple.bind Pres.getS.err fun _ =>
    Triple.bind (Pres.ofOpt _ _).err fun _ => Triple.bind (Pres.raiseIf _ _).err fun _ =>
    Triple.bind (Q := fun _ => C) (Triple.modS fun s h => ph.rest s _ _ _ h) fun _ => Triple.bind ph.tickC.err fun _ =>
    Triple.bind Pres.getS.err fun _ => Triple.bind (Pres.raiseIf _ _).err fun _ =>
    Triple.bind (ph.execInsertKey _ _ _) fun _ => Triple.bind (ph.execInsertCert_dirty _ _) fun _ =>
    Triple.bind ph.commit fun _ => Triple.bind Pres.getS.err fun _ =>
    Triple.bind (Triple.whenM (Triple.bind (ph.tickWrite _) fun _ => ph.commit)) fun _ =>
    Triple.bind Pres.getS.err fun _ => Triple.bind (Pres.ofOpt _ _).err fun _ => Triple.pure fun _ h => h

theorem touchIdentity (n : Nat) :
    Triple C (Keychain.touchIdentity n) (fun _ => C) (Err C T fun e s => e = .integrityError ∧ D s) :=
  Triple.bind Pres.getS.err fun _ =>
    Triple.bind (Triple.whenM (Triple.bind (ph.execInsertId n) fun _ => Triple.bind ph.commit fun _ =>
      ph.newKey n false .random)) fun _ =>
    Triple.bind Pres.getS.err fun _ => Triple.bind (Triple.whenM (ph.setDefaultIdentity n)) fun _ =>
    Triple.bind (Pres.lookupId n).err fun _ => Triple.pure fun _ h => h

theorem clearCache : Pres C Keychain.clearCache := Pres.modS fun s h => ph.rest s _ _ _ h

theorem delKey (k : KeyName) : Triple C (Keychain.delKey k) (fun _ => C) (Err C T R) :=
  Triple.bind (Pres.lookupKey k).err fun _ => Triple.bind ph.tickC.err fun _ => Triple.bind (ph.write _) fun _ =>
    Triple.bind ph.tickDirty fun _ => Triple.bind (ph.writeD _) fun _ =>
    Triple.bind ph.commit fun _ => Triple.bind ph.tickC.err fun _ =>
    Triple.bind (Q := fun _ => C) (Triple.modS fun s h => ph.rest s _ _ _ h) fun _ => ph.clearCache.err

theorem getSigner (sel : Sel) (loc : Option Nat) : Pres C (Keychain.getSigner sel loc) := by
  refine Pres.bind Pres.getS fun a => Pres.bind (Pres.ofOpt _ _) fun kc => ?_
  obtain ⟨k, c⟩ := kc
  dsimp only
  split
  · exact Pres.pure _
  · refine Pres.bind ph.tickC fun _ => ?_
    split
    · exact Pres.bind (Pres.modS fun s h => ph.rest s _ _ _ h) fun _ => Pres.pure _
    · exact Pres.raise _

theorem prog : ∀ op : Op,
    Triple C op.prog (fun _ => C) (Err C T fun e s => op.keyGen = true ∧ e = .integrityError ∧ D s)
  | .newIdentity _ => Triple.thenPure (ph.newIdentity _)
  | .touchIdentity _ => Triple.thenPure ((ph.touchIdentity _).weakenE fun _ _ h => h.imp_right (Or.imp_right fun h => ⟨rfl, h⟩))
  | .newKey _ _ _ => Triple.thenPure ((ph.newKey _ _ _).weakenE fun _ _ h => h.imp_right (Or.imp_right fun h => ⟨rfl, h⟩))
  | .importCert _ _ => Triple.thenPure (Triple.bind (ph.execInsertCert _ _) fun _ => ph.commit)
  | .setDefaultIdentity _ => Triple.thenPure (ph.setDefaultIdentity _)
  | .setDefaultKey _ _ => Triple.thenPure (Triple.bind (Pres.lookupId _).err fun _ => Triple.bind (ph.tickWrite _) fun _ =>
      ph.commit)
  | .setDefaultCert _ _ => Triple.thenPure (Triple.bind (Pres.lookupKey _).err fun _ =>
      Triple.bind (ph.tickWrite _) fun _ => ph.commit)
  | .delIdentity _ => Triple.thenPure (Triple.bind (Pres.lookupId _).err fun _ => Triple.bind Pres.getS.err fun _ =>
      Triple.bind (Triple.delKeys ph.delKey _) fun _ => Triple.bind ph.tickC.err fun _ => Triple.bind (ph.write _) fun _ =>
      Triple.bind ph.commit fun _ => ph.clearCache.err)
  | .delKey _ => Triple.thenPure (ph.delKey _)
  | .delCert _ => Triple.thenPure (Triple.bind ph.tickC.err fun _ => Triple.bind (ph.write _) fun _ =>
      Triple.bind ph.commit fun _ => ph.clearCache.err)
  | .delCertViaKey _ _ => Triple.thenPure (Triple.bind (Pres.lookupKey _).err fun _ => Triple.raise fun _ => Or.inl)
  | .getSigner _ _ => Triple.bind (ph.getSigner _ _).err fun _ => Triple.pure fun _ h => h
  | .reopen => Triple.thenPure (Triple.modS ph.reopen)

end Phases

def CfgIs (c : Cfg) (s : Sys) : Prop := s.cfg = c

theorem cfg_phases (c : Cfg) : Phases (CfgIs c) (CfgIs c) (CfgIs c) :=
  { toD := fun _ h => h, tickC := Pres.tick fun _ _ h => h, tickD := Pres.tick fun _ _ h => h, cur := fun _ _ h => h,
    com := fun _ h => h, rest := fun _ _ _ _ h => h, reopen := fun _ h => h }

theorem cfg_prog (c : Cfg) (op : Op) : Pres (CfgIs c) op.prog :=
  ((cfg_phases c).prog op).weakenE fun _ _ h => h.elim id fun h => h.elim id fun h => h.2.2

theorem run_cfg (s : Sys) (ops : List (Op × Option Nat)) : (run s ops).cfg = s.cfg :=
  run_of_pres (I := CfgIs s.cfg) (fun _ _ h => h) (cfg_prog s.cfg) s ops rfl

/-- no fault scheduled, committed -/
def NFc (s : Sys) : Prop := s.fault = none ∧ s.cur = s.com
/-- no fault scheduled, dirty (uncommitted work allowed) -/
def NFd (s : Sys) : Prop := s.fault = none

section Clean
variable {E : KErr → Sys → Prop}

theorem nf_modCur (f : Db → Db) : Triple NFd (modCur f) (fun _ => NFd) E := Triple.modS fun _ h => h

theorem nfd_of_nfc {s : Sys} (h : NFc s) : NFd s := h.1

theorem nf_phases : Phases NFc NFd (fun _ => False) :=
  { toD := fun _ => nfd_of_nfc, tickC := Triple.tickNF fun _ h => h.1, tickD := Triple.tickNF fun _ h => h,
    cur := fun _ _ h => h, com := fun _ h => ⟨h, rfl⟩, rest := fun _ _ _ _ h => h, reopen := fun _ h => ⟨h.1, rfl⟩ }

theorem nfc_prog (op : Op) :
    Triple NFc op.prog (fun _ => NFc) (fun e s => (op.keyGen = true ∧ e = .integrityError) ∨ NFc s) :=
  (nf_phases.prog op).weakenE fun _ _ h => h.elim Or.inr fun h => h.elim False.elim fun h => Or.inl ⟨h.1, h.2.1⟩

theorem step_committed {s : Sys} (op : Op) (hc : s.cur = s.com) :
    (step s (op, none)).2.cur = (step s (op, none)).2.com ∨
      (op.keyGen = true ∧ (step s (op, none)).1 = .error .integrityError) := by
  rcases hm : step s (op, none) with ⟨e | r, s'⟩
  · obtain ⟨_, h1, rfl⟩ := step_error hm (nfc_prog op) ⟨rfl, hc⟩
    exact h1.elim (fun h => Or.inr ⟨h.1, by rw [h.2]⟩) fun h => Or.inl h.2
  · obtain ⟨_, h1, rfl⟩ := step_ok hm (nfc_prog op) ⟨rfl, hc⟩
    exact Or.inl h1.2

end Clean

end Ndn.Keychain
