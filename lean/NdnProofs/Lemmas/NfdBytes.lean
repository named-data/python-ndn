import NdnProofs.Props.C02
import NdnProofs.Lemmas.NfdMgmt
import NdnProofs.Lemmas.CodecTotal
import NdnModel.NfdBytes
/-! Byte-level half of C17: command names (lists of GenericNameComponents), the command Interest (from the C08 round
    trip and the C01/C02 packet theorems), `parse_response`, and the wires of a trace read off `cmdsOf`.  Two
    definitions of the C17 specification stand among the lemmas: `Good` (what the statements about a run ask of its
    inputs) and `forwarderData` (the answer of a forwarder, for `replyOfData_forwarder`). -/
namespace Ndn.NfdBytes
open Ndn Ndn.Codec Ndn.Packet Ndn.NfdMgmt

theorem wf_cp : wfTop cpFs = true := by decide +kernel
theorem wf_cr : wfTop crFs = true := by decide +kernel

theorem commandName_ok {isLocal : Bool} {module command : Bytes} {cpv : List Value} {n : List Bytes}
    (h : commandName isLocal module command cpv = .ok n) :
    ∃ cp, encFields cpFs [.model cpv] = .ok cp ∧ cp.length < 2 ^ 64 ∧
      n = commandHead isLocal module command ++ [tlv 8 cp] := by
  unfold commandName at h
  obtain ⟨cp, hcp, h2⟩ := bind_ok h
  obtain ⟨c, hc, h3⟩ := bind_ok h2
  obtain ⟨rfl, _, hl⟩ := tlvE_ok hc
  simp only [pure, Except.pure, Except.ok.injEq] at h3
  exact ⟨cp, hcp, hl, h3.symm⟩

theorem decode_commandName {isLocal : Bool} {module command : Bytes} {cpv : List Value} {n : List Bytes}
    (hfit : fitsFs cpvFs cpv = true) (h : commandName isLocal module command cpv = .ok n) :
    decodeCommandParams n = .ok [.model cpv] := by
  obtain ⟨cp, hcp, hl, rfl⟩ := commandName_ok h
  have hf : fitsFs cpFs [.model cpv] = true := by
    simp [cpFs, fitsFs, fits, hfit]
  have := C08.parse_enc_roundtrip cpFs [.model cpv] cp false wf_cp hf hcp
  simp [decodeCommandParams, commandHead, compValue_tlv 8 cp (by decide) hl, this]

theorem commandName_comps {isLocal : Bool} {module command : Bytes} {cpv : List Value} {n : List Bytes}
    (h : commandName isLocal module command cpv = .ok n)
    (hm : module.length < 2 ^ 64) (hc : command.length < 2 ^ 64) :
    n.all compOk = true ∧ ∀ c ∈ n, isDigestComp c = false := by
  obtain ⟨cp, _, hl, rfl⟩ := commandName_ok h
  refine genericComps_ok [if isLocal then localhostB else localhopB, nfdB, module, command, cp] fun v hv => ?_
  simp only [List.mem_cons, List.not_mem_nil, or_false] at hv
  rcases hv with rfl | rfl | rfl | rfl | rfl
  · cases isLocal <;> decide
  · decide
  · exact hm
  · exact hc
  · exact hl

theorem digestSigInfo_encodes (time nonce : Nat) (ht : time < 2 ^ 64) (hn : nonce < 2 ^ 64) :
    ∃ siB, enc intSigInfoS (digestSigInfo time nonce) = .ok siB ∧ siB.length ≤ 25 := by
  have e1 := enc_uint_none (t := 38) (by decide) hn
  have e2 := enc_uint_none (t := 40) (by decide) ht
  have l1 := packUint_length_le nonce
  have l2 := packUint_length_le time
  have e0 : enc (.uint 27 (some 1)) (.uint 0) = .ok [27, 1, 0] := by rfl
  have hb : encFields sigInfoFields [.uint 0, .none, .uint nonce, .uint time, .none] =
      .ok ([27, 1, 0] ++ (tlv 38 (packUint nonce) ++ (tlv 40 (packUint time) ++ []))) := by
    have k1 : enc keyLocS .none = .ok [] := by rfl
    have k2 : enc (.uint 42 none) .none = .ok [] := by rfl
    simp only [sigInfoFields, encFields, e0, e1, e2, k1, k2, bind, Except.bind, pure, Except.pure, List.nil_append]
  have hlen : ([27, 1, 0] ++ (tlv 38 (packUint nonce) ++ (tlv 40 (packUint time) ++ []))).length ≤ 23 := by
    have s1 := tlv_length_small 38 (packUint nonce) (by decide) (by omega)
    have s2 := tlv_length_small 40 (packUint time) (by decide) (by omega)
    simp only [List.length_append, List.length_cons, List.length_nil, s1, s2]
    omega
  generalize ([27, 1, 0] ++ (tlv 38 (packUint nonce) ++ (tlv 40 (packUint time) ++ []))) = body at hb hlen
  refine ⟨tlv 44 body, ?_, ?_⟩
  · exact enc_model false hb (by decide) (by omega)
  · rw [tlv_length_small 44 body (by decide) (by omega)]; omega

theorem commandInterestV2_checks (H : Bytes → Bytes) (hH : ∀ x, (H x).length = 32)
    (name : List Bytes) (mid : List Value) (midB : Bytes) (time nonce : Nat)
    (hname : name.all compOk = true) (hnd : ∀ c ∈ name, isDigestComp c = false)
    (hmid : encFields midFs mid = .ok midB) (hfitmid : fitsFs midFs mid = true)
    (ht : time < 2 ^ 64) (hn : nonce < 2 ^ 64)
    (hsize : (concatB name).length + midB.length < 2 ^ 63) :
    ∃ m vals ptrs, commandInterestV2 H name mid time nonce = .ok m ∧
      parseInterest m.wire = .ok (vals, ptrs) ∧
      m.finalName = name ++ [2 :: 32 :: H m.digestCovered] ∧
      vals = List.replicate 7 (Value.uint 0) ++ (Value.name m.finalName :: mid) ++
             List.replicate 2 (Value.uint (tlv 7 (concatB m.finalName) ++ midB).length) ++
             [.bytes [], digestSigInfo time nonce, .bytes (H (concatB m.covered)), .none] ∧
      paramsCheck H ptrs = true ∧
      concatB ptrs.sigCovered = concatB m.covered ∧
      ptrs.sigValue = some (H (concatB ptrs.sigCovered)) ∧
      verifyPtrs (digestScheme H) ptrs = true := by
  obtain ⟨siB, hsi, hsil⟩ := digestSigInfo_encodes time nonce ht hn
  have htail := encFields_pair (.bytes 36 false) intSigInfoS (.bytes []) _ emptyAppB siB rfl hsi
  -- the signer is handed the name, ApplicationParameters and SignatureInfo (`signed`) and writes their hash
  let signed := concatB name ++ emptyAppB ++ siB
  obtain ⟨hw, hp⟩ := C01.make_parse_interest_signed H name [] (List.replicate 32 0) mid (.bytes [])
    (digestSigInfo time nonce) { reserved := 32, sig := H signed } midB (emptyAppB ++ siB) hmid htail
    (Nat.le_of_eq (hH _)) (Or.inl (hH _)) (by show 32 < 2 ^ 64; decide) rfl hname rfl hnd (by simp) hfitmid rfl
    _ _ rfl (hH _) rfl (by
      rw [concatB_app]
      simp only [concatB, List.length_cons, hH, List.length_append, emptyAppB, List.length_nil]
      omega)
  have hw := (interestCore_appended H name mid (.bytes []) (digestSigInfo time nonce)
    (some { reserved := 32, sig := H signed })).trans hw
  have hcov : concatB (nameChunks (name ++ [2 :: 32 :: H (emptyAppB ++ siB ++ tlv 46 (H signed))]) (some name.length) ++
      [emptyAppB ++ siB]) = signed := by
    simp only [concatB_app, concatB_nameChunks_at, concatB, List.append_nil, List.append_assoc, signed]
  have hsc : concatB (name ++ [] ++ [emptyAppB ++ siB]) = signed := by
    simp only [concatB_app, concatB, List.append_nil, List.append_assoc, signed]
  -- `a` and `b` go first: they fix the packet and the parse result the other goals speak of
  refine ⟨?m, ?vals, ?ptrs, ?a, ?b, ?c, ?d, ?e, ?f, ?g, ?h⟩
  case a =>
    unfold commandInterestV2
    simp only [hsi, bind, Except.bind]
    exact hw
  case b => exact hp
  case c => rfl
  case d => rw [hcov]; simp only [List.append_assoc, List.cons_append, List.nil_append]
  case e => exact C02.paramsCheck_own H _ _ rfl rfl (hH _)
  case f => exact hsc.trans hcov.symm
  case g => simp only [hsc]
  case h => exact C02.verify_own (digestScheme H) (fun _ => (Sign.digestScheme_recomputes H _ _).mpr rfl) _ _ hsc rfl

theorem lookupField_cons (k' : String) (f : FVal) (b : List (String × FVal)) (k : String) :
    lookupField ((k', f) :: b) k = if k' == k then some f else lookupField b k := by
  unfold lookupField; rw [List.find?_cons]; cases k' == k <;> rfl

theorem lookupField_bodyFields_notin : ∀ (ks : List String) (vs : List Value) (k : String), k ∉ ks →
    lookupField (bodyFields ks vs) k = none
  | [], _, _, _ => by simp [bodyFields, lookupField]
  | _ :: _, [], _, _ => by simp [bodyFields, lookupField]
  | k' :: ks, v :: vs, k, hk => by
    have ih := lookupField_bodyFields_notin ks vs k fun e => hk (List.mem_cons_of_mem _ e)
    have hne : (k' == k) = false := beq_false_of_ne fun e => hk (e ▸ List.mem_cons_self)
    unfold bodyFields
    cases fvalOf v with
    | none => exact ih
    | some f => rw [lookupField_cons, hne]; exact ih

theorem lookupField_bodyFields : ∀ (ks : List String) (vs : List Value), ks.Nodup → ks.length = vs.length →
    ∀ (i : Nat) (k : String), ks[i]? = some k → lookupField (bodyFields ks vs) k = fvalOf (vs.getD i .none)
  | [], _, _, _, i, k, h => by simp at h
  | _ :: _, [], _, hl, _, _, _ => by simp at hl
  | k' :: ks, v :: vs, hnd, hl, i, k, h => by
    have hnd' := List.nodup_cons.mp hnd
    unfold bodyFields
    cases i with
    | zero =>
      cases Option.some.inj h
      rw [List.getD_cons_zero]
      cases fvalOf v with
      | none => exact lookupField_bodyFields_notin ks vs k' hnd'.1
      | some f => rw [lookupField_cons, beq_self_eq_true]; rfl
    | succ j =>
      have h' : ks[j]? = some k := h
      have hne : (k' == k) = false := beq_false_of_ne fun e => hnd'.1 (e ▸ List.mem_of_getElem? h')
      have ih := lookupField_bodyFields ks vs hnd'.2 (Nat.succ.inj hl) j k h'
      rw [List.getD_cons_succ]
      cases fvalOf v with
      | none => exact ih
      | some f => rw [lookupField_cons, hne]; exact ih

theorem recOfValues_crValues (c : Option Nat) (t : Option Bytes) (b : Option (List Value)) :
    recOfValues (crValues c t b) = ⟨c, t, b.map (bodyFields cpvFields)⟩ := by
  cases c <;> cases t <;> cases b <;> rfl

theorem contentRec_encode (code : Option Nat) (text : Option Bytes) (body : Option (List Value)) (w : Bytes)
    (hfit : fitsFs crFs (crValues code text body) = true) (henc : encodeResponse code text body = .ok w) :
    (∃ v, parseAndCheckTl w 0x65 = .ok v ∧ parse crFs false v = .ok (crValues code text body)) ∧
    contentRec w = .ok ⟨code, text, body.map (bodyFields cpvFields)⟩ := by
  unfold encodeResponse at henc
  obtain ⟨b, hb, h2⟩ := bind_ok henc
  obtain ⟨rfl, _, hl⟩ := tlvE_ok h2
  have hp := parseAndCheckTl_tlv 0x65 b (by decide) hl
  have hr := C08.parse_enc_roundtrip crFs _ b false wf_cr hfit hb
  refine ⟨⟨b, hp, hr⟩, ?_⟩
  unfold contentRec
  simp only [hp, hr, bind, Except.bind, pure, Except.pure, recOfValues_crValues]

theorem parseResponse_eq (bf : Bool) (c : Bytes) : parseResponse bf c = contentRec c >>= parseResponseRec bf := by
  unfold parseResponse contentRec
  cases parseAndCheckTl c 0x65 with
  | error e => rfl
  | ok v =>
    simp only [bind, Except.bind]
    cases parse crFs false v <;> rfl

theorem contentRec_doc (c : Bytes) : Doc (contentRec c) := by
  unfold contentRec
  apply Doc.bind (Codec.parseAndCheckTl_doc _ _); intro v _
  apply Doc.bind (Codec.parse_doc crFs false v (by decide +kernel)); intro vs _
  exact Doc.ok _

theorem parseResponse_doc (c : Bytes) : Doc (parseResponse true c) := by
  rw [parseResponse_eq]
  refine Doc.bind (contentRec_doc c) fun r _ => ?_
  rw [parseResponseRec_bodyFix]
  exact Doc.ok _

theorem encFields_noKw : encFields cpvFs.tail noKw = .ok [] := by rfl

theorem enc_cpv_name (pfx : List Bytes) (h : (concatB pfx).length < 2 ^ 64) :
    encFields cpvFs (cpvOf pfx noKw) = .ok (tlv 7 (concatB pfx)) := by
  show encFields (Schema.name 7 :: cpvFs.tail) (Value.name pfx :: noKw) = _
  simp only [encFields, enc_name 7 h, encFields_noKw, bind, Except.bind, pure, Except.pure, List.append_nil]

theorem fits_cpv_name (pfx : List Bytes) (h : pfx.all compOk = true) : fitsFs cpvFs (cpvOf pfx noKw) = true := by
  have h2 : fitsFs cpvFs.tail noKw = true := by rfl
  show fitsFs (Schema.name 7 :: cpvFs.tail) (Value.name pfx :: noKw) = true
  simp only [fitsFs, fits, h, h2, Bool.and_self]

def ribVals (isLocal : Bool) (v : Verb) (pfx : List Bytes) : List Bytes :=
  [if isLocal then localhostB else localhopB, nfdB, ribB, verbB v, tlv 104 (tlv 7 (concatB pfx))]

/-- the name `make_command_v2('rib', verb, face, name=prefix)` returns: five GenericNameComponents, the last one holding
    the encoded ControlParameters -/
def ribName (isLocal : Bool) (v : Verb) (pfx : List Bytes) : List Bytes := (ribVals isLocal v pfx).map (tlv 8)

-- 61 = 25 (the longest head: "localhost", "nfd", "rib", "unregister") + 18 + 18 (two nested TLV headers)
theorem ribVals_size (isLocal : Bool) (v : Verb) (pfx : List Bytes) :
    (concatB (ribVals isLocal v pfx)).length ≤ (concatB pfx).length + 61 := by
  have hh : (concatB [if isLocal then localhostB else localhopB, nfdB, ribB, verbB v]).length ≤ 25 := by
    cases isLocal <;> cases v <;> decide
  have h1 := tlv_length_le 104 (tlv 7 (concatB pfx))
  have h2 := tlv_length_le 7 (concatB pfx)
  simp only [ribVals, concatB, List.length_append, List.length_nil] at hh ⊢
  omega

theorem ribCommandName_eq (isLocal : Bool) (v : Verb) (pfx : List Bytes) (h : (concatB pfx).length + 64 < 2 ^ 64) :
    ribCommandName isLocal v pfx noKw = .ok (ribName isLocal v pfx) := by
  have h1 := tlv_length_le 7 (concatB pfx)
  have h2 := tlv_length_le 104 (tlv 7 (concatB pfx))
  unfold ribCommandName commandName
  simp only [cpFs, encFields, enc, enc_cpv_name pfx (by omega), genericComp, bind, Except.bind, pure, Except.pure,
    tlvE_eq 104 (tlv 7 (concatB pfx)) (by decide) (by omega), List.append_nil,
    tlvE_eq 8 (tlv 104 (tlv 7 (concatB pfx))) (by decide) (by omega)]
  rfl

theorem cmdMid_enc (n32 : Nat) (h : n32 < 2 ^ 32) :
    encFields midFs (cmdMid n32) = .ok (tlv 10 (be4 n32) ++ [12, 2, 3, 232]) ∧
    fitsFs midFs (cmdMid n32) = true := by
  constructor
  · have e1 : enc (.uint 10 (some 4)) (.uint n32) = .ok (tlv 10 (be4 n32)) := by
      simp only [enc]
      have hw : uintWidth (some 4) n32 = 4 := rfl
      split
      · rename_i hc; rw [hw] at hc; omega
      · rw [hw]
        unfold tlvE
        rw [if_pos ⟨by decide, by simp [beN, be4]⟩]
        simp [beN]
    have e2 : enc (.uint 12 none) (.uint 1000) = .ok [12, 2, 3, 232] := by rfl
    have k1 : enc (.bool 33) .none = .ok [] := by rfl
    have k2 : enc (.bool 18) .none = .ok [] := by rfl
    have k3 : enc linksS .none = .ok [] := by rfl
    have k4 : enc (.uint 34 (some 1)) .none = .ok [] := by rfl
    simp only [midFs, cmdMid, encFields, e1, e2, k1, k2, k3, k4, bind, Except.bind, pure, Except.pure,
      List.nil_append, List.append_nil]
  · rfl

theorem cmdMid_len (n32 : Nat) : (tlv 10 (be4 n32) ++ [12, 2, 3, 232]).length = 10 := by
  rw [List.length_append, tlv_length_small 10 (be4 n32) (by decide) (by show 4 ≤ 252; decide)]; rfl

theorem legacySigInfo_enc : encFields sigInfoFields legacySigInfo = .ok [27, 1, 0] := by rfl

/-- what the legacy `make_command` appends before it signs: timestamp, nonce and the SignatureInfo element
    (SignatureType DigestSha256 and nothing else) -/
def legacyTail (ts nonce : Nat) : List Bytes := [tlv 8 (be8 ts), tlv 8 (be8 nonce), tlv 8 [22, 3, 27, 1, 0]]

theorem legacyCommandName_ok {H : Bytes → Bytes} {isLocal : Bool} {module command : Bytes} {cpv : List Value}
    {ts nonce : Nat} {n : List Bytes}
    (h : legacyCommandName H isLocal module command cpv ts nonce = .ok n) :
    ∃ n5, commandName isLocal module command cpv = .ok n5 ∧ ts < 2 ^ 64 ∧ nonce < 2 ^ 64 ∧
      n = n5 ++ legacyTail ts nonce ++ [tlv 8 ([23, 32] ++ H (concatB (n5 ++ legacyTail ts nonce)))] := by
  unfold legacyCommandName at h
  obtain ⟨n5, h5, h2⟩ := bind_ok h
  refine ⟨n5, h5, ?_⟩
  split at h2
  · cases h2
  · rename_i hc
    simp only [legacySigInfo_enc, bind, Except.bind] at h2
    rw [if_neg (by decide)] at h2
    simp only [pure, Except.pure, Except.ok.injEq] at h2
    refine ⟨by omega, by omega, ?_⟩
    rw [← h2]
    simp [legacyTail]

def legacyVals (H : Bytes → Bytes) (isLocal : Bool) (v : Verb) (pfx : List Bytes) (ts nonce : Nat) : List Bytes :=
  ribVals isLocal v pfx ++
    [be8 ts, be8 nonce, [22, 3, 27, 1, 0], [23, 32] ++ H (concatB (ribName isLocal v pfx ++ legacyTail ts nonce))]

/-- the name the legacy `make_command('rib', verb, face, name=prefix)` returns: the v2 name, then timestamp, nonce,
    SignatureInfo and SignatureValue as four more GenericNameComponents -/
def legacyName (H : Bytes → Bytes) (isLocal : Bool) (v : Verb) (pfx : List Bytes) (ts nonce : Nat) : List Bytes :=
  (legacyVals H isLocal v pfx ts nonce).map (tlv 8)

theorem legacyCommandName_eq (H : Bytes → Bytes) (isLocal : Bool) (v : Verb) (pfx : List Bytes) (ts nonce : Nat)
    (h : (concatB pfx).length + 64 < 2 ^ 64) (hts : ts < 2 ^ 64) (hn : nonce < 2 ^ 64) :
    legacyCommandName H isLocal ribB (verbB v) (cpvOf pfx noKw) ts nonce = .ok (legacyName H isLocal v pfx ts nonce) := by
  have hn' : commandName isLocal ribB (verbB v) (cpvOf pfx noKw) = .ok (ribName isLocal v pfx) :=
    ribCommandName_eq isLocal v pfx h
  unfold legacyCommandName
  simp only [hn', bind, Except.bind]
  rw [if_neg (by omega)]
  simp only [legacySigInfo_enc]
  rw [if_neg (by decide)]
  simp [legacyName, legacyVals, ribName, legacyTail, pure, Except.pure]

-- 116 = 61 + 8 + 8 (timestamp, nonce) + 5 (SignatureInfo element) + 34 (SignatureValue element)
theorem legacyVals_size (H : Bytes → Bytes) (hH : ∀ x, (H x).length = 32) (isLocal : Bool) (v : Verb)
    (pfx : List Bytes) (ts nonce : Nat) :
    (concatB (legacyVals H isLocal v pfx ts nonce)).length ≤ (concatB pfx).length + 116 := by
  have := ribVals_size isLocal v pfx
  simp only [legacyVals, concatB_app, concatB, List.length_append, List.length_cons, List.length_nil,
    be8_length, hH]
  omega

theorem legacyName_ts (H : Bytes → Bytes) (isLocal : Bool) (v : Verb) (pfx : List Bytes) (ts nonce : Nat)
    (hts : ts < 2 ^ 64) :
    ((legacyName H isLocal v pfx ts nonce)[5]?.map fun c => beVal (compValue c)) = some ts := by
  show some (beVal (compValue (tlv 8 (be8 ts)))) = some ts
  rw [compValue_tlv 8 _ (by decide) (by rw [be8_length]; decide), beVal_be8 ts hts]

/-- the inputs of a run are what the library produces: a 32-byte hash, prefixes made of well-formed components
    (and of a size a machine can hold), a 32-bit Nonce and a 64-bit SignatureNonce per command -/
structure Good (w : Wire) : Prop where
  hH : ∀ x, (w.H x).length = 32
  pfxOk : ∀ p, (w.pfxName p).all compOk = true
  pfxSize : ∀ p, (concatB (w.pfxName p)).length < 2 ^ 62
  n32 : ∀ k, w.nonce32 k < 2 ^ 32
  n64 : ∀ k, w.nonce64 k < 2 ^ 64

/-- the Data packet a forwarder answers with: Name, no MetaInfo, the Content, SignatureInfo DigestSha256 and the
    signature value `H` of these fields -/
def forwarderData (H : Bytes → Bytes) (name : List Bytes) (content : Bytes) : Except PyErr Bytes := do
  let p ← encFields [nameS, metaS, contentS, dataSigInfoS] [.name name, .none, .bytes content, .model legacySigInfo]
  let m ← makeData name .none (.bytes content) (.model legacySigInfo) (some { reserved := 32, sig := H p })
  pure m.wire

theorem replyOfData_forwarder (H : Bytes → Bytes) (hH : ∀ x, (H x).length = 32) (name : List Bytes) (content p : Bytes)
    (hname : name.all compOk = true)
    (hp : encFields [nameS, metaS, contentS, dataSigInfoS] [.name name, .none, .bytes content, .model legacySigInfo] = .ok p)
    (hsz : p.length < 2 ^ 63) :
    forwarderData H name content = .ok (tlv 6 (p ++ tlv 23 (H p))) ∧
    replyOfData H (tlv 6 (p ++ tlv 23 (H p))) = some (match contentRec content with
      | .ok r => .response r.statusCode r.body.isSome true
      | .error _ => .undecodable true) := by
  have hw := C01.make_data_wire name .none (.bytes content) (.model legacySigInfo) { reserved := 32, sig := H p } p hp
    (by simp [hH]) (Or.inl (by simp [hH])) (by simp only []; omega)
  have h23 : tlNumSize 23 = 1 := by decide
  have h32 : tlNumSize 32 = 1 := by decide
  have hfit : fitsFs [nameS, metaS, contentS, dataSigInfoS] [.name name, .none, .bytes content, .model legacySigInfo] = true := by
    have : fitsFs sigInfoFields legacySigInfo = true := by rfl
    simp [fitsFs, fits, nameS, metaS, contentS, dataSigInfoS, hname, this]
  have hpd := C02.parsed_cover_is_signed_portion_data name .none (.bytes content) (.model legacySigInfo) (H p) p hp hfit
    (by simp only [List.length_append, tlv_length, hH, h23, h32]; omega) (by rw [hH]; decide)
  constructor
  · unfold forwarderData
    simp only [hp, hw, bind, Except.bind, pure, Except.pure]
  · unfold replyOfData
    rw [hpd]
    have hd : digestSigOk H (List.replicate 5 (Value.uint 0) ++ [.name name, .none, .bytes content, .model legacySigInfo, .bytes (H p)])
        { sigCovered := [p], sigValue := some (H p), digestCovered := [], digestValue := none } = true := by
      have hne : (H p).isEmpty = false := by
        cases h : H p with
        | nil => have := hH p; rw [h] at this; cases this
        | cons a b => rfl
      simp [digestSigOk, legacySigInfo, concatB, hne]
    simp only [hd]
    rfl

theorem tsOf_cmdsOf (o : List Out) : tsOf o = (cmdsOf o).map (·.2) := by
  induction o with
  | nil => rfl
  | cons x t ih => cases x <;> simp [tsOf, cmdsOf, ih]

theorem countCmd_cmdsOf (o : List Out) : countCmd o = (cmdsOf o).length := by
  induction o with
  | nil => rfl
  | cons x t ih => cases x <;> simp [countCmd, cmdsOf, ih]

theorem wiresFrom_eq (w : Wire) (fe : FrontEnd) (o : List Out) (k : Nat) :
    wiresFrom w fe k o = ((cmdsOf o).zipIdx k).map fun c => cmdWire w fe c.2 c.1.1.verb c.1.1.pfx c.1.2 := by
  induction o generalizing k with
  | nil => rfl
  | cons x t ih => cases x <;> simp [wiresFrom, cmdsOf, List.zipIdx_cons, ih]

theorem wiresFrom_getElem (w : Wire) (fe : FrontEnd) (o : List Out) (k i : Nat) (r : Req) (ts : Nat)
    (h : (cmdsOf o)[i]? = some (r, ts)) :
    (wiresFrom w fe k o)[i]? = some (cmdWire w fe (k + i) r.verb r.pfx ts) := by
  rw [wiresFrom_eq, List.getElem?_map, List.getElem?_zipIdx, h]; rfl

theorem wiresFrom_length (w : Wire) (fe : FrontEnd) (o : List Out) (k : Nat) :
    (wiresFrom w fe k o).length = countCmd o := by
  rw [wiresFrom_eq, List.length_map, List.length_zipIdx, countCmd_cmdsOf]

end Ndn.NfdBytes
