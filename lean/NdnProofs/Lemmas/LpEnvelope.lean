import NdnGen.C10
import NdnProofs.Lemmas.Lp
/-! The envelope format of C10 at the generated table: the vocabulary of the C10 statements (`lpWrap`, `Sized`, `HdrOk`,
    `Ascending`, `AfterNack`, `NackVal`), the facts about the table `Gen.C10.table` (closed by kernel evaluation), and
    what `parseLp` answers: on any element list the fold `collect` followed by `factsOf` (`parseLp_elems`), on an
    envelope of legal headers the fields of `parseLp_legal`. -/
namespace Ndn.C10
open Ndn Ndn.Recv Ndn.Lp

abbrev T : Table := Gen.C10.table

def lpWrap (hdrs : List (Nat × Bytes)) (p : Bytes) : Bytes :=
  tlv T.tLpPacket (wireOf (hdrs ++ [(T.tFragment, p)]))

/-- all numbers fit the 64-bit TL encoding -/
def Sized (hdrs : List (Nat × Bytes)) (p : Bytes) : Prop :=
  (∀ h ∈ hdrs, h.1 < 2^64 ∧ h.2.length < 2^64) ∧ p.length < 2^64 ∧
  (wireOf (hdrs ++ [(T.tFragment, p)])).length < 2^64

def WfFor (k : Kind) (v : Bytes) : Prop :=
  match k with
  | .flat .uint => v.length = 1 ∨ v.length = 2 ∨ v.length = 4 ∨ v.length = 8
  | .flat _ => True
  | .model sub ic => ∃ m, parseFlat sub ic T.lengthCheck v = .ok m

/-- an optional header: neither a fragmentation field, nor a Nack, nor a Fragment; its value has a legal shape if its
    type is one the format knows -/
def HdrOk (h : Nat × Bytes) : Prop :=
  h.1 ≠ T.tFragment ∧ h.1 ≠ T.tFragIndex ∧ h.1 ≠ T.tFragCount ∧ h.1 ≠ T.tNack ∧
  ∀ k, (h.1, k) ∈ T.fields → WfFor k h.2

/-- the type conditions of `HdrOk` -/
def Plain (t : Nat) : Prop := t ≠ T.tFragment ∧ t ≠ T.tFragIndex ∧ t ≠ T.tFragCount ∧ t ≠ T.tNack

instance (t : Nat) : Decidable (Plain t) := by unfold Plain; infer_instance

/-- `HdrOk` without the exclusion of Nack: an optional header or a Nack header, its value of a legal shape if its type
    is one the format knows -/
def Legal (h : Nat × Bytes) : Prop :=
  h.1 ≠ T.tFragment ∧ h.1 ≠ T.tFragIndex ∧ h.1 ≠ T.tFragCount ∧ ∀ k, (h.1, k) ∈ T.fields → WfFor k h.2

theorem HdrOk.legal {h : Nat × Bytes} (hh : HdrOk h) : Legal h := ⟨hh.1, hh.2.1, hh.2.2.1, hh.2.2.2.2⟩

/-- header type numbers never decrease (NDNLPv2: header fields in increasing TLV-TYPE order, the Fragment
    last; a repeatable header may repeat) -/
def Ascending (hdrs : List (Nat × Bytes)) : Prop := List.Pairwise (· ≤ ·) (hdrs.map (·.1))

instance (hdrs : List (Nat × Bytes)) : Decidable (Ascending hdrs) := by unfold Ascending; infer_instance

theorem Ascending.le_of_mem {pre post : List (Nat × Bytes)} {x : Nat × Bytes} (h : Ascending (pre ++ x :: post)) :
    ∀ a ∈ pre, a.1 ≤ x.1 := by
  intro a ha
  unfold Ascending at h
  rw [List.map_append, List.pairwise_append] at h
  exact h.2.2 a.1 (List.mem_map_of_mem ha) x.1 (by simp)

def afterNackFields : List (Nat × Kind) := (T.fields.dropWhile fun f => f.1 != T.tNack).tail

def AfterNack (t : Nat) : Prop := ∃ f ∈ afterNackFields, f.1 = t

instance (t : Nat) : Decidable (AfterNack t) := by unfold AfterNack; infer_instance

def Unknown (t : Nat) : Prop := ∀ k, (t, k) ∉ T.fields

/-- Well-formed value of a Nack header and the reason it carries: an optional NackReason (a
    NonNegativeInteger of 1/2/4/8 bytes) among any number of unknown non-critical (even-typed) sub-elements. -/
def NackVal (nv : Bytes) (ro : Option Nat) : Prop :=
  ∃ u1 u2 : List (Nat × Bytes),
    (∀ e ∈ u1 ++ u2, e.1 % 2 = 0 ∧ e.1 < 2^64 ∧ e.2.length < 2^64) ∧
    ((ro = none ∧ nv = wireOf (u1 ++ u2)) ∨
     ∃ rv : Bytes, (rv.length = 1 ∨ rv.length = 2 ∨ rv.length = 4 ∨ rv.length = 8) ∧
       ro = some (beVal rv) ∧ nv = wireOf (u1 ++ (T.tNackReason, rv) :: u2))

/- Indices in the generated table `T.fields`: FragIndex 0, FragCount 1, PitToken 2, Nack 3, Fragment 12 (the last of
   13).  Each literal below is checked by the evaluation that closes the fact it stands in. -/

theorem frag_last : ∀ pos, pos ≤ T.fields.length - 1 →
    findFrom T.fields pos T.tFragment = some (T.fields.length - 1, .flat .bytes) := by decide +kernel

theorem only_frag_last : ∀ f ∈ T.fields.drop 12, f.1 = T.tFragment := by decide +kernel

theorem token_kind : ∀ f ∈ T.fields, f.1 = T.tPitToken → f.2 = .flat .bytes := by decide +kernel

theorem token_first : findFrom T.fields 0 T.tPitToken = some (2, .flat .bytes) := by decide +kernel

theorem frag_fields_at : findFrom T.fields 0 T.tFragIndex = some (0, .flat .uint) ∧
    findFrom T.fields 0 T.tFragCount = some (1, .flat .uint) := by decide +kernel

theorem nack_kind : ∀ f ∈ T.fields, f.1 = T.tNack → f.2 = .model [(T.tNackReason, .uint)] false := by decide +kernel

theorem nack_found : ∀ pos, pos ≤ 3 →
    findFrom T.fields pos T.tNack = some (3, .model [(T.tNackReason, .uint)] false) := by decide +kernel

theorem from_nack : ∀ f ∈ T.fields.drop 3, f.1 = T.tNack ∨ f ∈ afterNackFields := by decide +kernel

theorem nack_not_after : ∀ f ∈ T.fields.drop 4, f.1 ≠ T.tNack := by decide +kernel

theorem after_found : ∀ pos, pos ≤ 3 → ∀ f ∈ afterNackFields,
    ((findFrom T.fields pos f.1).any fun p => 4 ≤ p.1) = true := by decide +kernel

theorem after_above : ∀ f ∈ afterNackFields, f.1 = T.tFragment ∨ T.tNack < f.1 := by decide +kernel

theorem low_fields_token : ∀ f ∈ T.fields, f.1 ≤ T.tPitToken →
    f.1 = T.tFragment ∨ f.1 = T.tFragIndex ∨ f.1 = T.tFragCount ∨ f.1 = T.tPitToken := by decide +kernel

theorem parseVal_bytes (chk : Bool) (v : Bytes) : parseVal chk (.flat .bytes) v v.length = .ok (.flat (.bytes v)) := by
  simp [parseVal, parseFVal, Except.map]

theorem wf_parse (k : Kind) (v : Bytes) (h : WfFor k v) : ∃ x, parseVal T.lengthCheck k v v.length = .ok x := by
  cases k with
  | flat fk =>
    cases fk with
    | uint =>
      have h' : v.length = 1 ∨ v.length = 2 ∨ v.length = 4 ∨ v.length = 8 := h
      exact ⟨.flat (.uint (beVal (v.take v.length))), by simp [parseVal, parseFVal, h', Except.map]⟩
    | bytes => exact ⟨_, parseVal_bytes _ v⟩
    | bool => exact ⟨.flat .bool, rfl⟩
  | model sub ic =>
    obtain ⟨m, hm⟩ := h
    exact ⟨.model m, by simp [parseVal, hm, Except.map]⟩

theorem unknown_of {t : Nat} (h : ∀ f ∈ T.fields, f.1 ≠ t) : Unknown t := fun _ hk => h _ hk rfl

theorem hdrOk_of_kind {h : Nat × Bytes} (k : Kind) (hp : Plain h.1) (hk : ∀ f ∈ T.fields, f.1 = h.1 → f.2 = k)
    (hw : WfFor k h.2) : HdrOk h :=
  ⟨hp.1, hp.2.1, hp.2.2.1, hp.2.2.2, fun k' hk' => by
    have e : k' = k := hk (h.1, k') hk' rfl
    rw [e]
    exact hw⟩

theorem hdrOk_unknown {h : Nat × Bytes} (hp : Plain h.1) (hu : Unknown h.1) : HdrOk h :=
  ⟨hp.1, hp.2.1, hp.2.2.1, hp.2.2.2, fun k hk => absurd hk (hu k)⟩

theorem hdrOk_token (tk : Bytes) : HdrOk (T.tPitToken, tk) :=
  hdrOk_of_kind (.flat .bytes) (by decide : Plain T.tPitToken) token_kind trivial

theorem Sized.elems {hdrs : List (Nat × Bytes)} {p : Bytes} (hs : Sized hdrs p) :
    ∀ e ∈ hdrs ++ [(T.tFragment, p)], e.1 < 2^64 ∧ e.2.length < 2^64 := by
  simp only [List.forall_mem_append, List.forall_mem_singleton]
  exact ⟨hs.1, (by decide : T.tFragment < 2^64), hs.2.1⟩

theorem Sized.sublist {a b : List (Nat × Bytes)} {p : Bytes} (h : a.Sublist b) (hs : Sized b p) : Sized a p :=
  ⟨fun e he => hs.1 e (h.subset he), hs.2.1,
    Nat.lt_of_le_of_lt (wireOf_length_le_of_sublist (h.append_right _)) hs.2.2⟩

/-- the last step of `parse_lp_packet_v2`: the fragmentation check, then the three facts `_receive` reads -/
def factsOf (fs : List (Nat × Val)) : Except PyErr LpFacts :=
  if (lookup fs T.tFragIndex).isSome || (lookup fs T.tFragCount).isSome then .error .decodeError
  else .ok { nack := nackOf T (lookup fs T.tNack), pitToken := bytesOf (lookup fs T.tPitToken),
             fragment := bytesOf (lookup fs T.tFragment) }

theorem parseLp_elems (els : List (Nat × Bytes)) (hsz : ∀ e ∈ els, e.1 < 2^64 ∧ e.2.length < 2^64)
    (hlen : (wireOf els).length < 2^64) :
    parseLp T (tlv T.tLpPacket (wireOf els))
      = collect T.fields (parseVal T.lengthCheck) true els 0 [] >>= factsOf := by
  unfold parseLp
  rw [parseAndCheckTl_tlv _ _ (by decide) hlen]
  show parseValue T (wireOf els) >>= factsOf = _
  rw [parseValue_elems T _ hsz]

theorem parseLp_lpWrap {hdrs : List (Nat × Bytes)} {p : Bytes} (hs : Sized hdrs p) :
    parseLp T (lpWrap hdrs p)
      = collect T.fields (parseVal T.lengthCheck) true (hdrs ++ [(T.tFragment, p)]) 0 [] >>= factsOf :=
  parseLp_elems _ hs.elems hs.2.2

theorem factsOf_fragment (ext : List (Nat × Val)) (p : Bytes)
    (hx : ∀ e ∈ ext, e.1 ≠ T.tFragment ∧ e.1 ≠ T.tFragIndex ∧ e.1 ≠ T.tFragCount) :
    factsOf (ext ++ [(T.tFragment, .flat (.bytes p))])
      = .ok { nack := nackOf T (lookup ext T.tNack), pitToken := bytesOf (lookup ext T.tPitToken),
              fragment := some p } := by
  have h1 := lookup_none_of_not_mem ext T.tFragment fun e he => (hx e he).1
  have h2 := lookup_none_of_not_mem ext T.tFragIndex fun e he => (hx e he).2.1
  have h3 := lookup_none_of_not_mem ext T.tFragCount fun e he => (hx e he).2.2
  have hl : ∀ t, t ≠ T.tFragment → lookup [(T.tFragment, Val.flat (.bytes p))] t = none :=
    fun t ht => lookup_none_of_not_mem _ _ fun e he => by cases List.mem_singleton.1 he; exact Ne.symm ht
  simp only [factsOf, lookup_append, h1, h2, h3, hl _ (by decide : T.tFragIndex ≠ T.tFragment),
    hl _ (by decide : T.tFragCount ≠ T.tFragment), hl _ (by decide : T.tNack ≠ T.tFragment),
    hl _ (by decide : T.tPitToken ≠ T.tFragment), Option.or_none, Option.none_or, Option.isSome_none, Bool.or_self,
    Bool.false_eq_true, if_false]
  rfl

theorem factsOf_fragmented {fs : List (Nat × Val)} {ft : Nat} {x : Val} (hft : ft = T.tFragIndex ∨ ft = T.tFragCount)
    (hl : lookup fs ft = some x) : factsOf fs = .error .decodeError := by
  rcases hft with rfl | rfl <;> simp [factsOf, hl]

theorem parseLp_lpWrap_of_collect {hdrs : List (Nat × Bytes)} {p : Bytes} {ext : List (Nat × Val)} (hs : Sized hdrs p)
    (hnf : ∀ h ∈ hdrs, h.1 ≠ T.tFragment)
    (hc : collect T.fields (parseVal T.lengthCheck) true hdrs 0 [] = .ok ext) :
    parseLp T (lpWrap hdrs p) = factsOf (ext ++ [(T.tFragment, .flat (.bytes p))]) := by
  -- behind the headers the scan stands at or before the Fragment field, the last of the format: the Fragment is found
  have hq : scanPos T.fields (hdrs.map (·.1)) 0 ≤ 12 := by
    refine scanPos_le T.fields 12 _ (fun f hf hm => ?_) 0 (Nat.zero_le _)
    obtain ⟨h, hh, he⟩ := List.mem_map.1 hm
    exact hnf h hh (he.trans (only_frag_last f hf))
  rw [parseLp_lpWrap hs, collect_append, hc]
  show collect T.fields (parseVal T.lengthCheck) true [(T.tFragment, p)] _ ext >>= factsOf = _
  simp only [collect, frag_last _ hq, parseVal_bytes]
  rfl

/-- An envelope of legal headers (optional ones and Nack headers, in any order and number) decodes; Nack and PIT
    token are what the decoded fields `fs` hold for these types: the value of the first header of the type if the scan
    recognises it there (`collect_first`), nothing without such a header (`lookup_absent`). -/
theorem parseLp_legal {hdrs : List (Nat × Bytes)} {p : Bytes} (hs : Sized hdrs p) (hl : ∀ h ∈ hdrs, Legal h) :
    ∃ fs, collect T.fields (parseVal T.lengthCheck) true hdrs 0 [] = .ok fs ∧
      (∀ e ∈ fs, ∃ v k, (e.1, v) ∈ hdrs ∧ (e.1, k) ∈ T.fields ∧ parseVal T.lengthCheck k v v.length = .ok e.2) ∧
      parseLp T (lpWrap hdrs p) = .ok { nack := nackOf T (lookup fs T.tNack), pitToken := bytesOf (lookup fs T.tPitToken),
                                        fragment := some p } := by
  obtain ⟨fs, hc⟩ := collect_ok T.fields (parseVal T.lengthCheck) hdrs
    (fun h hm k hk => wf_parse k h.2 ((hl h hm).2.2.2 k hk)) 0 []
  obtain ⟨_, rfl, hmem⟩ := collect_extends _ _ _ _ _ _ _ hc
  refine ⟨_, hc, hmem, ?_⟩
  rw [parseLp_lpWrap_of_collect hs (fun h hm => (hl h hm).1) hc, factsOf_fragment _ p fun e he => ?_]
  obtain ⟨v, _, hv, _⟩ := hmem e he
  exact ⟨(hl _ hv).1, (hl _ hv).2.1, (hl _ hv).2.2.1⟩

theorem lookup_absent {hdrs : List (Nat × Bytes)} {fs : List (Nat × Val)} {t : Nat}
    (hmem : ∀ e ∈ fs, ∃ v k, (e.1, v) ∈ hdrs ∧ (e.1, k) ∈ T.fields ∧ parseVal T.lengthCheck k v v.length = .ok e.2)
    (hno : ∀ h ∈ hdrs, h.1 ≠ t) : lookup fs t = none :=
  lookup_none_of_not_mem fs t fun e he => let ⟨_, _, hv, _⟩ := hmem e he; hno _ hv

theorem parseLp_skip_unknown (pre hdrs : List (Nat × Bytes)) (p : Bytes) (hs : Sized (pre ++ hdrs) p)
    (hpre : ∀ h ∈ pre, Unknown h.1) : parseLp T (lpWrap (pre ++ hdrs) p) = parseLp T (lpWrap hdrs p) := by
  rw [parseLp_lpWrap hs, parseLp_lpWrap (hs.sublist (List.sublist_append_right ..)), List.append_assoc,
    collect_skip_unknown _ _ _ pre fun h hm => ⟨hpre h hm, Or.inr rfl⟩]

theorem scan_before_nack (hdrs : List (Nat × Bytes)) (hok : ∀ h ∈ hdrs, HdrOk h)
    (hno : ∀ h ∈ hdrs, ¬ AfterNack h.1) : scanPos T.fields (hdrs.map (·.1)) 0 ≤ 3 := by
  refine scanPos_le T.fields 3 _ (fun f hf hm => ?_) 0 (Nat.zero_le _)
  obtain ⟨h, hh, he⟩ := List.mem_map.1 hm
  rcases from_nack f hf with h1 | h1
  · exact (hok h hh).2.2.2.1 (he.trans h1)
  · exact hno h hh ⟨f, h1, he.symm⟩

theorem scan_past_nack (hdrs : List (Nat × Bytes)) (hex : ∃ h ∈ hdrs, h.1 = T.tNack ∨ AfterNack h.1) :
    ∀ pos, 4 ≤ scanPos T.fields (hdrs.map (·.1)) pos := by
  obtain ⟨h, hm, ht⟩ := hex
  refine le_scanPos T.fields 4 h.1 _ (List.mem_map_of_mem hm) fun pos hp => ?_
  rcases ht with ht | ⟨f, hf, hft⟩
  · exact ⟨_, ht ▸ nack_found pos (by omega), Nat.le_refl _⟩
  · obtain ⟨p, hp', hle⟩ := (Option.any_eq_true _ _).1 (hft ▸ after_found pos (by omega) f hf)
    exact ⟨p, hp', Nat.le_succ_of_le (of_decide_eq_true hle)⟩

/-- the decoded NetworkNack model: its NackReason field, if set -/
def nackFields : Option Nat → List (Nat × FVal)
  | some r => [(T.tNackReason, .uint r)]
  | none => []

theorem nackOf_nackFields (ro : Option Nat) : nackOf T (some (.model (nackFields ro))) = some ro := by
  cases ro <;> rfl

theorem parseFlat_nackVal (nv : Bytes) (ro : Option Nat) (h : NackVal nv ro) :
    parseFlat [(T.tNackReason, FKind.uint)] false T.lengthCheck nv
      = .ok (nackFields ro) := by
  obtain ⟨u1, u2, hu, hcase⟩ := h
  -- even-typed sub-elements are unknown to the NetworkNack model and not critical
  have hskip : ∀ u : List (Nat × Bytes), (∀ e ∈ u, e.1 % 2 = 0 ∧ e.1 < 2^64 ∧ e.2.length < 2^64) →
      ∀ h ∈ u, (∀ k, (h.1, k) ∉ [(T.tNackReason, FKind.uint)]) ∧ (h.1 % 2 = 0 ∨ false = true) := by
    intro u hu' e he
    have h0 := (hu' e he).1
    refine ⟨fun k hk => ?_, Or.inl h0⟩
    have : T.tNackReason % 2 = 1 := by decide
    rw [← (Prod.mk.inj (List.mem_singleton.1 hk)).1] at this
    omega
  have hu1 := fun e he => hu e (List.mem_append_left u2 he)
  have hu2 := fun e he => hu e (List.mem_append_right u1 he)
  have hend : ∀ pos acc, collect [(T.tNackReason, FKind.uint)] parseFVal false u2 pos acc = .ok acc := by
    intro pos acc
    have := collect_skip_unknown [(T.tNackReason, FKind.uint)] parseFVal false u2 (hskip _ hu2) [] pos acc
    rwa [List.append_nil] at this
  rcases hcase with ⟨rfl, rfl⟩ | ⟨rv, hlen, rfl, rfl⟩
  · rw [parseFlat_elems _ _ _ _ (fun e he => (hu e he).2), collect_skip_unknown _ _ _ u1 (hskip _ hu1), hend]
    rfl
  · have hsz : ∀ e ∈ u1 ++ (T.tNackReason, rv) :: u2, e.1 < 2^64 ∧ e.2.length < 2^64 := by
      simp only [List.forall_mem_append, List.forall_mem_cons]
      exact ⟨fun e he => (hu1 e he).2, ⟨(by decide : T.tNackReason < 2^64), by omega⟩, fun e he => (hu2 e he).2⟩
    have hf : findFrom [(T.tNackReason, FKind.uint)] 0 T.tNackReason = some (0, .uint) := by decide
    rw [parseFlat_elems _ _ _ _ hsz, collect_skip_unknown _ _ _ u1 (hskip _ hu1)]
    simp only [collect, hf, parseFVal, hlen, if_true, List.take_length, Nat.lt_irrefl, if_false, List.nil_append, hend]
    rfl

theorem parseLp_nack_unrecognised (before after : List (Nat × Bytes)) (nv p : Bytes)
    (hs : Sized (before ++ (T.tNack, nv) :: after) p) (hex : ∃ h ∈ before, h.1 = T.tNack ∨ AfterNack h.1) :
    Sized (before ++ after) p ∧
    parseLp T (lpWrap (before ++ (T.tNack, nv) :: after) p) = parseLp T (lpWrap (before ++ after) p) := by
  have hs' : Sized (before ++ after) p := hs.sublist ((List.sublist_cons_self ..).append_left _)
  refine ⟨hs', ?_⟩
  rw [parseLp_lpWrap hs, parseLp_lpWrap hs', List.append_assoc, List.cons_append, List.append_assoc,
    collect_drop_unrecognised _ _ _ _ _ _ _ _
      (findFrom_none_of_drop T.fields 4 _ _ nack_not_after (scan_past_nack before hex 0))]

theorem putWithPitToken_eq (d tok : Bytes) :
    putWithPitToken T d tok = lpWrap [(T.tPitToken, tok)] d := by
  simp [putWithPitToken, lpWrap, encValue, T, Gen.C10.table, lookup, encVal, encFVal, wireOf]

theorem makeNetworkNack_eq (i : Bytes) (r : Nat) :
    makeNetworkNack T i r = lpWrap [(T.tNack, wireOf [(T.tNackReason, packUint r)])] i := by
  simp [makeNetworkNack, encValue, T, Gen.C10.table, lookup, encVal, encFVal, encFields, lpWrap, wireOf]

end Ndn.C10
