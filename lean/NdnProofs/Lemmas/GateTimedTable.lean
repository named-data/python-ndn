import NdnProofs.Lemmas.GateTimed
import NdnProofs.Lemmas.Fib
/-! The routing table of the timed gate model (names -> node objects on a heap) against the specification vocabulary
    of C04 (`attached`, `IsLongestAttached`) and the registrations a history denotes (`registered`: handler AND the
    validator given with it).  The trie binds no node object to two names (`TrieWf`), so the table is a function `nodeAt`
    from names to node fields, which the events move by `nodeStep`; when every attach carries a handler a node is
    written only while fresh, so it holds its registration (`registrations_refine`).  `absFib` forgets addresses and
    validators: the lookup of `_on_interest` is C04's dispatch on it, and `C04.onInterest_spec` gives `arrival_spec`. -/
namespace Ndn.GateTimed
open Ndn
open Ndn.Pit (FrontEnd Verdict)
open Ndn.Gate (IntPkt shape)

def ops (evs : List Ev) : List Fib.Op := evs.filterMap opOf

/-- the node object a name is bound to -/
def nodeAt (s : St) (p : Name) : Option TNode := (PyDict.get? s.trie p).bind fun a => s.heap[a]?

/-- the trie points into the heap (`bound`: no dangling address) and no node object is bound to two names (`inj`) -/
structure TrieWf (s : St) : Prop where
  bound : ∀ p a, PyDict.get? s.trie p = some a → a < s.heap.length
  inj : ∀ p q a, PyDict.get? s.trie p = some a → PyDict.get? s.trie q = some a → p = q

abbrev NTable := Name → Option TNode

def NTable.update (t : NTable) (p : Name) (v : Option TNode) : NTable := fun q => if q = p then v else t q

/-- what one event means for the name -> node view -/
def nodeStep (fe : FrontEnd) (t : NTable) : Ev → NTable
  | .attach p h v =>
    match t p with
    | some nd => if nd.callback.isSome then t else t.update p (some ⟨h, (tshape fe).valWrite.apply nd.validator v⟩)
    | none => t.update p (some ⟨h, (tshape fe).valWrite.apply none v⟩)
  | .detach p => t.update p none
  | _ => t

/-- A name is bound to a new address or unbound, the heap at most extended: the view changes at that name only and the
    table stays well-formed.  `v = some s.heap.length` with one node appended is the allocation of `attach`, `v = none`
    the unlink of `detach`.  `hv` makes the address one no name holds: every address in use lies below the old length
    (`TrieWf.bound`). -/
theorem nodeAt_rebind {s s' : St} (hwf : TrieWf s) (p : Name) (v : Option Nat)
    (ht : ∀ q, PyDict.get? s'.trie q = if p = q then v else PyDict.get? s.trie q)
    (hh : ∀ b, b < s.heap.length → s'.heap[b]? = s.heap[b]? ∧ b < s'.heap.length)
    (hv : ∀ a, v = some a → s.heap.length ≤ a ∧ a < s'.heap.length) :
    nodeAt s' = NTable.update (nodeAt s) p (v.bind (s'.heap[·]?)) ∧ TrieWf s' := by
  refine ⟨?_, ?_, ?_⟩
  · funext q
    simp only [nodeAt, ht, NTable.update]
    by_cases hpq : p = q
    · subst hpq; simp
    · have hqp : ¬ q = p := fun e => hpq e.symm
      simp only [hpq, hqp, if_false]
      cases hq : PyDict.get? s.trie q with
      | none => rfl
      | some b => simp [(hh b (hwf.bound q b hq)).1]
  · intro q b hq
    rw [ht] at hq
    split at hq
    · exact (hv b hq).2
    · exact (hh b (hwf.bound q b hq)).2
  · intro q r b hq hr
    rw [ht] at hq hr
    split at hq <;> split at hr
    · subst_vars; rfl
    · exact absurd (hwf.bound r b hr) (Nat.not_lt.2 (hv b hq).1)
    · exact absurd (hwf.bound q b hq) (Nat.not_lt.2 (hv b hr).1)
    · exact hwf.inj q r b hq hr

theorem nodeAt_attach (fe : FrontEnd) (s : St) (hwf : TrieWf s) (p : Name) (h : Option Hid) (v : Option Vid) :
    nodeAt (attach fe s p h v).1 = nodeStep fe (nodeAt s) (.attach p h v) ∧ TrieWf (attach fe s p h v).1 := by
  unfold attach
  cases hg : PyDict.get? s.trie p with
  | none =>
    have hn : nodeAt s p = none := by simp [nodeAt, hg]
    refine And.imp_left (fun e => e.trans ?_) (nodeAt_rebind hwf p (some s.heap.length) (fun q => PyDict.get?_set ..)
      (fun b hb => ⟨List.getElem?_append_left hb, by simp; omega⟩) (by rintro a ⟨⟩; simp))
    simp [nodeStep, hn]
  | some a =>
    have hlt := hwf.bound p a hg
    have hnd : s.heap[a]? = some s.heap[a] := List.getElem?_eq_getElem hlt
    have hn : nodeAt s p = some s.heap[a] := by simp [nodeAt, hg, hnd]
    simp only [hnd, nodeStep, hn]
    by_cases hc : s.heap[a].callback.isSome = true
    · simp only [hc, if_true]; exact ⟨trivial, hwf⟩
    · simp only [hc, if_false, Bool.false_eq_true]
      constructor
      · funext q
        simp only [nodeAt, NTable.update]
        by_cases hqp : q = p
        · subst hqp; simp [hg, hlt]
        · simp only [hqp, if_false]
          cases hq : PyDict.get? s.trie q with
          | none => rfl
          | some b =>
            have hne : a ≠ b := by
              intro e; subst e; exact hqp (hwf.inj q p a hq hg)
            simp [List.getElem?_set_ne hne]
      · exact ⟨by intro q b hq; simp only [List.length_set]; exact hwf.bound q b hq, hwf.inj⟩

theorem nodeAt_detach (fe : FrontEnd) (s : St) (hwf : TrieWf s) (p : Name) :
    nodeAt (detach s p).1 = nodeStep fe (nodeAt s) (.detach p) ∧ TrieWf (detach s p).1 := by
  unfold detach
  simp only [nodeStep]
  cases hg : PyDict.get? s.trie p with
  | none =>
    simp only [PyDict.contains, hg, Option.isSome_none, Bool.false_eq_true, if_false]
    refine ⟨?_, hwf⟩
    funext q
    simp only [NTable.update]
    split
    · subst_vars; simp [nodeAt, hg]
    · rfl
  | some a =>
    simp only [PyDict.contains, hg, Option.isSome_some, if_true]
    exact nodeAt_rebind hwf p none (fun q => PyDict.get?_erase ..) (fun b hb => ⟨rfl, hb⟩) (fun _ h => nomatch h)

theorem table_congr {s s' : St} (h1 : s'.heap = s.heap) (h2 : s'.trie = s.trie) (h : TrieWf s) :
    nodeAt s' = nodeAt s ∧ TrieWf s' :=
  ⟨by funext q; simp [nodeAt, h1, h2], by rw [h1, h2]; exact h.bound, by rw [h2]; exact h.inj⟩

theorem nodeAt_step (fe : FrontEnd) (av : Vid) (s : St) (hwf : TrieWf s) (e : Ev) :
    nodeAt (step fe av s e) = nodeStep fe (nodeAt s) e ∧ TrieWf (step fe av s e) := by
  have frame : ∀ e, opOf e = none → nodeAt (step fe av s e) = nodeAt s ∧ TrieWf (step fe av s e) := fun e h =>
    have ⟨h1, h2⟩ := step_not_op fe av s e h
    table_congr h1 h2 hwf
  cases e with
  | attach p h v =>
    obtain ⟨h1, h2⟩ := nodeAt_attach fe s hwf p h v
    -- `step` only appends to `res`
    have ⟨e, w⟩ := table_congr (s := (attach fe s p h v).1) (s' := step fe av s (.attach p h v)) rfl rfl h2
    exact ⟨e.trans h1, w⟩
  | detach p =>
    obtain ⟨h1, h2⟩ := nodeAt_detach fe s hwf p
    have ⟨e, w⟩ := table_congr (s := (detach s p).1) (s' := step fe av s (.detach p)) rfl rfl h2
    exact ⟨e.trans h1, w⟩
  | arrive n pkt | start i | done i v | deadline i => exact frame _ rfl

theorem trieWf_run (fe : FrontEnd) (av : Vid) (evs : List Ev) : TrieWf (run fe av evs) := by
  induction evs using snoc_induction with
  | nil => exact ⟨by intro p a h; simp [run, runFrom, PyDict.get?] at h, by intro p q a h; simp [run, runFrom, PyDict.get?] at h⟩
  | append_singleton l e ih => rw [run_snoc]; exact (nodeAt_step fe av _ ih e).2

theorem nodeAt_run (fe : FrontEnd) (av : Vid) (evs : List Ev) :
    nodeAt (run fe av evs) = evs.foldl (nodeStep fe) (fun _ => none) := by
  induction evs using snoc_induction with
  | nil => funext q; simp [nodeAt, run, runFrom, PyDict.get?]
  | append_singleton l e ih =>
    rw [run_snoc, (nodeAt_step fe av _ (trieWf_run fe av l) e).1, ih, List.foldl_append]
    rfl

/-- a registration: the handler and the validator given with it -/
abbrev RTable := Name → Option (Hid × Option Vid)

def RTable.update (t : RTable) (p : Name) (v : Option (Hid × Option Vid)) : RTable := fun q => if q = p then v else t q

/-- specification: registering on a free prefix binds handler and validator together, registering on an occupied
    prefix changes nothing, removing unbinds -/
def regStep (t : RTable) : Ev → RTable
  | .attach p (some h) v => if (t p).isSome then t else t.update p (some (h, v))
  | .attach _ none _ => t
  | .detach p => t.update p none
  | _ => t

def registered (evs : List Ev) : RTable := evs.foldl regStep (fun _ => none)

/-- every attach of the history carries a handler (as `Fib.Proper`) -/
def ProperT (evs : List Ev) : Prop := ∀ p v, Ev.attach p none v ∉ evs

theorem registered_snoc (evs : List Ev) (e : Ev) : registered (evs ++ [e]) = regStep (registered evs) e := by
  simp [registered, List.foldl_append]

theorem regStep_fst (t : RTable) (e : Ev) :
    (fun p => (regStep t e p).map (·.1)) =
      match opOf e with
      | some op => Fib.specStep (fun p => (t p).map (·.1)) op
      | none => fun p => (t p).map (·.1) := by
  cases e with
  | attach q h v =>
    cases h with
    | none => rfl
    | some hh =>
      funext p
      simp only [regStep, opOf, Fib.specStep, Option.isSome_map]
      split
      · rfl
      · simp only [RTable.update, Fib.Table.update_apply]; split <;> rfl
  | detach q =>
    funext p
    simp only [regStep, opOf, Fib.specStep, RTable.update, Fib.Table.update_apply]
    split <;> rfl
  | _ => rfl

theorem registered_attached (evs : List Ev) (p : Name) :
    (registered evs p).map (·.1) = C04.attached (ops evs) p := by
  induction evs using snoc_induction generalizing p with
  | nil => rfl
  | append_singleton l e ih =>
    have ih' : (fun p => (registered l p).map (·.1)) = C04.attached (ops l) := funext ih
    rw [registered_snoc, congrFun (regStep_fst (registered l) e) p, ih']
    unfold ops
    rw [List.filterMap_append]
    cases h : opOf e with
    | none => simp only [List.filterMap_cons, h, List.filterMap_nil, List.append_nil]
    | some op => simp only [List.filterMap_cons, h, List.filterMap_nil]; rw [C04.attached_snoc]

/-- how the generated `valWrite` of both front-ends writes the validator of a FRESH node (no old value to keep) -/
theorem valWrite_fresh (fe : FrontEnd) (v : Option Vid) : (tshape fe).valWrite.apply none v = v := by
  cases fe <;> cases v <;> rfl

theorem regStep_node (fe : FrontEnd) (t : RTable) (e : Ev) (he : ∀ p v, e ≠ .attach p none v) :
    (fun p => (regStep t e p).map fun hv => (⟨some hv.1, hv.2⟩ : TNode)) =
      nodeStep fe (fun p => (t p).map fun hv => ⟨some hv.1, hv.2⟩) e := by
  cases e with
  | attach q h v =>
    cases h with
    | none => exact absurd rfl (he q v)
    | some hh =>
      funext p
      simp only [regStep, nodeStep]
      cases t q with
      | none =>
        simp only [Option.map_none, Option.isSome_none, Bool.false_eq_true, if_false, NTable.update, RTable.update,
          valWrite_fresh]
        split <;> rfl
      | some hv => rfl
  | detach q =>
    funext p
    simp only [regStep, nodeStep, NTable.update, RTable.update]
    split <;> rfl
  | _ => rfl

/-- After a history in which every attach carries a handler, the node object a name is bound to holds exactly the
    handler and the validator of the registration in force. -/
theorem registrations_refine (fe : FrontEnd) (av : Vid) (evs : List Ev) (hp : ProperT evs) (p : Name) :
    nodeAt (run fe av evs) p = (registered evs p).map fun hv => ⟨some hv.1, hv.2⟩ := by
  rw [nodeAt_run]
  induction evs using snoc_induction generalizing p with
  | nil => rfl
  | append_singleton l e ih =>
    have ih' : l.foldl (nodeStep fe) (fun _ => none) = fun p => (registered l p).map fun hv => ⟨some hv.1, hv.2⟩ :=
      funext (ih fun q v hm => hp q v (List.mem_append_left _ hm))
    rw [List.foldl_append, registered_snoc, ih']
    exact (congrFun (regStep_node fe (registered l) e fun q v he =>
      hp q v (he ▸ List.mem_append_right _ List.mem_cons_self)) p).symm

/-- the table as C04's model sees it -/
def absFib (s : St) : Fib.Fib := s.trie.map fun pa => (pa.1, ⟨(s.heap[pa.2]?).bind (·.callback)⟩)

theorem get?_absFib (s : St) (p : Name) :
    PyDict.get? (absFib s) p = (PyDict.get? s.trie p).map fun a => ⟨(s.heap[a]?).bind (·.callback)⟩ := by
  unfold absFib
  induction s.trie with
  | nil => rfl
  | cons x r ih =>
    obtain ⟨k, a⟩ := x
    simp only [List.map_cons, PyDict.get?]
    split
    · rfl
    · exact ih

theorem scan_absFib (s : St) (n : Name) (k : Nat) :
    Fib.scan (absFib s) n k = (scan s.trie n k).map fun pa => (pa.1, ⟨(s.heap[pa.2]?).bind (·.callback)⟩) := by
  induction k with
  | zero => simp only [Fib.scan, scan, get?_absFib]; cases PyDict.get? s.trie [] <;> rfl
  | succ k ih =>
    simp only [Fib.scan, scan, get?_absFib]
    cases PyDict.get? s.trie (List.take (k + 1) n) with
    | none => simpa using ih
    | some a => rfl

theorem scan_get (t : PyDict Name Nat) (n : Name) (k : Nat) (p : Name) (a : Nat) (h : scan t n k = some (p, a)) :
    PyDict.get? t p = some a := by
  induction k with
  | zero =>
    simp only [scan, Option.map_eq_some_iff, Prod.mk.injEq] at h
    obtain ⟨b, hb, rfl, rfl⟩ := h; exact hb
  | succ k ih =>
    simp only [scan] at h
    split at h
    · rename_i b hb; cases h; exact hb
    · exact ih h

theorem cbOf_absFib (s : St) (p : Name) : Fib.cbOf (absFib s) p = (nodeAt s p).bind (·.callback) := by
  simp only [Fib.cbOf, get?_absFib, nodeAt]
  cases PyDict.get? s.trie p <;> rfl

/-- the callback view of the table after a history is C04's attachment table -/
theorem cbOf_run (fe : FrontEnd) (av : Vid) (evs : List Ev) (hp : ProperT evs) :
    Fib.cbOf (absFib (run fe av evs)) = C04.attached (ops evs) := by
  funext p
  rw [cbOf_absFib, registrations_refine fe av evs hp p, ← registered_attached]
  cases registered evs p <;> rfl

theorem allCb_run (fe : FrontEnd) (av : Vid) (evs : List Ev) (hp : ProperT evs) : Fib.AllCb (absFib (run fe av evs)) := by
  intro p nd hg
  rw [get?_absFib] at hg
  cases ht : PyDict.get? (run fe av evs).trie p with
  | none => rw [ht] at hg; cases hg
  | some a =>
    rw [ht] at hg
    simp only [Option.map_some, Option.some.injEq] at hg
    subst hg
    have hlt := (trieWf_run fe av evs).bound p a ht
    have hn : nodeAt (run fe av evs) p = some (run fe av evs).heap[a] := by
      simp [nodeAt, ht, List.getElem?_eq_getElem hlt]
    rw [registrations_refine fe av evs hp p] at hn
    cases hr : registered evs p with
    | none => rw [hr] at hn; cases hn
    | some hv =>
      rw [hr] at hn
      simp only [Option.map_some, Option.some.injEq] at hn
      simp [List.getElem?_eq_getElem hlt, ← hn]

theorem onInterest_absFib (s : St) (n p : Name) (h : Hid) :
    Fib.onInterest (absFib s) n = .deliver p h ↔
      ∃ a nd, lookup s.trie n = some (p, a) ∧ s.heap[a]? = some nd ∧ nd.callback = some h := by
  unfold Fib.onInterest Fib.longestPrefix lookup
  rw [scan_absFib]
  cases scan s.trie n n.length with
  | none => exact ⟨fun h => (nomatch h), fun ⟨_, _, h, _⟩ => (nomatch h)⟩
  | some pa =>
    obtain ⟨q, a⟩ := pa
    cases hh : s.heap[a]? with
    | none =>
      refine ⟨fun h => ?_, fun ⟨_, _, h1, h2, _⟩ => ?_⟩
      · simp only [Option.map_some, hh, Option.bind_none, reduceCtorEq] at h
      · cases h1; rw [hh] at h2; cases h2
    | some nd =>
      simp only [Option.map_some, hh, Option.bind_some]
      constructor
      · intro h0
        split at h0
        · cases h0
        · rename_i hc; cases h0; exact ⟨a, nd, rfl, hh, hc⟩
      · rintro ⟨_, x, h1, hx, hxc⟩
        cases h1; rw [hh] at hx; cases hx; rw [hxc]

theorem captured_of_onInterest (s : St) (n : Name) :
    (∀ p h, Fib.onInterest (absFib s) n = .deliver p h →
      ∃ nd, captured s n = some nd ∧ nodeAt s p = some nd ∧ nd.callback = some h) ∧
    (Fib.onInterest (absFib s) n = .noRoute → captured s n = none) := by
  constructor
  · intro p h ho
    obtain ⟨a, nd, hl, hh, hc⟩ := (onInterest_absFib s n p h).mp ho
    exact ⟨nd, (captured_eq_some s n nd).mpr ⟨p, a, hl, hh, by rw [hc]; rfl⟩,
      by simp [nodeAt, scan_get _ _ _ _ _ hl, hh], hc⟩
  · intro ho
    cases hc : captured s n with
    | none => rfl
    | some nd =>
      obtain ⟨p, a, hl, hh, hcb⟩ := (captured_eq_some s n nd).mp hc
      obtain ⟨h, hh'⟩ := Option.isSome_iff_exists.mp hcb
      rw [(onInterest_absFib s n p h).mpr ⟨a, nd, hl, hh, hh'⟩] at ho
      cases ho

theorem arrival_spec (fe : FrontEnd) (av : Vid) (evs : List Ev) (hp : ProperT evs) (n : Name) :
    (∃ p h val, captured (run fe av evs) n = some ⟨some h, val⟩ ∧
      C04.IsLongestAttached (C04.attached (ops evs)) n p ∧ registered evs p = some (h, val)) ∨
    (captured (run fe av evs) n = none ∧ ∀ q, q <+: n → C04.attached (ops evs) q = none) := by
  have hd := C04.onInterest_spec _ (allCb_run fe av evs hp) n
  rw [cbOf_run fe av evs hp] at hd
  rcases hd with ⟨p, h, ho, hl, _⟩ | ⟨ho, hnone⟩
  · obtain ⟨nd, hcap, hnode, hcb⟩ := (captured_of_onInterest _ n).1 p h ho
    rw [registrations_refine fe av evs hp p] at hnode
    cases hr : registered evs p with
    | none => rw [hr] at hnode; cases hnode
    | some hv =>
      rw [hr] at hnode
      cases hnode
      cases hcb
      exact .inl ⟨p, hv.1, hv.2, hcap, hl, hr⟩
  · exact .inr ⟨(captured_of_onInterest _ n).2 ho, hnone⟩

end Ndn.GateTimed
