import NdnModel.PacketEnc
import NdnProofs.Lemmas.Shrink
import NdnProofs.Lemmas.CodecRT
/-! make_data / make_interest: the reserved signature space and the outer shrink; `make_interest` as `interestCore`;
    the outer element of a packet read back (`decodePacket_tlv`); where the SignatureValue element of a made packet
    starts (`offsetOfType_skip`). -/
namespace Ndn.Packet
open Ndn Ndn.Codec

theorem sigValueElem_tlv (t : Nat) (s : SignerOut) (hle : s.sig.length ≤ s.reserved)
    (hr : s.reserved < 2 ^ 64) (hflex : s.sig.length = s.reserved ∨ s.reserved < 253) :
    ∃ junk, sigValueElem t s = .ok (tlv t s.sig ++ junk, junk.length) ∧
      s.sig.length + junk.length = s.reserved := by
  unfold sigValueElem
  have h1 : ¬ s.sig.length > s.reserved := Nat.not_lt.mpr hle
  have h2 : ¬ s.reserved ≥ 2 ^ 64 := Nat.not_le.mpr hr
  simp only [h1, h2, if_false]
  by_cases heq : s.sig.length = s.reserved
  · refine ⟨[], ?_, by simp [heq]⟩
    simp [heq, tlv]
  · have hlt : s.reserved < 253 := by rcases hflex with h | h; exact absurd h heq; exact h
    have h3 : ¬ s.reserved ≥ 253 := Nat.not_le.mpr hlt
    refine ⟨List.replicate (s.reserved - s.sig.length) 0, ?_, by rw [List.length_replicate]; omega⟩
    simp only [heq, if_false, h3, List.length_replicate, tlv]
    rw [writeTlNum_eq_be1 (v := s.sig.length) (by omega)]; rfl

theorem take_sub_append {α} (a b : List α) : (a ++ b).take ((a ++ b).length - b.length) = a := by
  rw [List.length_append, Nat.add_sub_cancel, List.take_left']; rfl

theorem wrapShrink_spec (outer : Nat) (keep junk : Bytes) (ho : outer < 2 ^ 64)
    (hl : (keep ++ junk).length < 2 ^ 64) :
    wrapShrink outer (keep ++ junk) junk.length = .ok (tlv outer keep) := by
  unfold wrapShrink
  have h1 : ¬ (keep ++ junk).length ≥ 2 ^ 64 := by omega
  simp only [h1, if_false]
  by_cases hj : junk.length > 0
  · simp only [hj, if_true]
    have := shrink_spec outer (keep ++ junk).length junk.length (keep ++ junk) ho hl rfl hj (by simp)
    rw [this]
    have e : (keep ++ junk).length - junk.length = keep.length := by simp
    rw [e, List.take_left']
    · rfl
    · rfl
  · have : junk = [] := by
      cases junk with
      | nil => rfl
      | cons _ _ => simp at hj
    subst this
    simp [tlv]

theorem wrapShrink_zero (outer : Nat) (v : Bytes) (ho : outer < 2 ^ 64) (hl : v.length < 2 ^ 64) :
    wrapShrink outer v 0 = .ok (tlv outer v) := by
  simpa using wrapShrink_spec outer v [] ho (by simpa using hl)

theorem not_isNone_effApp_true (a : Value) : (!isNone (effApp true a)) = true := by cases a <;> rfl

theorem makeInterest_eq_core (H : Bytes → Bytes) (name : List Bytes) (mid : List Value) (appParam sigInfo : Value)
    (signer : Option SignerOut) {need : Bool} {pos : Option Nat}
    (hneed : (!isNone (effApp signer.isSome appParam)) = need) (hpos : digestPos need name 0 none = .ok pos) :
    makeInterest H name mid appParam sigInfo signer =
      interestCore H name mid (effApp signer.isSome appParam) sigInfo signer need pos := by
  subst hneed
  unfold makeInterest
  simp only [hpos, bind, Except.bind]

/-- When `make_interest` has to append the digest component itself it goes on exactly as if the caller had put the
    all-zero placeholder at the end of the name: every statement about a name with a placeholder holds, at
    `post = []`, for a name without one. -/
theorem interestCore_appended (H : Bytes → Bytes) (name : List Bytes) (mid : List Value) (app sigInfo : Value)
    (signer : Option SignerOut) :
    interestCore H name mid app sigInfo signer true none =
      interestCore H (name ++ [digestPlaceholder]) mid app sigInfo signer true (some name.length) := rfl

theorem anyPresent_nil : ∀ (a : List Schema) (b : List Value), anyPresent a b [] = false
  | [], _ => by simp [anyPresent]
  | _ :: _, [] => by simp [anyPresent]
  | s :: ss, v :: vs => by simp only [anyPresent, anyPresent_nil ss vs]; cases s.typ <;> simp

theorem decodePacket_tlv (fs : List Schema) (outer : Nat) (ic needName : Bool) (v : Bytes) (vs : List Value)
    (ho : outer < 2 ^ 64) (hv : v.length < 2 ^ 64) (hp : parse fs ic v = .ok vs)
    (hname : (needName && nameMissing fs vs) = false) :
    decodePacket fs outer ic needName [] (tlv outer v) = .ok vs := by
  unfold decodePacket
  simp only [parseAndCheckTl_tlv outer v ho hv, hp, hname, anyPresent_nil, bind, Except.bind, Bool.false_eq_true,
    if_false]

/-! Parsing a made packet: the offset of the SignatureValue element (where the covered range ends). -/

/-- a TLV sequence none of whose (top-level) elements has Type `t` -/
inductive SeqWithout (t : Nat) : Bytes → Prop
  | nil : SeqWithout t []
  | cons (t' : Nat) (body rest : Bytes) : t' ≠ t → t' < 2 ^ 64 → body.length < 2 ^ 64 →
      SeqWithout t rest → SeqWithout t (tlv t' body ++ rest)

theorem SeqWithout.append {t : Nat} : ∀ {a b : Bytes}, SeqWithout t a → SeqWithout t b → SeqWithout t (a ++ b)
  | _, _, .nil, hb => hb
  | _, _, .cons t' body rest hne ht hl hr, hb => by
    rw [List.append_assoc]; exact .cons t' body _ hne ht hl (SeqWithout.append hr hb)

theorem offsetOfType_skip (t : Nat) (ht : t < 2 ^ 64) (body R : Bytes) (hb : body.length < 2 ^ 64) :
    ∀ {p : Bytes}, SeqWithout t p → ∀ (fuel off : Nat), p.length < fuel →
      offsetOfType fuel (p ++ (tlv t body ++ R)) off t = some (off + p.length)
  | _, .nil, f + 1, off, _ => by
    obtain ⟨p1, p2, _, _, _⟩ := head_elem t body R ht hb
    simp only [offsetOfType, List.nil_append, p1, p2, if_true, List.length_nil, Nat.add_zero]
  | _, .cons t' b' rest hne ht' hl' hr, f + 1, off, hf => by
    obtain ⟨p1, p2, _, _, s3⟩ := head_elem t' b' (rest ++ (tlv t body ++ R)) ht' hl'
    rw [List.length_append, tlv_length] at hf ⊢
    have := tlNumSize_pos t'
    simp only [List.append_assoc, offsetOfType, p1, p2, hne, if_false, s3]
    rw [offsetOfType_skip t ht body R hb hr f _ (by omega)]
    simp only [Nat.add_assoc]

theorem SeqWithout.single {t t' : Nat} {body : Bytes} (hne : t' ≠ t) (ht : t' < 2 ^ 64)
    (hb : body.length < 2 ^ 64) : SeqWithout t (tlv t' body) := by
  simpa using SeqWithout.cons t' body [] hne ht hb .nil

/-- `s` is of an element kind and the element `enc` writes for it has a Type other than `t` (`enc (.name x)` writes
    Type 7 whatever `x` is) -/
def avoidsB (t : Nat) : Schema → Bool
  | .uint t' _ | .bool t' | .bytes t' _ | .model t' _ _ => t' != t
  | .name _ => t != 7
  | _ => false

theorem seqWithout_fieldsB (t : Nat) : ∀ (fs : List Schema) (vs : List Value) (B : Bytes),
    fs.all (avoidsB t) = true → encFields fs vs = .ok B → SeqWithout t B := by
  have key : (∀ s v a, enc s v = .ok a → avoidsB t s = true → SeqWithout t a) ∧
      (∀ fs vs B, encFields fs vs = .ok B → fs.all (avoidsB t) = true → SeqWithout t B) ∧
      (∀ e vs b, encList e vs = .ok b → True) ∧ (∀ k v es b, encMap k v es = .ok b → True) := by
    apply enc_ok_induct
    case none | fnil => intro _ _; exact .nil
    case fshort => intro _ _ _; exact .nil
    case marker => intro _ h; cases h
    case uint => intro _ _ _ _ ht hb h; exact .single (bne_iff_ne.mp h) ht hb
    case bool => intro _ ht h; exact .single (bne_iff_ne.mp h) ht (by decide)
    case bytes => intro _ _ _ ht hb h; exact .single (bne_iff_ne.mp h) ht hb
    case name => intro _ _ hb h; exact .single (bne_iff_ne.mp h).symm (by decide) hb
    case model => intro _ _ _ _ _ _ _ ht hb h; exact .single (bne_iff_ne.mp h) ht hb
    case list => intro _ _ _ _ h; cases h
    case map => intro _ _ _ _ _ h; cases h
    case fcons =>
      intro _ _ _ _ _ _ _ ih1 ih2 hall
      simp only [List.all_cons, Bool.and_eq_true] at hall
      exact (ih1 hall.1).append (ih2 hall.2)
    case lnil | lcons | mnil | mcons => intros; trivial
  exact fun fs vs B hall h => key.2.1 fs vs B h hall

end Ndn.Packet
