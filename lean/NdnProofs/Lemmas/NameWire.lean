import NdnModel.Name
import NdnProofs.Lemmas.TlNum
/-! The wire form of names.  All that the loop of `Name.decode` reads at `off` is `elemLen buf off` (Lemmas/TlNum;
    `decodeLoop_succ`), so a component is any single TLV element (`IsElem`), whatever its Type.  Forward: decoding the
    encoding of any list of elements, whatever follows it (`decode_encode_append`), and the rejection of a Length that
    ends inside an element (`decode_overrun`); backward: what `Name.decode` accepts (`decodeAt_ok`, `decode_ok_exact`)
    and what it raises (`Name.decode_error_class`).  `Name.decode(buf, offset)` is decoding of the suffix
    (`decodeAt_eq_drop`). -/
namespace Ndn

theorem exc_ok_bind {α β} (x : α) (f : α → Except PyErr β) : (Except.ok x >>= f) = f x := rfl

theorem fromBytes_ok (t : Nat) (v : Bytes) (ht1 : 1 ≤ t) (ht2 : t ≤ 65535) : Comp.fromBytes v t = .ok (tlv t v) := by
  have : ¬ (t = 0 ∨ t > Comp.MAX_TYPE) := by simp [Comp.MAX_TYPE]; omega
  simp [Comp.fromBytes, this]

theorem parseComp_tlv (t : Nat) (v : Bytes) (ht : t < 2^64) (hv : v.length < 2^64) :
    Comp.parseComp (tlv t v) = .ok (t, v) := by
  have h1 := parse_tlv_T t v [] ht
  have h2 := parse_tlv_L t v [] hv
  rw [List.append_nil] at h1 h2
  simp only [Comp.parseComp, h1, h2, bind, Except.bind, tlv_length, tlv_drop_header]
  rw [if_neg (by omega)]
  rfl

theorem tlv_inj (t1 t2 : Nat) (v1 v2 : Bytes) (ht1 : t1 < 2^64) (ht2 : t2 < 2^64)
    (hv1 : v1.length < 2^64) (hv2 : v2.length < 2^64) (h : tlv t1 v1 = tlv t2 v2) : t1 = t2 ∧ v1 = v2 := by
  have h1 := parseComp_tlv t1 v1 ht1 hv1
  have h2 := parseComp_tlv t2 v2 ht2 hv2
  rw [h, h2] at h1
  injection h1 with h1
  injection h1 with h1 h3
  exact ⟨h1.symm, h3.symm⟩

theorem getType_tlv (t : Nat) (v : Bytes) (ht : t < 2^64) : Comp.getType (tlv t v) = .ok t := by
  have h1 := parse_tlv_T t v [] ht
  rw [List.append_nil] at h1
  simp [Comp.getType, h1, bind, Except.bind, pure, Except.pure]

theorem getValue_tlv (t : Nat) (v : Bytes) (ht : t < 2^64) (hv : v.length < 2^64) :
    Comp.getValue (tlv t v) = .ok v := by
  have h1 := parse_tlv_T t v [] ht
  have h2 := parse_tlv_L t v [] hv
  rw [List.append_nil] at h1 h2
  simp only [Comp.getValue, h1, h2, bind, Except.bind, pure, Except.pure, tlv_drop_header]

theorem decodeLoop_succ (buf : Bytes) (fuel off L : Nat) (acc : List Bytes) :
    Name.decodeLoop buf (fuel + 1) off L acc =
      if L = 0 then .ok (acc, off)
      else elemLen buf off >>= fun n =>
        if n > L then .error .indexError
        else Name.decodeLoop buf fuel (off + n) (L - n) (acc ++ [pySlice buf off (off + n)]) := by
  rw [Name.decodeLoop, elemLen]
  split
  · rfl
  · rw [bind_assoc]
    refine bind_congr fun ⟨t, st⟩ => ?_
    rw [bind_assoc]
    refine bind_congr fun ⟨lc, sl⟩ => ?_
    show (if off + st + sl + lc - off > L then _ else _) = (if st + sl + lc > L then _ else _)
    rw [Nat.add_assoc off, Nat.add_assoc off, Nat.add_sub_cancel_left]

theorem decodeLoop_succ_ok {buf : Bytes} {fuel off L : Nat} {acc : List Bytes} {r : List Bytes × Nat}
    (h : Name.decodeLoop buf (fuel + 1) off L acc = .ok r) :
    (L = 0 ∧ r = (acc, off)) ∨ ∃ n, elemLen buf off = .ok n ∧ n ≤ L ∧
      Name.decodeLoop buf fuel (off + n) (L - n) (acc ++ [pySlice buf off (off + n)]) = .ok r := by
  rw [decodeLoop_succ] at h
  split at h
  · rename_i hz
    cases h
    exact .inl ⟨hz, rfl⟩
  · obtain ⟨n, hn, h⟩ := Codec.bind_ok h
    split at h
    · cases h
    · exact .inr ⟨n, hn, by omega, h⟩

theorem decodeLoop_cons (pre c rest : Bytes) (hc : IsElem c) (fuel extra : Nat) (acc : List Bytes) :
    Name.decodeLoop (pre ++ (c ++ rest)) (fuel + 1) pre.length (c.length + extra) acc
      = Name.decodeLoop (pre ++ (c ++ rest)) fuel (pre ++ c).length extra (acc ++ [c]) := by
  have hsl : pySlice (pre ++ (c ++ rest)) pre.length (pre.length + c.length) = c :=
    List.append_assoc pre c rest ▸ pySlice_mid pre c rest
  have := hc.pos
  rw [decodeLoop_succ, if_neg (by omega), hc.at pre rest]
  show (if c.length > c.length + extra then _ else _) = _
  rw [if_neg (by omega), hsl, Nat.add_sub_cancel_left, List.length_append]

theorem flatten_length_ge (cs : List Bytes) (h : ∀ c ∈ cs, 0 < c.length) : cs.length ≤ cs.flatten.length := by
  induction cs with
  | nil => simp
  | cons c cs ih =>
    have := h c (by simp)
    have := ih (fun x hx => h x (by simp [hx]))
    rw [List.flatten_cons, List.length_append, List.length_cons]; omega

/-- Fuel: `Name.decode` starts the loop with Length + 1 units and each component costs one; components are non-empty
    (`flatten_length_ge`), so peeling `cs` leaves `fuel` units of the `fuel + cs.length` it was given. -/
theorem decodeLoop_peel (cs : List Bytes) (hcs : ∀ c ∈ cs, IsElem c) :
    ∀ (pre post : Bytes) (acc : List Bytes) (fuel extra : Nat),
      Name.decodeLoop (pre ++ (cs.flatten ++ post)) (fuel + cs.length) pre.length (cs.flatten.length + extra) acc
        = Name.decodeLoop (pre ++ (cs.flatten ++ post)) fuel (pre.length + cs.flatten.length) extra (acc ++ cs) := by
  induction cs with
  | nil => intro pre post acc fuel extra; simp
  | cons c cs ih =>
    intro pre post acc fuel extra
    have hstep := decodeLoop_cons pre c (cs.flatten ++ post) (hcs c List.mem_cons_self) (fuel + cs.length)
      (cs.flatten.length + extra) acc
    have hrest := ih (fun x hx => hcs x (List.mem_cons_of_mem _ hx)) (pre ++ c) post (acc ++ [c]) fuel extra
    rw [List.append_assoc pre] at hrest
    rw [List.flatten_cons, List.append_assoc c, List.length_append, Nat.add_assoc c.length, List.length_cons,
      ← Nat.add_assoc fuel, hstep, hrest, List.length_append, Nat.add_assoc, List.append_assoc, List.singleton_append]

theorem Name.encode_length (n : List Bytes) :
    (Name.encode n).length = n.flatten.length + 1 + tlNumSize n.flatten.length := by
  simp only [Name.encode, List.length_append, writeTlNum_length]
  have : tlNumSize Name.TYPE_NAME = 1 := by decide
  omega

theorem decode_header (L : Nat) (body : Bytes) (hL : L < 2^64) :
    Name.decode (writeTlNum Name.TYPE_NAME ++ (writeTlNum L ++ body)) =
      if L > body.length then .error .indexError
      else Name.decodeLoop (writeTlNum Name.TYPE_NAME ++ (writeTlNum L ++ body)) (L + 1) (1 + tlNumSize L) L [] := by
  have h7 : writeTlNum Name.TYPE_NAME = [7] := by decide
  have e2 : parseTlNum ([7] ++ (writeTlNum L ++ body)) 1 = .ok (L, tlNumSize L) := by
    exact (parseTlNum_shift [7] _ 0).trans (parse_write _ _ hL)
  rw [h7, Name.decode, show parseTlNum ([7] ++ (writeTlNum L ++ body)) 0 = .ok (7, 1) from rfl]
  simp only [e2, bind, Except.bind, Name.TYPE_NAME, ne_eq, not_true_eq_false, if_false, List.length_append,
    List.length_singleton, writeTlNum_length]
  rw [show 1 + (tlNumSize L + body.length) - (1 + tlNumSize L) = body.length by omega]

theorem decode_encode_append (n : List Bytes) (hn : ∀ c ∈ n, IsElem c) (hl : n.flatten.length < 2^64) (post : Bytes) :
    Name.decode (Name.encode n ++ post) = .ok (n, (Name.encode n).length) := by
  have hnl := flatten_length_ge n (fun c hc => (hn c hc).pos)
  have hp := decodeLoop_peel n hn (writeTlNum Name.TYPE_NAME ++ writeTlNum n.flatten.length) post []
    (n.flatten.length - n.length + 1) 0
  have h7 : (writeTlNum Name.TYPE_NAME).length = 1 := rfl
  rw [List.append_assoc, Nat.add_zero n.flatten.length, List.length_append, h7, writeTlNum_length,
    show n.flatten.length - n.length + 1 + n.length = n.flatten.length + 1 by omega] at hp
  rw [Name.encode, List.append_assoc, List.append_assoc, List.append_assoc, decode_header _ _ hl,
    if_neg (by rw [List.length_append]; omega), hp, Name.decodeLoop,
    if_pos rfl, List.length_append, List.length_append, h7, writeTlNum_length, List.nil_append, Nat.add_assoc]

theorem decode_overrun (n : List Bytes) (c post : Bytes) (hn : ∀ x ∈ n, IsElem x) (hc : IsElem c) (L : Nat)
    (h1 : n.flatten.length < L) (h2 : L < n.flatten.length + c.length) (hL : L < 2^64) :
    Name.decode (writeTlNum Name.TYPE_NAME ++ writeTlNum L ++ n.flatten ++ (c ++ post)) = .error .indexError := by
  rw [List.append_assoc, List.append_assoc, decode_header L _ hL]
  split
  · rfl
  · have hnl := flatten_length_ge n (fun x hx => (hn x hx).pos)
    have h7 : (writeTlNum Name.TYPE_NAME).length = 1 := rfl
    have hp := decodeLoop_peel n hn (writeTlNum Name.TYPE_NAME ++ writeTlNum L) (c ++ post) []
      (L - n.length + 1) (L - n.flatten.length)
    have he := hc.at (writeTlNum Name.TYPE_NAME ++ writeTlNum L ++ n.flatten) post
    rw [List.append_assoc, List.append_assoc, List.length_append, List.length_append, h7, writeTlNum_length] at he
    rw [List.append_assoc, List.length_append, h7, writeTlNum_length,
      show L - n.length + 1 + n.length = L + 1 by omega,
      show n.flatten.length + (L - n.flatten.length) = L by omega] at hp
    rw [hp, decodeLoop_succ, if_neg (by omega), he]
    exact if_pos (by omega)

theorem decodeLoop_ok_exact (buf : Bytes) : ∀ (fuel off L : Nat) (acc cs : List Bytes) (used : Nat),
    off + L ≤ buf.length → Name.decodeLoop buf fuel off L acc = .ok (cs, used) →
    used = off + L ∧ ∃ ds, cs = acc ++ ds ∧ (∀ d ∈ ds, IsElem d) ∧ ds.flatten = pySlice buf off (off + L) := by
  intro fuel
  induction fuel with
  | zero => intro off L acc cs used _ h; cases h
  | succ f ih =>
    intro off L acc cs used hb h
    rcases decodeLoop_succ_ok h with ⟨hz, e⟩ | ⟨n, hn, hle, h⟩
    · cases e
      exact ⟨by omega, [], by simp, by simp, by simp [pySlice, hz]⟩
    · obtain ⟨hu, ds, rfl, hd, hf⟩ := ih _ _ _ _ _ (by omega) h
      refine ⟨by omega, pySlice buf off (off + n) :: ds, by simp, ?_, ?_⟩
      · intro d hm
        rcases List.mem_cons.mp hm with rfl | hm
        · exact isElem_slice hn (by omega)
        · exact hd d hm
      · rw [List.flatten_cons, hf, show off + n + (L - n) = off + L by omega,
          slice_join buf off (off + n) (off + L) (by omega) (by omega) hb]

theorem decodeLoop_error_class (buf : Bytes) : ∀ (fuel off length : Nat) (acc : List Bytes) (e : PyErr), length < fuel →
    Name.decodeLoop buf fuel off length acc = .error e → e = .indexError ∨ e = .structError := by
  intro fuel
  induction fuel with
  | zero => intro off length acc e h; omega
  | succ f ih =>
    intro off length acc e hlt h
    rw [Name.decodeLoop] at h
    split at h
    · cases h
    · rcases bind_error_cases h with h1 | ⟨⟨t, st⟩, h1, h⟩
      · exact parseTlNum_error_class h1
      · rcases bind_error_cases h with h2 | ⟨⟨lc, sl⟩, h2, h⟩
        · exact parseTlNum_error_class h2
        · have p1 := (parseTlNum_pos h1).1
          dsimp only at h
          split at h
          · cases h; exact .inl rfl
          · exact ih _ _ _ _ (by omega) h

/-- In particular not `PyErr.fuel`: the Length + 1 units that `Name.decode` gives the loop are never used up. -/
theorem Name.decode_error_class {buf : Bytes} {e : PyErr} (h : Name.decode buf = .error e) :
    e = .valueError ∨ e = .indexError ∨ e = .structError := by
  simp only [Name.decode] at h
  rcases bind_error_cases h with h1 | ⟨⟨typ, st⟩, h1, h⟩
  · exact .inr (parseTlNum_error_class h1)
  · dsimp only at h
    split at h
    · cases h; exact .inl rfl
    · rcases bind_error_cases h with h2 | ⟨⟨length, sl⟩, h2, h⟩
      · exact .inr (parseTlNum_error_class h2)
      · dsimp only at h
        split at h
        · cases h; exact .inr (.inl rfl)
        · exact .inr (decodeLoop_error_class buf (length + 1) (st + sl) length [] e (by omega) h)

def unshift (k : Nat) (r : List Bytes × Nat) : List Bytes × Nat := (r.1, r.2 - k)

theorem decodeLoop_drop (buf : Bytes) (k : Nat) : ∀ (fuel off length : Nat) (acc : List Bytes),
    Name.decodeLoop (buf.drop k) fuel off length acc = (Name.decodeLoop buf fuel (k + off) length acc).map (unshift k) := by
  intro fuel
  induction fuel with
  | zero => intro off length acc; rfl
  | succ f ih =>
    intro off length acc
    rw [decodeLoop_succ, decodeLoop_succ, elemLen_drop]
    split
    · simp [Except.map, unshift]
    · show _ = unshift k <$> _
      rw [map_bind]
      refine bind_congr fun n => ?_
      split
      · rfl
      · rw [ih, pySlice_drop, Nat.add_assoc]; rfl

/-- `Name.decode(buf, offset)` is `Name.decode(buf[offset:])` for every buffer and every offset ≥ 0: the same components,
    the same number of bytes consumed, the same exception. -/
theorem decodeAt_eq_drop (buf : Bytes) (off : Nat) : Name.decodeAt buf off = Name.decode (buf.drop off) := by
  simp only [Name.decodeAt, Name.decode]
  rw [parseTlNum_drop, Nat.add_zero]
  refine bind_congr fun ⟨typ, st⟩ => ?_
  dsimp only
  split
  · rfl
  · rw [parseTlNum_drop]
    refine bind_congr fun ⟨length, sl⟩ => ?_
    dsimp only
    rw [List.length_drop, show buf.length - off - (st + sl) = buf.length - (off + st + sl) by omega]
    split
    · rfl
    · rw [decodeLoop_drop, ← Nat.add_assoc]
      cases Name.decodeLoop buf (length + 1) (off + st + sl) length [] <;> rfl

theorem decodeAt_zero (buf : Bytes) : Name.decodeAt buf 0 = Name.decode buf := by
  rw [decodeAt_eq_drop]; rfl

/-- raised by the first `parse_tl_num` -/
theorem decodeAt_outside (buf : Bytes) (off : Nat) (h : buf.length ≤ off) : Name.decodeAt buf off = .error .indexError := by
  rw [decodeAt_eq_drop, List.drop_of_length_le h]; rfl

theorem decodeAt_append (pre buf : Bytes) : Name.decodeAt (pre ++ buf) pre.length = Name.decode buf := by
  rw [decodeAt_eq_drop, List.drop_left]

/-- The loop ends where the declared extent ends, so the subtraction `r.2 - off` at the end of `Name.decodeAt` is exact. -/
theorem decodeAt_ok {buf : Bytes} {a n : Nat} {cs : List Bytes} (h : Name.decodeAt buf a = .ok (cs, n)) :
    ∃ st length sl, parseTlNum buf a = .ok (Name.TYPE_NAME, st) ∧ parseTlNum buf (a + st) = .ok (length, sl) ∧
      a + st + sl + length ≤ buf.length ∧ n = st + sl + length ∧
      Name.decodeLoop buf (length + 1) (a + st + sl) length [] = .ok (cs, a + st + sl + length) := by
  simp only [Name.decodeAt] at h
  obtain ⟨⟨typ, st⟩, h1, h⟩ := Codec.bind_ok h
  dsimp only at h
  by_cases ht : typ = Name.TYPE_NAME
  · subst ht
    rw [if_neg fun hne => hne rfl] at h
    obtain ⟨⟨length, sl⟩, h2, h⟩ := Codec.bind_ok h
    dsimp only at h
    have w2 := parseTlNum_le h2
    by_cases hov : length > buf.length - (a + st + sl)
    · rw [if_pos hov] at h; cases h
    · rw [if_neg hov] at h
      obtain ⟨⟨rc, ru⟩, hm, h⟩ := Codec.bind_ok h
      cases h
      have hu : ru = a + st + sl + length := (decodeLoop_ok_exact buf _ _ _ _ _ _ (by omega) hm).1
      subst hu
      exact ⟨st, length, sl, h1, h2, by omega, by omega, hm⟩
  · rw [if_pos ht] at h; cases h

/-- `7` is `Name.TYPE_NAME`, written out as in `C09.decode_accepts_exact` -/
theorem decode_ok_exact {buf : Bytes} {cs : List Bytes} {used : Nat} (h : Name.decode buf = .ok (cs, used)) :
    ∃ st L sl, parseTlNum buf 0 = .ok (7, st) ∧ parseTlNum buf st = .ok (L, sl) ∧
      used = st + sl + L ∧ used ≤ buf.length ∧ cs.flatten = pySlice buf (st + sl) used ∧ ∀ c ∈ cs, IsElem c := by
  rw [← decodeAt_zero] at h
  obtain ⟨st, L, sl, h1, h2, hle, rfl, hm⟩ := decodeAt_ok h
  rw [Nat.zero_add] at h2 hle hm
  obtain ⟨-, ds, rfl, hd, hf⟩ := decodeLoop_ok_exact buf _ _ _ _ _ _ hle hm
  exact ⟨st, L, sl, h1, h2, rfl, hle, hf, hd⟩

end Ndn
