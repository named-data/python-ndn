import NdnModel.SegFetchNames
import NdnProofs.Lemmas.SegFetch
import NdnProofs.Lemmas.NameWire
/-! The names-level half of C19.  `get_type` / `to_number` read `segComp n` back and it is injective below `2^64`
    (`Lemmas/NameWire`), so the producer that sees names only answers `base ++ [segComp i]` with segment `i`, and the byte
    comparison of FinalBlockId with the last component decides `fbi = some i`: the loop on names is the loop on numbers
    (`fetchLoopB_refines`; the whole fetch is `C19.fetchB_refines`). -/
namespace Ndn.SegFetch
open Ndn

theorem segComp_getType (n : Nat) : Comp.getType (segComp n) = .ok TYPE_SEGMENT :=
  getType_tlv _ _ (by decide)

theorem segComp_toNumber (n : Nat) (hn : n < 2 ^ 64) : Comp.toNumber (segComp n) = .ok n := by
  have hv := getValue_tlv TYPE_SEGMENT (packUint n) (by decide) (by have := packUint_length_le n; omega)
  simp only [Comp.toNumber, segComp, hv, bind, Except.bind, pure, Except.pure, beVal_packUint n hn]

theorem segComp_inj (m n : Nat) (hm : m < 2 ^ 64) (hn : n < 2 ^ 64) (h : segComp m = segComp n) : m = n := by
  have h1 := segComp_toNumber m hm
  rw [h, segComp_toNumber n hn] at h1
  exact (Except.ok.inj h1).symm

theorem fromNumber_seg (n : Nat) (hn : n < 2 ^ 64) :
    Comp.fromNumber (n : Int) TYPE_SEGMENT = .ok (segComp n) := by
  have h1 : ¬ ((n : Int) < 0 ∨ (n : Int) ≥ 18446744073709551616) := by omega
  simp only [Comp.fromNumber, h1, if_false, Int.toNat_natCast]
  exact fromBytes_ok TYPE_SEGMENT _ (by decide) (by decide)

/-- every FinalBlockId marker names a number a segment component can carry -/
def FbiBound (l : List Seg) : Prop := ∀ (j : Nat) (s : Seg) (k : Nat), l[j]? = some s → s.fbi = some k → k < 2 ^ 64

theorem dataOf_isSome (base : List Bytes) (l : List Seg) (i : Nat) :
    (dataOf base l i).isSome = decide (i < l.length) := by
  unfold dataOf
  by_cases h : i < l.length
  · simp [h]
  · simp [h]

theorem producer_pre (pre base : List Bytes) (l : List Seg) (disc : Nat) (c : Bool) :
    producer pre (.segs base l) disc pre c = dataOf base l disc := by
  simp [producer]

theorem producer_seg (pre base : List Bytes) (l : List Seg) (disc i : Nat) (c : Bool)
    (hpre : pre.length ≤ base.length) (hi : i < 2 ^ 64) :
    producer pre (.segs base l) disc (base ++ [segComp i]) c = dataOf base l i := by
  have hne : base ++ [segComp i] ≠ pre := by
    intro e
    have := congrArg List.length e
    simp at this; omega
  simp only [producer, hne, if_false, List.dropLast_concat, if_true, List.getLast?_concat,
    segComp_getType, segComp_toNumber i hi]

theorem fbiNamesLast_dataOf (base : List Bytes) (s : Seg) (i : Nat) (hi : i < 2 ^ 64)
    (hk : ∀ k, s.fbi = some k → k < 2 ^ 64) :
    fbiNamesLast ⟨base ++ [segComp i], s.fbi.map segComp, s.content⟩ = decide (s.fbi = some i) := by
  unfold fbiNamesLast
  simp only [List.getLast?_concat]
  cases hf : s.fbi with
  | none => simp
  | some k =>
    simp only [Option.map_some, Option.some.injEq]
    by_cases e : k = i
    · subst e; simp
    · have : segComp k ≠ segComp i := fun h => e (segComp_inj k i (hk k hf) hi h)
      simp [this, e]

theorem fetchLoopB_ok {limit : Nat} {prod : List Bytes → Bool → Option DataB} {name : List Bytes} {i : Nat}
    {sc : List Outcome} {r : RRes × List Outcome × List Outcome} {d : DataB}
    (hr : retry limit (prod (name.dropLast ++ [segComp i]) false).isSome (limit + 1) 0 sc = r)
    (hd : prod (name.dropLast ++ [segComp i]) false = some d) (hok : r.1 = .ok) (fuel : Nat) :
    fetchLoopB limit prod (fuel + 1) name i sc =
      if fbiNamesLast d then ⟨[d.content], r.2.2.map fun o => (name.dropLast ++ [segComp i], o), .fin .done⟩
      else ⟨d.content :: (fetchLoopB limit prod fuel d.name (i + 1) r.2.1).yielded,
            (r.2.2.map fun o => (name.dropLast ++ [segComp i], o)) ++ (fetchLoopB limit prod fuel d.name (i + 1) r.2.1).log,
            (fetchLoopB limit prod fuel d.name (i + 1) r.2.1).end_⟩ := by
  subst hr
  simp only [fetchLoopB]
  rw [hok, hd]

theorem fetchLoopB_fail {limit : Nat} {prod : List Bytes → Bool → Option DataB} {name : List Bytes} {i : Nat}
    {sc : List Outcome} {r : RRes × List Outcome × List Outcome}
    (hr : retry limit (prod (name.dropLast ++ [segComp i]) false).isSome (limit + 1) 0 sc = r) (hne : r.1 ≠ .ok)
    (fuel : Nat) :
    fetchLoopB limit prod (fuel + 1) name i sc =
      ⟨[], r.2.2.map fun o => (name.dropLast ++ [segComp i], o), .fin (endOf r.1)⟩ := by
  subst hr
  simp only [fetchLoopB]
  split <;> first | rfl | contradiction

theorem lift_block (pre base : List Bytes) (req : Req) (blk : List Outcome) :
    (blk.map fun o => (req, o)).map (fun e => (reqName pre base e.1, e.2)) =
      blk.map fun o => (reqName pre base req, o) := by
  simp [List.map_map, Function.comp_def]

theorem fetchLoopB_refines (limit : Nat) (pre base : List Bytes) (l : List Seg) (disc : Nat)
    (hpre : pre.length ≤ base.length) (hfb : FbiBound l) :
    ∀ (fuel i j : Nat) (sc : List Outcome), i + fuel < 2 ^ 64 →
      fetchLoopB limit (producer pre (.segs base l) disc) fuel (base ++ [segComp j]) i sc =
        liftResult pre base (fetchLoop limit l fuel i sc) := by
  intro fuel
  induction fuel with
  | zero => intro i j sc _; rfl
  | succ n ih =>
    intro i j sc hb
    have hi : i < 2 ^ 64 := by omega
    have hnm : (base ++ [segComp j]).dropLast ++ [segComp i] = base ++ [segComp i] := by rw [List.dropLast_concat]
    have hp := producer_seg pre base l disc i false hpre hi
    by_cases hok : (retry limit (decide (i < l.length)) (limit + 1) 0 sc).1 = .ok
    · obtain ⟨hlt, heq⟩ := fetchLoop_ok rfl hok n
      have hs : l[i]? = some l[i] := List.getElem?_eq_getElem hlt
      have hd : dataOf base l i = some ⟨base ++ [segComp i], l[i].fbi.map segComp, l[i].content⟩ := by
        simp only [dataOf, hs, Option.map_some]
      rw [heq, fetchLoopB_ok (by rw [hnm, hp, dataOf_isSome]) (by rw [hnm, hp, hd]) hok n, hnm,
        fbiNamesLast_dataOf base l[i] i hi (fun k hk => hfb i _ k hs hk)]
      by_cases hf : l[i].fbi = some i
      · simp only [hf, decide_true, if_true, liftResult, lift_block]; rfl
      · simp only [hf, decide_false, Bool.false_eq_true, if_false]
        rw [ih (i + 1) i _ (by omega)]
        simp only [liftResult, List.map_append, lift_block]; rfl
    · rw [fetchLoop_fail rfl hok n, fetchLoopB_fail (by rw [hnm, hp, dataOf_isSome]) hok n, hnm]
      simp only [liftResult, lift_block]; rfl

end Ndn.SegFetch
