import NdnProofs.Lemmas.MarkerRun
import NdnProofs.Lemmas.PacketName
/-!
  Parsing a made Interest: the seven leading ProcedureArgument pseudo-fields (`Schema.marker` like an OffsetMarker, so
  the model records an offset for them: 0), the two markers `_sig_cover_start` / `_digest_cover_start` in front of
  ApplicationParameters, the trailing `_digest_cover_end` marker, and the offset of the InterestSignatureValue.  No
  element follows the trailing marker, so the scan never sets it: `get_arg` gives `None`, the slice `[start:None]` runs
  to the end of the Value, which `parseInterest` models with `value.length`.
-/
namespace Ndn.Packet
open Ndn Ndn.Codec

/-- can_be_prefix … hop_limit -/
def midFs : List Schema := [.bool 33, .bool 18, linksS, .uint 10 (some 4), .uint 12 none, .uint 34 (some 1)]
/-- the real fields in front of the two cover-start markers -/
def intHeadFs : List Schema := nameS :: midFs
/-- ApplicationParameters, InterestSignatureInfo, InterestSignatureValue -/
def intTailFs : List Schema := [.bytes 36 false, intSigInfoS, .bytes 46 false]

/-- the first 14 fields of `InterestPacketValue` -/
def intP14 : List Schema := List.replicate 7 Schema.marker ++ intHeadFs
/-- the first 16 fields -/
def intP16 : List Schema := intP14 ++ List.replicate 2 Schema.marker

theorem interestFs_split :
    interestFs = (intP16 ++ intTailFs) ++ [Schema.marker] := rfl

/-- phase A of the scan: Name … HopLimit set the seven leading markers to 0 -/
theorem interest_head_items (vsA : List Value) (A : Bytes)
    (hA : SuffixRT (List.replicate 7 Schema.marker) intHeadFs vsA A) (hneA : A ≠ []) :
    ∃ itA rA, ItemsOK (List.replicate 7 Schema.marker ++ intHeadFs) 7 (itA :: rA) ∧
      ItemsOK interestFs 0 (itA :: rA) ∧ encItems (itA :: rA) = A ∧ vsA.length = 7 ∧
      runItems interestFs 0 0 (interestFs.map initVal) (itA :: rA)
        = (List.replicate 7 (Value.uint 0) ++ vsA) ++ List.replicate 6 Value.none := by
  obtain ⟨it, r, h1, h2, h3, h4, h5⟩ := runItems_phase [] intHeadFs
    (List.replicate 2 Schema.marker ++ (intTailFs ++ [Schema.marker])) 7 0 0 vsA A rfl (by decide)
    (Nat.le_refl _) hA hneA [] (List.replicate 7 Value.none) (List.replicate 6 Value.none) rfl rfl
  refine ⟨it, r, h1, h2, h3, h4, h5.trans ?_⟩
  simp only [List.nil_append, List.append_assoc]

/-- `A` = the encoded Name … HopLimit, `B` = the encoded ApplicationParameters, SignatureInfo, SignatureValue.  The
    scan loop of `InterestPacketValue.parse` over `A ++ B` ends with: the seven leading markers = 0, both cover-start
    markers = `|A|`, the trailing `_digest_cover_end` marker unset. -/
theorem interest_items (vsA vsB : List Value) (A B : Bytes)
    (hA : SuffixRT (List.replicate 7 Schema.marker) intHeadFs vsA A)
    (hB : SuffixRT intP16 intTailFs vsB B) (hneA : A ≠ []) (hneB : B ≠ []) :
    ∃ items, ItemsOK interestFs 0 items ∧ encItems items = A ++ B ∧
      runItems interestFs 0 0 (interestFs.map initVal) items =
        List.replicate 7 (Value.uint 0) ++ vsA ++ List.replicate 2 (Value.uint A.length) ++ vsB ++ [Value.none] := by
  obtain ⟨itA, rA, hokA, hokA0, hencA, hlenA, hphA⟩ := interest_head_items vsA A hA hneA
  have hend := endPos_bounds _ _ _ hokA (by decide : 7 ≤ 14)
  -- phase B: the two cover-start markers
  obtain ⟨itB, rB, _, hokB, hencB, _, hphB⟩ := runItems_phase intP14 intTailFs [Schema.marker] 2
    (endPos 7 (itA :: rA)) (0 + A.length) vsB B
    (noMarkerIn_mono intP14 7 14 _ _ (by decide) hend.1 (Nat.le_refl _)) (by decide) hend.2 hB hneB
    (List.replicate 7 (Value.uint 0) ++ vsA) (List.replicate 2 Value.none) [Value.none]
    (by rw [List.length_append, List.length_replicate, hlenA]; rfl) rfl
  refine ⟨(itA :: rA) ++ (itB :: rB), ItemsOK_append interestFs _ _ 0 _ hokA0 (Nat.le_refl _) hokB,
    by rw [encItems_append, hencA, hencB], ?_⟩
  rw [runItems_append, hencA, hphA]
  refine hphB.trans ?_
  simp only [List.append_assoc, Nat.zero_add]

theorem interest_head_rt (comps : List Bytes) (mid : List Value) (midB : Bytes)
    (hmid : encFields midFs mid = .ok midB) (hcomps : comps.all compOk = true)
    (hfitmid : fitsFs midFs mid = true) (hcl : (concatB comps).length < 2 ^ 64) :
    SuffixRT (List.replicate 7 Schema.marker) intHeadFs (Value.name comps :: mid)
      (tlv 7 (concatB comps) ++ midB) := by
  refine rt_suffix (List.replicate 7 Schema.marker) intHeadFs _ _ (by decide) ?_ ?_
  · simp only [intHeadFs, fitsFs, nameS, fits, hcomps, hfitmid, Bool.and_self]
  · exact encFields_cons_ok.2 ⟨_, _, enc_name 7 hcl, hmid, rfl⟩

/-- The scan loop on the Value of a made Interest: all fields come back, the seven leading markers hold 0,
    `_sig_cover_start` and `_digest_cover_start` the offset of the first element behind HopLimit (ApplicationParameters
    when present), `_digest_cover_end` stays unset. -/
theorem parse_interest_value (comps : List Bytes) (mid : List Value) (app sigInfo sv : Value)
    (midB tailB : Bytes)
    (hmid : encFields midFs mid = .ok midB) (htail : encFields intTailFs [app, sigInfo, sv] = .ok tailB)
    (hcomps : comps.all compOk = true) (hfitmid : fitsFs midFs mid = true)
    (hfittail : fitsFs intTailFs [app, sigInfo, sv] = true)
    (hcl : (concatB comps).length < 2 ^ 64) (hne : tailB ≠ []) :
    parse interestFs false (tlv 7 (concatB comps) ++ midB ++ tailB) =
      .ok (List.replicate 7 (Value.uint 0) ++ (Value.name comps :: mid) ++
           List.replicate 2 (Value.uint (tlv 7 (concatB comps) ++ midB).length) ++ [app, sigInfo, sv] ++
           [Value.none]) := by
  obtain ⟨items, hok, henc, hrun⟩ := interest_items _ _ _ _
    (interest_head_rt comps mid midB hmid hcomps hfitmid hcl)
    (rt_suffix intP16 intTailFs _ _ (by decide) hfittail htail) (List.append_ne_nil_of_left_ne_nil (tlv_ne_nil 7 _) _) hne
  rw [← henc, parse_encItems interestFs false (by decide) items hok, hrun]

theorem nameMissing_interest (u : Value) (comps : List Bytes) (rest : List Value) :
    nameMissing interestFs (List.replicate 7 u ++ (Value.name comps :: rest)) = false := rfl

/-- `sv` is the signature value (`svB` its element), or `Value.none` -/
theorem decode_interest (comps : List Bytes) (mid : List Value) (app sigInfo sv : Value)
    (midB tailA svB : Bytes)
    (hmid : encFields midFs mid = .ok midB)
    (htail : encFields [.bytes 36 false, intSigInfoS] [app, sigInfo] = .ok tailA)
    (hsv : enc (.bytes 46 false) sv = .ok svB)
    (hcomps : comps.all compOk = true) (hfitmid : fitsFs midFs mid = true)
    (hfittail : fitsFs [.bytes 36 false, intSigInfoS] [app, sigInfo] = true) (hfsv : fits (.bytes 46 false) sv = true)
    (hne : tailA ++ svB ≠ [])
    (hsize : (tlv 7 (concatB comps) ++ midB ++ tailA ++ svB).length < 2 ^ 64) :
    decodePacket interestFs 5 false true [] (tlv 5 (tlv 7 (concatB comps) ++ midB ++ tailA ++ svB)) =
      .ok (List.replicate 7 (Value.uint 0) ++ (Value.name comps :: mid) ++
           List.replicate 2 (Value.uint (tlv 7 (concatB comps) ++ midB).length) ++ [app, sigInfo, sv] ++
           [Value.none]) := by
  have hcl : (concatB comps).length < 2 ^ 64 :=
    tlv_body_lt (by rwa [List.append_assoc, List.append_assoc] at hsize)
  rw [List.append_assoc (bs := tailA)] at hsize ⊢
  refine decodePacket_tlv _ 5 false true _ _ (by decide) hsize
    (parse_interest_value comps mid app sigInfo sv midB _ hmid
      (encFields_append_one _ _ _ sv tailA svB rfl htail hsv) hcomps hfitmid
      (fitsFs_append_one _ _ _ sv hfittail hfsv) hcl hne) ?_
  simp only [List.append_assoc, List.cons_append, nameMissing_interest, Bool.and_false]

theorem interestVals_name (mid tl : List Value) (n u : Value) :
    (List.replicate 7 u ++ (n :: mid) ++ tl)[7]? = some n := by
  rw [List.append_assoc, List.getElem?_append_right (by rw [List.length_replicate]; exact Nat.le_refl 7),
    List.length_replicate]
  rfl

theorem interestVals_tail (mid tl : List Value) (hm : mid.length = 6) (n u : Value) (j : Nat) :
    (List.replicate 7 u ++ (n :: mid) ++ tl)[14 + j]? = tl[j]? := by
  have hl : (List.replicate 7 u ++ (n :: mid)).length = 14 := by
    rw [List.length_append, List.length_replicate, List.length_cons, hm]
  rw [List.getElem?_append_right (by rw [hl]; exact Nat.le_add_right 14 j), hl, Nat.add_sub_cancel_left]

theorem interestVals_get (mid : List Value) (hm : mid.length = 6) (n a x y z w : Value) :
    (List.replicate 7 (Value.uint 0) ++ (n :: mid) ++ List.replicate 2 a ++ [x, y, z] ++ [w])[7]? = some n ∧
    (List.replicate 7 (Value.uint 0) ++ (n :: mid) ++ List.replicate 2 a ++ [x, y, z] ++ [w])[14]? = some a ∧
    (List.replicate 7 (Value.uint 0) ++ (n :: mid) ++ List.replicate 2 a ++ [x, y, z] ++ [w])[15]? = some a ∧
    (List.replicate 7 (Value.uint 0) ++ (n :: mid) ++ List.replicate 2 a ++ [x, y, z] ++ [w])[17]? = some y ∧
    (List.replicate 7 (Value.uint 0) ++ (n :: mid) ++ List.replicate 2 a ++ [x, y, z] ++ [w])[18]? = some z := by
  simp only [List.append_assoc (List.replicate 7 (Value.uint 0) ++ (n :: mid))]
  exact ⟨interestVals_name .., interestVals_tail mid _ hm n _ 0, interestVals_tail mid _ hm n _ 1,
    interestVals_tail mid _ hm n _ 3, interestVals_tail mid _ hm n _ 4⟩

theorem parseInterest_signed (comps : List Bytes) (mid : List Value) (app sigInfo : Value)
    (sig midB tailA : Bytes)
    (hmid : encFields midFs mid = .ok midB)
    (htail : encFields [.bytes 36 false, intSigInfoS] [app, sigInfo] = .ok tailA)
    (hcomps : comps.all compOk = true) (hfitmid : fitsFs midFs mid = true)
    (hfittail : fitsFs [.bytes 36 false, intSigInfoS] [app, sigInfo] = true)
    (hsig : sig.length < 2 ^ 64)
    (hsize : (tlv 7 (concatB comps) ++ midB ++ tailA ++ tlv 46 sig).length < 2 ^ 64) :
    parseInterest (tlv 5 (tlv 7 (concatB comps) ++ midB ++ tailA ++ tlv 46 sig)) =
      .ok (List.replicate 7 (Value.uint 0) ++ (Value.name comps :: mid) ++
             List.replicate 2 (Value.uint (tlv 7 (concatB comps) ++ midB).length) ++
             [app, sigInfo, Value.bytes sig] ++ [Value.none],
           { sigCovered := comps.filter (fun c => !isDigestComp c) ++ [tailA], sigValue := some sig,
             digestCovered := [tailA ++ tlv 46 sig], digestValue := lastDigest comps }) := by
  have hcl : (concatB comps).length < 2 ^ 64 :=
    tlv_body_lt (by rwa [List.append_assoc, List.append_assoc] at hsize)
  have hdec := decode_interest comps mid app sigInfo (Value.bytes sig) midB tailA _ hmid htail
    (enc_bytes false (by decide) hsig) hcomps hfitmid hfittail rfl
    (List.append_ne_nil_of_right_ne_nil _ (tlv_ne_nil 46 sig)) hsize
  have hck := parseAndCheckTl_tlv 5 _ (by decide) hsize
  -- the SignatureValue element is the first of its Type: the covered range ends in front of it
  have hseq : SeqWithout 46 (tlv 7 (concatB comps) ++ midB ++ tailA) :=
    ((SeqWithout.single (by decide) (by decide) hcl).append
      (seqWithout_fieldsB 46 midFs mid midB (by decide) hmid)).append
      (seqWithout_fieldsB 46 _ _ tailA (by decide) htail)
  have hoff := offsetOfType_skip 46 (by decide) sig [] hsig hseq
    ((tlv 7 (concatB comps) ++ midB ++ tailA ++ tlv 46 sig).length + 1) 0
    (Nat.lt_succ_of_le (by rw [List.length_append (bs := tlv 46 sig)]; exact Nat.le_add_right _ _))
  simp only [List.append_nil, Nat.zero_add] at hoff
  obtain ⟨g7, g14, g15, _, g18⟩ := interestVals_get mid (fitsFs_length _ _ hfitmid) (.name comps)
    (.uint (tlv 7 (concatB comps) ++ midB).length) app sigInfo (.bytes sig) .none
  have hs1 := pySlice_mid (tlv 7 (concatB comps) ++ midB) tailA (tlv 46 sig)
  have hs2 := pySlice_to_end (tlv 7 (concatB comps) ++ midB) (tailA ++ tlv 46 sig)
  rw [← List.append_assoc] at hs2
  rw [← List.length_append] at hs1
  unfold parseInterest
  simp only [hdec, hck, bind, Except.bind, pure, Except.pure, g7, g14, g15, g18, bytesOf, markerOff, hoff,
    Option.getD_some, hs1, hs2]

/-- unsigned, with ApplicationParameters -/
theorem parseInterest_params (comps : List Bytes) (mid : List Value) (app sigInfo : Value)
    (midB tailA : Bytes)
    (hmid : encFields midFs mid = .ok midB)
    (htail : encFields [.bytes 36 false, intSigInfoS] [app, sigInfo] = .ok tailA)
    (hcomps : comps.all compOk = true) (hfitmid : fitsFs midFs mid = true)
    (hfittail : fitsFs [.bytes 36 false, intSigInfoS] [app, sigInfo] = true)
    (hne : tailA ≠ [])
    (hsize : (tlv 7 (concatB comps) ++ midB ++ tailA).length < 2 ^ 64) :
    parseInterest (tlv 5 (tlv 7 (concatB comps) ++ midB ++ tailA)) =
      .ok (List.replicate 7 (Value.uint 0) ++ (Value.name comps :: mid) ++
             List.replicate 2 (Value.uint (tlv 7 (concatB comps) ++ midB).length) ++
             [app, sigInfo, Value.none] ++ [Value.none],
           { sigCovered := comps.filter (fun c => !isDigestComp c), sigValue := none,
             digestCovered := [tailA], digestValue := lastDigest comps }) := by
  have hdec := decode_interest comps mid app sigInfo Value.none midB tailA [] hmid htail rfl hcomps hfitmid hfittail rfl
    (by rwa [List.append_nil]) (by rwa [List.append_nil])
  rw [List.append_nil] at hdec
  have hck := parseAndCheckTl_tlv 5 _ (by decide) hsize
  obtain ⟨g7, g14, g15, _, g18⟩ := interestVals_get mid (fitsFs_length _ _ hfitmid) (.name comps)
    (.uint (tlv 7 (concatB comps) ++ midB).length) app sigInfo .none .none
  unfold parseInterest
  simp only [hdec, hck, bind, Except.bind, pure, Except.pure, g7, g14, g15, g18, bytesOf, markerOff,
    Option.getD_some, pySlice_to_end, List.append_nil]

/-- unsigned, no ApplicationParameters, no digest component: the cover-start markers stay unset -/
theorem parseInterest_plain (name : List Bytes) (mid : List Value) (midB : Bytes)
    (hmid : encFields midFs mid = .ok midB)
    (hname : name.all compOk = true) (hnd : ∀ c ∈ name, isDigestComp c = false)
    (hfitmid : fitsFs midFs mid = true)
    (hsize : (tlv 7 (concatB name) ++ midB).length < 2 ^ 64) :
    parseInterest (tlv 5 (tlv 7 (concatB name) ++ midB)) =
      .ok (List.replicate 7 (Value.uint 0) ++ (Value.name name :: mid) ++ List.replicate 6 Value.none,
           { sigCovered := name, sigValue := none,
             digestCovered := [tlv 7 (concatB name) ++ midB], digestValue := none }) := by
  have hcl : (concatB name).length < 2 ^ 64 := tlv_body_lt hsize
  obtain ⟨itA, rA, _, hok, henc, _, hrun⟩ := interest_head_items _ _
    (interest_head_rt name mid midB hmid hname hfitmid hcl) (List.append_ne_nil_of_left_ne_nil (tlv_ne_nil 7 _) _)
  have hparse := parse_encItems interestFs false (by decide) _ hok
  rw [henc, hrun] at hparse
  have hdec := decodePacket_tlv _ 5 false true _ _ (by decide) hsize hparse
    (by simp only [List.append_assoc, List.cons_append, nameMissing_interest, Bool.and_false])
  have hck := parseAndCheckTl_tlv 5 _ (by decide) hsize
  have hm := fitsFs_length _ _ hfitmid
  have g7 := interestVals_name mid (List.replicate 6 Value.none) (.name name) (.uint 0)
  have g14 : _[14]? = some Value.none := interestVals_tail mid (List.replicate 6 .none) hm (.name name) (.uint 0) 0
  have g15 : _[15]? = some Value.none := interestVals_tail mid (List.replicate 6 .none) hm (.name name) (.uint 0) 1
  have g18 : _[18]? = some Value.none := interestVals_tail mid (List.replicate 6 .none) hm (.name name) (.uint 0) 4
  unfold parseInterest
  simp only [hdec, hck, bind, Except.bind, pure, Except.pure, g7, g14, g15, g18, bytesOf, markerOff,
    lastDigest_none name hnd, filter_nondigest_self name hnd, List.append_nil, Option.getD_none, pySlice,
    List.take_length, List.drop_zero]

/-- `parseInterest_signed` for a name that holds its one digest component `02 20 d` between `pre` and `post`
    (`post = []` when `make_interest` appended it) -/
theorem parseInterest_signed_at (pre post : List Bytes) (d : Bytes) (mid : List Value) (app sigInfo : Value)
    (sig midB tailA : Bytes)
    (hmid : encFields midFs mid = .ok midB)
    (htail : encFields [.bytes 36 false, intSigInfoS] [app, sigInfo] = .ok tailA)
    (hpre : pre.all compOk = true) (hpost : post.all compOk = true)
    (hndpre : ∀ c ∈ pre, isDigestComp c = false) (hndpost : ∀ c ∈ post, isDigestComp c = false)
    (hd : d.length = 32) (hfitmid : fitsFs midFs mid = true)
    (hfittail : fitsFs [.bytes 36 false, intSigInfoS] [app, sigInfo] = true)
    (hsig : sig.length < 2 ^ 64)
    (hsize : (tlv 7 (concatB (pre ++ (2 :: 32 :: d) :: post)) ++ midB ++ tailA ++ tlv 46 sig).length < 2 ^ 64) :
    parseInterest (tlv 5 (tlv 7 (concatB (pre ++ (2 :: 32 :: d) :: post)) ++ midB ++ tailA ++ tlv 46 sig)) =
      .ok (List.replicate 7 (Value.uint 0) ++ (Value.name (pre ++ (2 :: 32 :: d) :: post) :: mid) ++
             List.replicate 2 (Value.uint (tlv 7 (concatB (pre ++ (2 :: 32 :: d) :: post)) ++ midB).length) ++
             [app, sigInfo, Value.bytes sig] ++ [Value.none],
           { sigCovered := pre ++ post ++ [tailA], sigValue := some sig,
             digestCovered := [tailA ++ tlv 46 sig], digestValue := some d }) := by
  have h := parseInterest_signed _ mid app sigInfo sig midB tailA hmid htail (comps_at_ok pre post d hpre hpost hd)
    hfitmid hfittail hsig hsize
  rwa [lastDigest_at pre post d hd hndpost, filter_nondigest_at pre post d hd hndpre hndpost] at h

theorem parseInterest_params_at (pre post : List Bytes) (d : Bytes) (mid : List Value) (app sigInfo : Value)
    (midB tailA : Bytes)
    (hmid : encFields midFs mid = .ok midB)
    (htail : encFields [.bytes 36 false, intSigInfoS] [app, sigInfo] = .ok tailA)
    (hpre : pre.all compOk = true) (hpost : post.all compOk = true)
    (hndpre : ∀ c ∈ pre, isDigestComp c = false) (hndpost : ∀ c ∈ post, isDigestComp c = false)
    (hd : d.length = 32) (hfitmid : fitsFs midFs mid = true)
    (hfittail : fitsFs [.bytes 36 false, intSigInfoS] [app, sigInfo] = true)
    (hne : tailA ≠ [])
    (hsize : (tlv 7 (concatB (pre ++ (2 :: 32 :: d) :: post)) ++ midB ++ tailA).length < 2 ^ 64) :
    parseInterest (tlv 5 (tlv 7 (concatB (pre ++ (2 :: 32 :: d) :: post)) ++ midB ++ tailA)) =
      .ok (List.replicate 7 (Value.uint 0) ++ (Value.name (pre ++ (2 :: 32 :: d) :: post) :: mid) ++
             List.replicate 2 (Value.uint (tlv 7 (concatB (pre ++ (2 :: 32 :: d) :: post)) ++ midB).length) ++
             [app, sigInfo, Value.none] ++ [Value.none],
           { sigCovered := pre ++ post, sigValue := none,
             digestCovered := [tailA], digestValue := some d }) := by
  have h := parseInterest_params _ mid app sigInfo midB tailA hmid htail (comps_at_ok pre post d hpre hpost hd)
    hfitmid hfittail hne hsize
  rwa [lastDigest_at pre post d hd hndpost, filter_nondigest_at pre post d hd hndpre hndpost] at h

end Ndn.Packet
