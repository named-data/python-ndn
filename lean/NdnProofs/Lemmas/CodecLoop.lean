import NdnProofs.Lemmas.CodecTurn
/-! The scan loop of `TlvModel.parse` on a concatenation of recognised elements ("items").
    An item is what ONE iteration of the loop consumes: one element of a plain or repeated field, or —
    for a MapField — a key element immediately followed by its value element (`findMapValue`).
    The general statement is `loop_prefix_m`: the loop over `encItems items ++ R` arrives at `R` with the accumulator
    `runItems …`, in which the OffsetMarker fields passed on the way are recorded.  Without markers `runItems` is the
    fold of `applyItem` (`runItems_wf`), whence `parse_prefix` and `loop_items`; with them `parse_encItems`, used by
    Lemmas/MarkerRun and Lemmas/PacketParseInterest. -/
namespace Ndn.Codec
open Ndn

/-- the value element of a map entry -/
structure MapVal where
  v : Value
  t : Nat
  body : Bytes

structure Item where
  idx : Nat
  fld : Schema      -- the field found at `idx` (a plain field, `repeated e` or `map k v`)
  v : Value         -- the value `parse_from` yields for this element (for a map entry: the key)
  t : Nat
  body : Bytes
  mv : Option MapVal  -- `some` exactly for an entry of a MapField: the value element behind the key

def applyItem (acc : List Value) (it : Item) : List Value :=
  match it.mv with
  | some m => acc.set it.idx (.map (mapSet (mapOf acc[it.idx]?) it.v m.v))
  | none =>
    if isRep it.fld then
      acc.set it.idx (.list (listOf acc[it.idx]? ++ [it.v]))
    else acc.set it.idx it.v

def nextPos (it : Item) : Nat := if isRep it.fld || isMapS it.fld then it.idx else it.idx + 1

def plainOrRep : Schema → Bool
  | .marker => false
  | _ => true

/-- What follows the first element of an item: nothing, or (MapField) the value element.
    The fuel `body.length + 2` (here, in `ItemOK` and in `ElemRT`): one unit for `parseValue` itself and, when the
    element is a sub-model, `body.length + 1` for the scan loop over its Value. -/
def TailOK (it : Item) : Prop :=
  match it.mv with
  | none => isMapS it.fld = false
  | some m => ∃ ks vs, it.fld = .map ks vs ∧ vs.typ = some m.t ∧ m.t < 2 ^ 64 ∧ m.body.length < 2 ^ 64 ∧
      leafCheck vs m.body.length m.body = .ok () ∧
      ∀ fuel R, m.body.length + 2 ≤ fuel → parseValue fuel vs m.body (tlv m.t m.body ++ R) = .ok m.v

def ItemOK (fs : List Schema) (it : Item) : Prop :=
  fs[it.idx]? = some it.fld ∧ plainOrRep it.fld = true ∧ it.fld.typ = some it.t ∧ it.t < 2 ^ 64 ∧
  it.body.length < 2 ^ 64 ∧ leafCheck (elemOf it.fld) it.body.length it.body = .ok () ∧
  (∀ fuel R, it.body.length + 2 ≤ fuel →
    parseValue fuel (elemOf it.fld) it.body (tlv it.t it.body ++ R) = .ok it.v) ∧
  TailOK it

def ItemsOK (fs : List Schema) : Nat → List Item → Prop
  | _, [] => True
  | pos, it :: r => pos ≤ it.idx ∧ ItemOK fs it ∧ ItemsOK fs (nextPos it) r

def encTail (it : Item) : Bytes :=
  match it.mv with
  | none => []
  | some m => tlv m.t m.body

def encItem (it : Item) : Bytes := tlv it.t it.body ++ encTail it

def encItems : List Item → Bytes
  | [] => []
  | it :: r => encItem it ++ encItems r

def endPos : Nat → List Item → Nat
  | p, [] => p
  | _, it :: r => endPos (nextPos it) r

theorem encItem_len_ge (it : Item) : 2 ≤ (encItem it).length := by
  have := tlNumSize_pos it.t; have := tlNumSize_pos it.body.length
  simp [encItem, tlv_length]; omega

theorem encItems_len_ge : ∀ (items : List Item), 2 * items.length ≤ (encItems items).length
  | [] => by simp [encItems]
  | it :: r => by
    have := encItems_len_ge r
    have := encItem_len_ge it
    simp [encItems]; omega

theorem encItems_append : ∀ (l1 l2 : List Item), encItems (l1 ++ l2) = encItems l1 ++ encItems l2
  | [], _ => rfl
  | it :: r, l2 => by simp [encItems, encItems_append r l2]

theorem ItemsOK_mono (fs : List Schema) : ∀ (items : List Item) (p q : Nat),
    q ≤ p → ItemsOK fs p items → ItemsOK fs q items
  | [], _, _, _, _ => trivial
  | _ :: _, _, _, hq, ⟨h1, h2, h3⟩ => ⟨Nat.le_trans hq h1, h2, h3⟩

theorem ItemsOK_split (fs : List Schema) : ∀ (l1 l2 : List Item) (p : Nat),
    ItemsOK fs p (l1 ++ l2) → ItemsOK fs p l1 ∧ ItemsOK fs (endPos p l1) l2
  | [], _, _, h => ⟨trivial, h⟩
  | it :: r, l2, p, ⟨h1, h2, h3⟩ => by
    obtain ⟨a, b⟩ := ItemsOK_split fs r l2 (nextPos it) h3
    exact ⟨⟨h1, h2, a⟩, b⟩

theorem ItemsOK_append (fs : List Schema) : ∀ (l1 l2 : List Item) (p q : Nat),
    ItemsOK fs p l1 → endPos p l1 ≤ q → ItemsOK fs q l2 → ItemsOK fs p (l1 ++ l2)
  | [], l2, p, q, _, hpq, h2 => ItemsOK_mono fs l2 q p hpq h2
  | x :: r, l2, _, q, ⟨h1, h2, h3⟩, he, hl2 => ⟨h1, h2, ItemsOK_append fs r l2 (nextPos x) q h3 he hl2⟩

theorem ItemsOK_at (fs : List Schema) (k : Nat) : ∀ (items : List Item) (p : Nat), p ≤ k →
    (∀ it ∈ items, it.idx = k ∧ (isRep it.fld || isMapS it.fld) = true ∧ ItemOK fs it) →
    ItemsOK fs p items ∧ endPos p items ≤ k
  | [], _, hp, _ => ⟨trivial, hp⟩
  | it :: r, p, hp, hall => by
    obtain ⟨hi, hr, hok⟩ := hall it (List.mem_cons_self ..)
    have hn : nextPos it = k := by simp only [nextPos, hr, if_true, hi]
    have ih := ItemsOK_at fs k r k (Nat.le_refl _) (fun x hx => hall x (List.mem_cons_of_mem _ hx))
    exact ⟨⟨by omega, hok, hn ▸ ih.1⟩, (hn ▸ ih.2 : endPos (nextPos it) r ≤ k)⟩

theorem nextPos_bounds (it : Item) : it.idx ≤ nextPos it ∧ nextPos it ≤ it.idx + 1 := by
  unfold nextPos; split <;> omega

theorem ItemsOK_bounds (fs : List Schema) : ∀ (items : List Item) (p : Nat), ItemsOK fs p items →
    ∀ it ∈ items, p ≤ it.idx ∧ it.idx < fs.length
  | [], _, _, _, h => by simp at h
  | x :: r, p, ⟨h1, h2, h3⟩, it, hit => by
    simp only [List.mem_cons] at hit
    rcases hit with rfl | hit
    · exact ⟨h1, lt_of_getElem? h2.1⟩
    · have ih := ItemsOK_bounds fs r _ h3 it hit
      exact ⟨Nat.le_trans h1 (Nat.le_trans (nextPos_bounds x).1 ih.1), ih.2⟩

theorem endPos_bounds (fs : List Schema) : ∀ (items : List Item) (p : Nat), ItemsOK fs p items →
    p ≤ fs.length → p ≤ endPos p items ∧ endPos p items ≤ fs.length
  | [], _, _, h => by simp [endPos, h]
  | x :: r, p, ⟨h1, h2, h3⟩, _ => by
    have hb := nextPos_bounds x
    have hl : x.idx < fs.length := lt_of_getElem? h2.1
    have ih := endPos_bounds fs r (nextPos x) h3 (Nat.le_trans hb.2 hl)
    exact ⟨Nat.le_trans h1 (Nat.le_trans hb.1 ih.1), ih.2⟩

theorem ItemsOK_extend (fs T : List Schema) : ∀ (items : List Item) (p : Nat),
    ItemsOK fs p items → ItemsOK (fs ++ T) p items
  | [], _, _ => trivial
  | x :: r, p, ⟨h1, ⟨g1, g2⟩, h3⟩ => by
    refine ⟨h1, ⟨?_, g2⟩, ItemsOK_extend fs T r _ h3⟩
    have hl : x.idx < fs.length := lt_of_getElem? g1
    rw [List.getElem?_append_left hl]; exact g1

theorem applyItem_none {acc : List Value} {it : Item} (h : it.mv = none) :
    applyItem acc it = acc.set it.idx (upd it.fld acc[it.idx]? it.v) := by
  simp only [applyItem, h, upd]; split <;> rfl

theorem applyItem_some {acc : List Value} {it : Item} {m : MapVal} (h : it.mv = some m) :
    applyItem acc it = acc.set it.idx (.map (mapSet (mapOf acc[it.idx]?) it.v m.v)) := by
  simp only [applyItem, h]

theorem applyItem_append (acc tl : List Value) (it : Item) (h : it.idx < acc.length) :
    applyItem (acc ++ tl) it = applyItem acc it ++ tl := by
  unfold applyItem
  split
  · rw [List.getElem?_append_left h, List.set_append_left _ _ h]
  · split
    · rw [List.getElem?_append_left h, List.set_append_left _ _ h]
    · rw [List.set_append_left _ _ h]

theorem applyItem_length (acc : List Value) (it : Item) : (applyItem acc it).length = acc.length := by
  unfold applyItem; split
  · simp
  · split <;> simp

theorem foldl_applyItem_append : ∀ (items : List Item) (acc tl : List Value),
    (∀ it ∈ items, it.idx < acc.length) →
    items.foldl applyItem (acc ++ tl) = items.foldl applyItem acc ++ tl
  | [], _, _, _ => rfl
  | x :: r, acc, tl, h => by
    simp only [List.foldl]
    rw [applyItem_append acc tl x (h x (List.mem_cons_self ..))]
    exact foldl_applyItem_append r _ tl (fun it hit => by
      rw [applyItem_length]; exact h it (List.mem_cons_of_mem _ hit))

theorem foldl_applyItem_length : ∀ (items : List Item) (acc : List Value),
    (items.foldl applyItem acc).length = acc.length
  | [], _ => rfl
  | x :: r, acc => by simp only [List.foldl]; rw [foldl_applyItem_length r, applyItem_length]

theorem ItemOK.some {fs : List Schema} {it : Item} {m : MapVal} (h : ItemOK fs it) (hmv : it.mv = some m) :
    ∃ ks vs, it.fld = .map ks vs ∧ vs.typ = some m.t ∧ m.t < 2 ^ 64 ∧ m.body.length < 2 ^ 64 ∧
      leafCheck vs m.body.length m.body = .ok () ∧
      ∀ fuel R, m.body.length + 2 ≤ fuel → parseValue fuel vs m.body (tlv m.t m.body ++ R) = .ok m.v := by
  simpa [TailOK, hmv] using h.2.2.2.2.2.2.2

theorem encItem_length_none {it : Item} (h : it.mv = none) :
    (encItem it).length = tlNumSize it.t + tlNumSize it.body.length + it.body.length := by
  simp [encItem, encTail, h, tlv_length]

theorem encItem_length_some {it : Item} {m : MapVal} (h : it.mv = some m) :
    (encItem it).length = tlNumSize it.t + tlNumSize it.body.length + it.body.length +
      (tlNumSize m.t + tlNumSize m.body.length + m.body.length) := by
  simp [encItem, encTail, h, tlv_length]

theorem loop_step_key (fs : List Schema) (ic : Bool) (hn : nodupB (typs fs) = true) {it : Item} {ks vs : Schema}
    (hk : it.fld = .map ks vs) (G : Bytes) (f off pos : Nat) (acc : List Value) (hpos : pos ≤ it.idx)
    (hok : ItemOK fs it) (hf : it.body.length + 2 ≤ f) :
    parseFields (f + 1) fs ic (tlv it.t it.body ++ G) off pos acc =
      afterKey fs ic f it.idx it.v vs (skipMarkers fs acc pos it.idx off)
        (findMapValue f vs.typ ic G (off + (tlNumSize it.t + tlNumSize it.body.length) + it.body.length)) := by
  obtain ⟨hfld, _, htyp, ht, hb, hleaf, hpv, _⟩ := hok
  have hfind := findField_ok fs pos it.idx it.fld it.t hn hfld htyp hpos
  rw [hk] at hfld hleaf hpv
  simp only [elemOf] at hleaf hpv
  obtain ⟨p1, p2, s1, _, s3⟩ := head_elem it.t it.body G ht hb
  rw [parseFields_mapKey p1 p2 hfind hfld, s1, s3, hleaf, hpv f _ hf]
  rfl

theorem loop_step (fs : List Schema) (ic : Bool) (hn : nodupB (typs fs) = true) (it : Item) (R : Bytes)
    (f off pos : Nat) (acc : List Value) (hpos : pos ≤ it.idx) (hok : ItemOK fs it)
    (hf : (encItem it ++ R).length < f + 1) :
    parseFields (f + 1) fs ic (encItem it ++ R) off pos acc =
      parseFields f fs ic R (off + (encItem it).length) (nextPos it)
        (applyItem (skipMarkers fs acc pos it.idx off) it) := by
  have h1 := tlNumSize_pos it.t
  have h2 := tlNumSize_pos it.body.length
  rw [List.length_append] at hf
  cases hmv : it.mv with
  | none =>
    obtain ⟨hfld, hpr, htyp, ht, hb, hleaf, hpv, htail⟩ := hok
    have hfind := findField_ok fs pos it.idx it.fld it.t hn hfld htyp hpos
    have hnm : isMapS it.fld = false := by simpa [TailOK, hmv] using htail
    have hel := encItem_length_none hmv
    have hE : encItem it = tlv it.t it.body := by simp [encItem, encTail, hmv]
    obtain ⟨p1, p2, s1, _, s3⟩ := head_elem it.t it.body R ht hb
    rw [hE, parseFields_field p1 p2 hfind hfld hnm, s1, s3, hleaf, hpv f _ (by omega), applyItem_none hmv, ← hE, hel]
    simp only [nextPos, hnm, Bool.or_false, Nat.add_assoc]
    rfl
  | some m =>
    obtain ⟨ks, vs, hk, hvt, hmt, hmb, hleaf2, hpv2⟩ := hok.some hmv
    have hel := encItem_length_some hmv
    have h3 := tlNumSize_pos m.t
    have h4 := tlNumSize_pos m.body.length
    have hE : encItem it ++ R = tlv it.t it.body ++ (tlv m.t m.body ++ R) := by
      simp [encItem, encTail, hmv, List.append_assoc]
    obtain ⟨hf1, hfk, hfv⟩ : 1 ≤ f ∧ it.body.length + 2 ≤ f ∧ m.body.length + 2 ≤ f := by omega
    obtain ⟨f1, rfl⟩ := Nat.exists_eq_add_of_le' hf1
    rw [hE, loop_step_key fs ic hn hk _ _ off pos acc hpos hok hfk,
      findMapValue_hit vs.typ ic m.t m.body R f1 _ hvt hmt hmb, applyItem_some hmv, hel]
    simp only [afterKey, hleaf2, hpv2 _ _ hfv, bind, Except.bind, nextPos, hk, isRep, isMapS,
      Bool.or_true, if_true, Nat.add_assoc]

theorem loop_step_gap (fs : List Schema) (ic : Bool) (hn : nodupB (typs fs) = true) (it : Item) (m : MapVal)
    (hmv : it.mv = some m) (t : Nat) (x R : Bytes) (f off pos : Nat) (acc : List Value)
    (hpos : pos ≤ it.idx) (hok : ItemOK fs it)
    (ht : t < 2 ^ 64) (hx : x.length < 2 ^ 64) (hne : t ≠ m.t) (hcrit : t % 2 = 0 ∨ ic = true)
    (hf : (tlv it.t it.body ++ (tlv t x ++ (tlv m.t m.body ++ R))).length < f + 1) :
    parseFields (f + 1) fs ic (tlv it.t it.body ++ (tlv t x ++ (tlv m.t m.body ++ R))) off pos acc =
      parseFields f fs ic R (off + (encItem it).length + (tlv t x).length) (nextPos it)
        (applyItem (skipMarkers fs acc pos it.idx off) it) := by
  obtain ⟨ks, vs, hk, hvt, hmt, hmb, hleaf2, hpv2⟩ := hok.some hmv
  have h1 := tlNumSize_pos it.t; have h2 := tlNumSize_pos it.body.length
  have h3 := tlNumSize_pos t; have h4 := tlNumSize_pos x.length
  have h5 := tlNumSize_pos m.t; have h6 := tlNumSize_pos m.body.length
  simp only [List.length_append, tlv_length] at hf
  obtain ⟨hf2, hfk, hfv⟩ : 2 ≤ f ∧ it.body.length + 2 ≤ f ∧ m.body.length + 2 ≤ f := by omega
  clear hf h1 h2 h3 h4 h5 h6
  obtain ⟨f2, rfl⟩ := Nat.exists_eq_add_of_le' hf2
  rw [loop_step_key fs ic hn hk _ _ off pos acc hpos hok hfk,
    findMapValue_skip vs.typ ic t x _ _ _ ht hx (by rw [hvt]; simpa using hne) hcrit,
    findMapValue_hit vs.typ ic m.t m.body R f2 _ hvt hmt hmb, applyItem_some hmv, encItem_length_some hmv,
    tlv_length]
  simp only [afterKey, hleaf2, hpv2 _ _ hfv, bind, Except.bind, nextPos, hk, isRep, isMapS,
    Bool.or_true, if_true]
  congr 1; omega

theorem loop_step_gap_reject (fs : List Schema) (hn : nodupB (typs fs) = true) (it : Item) (m : MapVal)
    (hmv : it.mv = some m) (t : Nat) (x R : Bytes) (f off pos : Nat) (acc : List Value)
    (hpos : pos ≤ it.idx) (hok : ItemOK fs it)
    (ht : t < 2 ^ 64) (hx : x.length < 2 ^ 64) (hne : t ≠ m.t) (hodd : t % 2 = 1)
    (hf : (tlv it.t it.body ++ (tlv t x ++ R)).length < f + 1) :
    parseFields (f + 1) fs false (tlv it.t it.body ++ (tlv t x ++ R)) off pos acc = .error .decodeError := by
  obtain ⟨ks, vs, hk, hvt, _⟩ := hok.some hmv
  have h1 := tlNumSize_pos it.t; have h2 := tlNumSize_pos it.body.length
  have h3 := tlNumSize_pos t; have h4 := tlNumSize_pos x.length
  simp only [List.length_append, tlv_length] at hf
  obtain ⟨hf1, hfk⟩ : 1 ≤ f ∧ it.body.length + 2 ≤ f := by omega
  clear hf h1 h2 h3 h4
  obtain ⟨f1, rfl⟩ := Nat.exists_eq_add_of_le' hf1
  rw [loop_step_key fs false hn hk _ _ off pos acc hpos hok hfk,
    findMapValue_reject vs.typ t x _ f1 _ ht hx (by rw [hvt]; simpa using hne) hodd]
  rfl

/-- state of the accumulator after the scan loop processed `items` from position `pos`, offset `off`:
    OffsetMarker fields skipped over on the way to an element record that element's offset -/
def runItems (fs : List Schema) : Nat → Nat → List Value → List Item → List Value
  | _, _, acc, [] => acc
  | pos, off, acc, it :: r =>
    runItems fs (nextPos it) (off + (encItem it).length)
      (applyItem (skipMarkers fs acc pos it.idx off) it) r

theorem runItems_append (fs : List Schema) : ∀ (l1 l2 : List Item) (pos off : Nat) (acc : List Value),
    runItems fs pos off acc (l1 ++ l2) =
      runItems fs (endPos pos l1) (off + (encItems l1).length) (runItems fs pos off acc l1) l2
  | [], _, _, _, _ => by simp [runItems, endPos, encItems]
  | x :: r, l2, pos, off, acc => by
    simp only [List.cons_append, runItems, endPos, encItems, List.length_append]
    rw [runItems_append fs r l2, Nat.add_assoc]

/-- the loop on a concatenation of recognised items followed by `R`, marker fields included -/
theorem loop_prefix_m (fs : List Schema) (ic : Bool) (hn : nodupB (typs fs) = true)
    (R : Bytes) :
    ∀ (items : List Item) (fuel off pos : Nat) (acc : List Value),
      ItemsOK fs pos items → (encItems items ++ R).length < fuel →
      parseFields fuel fs ic (encItems items ++ R) off pos acc =
        parseFields (fuel - items.length) fs ic R (off + (encItems items).length) (endPos pos items)
          (runItems fs pos off acc items)
  | [], fuel, off, pos, acc, _, _ => by simp [encItems, endPos, runItems]
  | it :: r, fuel, off, pos, acc, hok, hf => by
    obtain ⟨hpos, hit, hrest⟩ := hok
    cases fuel with
    | zero => simp at hf
    | succ f =>
      have hassoc : encItems (it :: r) ++ R = encItem it ++ (encItems r ++ R) := by
        simp [encItems, List.append_assoc]
      have h2 := encItem_len_ge it
      have hrf : (encItems r ++ R).length < f := by
        rw [hassoc, List.length_append] at hf; omega
      have hsub : f + 1 - (it :: r).length = f - r.length := by simp
      rw [hassoc, loop_step fs ic hn it _ f off pos acc hpos hit (by rw [← hassoc]; exact hf),
        loop_prefix_m fs ic hn R r f _ _ _ hrest hrf, hsub]
      simp [runItems, endPos, encItems, Nat.add_assoc]

theorem runItems_wf (fs : List Schema) (hw : wfFs fs = true) :
    ∀ (items : List Item) (pos off : Nat) (acc : List Value),
      runItems fs pos off acc items = items.foldl applyItem acc
  | [], _, _, _ => rfl
  | it :: r, pos, off, acc => by
    simp only [runItems, List.foldl, skipMarkers_id fs acc _ _ _ hw]
    exact runItems_wf fs hw r _ _ _

/-- `parse` on recognised items followed by `G`: the loop arrives at `G` with fuel to spare -/
theorem parse_prefix (fs : List Schema) (ic : Bool) (hw : wfFs fs = true) (hn : nodupB (typs fs) = true)
    (items : List Item) (G : Bytes) (hok : ItemsOK fs 0 items) :
    ∃ f, G.length < f + 1 ∧ parse fs ic (encItems items ++ G) =
      parseFields (f + 1) fs ic G (encItems items).length (endPos 0 items)
        (items.foldl applyItem (fs.map initVal)) := by
  have h2 := encItems_len_ge items
  refine ⟨(encItems items ++ G).length - items.length, by rw [List.length_append]; omega, ?_⟩
  rw [parse, loop_prefix_m fs ic hn G items _ 0 0 _ hok (Nat.lt_succ_self _), runItems_wf fs hw, Nat.zero_add]
  congr 1
  rw [List.length_append]; omega

theorem loop_items (fs : List Schema) (ic : Bool) (hw : wfFs fs = true) (hn : nodupB (typs fs) = true)
    (items : List Item) (fuel off pos : Nat) (acc : List Value)
    (hok : ItemsOK fs pos items) (hf : (encItems items).length < fuel) :
    parseFields fuel fs ic (encItems items) off pos acc = .ok (items.foldl applyItem acc) := by
  have := loop_prefix_m fs ic hn [] items fuel off pos acc hok (by simpa using hf)
  rw [List.append_nil, runItems_wf fs hw] at this
  rw [this]
  have h2 := encItems_len_ge items
  have : fuel - items.length = (fuel - items.length - 1) + 1 := by omega
  rw [this, parseFields_isEmpty rfl]

theorem parse_encItems (fs : List Schema) (ic : Bool) (hn : nodupB (typs fs) = true) (items : List Item)
    (hok : ItemsOK fs 0 items) :
    parse fs ic (encItems items) = .ok (runItems fs 0 0 (fs.map initVal) items) := by
  have hl := loop_prefix_m fs ic hn [] items ((encItems items).length + 1) 0 0 (fs.map initVal) hok
    (by rw [List.append_nil]; exact Nat.lt_succ_self _)
  have hge := encItems_len_ge items
  rw [List.append_nil, Nat.succ_sub (by omega)] at hl
  exact hl.trans (parseFields_isEmpty rfl)

end Ndn.Codec
