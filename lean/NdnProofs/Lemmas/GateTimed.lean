import NdnModel.GateTimed
import NdnProofs.Lemmas.Basic
/-! Lemmas for the timed model of the incoming-Interest gate (C05 x C04): table operations touch trie and heap only, the
    other events flights and log only (`step_op`, `step_not_op`), and a node object that carries a callback is never
    written again (`heap_frozen`); so the observations about one Interest are a function, `life`, of what the table held
    when it arrived (`captured`) and of its own `start` / `done` events (`runFrom_view`, `flight_obs`; for a history from
    the empty state `run_flight_obs`), of which only the first `start` and the first `done` after it count
    (`foldl_queued`, `foldl_validating`). -/
namespace Ndn.GateTimed
open Ndn
open Ndn.Pit (FrontEnd Verdict)
open Ndn.Gate (IntPkt shape)

/-- the events of one Interest: its task starts; its validator answers `v` -/
inductive Tok where
  | start | done (v : Verdict)
  deriving DecidableEq, Repr

/-- the events of a history that are about Interest `i` -/
def tokOf (i : Iid) : Ev → Option Tok
  | .start j => if j = i then some .start else none
  | .done j v => if j = i then some (.done v) else none
  | _ => none

/-- one such event, for an Interest whose node object holds `nd` -/
def react (fe : FrontEnd) (av : Vid) (i : Iid) (pkt : IntPkt) (nd : TNode) (x : Phase × List Obs) :
    Tok → Phase × List Obs
  | .start =>
    match x.1 with
    | .queued => ((startF fe av i pkt nd).1, x.2 ++ (startF fe av i pkt nd).2)
    | _ => x
  | .done v =>
    match x.1 with
    | .validating _ => ((doneF fe i nd v).1, x.2 ++ (doneF fe i nd v).2)
    | _ => x

def obsOf (i : Iid) (l : List Obs) : List Obs := l.filter fun o => o.iid == i

theorem obsOf_append (i : Iid) (a b : List Obs) : obsOf i (a ++ b) = obsOf i a ++ obsOf i b := by
  simp [obsOf]

theorem obsOf_all {i : Iid} {l : List Obs} (h : ∀ o ∈ l, o.iid = i) : obsOf i l = l := by
  simp only [obsOf, List.filter_eq_self]
  intro o ho; simp [h o ho]

theorem obsOf_none {i : Iid} {l : List Obs} (h : ∀ o ∈ l, o.iid ≠ i) : obsOf i l = [] := by
  simp only [obsOf, List.filter_eq_nil_iff]
  intro o ho; simp [h o ho]

theorem conclude_iid (fe : FrontEnd) (i : Iid) (nd : TNode) (v : Verdict) : ∀ o ∈ (conclude fe i nd v).2, o.iid = i := by
  intro o ho
  unfold conclude at ho
  split at ho
  · split at ho <;> simp at ho <;> subst ho <;> rfl
  · simp at ho

theorem startF_iid (fe : FrontEnd) (av : Vid) (i : Iid) (pkt : IntPkt) (nd : TNode) :
    ∀ o ∈ (startF fe av i pkt nd).2, o.iid = i := by
  intro o ho
  unfold startF at ho
  split at ho
  · split at ho
    · simp at ho; subst ho; rfl
    · exact conclude_iid _ _ _ _ o ho
    · simp at ho; subst ho; rfl
  · exact conclude_iid _ _ _ _ o ho

theorem doneF_iid (fe : FrontEnd) (i : Iid) (nd : TNode) (v : Verdict) : ∀ o ∈ (doneF fe i nd v).2, o.iid = i := by
  intro o ho
  unfold doneF at ho
  split at ho
  · exact conclude_iid _ _ _ _ o ho
  · simp at ho; subst ho; rfl

theorem react_finished (fe : FrontEnd) (av : Vid) (i : Iid) (pkt : IntPkt) (nd : TNode) (l : List Obs) (toks : List Tok) :
    toks.foldl (react fe av i pkt nd) (.finished, l) = (.finished, l) := by
  induction toks with
  | nil => rfl
  | cons t r ih => cases t <;> simpa [react] using ih

def started : List Tok → Bool
  | [] => false
  | .start :: _ => true
  | _ :: r => started r

/-- the events after the first `start` -/
def afterStart : List Tok → List Tok
  | [] => []
  | .start :: r => r
  | _ :: r => afterStart r

def firstDone : List Tok → Option Verdict
  | [] => none
  | .done v :: _ => some v
  | _ :: r => firstDone r

/-- what the validator answered: the first `done` after the first `start` -/
def answer (toks : List Tok) : Option Verdict := firstDone (afterStart toks)

theorem doneF_fst (fe : FrontEnd) (i : Iid) (nd : TNode) (v : Verdict) : (doneF fe i nd v).1 = .finished := by
  unfold doneF conclude
  split
  · split
    · split <;> rfl
    · rfl
  · rfl

theorem foldl_validating (fe : FrontEnd) (av : Vid) (i : Iid) (pkt : IntPkt) (nd : TNode) (vid : Vid) (l : List Obs)
    (toks : List Tok) :
    toks.foldl (react fe av i pkt nd) (.validating vid, l) =
      match firstDone toks with
      | none => (.validating vid, l)
      | some v => (.finished, l ++ (doneF fe i nd v).2) := by
  induction toks with
  | nil => rfl
  | cons t r ih =>
    cases t with
    | start => simpa [react, firstDone] using ih
    | done v =>
      simp only [List.foldl_cons, react, firstDone, doneF_fst]
      exact react_finished _ _ _ _ _ _ _

theorem foldl_queued (fe : FrontEnd) (av : Vid) (i : Iid) (pkt : IntPkt) (nd : TNode) (l : List Obs) (toks : List Tok) :
    toks.foldl (react fe av i pkt nd) (.queued, l) =
      if started toks then
        (afterStart toks).foldl (react fe av i pkt nd) ((startF fe av i pkt nd).1, l ++ (startF fe av i pkt nd).2)
      else (.queued, l) := by
  induction toks with
  | nil => rfl
  | cons t r ih =>
    cases t with
    | start => simp [react, started, afterStart]
    | done v => simp only [List.foldl_cons, react, started, afterStart]; exact ih

/-- the node object `_on_interest` keeps: the one at the longest matching prefix, if it carries a callback -/
def capture (s : St) (n : Name) : Option (Nat × TNode) :=
  match lookup s.trie n with
  | none => none
  | some (_, a) =>
    match s.heap[a]? with
    | some nd => if nd.callback.isSome then some (a, nd) else none
    | none => none

theorem capture_eq_some {s : St} {n : Name} {a : Nat} {nd : TNode} :
    capture s n = some (a, nd) ↔ ∃ p, lookup s.trie n = some (p, a) ∧ s.heap[a]? = some nd ∧ nd.callback.isSome := by
  constructor
  · intro h
    unfold capture at h
    split at h
    · cases h
    · rename_i p a' hl
      split at h
      · rename_i nd' hh
        split at h
        · cases h; exact ⟨p, hl, hh, ‹_›⟩
        · cases h
      · cases h
  · rintro ⟨p, hl, hh, hc⟩
    simp [capture, hl, hh, hc]

/-- the fields of the node object `capture` finds -/
def captured (s : St) (n : Name) : Option TNode := (capture s n).map (·.2)

theorem captured_eq_some (s : St) (n : Name) (nd : TNode) :
    captured s n = some nd ↔ ∃ p a, lookup s.trie n = some (p, a) ∧ s.heap[a]? = some nd ∧ nd.callback.isSome := by
  unfold captured
  constructor
  · intro h
    cases hc : capture s n with
    | none => rw [hc] at h; cases h
    | some an =>
      rw [hc] at h; cases h
      obtain ⟨p, h⟩ := capture_eq_some.mp hc
      exact ⟨p, _, h⟩
  · rintro ⟨p, a, h⟩
    rw [capture_eq_some.mpr ⟨p, h⟩]; rfl

theorem captured_callback {s : St} {n : Name} {nd : TNode} (h : captured s n = some nd) : nd.callback.isSome := by
  obtain ⟨_, _, _, _, hc⟩ := (captured_eq_some s n nd).mp h
  exact hc

/-- what happens in `_on_interest` itself: digest check when required; queued unless dropped -/
def arrivalF (fe : FrontEnd) (i : Iid) (pkt : IntPkt) (c : Option TNode) : Phase × List Obs :=
  match c with
  | none => (.finished, [])
  | some _ =>
    let digestReq := (shape fe).digestWhen.holds pkt.hasParams pkt.hasSig
    let pre := if digestReq then [Obs.digest i] else []
    if digestReq && !pkt.digestOk then (.finished, pre) else (.queued, pre)

theorem arrivalF_iid (fe : FrontEnd) (i : Iid) (pkt : IntPkt) (c : Option TNode) :
    ∀ o ∈ (arrivalF fe i pkt c).2, o.iid = i := by
  intro o ho
  unfold arrivalF at ho
  split at ho
  · simp at ho
  · simp only at ho
    split at ho <;> split at ho <;> simp at ho <;> subst ho <;> rfl

theorem arrivalF_fst (fe : FrontEnd) (i : Iid) (pkt : IntPkt) (c : Option TNode) :
    (arrivalF fe i pkt c).1 = .queued ∨ (arrivalF fe i pkt c).1 = .finished := by
  unfold arrivalF
  split
  · exact .inr rfl
  · simp only; split <;> simp

theorem arrive_eq (fe : FrontEnd) (s : St) (n : Name) (pkt : IntPkt) :
    arrive fe s n pkt =
      { s with
        flights := s.flights ++ [⟨n, pkt,
          if (arrivalF fe s.flights.length pkt (captured s n)).1 = .queued then (capture s n).map (·.1) else none,
          (arrivalF fe s.flights.length pkt (captured s n)).1⟩],
        log := s.log ++ (arrivalF fe s.flights.length pkt (captured s n)).2 } := by
  unfold arrive captured capture arrivalF
  cases hl : lookup s.trie n with
  | none => simp
  | some pa =>
    obtain ⟨p, a⟩ := pa
    cases hh : s.heap[a]? with
    | none => simp [hh]
    | some nd =>
      obtain ⟨cb, val⟩ := nd
      cases cb with
      | none => simp [hh]
      | some h =>
        simp only [hh, Option.bind_some, Option.isSome_some, if_true, Option.map_some]
        cases (shape fe).digestWhen.holds pkt.hasParams pkt.hasSig <;> cases pkt.digestOk <;> simp

theorem arrive_old (fe : FrontEnd) (s : St) (n : Name) (pkt : IntPkt) (i : Iid) (hlt : i < s.flights.length) :
    (arrive fe s n pkt).flights[i]? = s.flights[i]? ∧ obsOf i (arrive fe s n pkt).log = obsOf i s.log := by
  have hne : obsOf i (arrivalF fe s.flights.length pkt (captured s n)).2 = [] :=
    obsOf_none fun o ho => by rw [arrivalF_iid _ _ _ _ o ho]; exact Nat.ne_of_gt hlt
  rw [arrive_eq]
  exact ⟨List.getElem?_append_left hlt, by rw [obsOf_append, hne, List.append_nil]⟩

/-- every observation logged is about an Interest that has arrived -/
def LogBound (s : St) : Prop := ∀ o ∈ s.log, o.iid < s.flights.length

theorem arrive_new (fe : FrontEnd) (s : St) (hlb : LogBound s) (n : Name) (pkt : IntPkt) :
    (arrive fe s n pkt).flights[s.flights.length]? = some ⟨n, pkt,
        if (arrivalF fe s.flights.length pkt (captured s n)).1 = .queued then (capture s n).map (·.1) else none,
        (arrivalF fe s.flights.length pkt (captured s n)).1⟩ ∧
      obsOf s.flights.length (arrive fe s n pkt).log = (arrivalF fe s.flights.length pkt (captured s n)).2 := by
  have h0 : obsOf s.flights.length s.log = [] := obsOf_none fun o ho => Nat.ne_of_lt (hlb o ho)
  rw [arrive_eq]
  exact ⟨List.getElem?_concat_length, by rw [obsOf_append, h0, obsOf_all (arrivalF_iid _ _ _ _)]; rfl⟩

/-- the table operation of an event, as C04 sees it (the validator dropped) -/
def opOf : Ev → Option Fib.Op
  | .attach p h _ => some (.attach p h)
  | .detach p => some (.detach p)
  | _ => none

theorem attach_frozen (fe : FrontEnd) (s : St) (p : Name) (h : Option Hid) (v : Option Vid) (a : Nat) (nd : TNode)
    (hg : s.heap[a]? = some nd) (hc : nd.callback.isSome) : (attach fe s p h v).1.heap[a]? = some nd := by
  unfold attach
  split
  · rename_i a' _
    split
    · rename_i nd' hnd'
      split
      · exact hg
      · rename_i hno
        by_cases e : a' = a
        · subst e; rw [hg] at hnd'; cases hnd'; exact absurd hc hno
        · simp [List.getElem?_set_ne e, hg]
    · exact hg
  · simp [List.getElem?_append_left (lt_of_getElem? hg), hg]

theorem step_task (fe : FrontEnd) (av : Vid) (s : St) (j : Iid) (e : Ev) (he : e = .start j ∨ ∃ v, e = .done j v) :
    step fe av s e = s ∨ ∃ fl r, s.flights[j]? = some fl ∧ fl.node.isSome ∧ (∀ o ∈ r.2, o.iid = j) ∧
      step fe av s e = setPhase s j fl r := by
  rcases he with rfl | ⟨v, rfl⟩ <;> simp only [step]
  · split
    · split
      · rename_i hn
        split
        · exact .inr ⟨_, _, ‹_›, by rw [hn]; rfl, startF_iid _ _ _ _ _, rfl⟩
        · exact .inl rfl
      · exact .inl rfl
    · exact .inl rfl
  · split
    · split
      · rename_i hn
        split
        · exact .inr ⟨_, _, ‹_›, by rw [hn]; rfl, doneF_iid _ _ _ _, rfl⟩
        · exact .inl rfl
      · exact .inl rfl
    · exact .inl rfl

theorem step_cases (fe : FrontEnd) (av : Vid) (s : St) (e : Ev) :
    (opOf e).isSome ∨ (∃ n pkt, e = .arrive n pkt) ∨ step fe av s e = s ∨
      ∃ j fl r, (tokOf j e).isSome ∧ s.flights[j]? = some fl ∧ fl.node.isSome ∧ (∀ o ∈ r.2, o.iid = j) ∧
        step fe av s e = setPhase s j fl r := by
  cases e with
  | attach p h v | detach p => exact .inl rfl
  | arrive n pkt => exact .inr (.inl ⟨n, pkt, rfl⟩)
  | deadline j => exact .inr (.inr (.inl rfl))
  | start j =>
    exact .inr (.inr ((step_task fe av s j _ (.inl rfl)).imp id fun ⟨fl, r, h⟩ => ⟨j, fl, r, by simp [tokOf], h⟩))
  | done j v =>
    exact .inr (.inr ((step_task fe av s j _ (.inr ⟨v, rfl⟩)).imp id fun ⟨fl, r, h⟩ => ⟨j, fl, r, by simp [tokOf], h⟩))

theorem step_op (fe : FrontEnd) (av : Vid) (s : St) (e : Ev) (h : (opOf e).isSome) :
    (step fe av s e).flights = s.flights ∧ (step fe av s e).log = s.log := by
  cases e with
  | attach p hh v =>
    show (attach fe s p hh v).1.flights = _ ∧ (attach fe s p hh v).1.log = _
    unfold attach
    split
    · split
      · split <;> exact ⟨rfl, rfl⟩
      · exact ⟨rfl, rfl⟩
    · exact ⟨rfl, rfl⟩
  | detach p =>
    show (detach s p).1.flights = _ ∧ (detach s p).1.log = _
    unfold detach; split <;> exact ⟨rfl, rfl⟩
  | _ => cases h

theorem step_not_op (fe : FrontEnd) (av : Vid) (s : St) (e : Ev) (h : opOf e = none) :
    (step fe av s e).heap = s.heap ∧ (step fe av s e).trie = s.trie := by
  rcases step_cases fe av s e with ho | ⟨n, pkt, rfl⟩ | he | ⟨_, _, _, _, _, _, _, he⟩
  · rw [h] at ho; cases ho
  · show (arrive fe s n pkt).heap = s.heap ∧ (arrive fe s n pkt).trie = s.trie
    rw [arrive_eq]; exact ⟨rfl, rfl⟩
  · rw [he]; exact ⟨rfl, rfl⟩
  · rw [he]; exact ⟨rfl, rfl⟩

/-- a node object that carries a callback is never written again -/
theorem heap_frozen (fe : FrontEnd) (av : Vid) (s : St) (e : Ev) (a : Nat) (nd : TNode)
    (hg : s.heap[a]? = some nd) (hc : nd.callback.isSome) : (step fe av s e).heap[a]? = some nd := by
  cases e with
  | attach p h v => exact attach_frozen fe s p h v a nd hg hc
  | detach p => show (detach s p).1.heap[a]? = _; unfold detach; split <;> exact hg
  | _ => rw [(step_not_op fe av s _ rfl).1]; exact hg

theorem setPhase_self (s : St) (i : Iid) (fl : Flight) (r : Phase × List Obs) (hfl : s.flights[i]? = some fl)
    (hr : ∀ o ∈ r.2, o.iid = i) :
    (setPhase s i fl r).flights[i]? = some { fl with phase := r.1 } ∧
      obsOf i (setPhase s i fl r).log = obsOf i s.log ++ r.2 := by
  constructor
  · simp [setPhase, lt_of_getElem? hfl]
  · simp only [setPhase, obsOf_append, obsOf_all hr]

theorem setPhase_other (s : St) (i j : Iid) (fl : Flight) (r : Phase × List Obs) (hne : j ≠ i)
    (hr : ∀ o ∈ r.2, o.iid = j) :
    (setPhase s j fl r).flights[i]? = s.flights[i]? ∧ obsOf i (setPhase s j fl r).log = obsOf i s.log := by
  constructor
  · simp [setPhase, List.getElem?_set_ne hne]
  · have : obsOf i r.2 = [] := obsOf_none fun o ho => by rw [hr o ho]; exact hne
    simp only [setPhase, obsOf_append, this, List.append_nil]

theorem step_frame (fe : FrontEnd) (av : Vid) (s : St) (e : Ev) (i : Iid) (fl : Flight)
    (hfl : s.flights[i]? = some fl) (h : tokOf i e = none ∨ fl.node = none) :
    (step fe av s e).flights[i]? = some fl ∧ obsOf i (step fe av s e).log = obsOf i s.log := by
  rcases step_cases fe av s e with ho | ⟨n, pkt, rfl⟩ | he | ⟨j, fl0, r, ht, h0, hn0, hr, he⟩
  · obtain ⟨h1, h2⟩ := step_op fe av s e ho
    rw [h1, h2]; exact ⟨hfl, rfl⟩
  · obtain ⟨h1, h2⟩ := arrive_old fe s n pkt i (lt_of_getElem? hfl)
    exact ⟨h1.trans hfl, h2⟩
  · rw [he]; exact ⟨hfl, rfl⟩
  · -- the flight that moves holds a node object and the event is one of its own: it is not `i`
    have hj : j ≠ i := by
      rintro rfl
      rcases h with h | h
      · rw [h] at ht; cases ht
      · rw [hfl] at h0; cases h0; rw [h] at hn0; cases hn0
    obtain ⟨h1, h2⟩ := setPhase_other s i j fl0 r hj hr
    rw [he, h1, h2]; exact ⟨hfl, rfl⟩

theorem step_view (fe : FrontEnd) (av : Vid) (s : St) (e : Ev) (i : Iid) (fl : Flight) (a : Nat) (nd : TNode)
    (hfl : s.flights[i]? = some fl) (hn : fl.node = some a) (hnd : s.heap[a]? = some nd) :
    ∃ ph, (step fe av s e).flights[i]? = some { fl with phase := ph } ∧
      (ph, obsOf i (step fe av s e).log) =
        match tokOf i e with
        | some t => react fe av i fl.pkt nd (fl.phase, obsOf i s.log) t
        | none => (fl.phase, obsOf i s.log) := by
  cases ht : tokOf i e with
  | none =>
    obtain ⟨h1, h2⟩ := step_frame fe av s e i fl hfl (.inl ht)
    exact ⟨fl.phase, h1, by rw [h2]⟩
  | some t =>
    -- an own event: the definition of `step`, by cases on the phase
    cases e with
    | attach p h v | detach p | arrive n pkt | deadline j => cases ht
    | start j =>
      obtain ⟨rfl, rfl⟩ : j = i ∧ Tok.start = t := by simpa [tokOf] using ht
      simp only [step, hfl, react]
      cases hp : fl.phase with
      | queued =>
        simp only [hn, hnd]
        obtain ⟨h1, h2⟩ := setPhase_self s j fl (startF fe av j fl.pkt nd) hfl (startF_iid _ _ _ _ _)
        rw [hn] at h1
        exact ⟨_, h1, by rw [h2]⟩
      | validating vid => exact ⟨fl.phase, hfl, by rw [hp]⟩
      | finished => exact ⟨fl.phase, hfl, by rw [hp]⟩
    | done j v =>
      obtain ⟨rfl, rfl⟩ : j = i ∧ Tok.done v = t := by simpa [tokOf] using ht
      simp only [step, hfl, react]
      cases hp : fl.phase with
      | validating vid =>
        simp only [hn, hnd]
        obtain ⟨h1, h2⟩ := setPhase_self s j fl (doneF fe j nd v) hfl (doneF_iid _ _ _ _)
        rw [hn] at h1
        exact ⟨_, h1, by rw [h2]⟩
      | queued => exact ⟨fl.phase, hfl, by rw [hp]⟩
      | finished => exact ⟨fl.phase, hfl, by rw [hp]⟩

theorem runFrom_cons (fe : FrontEnd) (av : Vid) (s : St) (e : Ev) (r : List Ev) :
    runFrom fe av s (e :: r) = runFrom fe av (step fe av s e) r := rfl

theorem runFrom_view (fe : FrontEnd) (av : Vid) (evs : List Ev) : ∀ (s : St) (i : Iid) (fl : Flight) (a : Nat)
    (nd : TNode), s.flights[i]? = some fl → fl.node = some a → s.heap[a]? = some nd → nd.callback.isSome →
    ∃ ph, (runFrom fe av s evs).flights[i]? = some { fl with phase := ph } ∧
      (ph, obsOf i (runFrom fe av s evs).log) =
        (evs.filterMap (tokOf i)).foldl (react fe av i fl.pkt nd) (fl.phase, obsOf i s.log) := by
  induction evs with
  | nil => intro s i fl a nd hfl _ _ _; exact ⟨fl.phase, hfl, rfl⟩
  | cons e r ih =>
    intro s i fl a nd hfl hn hnd hc
    obtain ⟨ph1, h1, hv⟩ := step_view fe av s e i fl a nd hfl hn hnd
    obtain ⟨ph2, h2, hv2⟩ := ih (step fe av s e) i _ a nd h1 hn (heap_frozen fe av s e a nd hnd hc) hc
    refine ⟨ph2, h2, ?_⟩
    rw [runFrom_cons, hv2, hv, List.filterMap_cons]
    cases tokOf i e <;> rfl

theorem runFrom_view_dropped (fe : FrontEnd) (av : Vid) (evs : List Ev) : ∀ (s : St) (i : Iid) (fl : Flight),
    s.flights[i]? = some fl → fl.node = none →
    (runFrom fe av s evs).flights[i]? = some fl ∧ obsOf i (runFrom fe av s evs).log = obsOf i s.log := by
  induction evs with
  | nil => intro s i fl hfl _; exact ⟨hfl, rfl⟩
  | cons e r ih =>
    intro s i fl hfl hn
    obtain ⟨h1, h2⟩ := step_frame fe av s e i fl hfl (.inr hn)
    obtain ⟨h3, h4⟩ := ih (step fe av s e) i fl h1 hn
    exact ⟨by rw [runFrom_cons]; exact h3, by rw [runFrom_cons, h4, h2]⟩

theorem logBound_step (fe : FrontEnd) (av : Vid) (s : St) (e : Ev) (h : LogBound s) : LogBound (step fe av s e) := by
  intro o ho
  rcases step_cases fe av s e with hop | ⟨n, pkt, rfl⟩ | he | ⟨j, fl0, r, _, h0, _, hr, he⟩
  · obtain ⟨h1, h2⟩ := step_op fe av s e hop
    rw [h2] at ho; rw [h1]; exact h o ho
  · simp only [step, arrive_eq, List.mem_append, List.length_append, List.length_cons, List.length_nil] at ho ⊢
    rcases ho with ho | ho
    · exact Nat.lt_succ_of_lt (h o ho)
    · rw [arrivalF_iid _ _ _ _ o ho]; exact Nat.lt_succ_self _
  · rw [he] at ho ⊢; exact h o ho
  · rw [he] at ho ⊢
    simp only [setPhase, List.mem_append, List.length_set] at ho ⊢
    rcases ho with ho | ho
    · exact h o ho
    · rw [hr o ho]; exact lt_of_getElem? h0

theorem logBound_runFrom (fe : FrontEnd) (av : Vid) (evs : List Ev) : ∀ s, LogBound s → LogBound (runFrom fe av s evs) := by
  induction evs with
  | nil => intro s h; exact h
  | cons e r ih => intro s h; rw [runFrom_cons]; exact ih _ (logBound_step fe av s e h)

/-- the life of one Interest: what the table held for it when it arrived (`c`: the node object's fields, if a node
    with a callback was found), then its own events -/
def life (fe : FrontEnd) (av : Vid) (i : Iid) (pkt : IntPkt) (c : Option TNode) (toks : List Tok) : Phase × List Obs :=
  match c with
  | none => (.finished, [])
  | some nd => toks.foldl (react fe av i pkt nd) (arrivalF fe i pkt c)

theorem life_of_finished {fe : FrontEnd} (av : Vid) {i : Iid} {pkt : IntPkt} {c : Option TNode} (toks : List Tok)
    (h : (arrivalF fe i pkt c).1 = .finished) : life fe av i pkt c toks = arrivalF fe i pkt c := by
  cases c with
  | none => rfl
  | some nd => rw [life, ← Prod.eta (arrivalF fe i pkt (some nd)), h]; exact react_finished ..

theorem flight_obs (fe : FrontEnd) (av : Vid) (s : St) (hlb : LogBound s) (n : Name) (pkt : IntPkt) (post : List Ev) :
    ∃ fl, (runFrom fe av (arrive fe s n pkt) post).flights[s.flights.length]? = some fl ∧
      (fl.phase, obsOf s.flights.length (runFrom fe av (arrive fe s n pkt) post).log) =
        life fe av s.flights.length pkt (captured s n) (post.filterMap (tokOf s.flights.length)) := by
  obtain ⟨hfl, hlog⟩ := arrive_new fe s hlb n pkt
  rcases arrivalF_fst fe s.flights.length pkt (captured s n) with hq | hf
  · -- queued: a node object with a callback was found, and the flight holds it
    rw [hq, if_pos rfl] at hfl
    cases hc : capture s n with
    | none => rw [captured, hc] at hq; cases hq
    | some an =>
      obtain ⟨_, _, hnd, hcb⟩ := capture_eq_some.mp hc
      rw [captured, hc] at hq hlog ⊢
      rw [hc] at hfl
      obtain ⟨ph, h1, hv⟩ := runFrom_view fe av post _ _ _ an.1 an.2 hfl rfl (by rw [arrive_eq]; exact hnd) hcb
      exact ⟨_, h1, by rw [hv, hlog, ← hq]; rfl⟩
  · -- dropped: it holds nothing
    rw [hf, if_neg (fun h => nomatch h)] at hfl
    obtain ⟨h3, h4⟩ := runFrom_view_dropped fe av post _ _ _ hfl rfl
    exact ⟨_, h3, by rw [h4, hlog, life_of_finished av _ hf, ← hf]⟩

theorem run_snoc (fe : FrontEnd) (av : Vid) (evs : List Ev) (e : Ev) :
    run fe av (evs ++ [e]) = step fe av (run fe av evs) e := by
  simp [run, runFrom, List.foldl_append]

def isArrive : Ev → Bool
  | .arrive _ _ => true
  | _ => false

/-- how many Interests have arrived: the number the next one gets -/
def arrivals (evs : List Ev) : Nat := (evs.filter isArrive).length

theorem flights_length_step (fe : FrontEnd) (av : Vid) (s : St) (e : Ev) :
    (step fe av s e).flights.length = s.flights.length + (if isArrive e then 1 else 0) := by
  cases e with
  | attach p h v => rw [(step_op fe av s (.attach p h v) rfl).1]; rfl
  | detach p => rw [(step_op fe av s (.detach p) rfl).1]; rfl
  | arrive n pkt => simp only [step, isArrive, arrive_eq]; simp
  | deadline j => rfl
  | start j =>
    rcases step_task fe av s j _ (.inl rfl) with he | ⟨_, _, _, _, _, he⟩ <;> rw [he] <;> simp [setPhase, isArrive]
  | done j v =>
    rcases step_task fe av s j _ (.inr ⟨v, rfl⟩) with he | ⟨_, _, _, _, _, he⟩ <;> rw [he] <;> simp [setPhase, isArrive]

theorem flights_length_run (fe : FrontEnd) (av : Vid) (evs : List Ev) : (run fe av evs).flights.length = arrivals evs := by
  induction evs using snoc_induction with
  | nil => rfl
  | append_singleton l e ih =>
    rw [run_snoc, flights_length_step, ih]
    simp only [arrivals, List.filter_append, List.length_append]
    cases h : isArrive e <;> simp [h]

theorem run_flight_obs (fe : FrontEnd) (av : Vid) (pre post : List Ev) (n : Name) (pkt : IntPkt) :
    obsOf (arrivals pre) (run fe av (pre ++ .arrive n pkt :: post)).log =
      (life fe av (arrivals pre) pkt (captured (run fe av pre) n) (post.filterMap (tokOf (arrivals pre)))).2 := by
  obtain ⟨fl, _, hv⟩ := flight_obs fe av (run fe av pre) (logBound_runFrom fe av pre {} (by intro o ho; cases ho)) n pkt post
  rw [flights_length_run] at hv
  have e : run fe av (pre ++ .arrive n pkt :: post) = runFrom fe av (arrive fe (run fe av pre) n pkt) post := by
    simp [run, runFrom, List.foldl_append, step]
  rw [e, ← hv]

end Ndn.GateTimed
