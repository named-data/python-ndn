import NdnProofs.Lemmas.Receive
/-! Defines `eraseEff`, `eraseRes`, `named`, `afterNack`, which the statements of Props/C10 and Props/C10Bytes use
    (`Ndn.C10.named`: the pending entries under a name, not `Ndn.Pit.named`).  The envelope branch of `_receive` for any
    decoders `Dc`: one equation per outcome of the envelope decoder
    (`receive_lp`, `receive_lp_error`), transparency without a Nack (`receive_transparent`: the PIT token reaches the
    result only through the handler invocation), the Nack path (`receiveNet_nack`). -/
namespace Ndn.C10
open Ndn Ndn.Recv

/-- forget the PIT token captured by handler invocations -/
def eraseEff : Effect → Effect
  | .invoke p _ => .invoke p none
  | e => e

def eraseRes : Except PyErr Res → Except PyErr Res
  | .ok (s, e) => .ok (s, e.map eraseEff)
  | .error x => .error x

theorem receive_lp (g : Guards) (Dc : Decoders) (st : State) (w p : Bytes) (facts : LpFacts)
    (hlp : Dc.lp w = .ok facts) (hf : facts.fragment = some p) :
    receive g Dc st g.lpType w = guarded g.caughtFragTl st (Dc.tl p) fun t =>
      receiveNet g Dc st (nackReasonOf facts.nack) facts.pitToken t p := by
  simp [receive, guarded, hlp, hf]

theorem receive_lp_error (g : Guards) (Dc : Decoders) (st : State) (w : Bytes) (e : PyErr) (hlp : Dc.lp w = .error e) :
    receive g Dc st g.lpType w = if e ∈ g.caughtLp then .ok (st, []) else .error e := by
  simp [receive, guarded, hlp]

theorem receive_lp_error_dropped (g : Guards) (Dc : Decoders) (st : State) (w : Bytes) (e : PyErr)
    (hlp : Dc.lp w = .error e) (res : Res) (h : receive g Dc st g.lpType w = .ok res) : res = (st, []) := by
  rw [receive_lp_error g Dc st w e hlp] at h
  split at h <;> cases h
  rfl

theorem eraseRes_onInterest (st : State) (i : IntFacts) (tok : Option Bytes) :
    eraseRes (.ok (onInterest st i tok)) = eraseRes (.ok (onInterest st i none)) := by
  unfold onInterest
  cases longestPrefix st.fib i.name with
  | none => rfl
  | some pf => dsimp only; split <;> rfl

theorem receiveNet_token_irrelevant (g : Guards) (Dc : Decoders) (st : State) (tok : Option Bytes)
    (t : Nat) (p : Bytes) :
    eraseRes (receiveNet g Dc st none tok t p) = eraseRes (receiveNet g Dc st none none t p) ∧
    (g.usesPitToken = false → receiveNet g Dc st none tok t p = receiveNet g Dc st none none t p) := by
  unfold receiveNet
  dsimp only
  split
  · cases Dc.interest p with
    | error e => exact ⟨rfl, fun _ => rfl⟩
    | ok i =>
      exact ⟨(eraseRes_onInterest st i _).trans (eraseRes_onInterest st i _).symm, fun hu => by rw [hu]; rfl⟩
  · exact ⟨rfl, fun _ => rfl⟩

theorem receive_transparent (g : Guards) (Dc : Decoders) (st : State) (w p : Bytes) (facts : LpFacts) (t : Nat)
    (hlp : Dc.lp w = .ok facts) (hn : facts.nack = none) (hf : facts.fragment = some p) (htl : Dc.tl p = .ok t)
    (hne : t ≠ g.lpType) :
    receive g Dc st g.lpType w = receiveNet g Dc st none facts.pitToken t p ∧
    receive g Dc st t p = receiveNet g Dc st none none t p ∧
    eraseRes (receive g Dc st g.lpType w) = eraseRes (receive g Dc st t p) ∧
    (g.usesPitToken = false ∨ facts.pitToken = none → receive g Dc st g.lpType w = receive g Dc st t p) := by
  have h1 : receive g Dc st g.lpType w = receiveNet g Dc st none facts.pitToken t p := by
    rw [receive_lp g Dc st w p facts hlp hf, htl, hn]
    rfl
  have h2 : receive g Dc st t p = receiveNet g Dc st none none t p := by simp [receive, hne]
  refine ⟨h1, h2, ?_, fun h => ?_⟩
  · rw [h1, h2]; exact (receiveNet_token_irrelevant ..).1
  · rw [h1, h2]
    rcases h with h | h
    · exact (receiveNet_token_irrelevant ..).2 h
    · rw [h]

/-- the pending Interests that a Nack enclosing an Interest named `N` names: an Interest with an implicit
    digest is filed under its name without the digest component, so these are the entries of that node
    asking for exactly the digest of `N` (or for none when `N` has none) -/
def named (st : State) (N : NameKey) : List Pending :=
  match PyDict.get? st.pit (splitDigest N).1 with
  | some node => node.filter fun p => p.digest == (splitDigest N).2
  | none => []

/-- the table after those entries are gone (the node disappears with its last entry) -/
def afterNack (st : State) (N : NameKey) : State :=
  match PyDict.get? st.pit (splitDigest N).1 with
  | some node =>
    { st with pit :=
        if (node.filter fun p => !(p.digest == (splitDigest N).2)).isEmpty then PyDict.erase st.pit (splitDigest N).1
        else PyDict.set st.pit (splitDigest N).1 (node.filter fun p => !(p.digest == (splitDigest N).2)) }
  | none => st

theorem receiveNet_nack (g : Guards) (hdg : g.nackByDigest = true) (hk : PyErr.keyError ∈ g.caughtNackLookup)
    (Dc : Decoders) (st : State) (r : Nat) (tok : Option Bytes) (t : Nat) (p : Bytes) :
    receiveNet g Dc st (some r) tok t p = guarded g.caughtNackInterest st (Dc.interest p) fun i =>
      .ok (afterNack st i.name, (named st i.name).map fun q => Effect.nacked q.id r) := by
  simp only [receiveNet]
  congr 1
  funext i
  simp only [onNack, nackNode, nackSplit, hdg, if_true, hk, named, afterNack]
  cases PyDict.get? st.pit (splitDigest i.name).1 <;> rfl

end Ndn.C10
