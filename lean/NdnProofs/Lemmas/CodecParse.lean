import NdnProofs.Lemmas.Codec
import NdnProofs.Lemmas.NameWire
/-! What the scan loop consults besides the header of an element (Lemmas/TlNum `head_elem`): the field search
    (`findField_ok`: with distinct Type numbers it finds the field from any position not behind it); the marker
    bookkeeping, which changes nothing where no OffsetMarker is passed over (`skipMarkers_noop`); name decoding, which
    is `Name.decode` (`decodeName_eq`), whose lemmas live in Lemmas/NameWire. -/
namespace Ndn.Codec
open Ndn

theorem nodupB_cons {a : Nat} {r : List Nat} (h : nodupB (a :: r) = true) : a ∉ r ∧ nodupB r = true := by
  simp [nodupB] at h; exact h

theorem mem_typs_cons {a : Schema} {r : List Schema} {t : Nat} :
    t ∈ typs (a :: r) ↔ a.typ = some t ∨ t ∈ typs r := by
  rw [typs]; cases a.typ <;> simp [eq_comm]

theorem nodupB_typs_cons {a : Schema} {r : List Schema} (h : nodupB (typs (a :: r)) = true) :
    (∀ t, a.typ = some t → t ∉ typs r) ∧ nodupB (typs r) = true := by
  rw [typs] at h
  cases ha : a.typ with
  | none => rw [ha] at h; exact ⟨fun _ e => (nomatch e), h⟩
  | some t' => rw [ha] at h; exact ⟨fun t e => by cases e; exact (nodupB_cons h).1, (nodupB_cons h).2⟩

theorem mem_typs {fs : List Schema} {j : Nat} {s : Schema} {t : Nat} (h : fs[j]? = some s)
    (ht : s.typ = some t) : t ∈ typs fs := by
  induction fs generalizing j with
  | nil => simp at h
  | cons a r ih =>
    cases j with
    | zero => simp at h; subst h; exact mem_typs_cons.2 (.inl ht)
    | succ j => simp at h; exact mem_typs_cons.2 (.inr (ih h))

/-- One equation for both ways the search passes a field: `pos` counts down to 0 and stays there. -/
theorem findField_cons (a : Schema) (r : List Schema) (pos t : Nat) :
    findField (a :: r) pos t =
      if pos = 0 ∧ a.typ = some t then some 0 else (findField r (pos - 1) t).map (· + 1) := by
  rw [findField]
  by_cases hp : pos = 0
  · subst hp; by_cases ht : a.typ = some t <;> simp [ht]
  · simp [hp]

theorem findField_ok (fs : List Schema) (pos i : Nat) (s : Schema) (t : Nat) (hn : nodupB (typs fs) = true)
    (h : fs[i]? = some s) (ht : s.typ = some t) (hp : pos ≤ i) : findField fs pos t = some i := by
  induction fs generalizing pos i with
  | nil => simp at h
  | cons a r ih =>
    rw [findField_cons]
    cases i with
    | zero =>
      simp at h; subst h
      exact if_pos ⟨Nat.le_zero.1 hp, ht⟩
    | succ i =>
      simp at h
      obtain ⟨hne, hn'⟩ := nodupB_typs_cons hn
      rw [if_neg fun c => hne t c.2 (mem_typs h ht), ih (pos - 1) i hn' h (Nat.sub_le_of_le_add hp)]
      rfl

theorem findField_get (fs : List Schema) (pos t i : Nat) (h : findField fs pos t = some i) :
    ∃ s, fs[i]? = some s ∧ s.typ = some t := by
  induction fs generalizing pos i with
  | nil => cases h
  | cons a r ih =>
    rw [findField_cons] at h
    by_cases c : pos = 0 ∧ a.typ = some t
    · rw [if_pos c] at h; cases h; exact ⟨a, rfl, c.2⟩
    · rw [if_neg c] at h
      obtain ⟨j, hj, rfl⟩ := Option.map_eq_some_iff.1 h
      exact ih (pos - 1) j hj

theorem findField_none (fs : List Schema) (pos t : Nat) (h : t ∉ typs fs) : findField fs pos t = none := by
  induction fs generalizing pos with
  | nil => rfl
  | cons a r ih =>
    rw [mem_typs_cons, not_or] at h
    rw [findField_cons, if_neg fun c => h.1 c.2, ih (pos - 1) h.2]
    rfl

theorem allFs_get {P : Schema → Bool} {Ps : List Schema → Bool}
    (hcons : ∀ s r, Ps (s :: r) = (P s && Ps r)) :
    ∀ (fs : List Schema) (i : Nat) (s : Schema), Ps fs = true → fs[i]? = some s → P s = true
  | [], _, _, _, h => by simp at h
  | a :: r, 0, s, hp, h => by
    rw [hcons, Bool.and_eq_true] at hp; simp at h; subst h; exact hp.1
  | a :: r, i + 1, s, hp, h => by
    rw [hcons, Bool.and_eq_true] at hp; simp at h; exact allFs_get hcons r i s hp.2 h

def isMarker : Schema → Bool
  | .marker => true
  | _ => false

/-- no OffsetMarker among the fields with index in `[lo, hi)` (same recursion as `skipMarkers`) -/
def noMarkerIn : List Schema → Nat → Nat → Bool
  | [], _, _ => true
  | s :: ss, lo, hi => (if lo = 0 ∧ 0 < hi then !isMarker s else true) && noMarkerIn ss (lo - 1) (hi - 1)

theorem skipMarkers_nil (vs : List Value) (lo hi off : Nat) : skipMarkers [] vs lo hi off = vs := by
  unfold skipMarkers; rfl

theorem skipMarkers_noop : ∀ (fs : List Schema) (acc : List Value) (lo hi off : Nat),
    noMarkerIn fs lo hi = true → skipMarkers fs acc lo hi off = acc
  | [], _, _, _, _, _ => skipMarkers_nil ..
  | _ :: _, [], _, _, _, _ => by unfold skipMarkers; rfl
  | s :: ss, v :: vs, lo, hi, off, h => by
    simp only [noMarkerIn, Bool.and_eq_true] at h
    simp only [skipMarkers, skipMarkers_noop ss vs _ _ _ h.2]
    by_cases hc : lo = 0 ∧ 0 < hi
    · have hm := h.1
      rw [if_pos hc] at hm ⊢
      cases s <;> first | rfl | exact absurd hm (by decide)
    · rw [if_neg hc]

theorem noMarkerIn_of_forall : ∀ (fs : List Schema) (lo hi : Nat),
    (∀ s ∈ fs, isMarker s = false) → noMarkerIn fs lo hi = true
  | [], _, _, _ => rfl
  | s :: ss, lo, hi, h => by
    simp only [noMarkerIn, h s (List.mem_cons_self ..), Bool.not_false, ite_self, Bool.true_and,
      noMarkerIn_of_forall ss _ _ fun x hx => h x (List.mem_cons_of_mem _ hx)]

/-- a well-formed schema has no marker -/
theorem noMarkerIn_of_wf (fs : List Schema) (lo hi : Nat) (h : wfFs fs = true) : noMarkerIn fs lo hi = true :=
  noMarkerIn_of_forall fs lo hi fun s hs => by
    obtain ⟨i, hi⟩ := List.getElem?_of_mem hs
    have := allFs_get (fun _ _ => by rw [wfFs]) fs i s h hi
    cases s <;> first | rfl | cases this

theorem skipMarkers_id (fs : List Schema) (acc : List Value) (lo hi off : Nat) (h : wfFs fs = true) :
    skipMarkers fs acc lo hi off = acc :=
  skipMarkers_noop fs acc lo hi off (noMarkerIn_of_wf fs lo hi h)

theorem compOk_iff {c : Bytes} : compOk c = true ↔ IsElem c := by
  unfold compOk IsElem
  rw [elemLen_ok_iff]
  constructor
  · intro h
    cases h1 : parseTlNum c 0 with
    | error e => rw [h1] at h; cases h
    | ok p =>
      obtain ⟨t, st⟩ := p
      rw [h1] at h
      dsimp only at h
      cases h2 : parseTlNum c st with
      | error e => rw [h2] at h; cases h
      | ok q =>
        obtain ⟨lc, sl⟩ := q
        rw [h2] at h
        exact ⟨t, st, lc, sl, rfl, by rwa [Nat.zero_add], by simpa using h⟩
  · rintro ⟨t, st, lc, sl, h1, h2, e⟩
    rw [Nat.zero_add] at h2
    simp only [h1, h2, e, beq_self_eq_true]

theorem compOk_tlv (t : Nat) (b : Bytes) (ht : t < 2 ^ 64) (hb : b.length < 2 ^ 64) : compOk (tlv t b) = true :=
  compOk_iff.mpr (isElem_tlv t b ht hb)

theorem decodeComps_succ (buf : Bytes) (fuel off L : Nat) :
    decodeComps (fuel + 1) buf off L =
      if L = 0 then .ok []
      else elemLen buf off >>= fun n =>
        if n > L then .error .indexError
        else (pySlice buf off (off + n) :: ·) <$> decodeComps fuel buf (off + n) (L - n) := by
  rw [decodeComps, elemLen]
  split
  · rfl
  · rw [bind_assoc]
    refine bind_congr fun ⟨t, st⟩ => ?_
    dsimp only
    rw [bind_assoc]
    refine bind_congr fun ⟨lc, sl⟩ => ?_
    rfl

/-- the codec's component loop is the loop of `Name.decode` without the running offset -/
theorem decodeComps_eq (buf : Bytes) : ∀ (fuel off L : Nat) (acc : List Bytes),
    (acc ++ ·) <$> decodeComps fuel buf off L = (·.1) <$> Name.decodeLoop buf fuel off L acc := by
  intro fuel
  induction fuel with
  | zero => intro off L acc; rfl
  | succ f ih =>
    intro off L acc
    rw [decodeComps_succ, decodeLoop_succ]
    split
    · show Except.ok (acc ++ []) = Except.ok acc
      rw [List.append_nil]
    · rw [map_bind, map_bind]
      refine bind_congr fun n => ?_
      split
      · rfl
      · rw [← ih, ← comp_map]
        congr 1
        funext r
        simp

theorem decodeName_eq (buf : Bytes) (off : Nat) : decodeName buf off = (·.1) <$> Name.decodeAt buf off := by
  rw [decodeName, Name.decodeAt, map_bind]
  refine bind_congr fun ⟨typ, st⟩ => ?_
  dsimp only
  by_cases ht : typ ≠ 7
  · rw [if_pos ht, if_pos (show typ ≠ Name.TYPE_NAME from ht)]; rfl
  · rw [if_neg ht, if_neg (show ¬ typ ≠ Name.TYPE_NAME from ht), map_bind]
    refine bind_congr fun ⟨length, sl⟩ => ?_
    dsimp only
    by_cases hl : length > buf.length - (off + st + sl)
    · rw [if_pos hl, if_pos hl]; rfl
    · have := decodeComps_eq buf (length + 1) (off + st + sl) length []
      rw [if_neg hl, if_neg hl]
      cases hd : decodeComps (length + 1) buf (off + st + sl) length <;>
        cases hm : Name.decodeLoop buf (length + 1) (off + st + sl) length [] <;> rw [hd, hm] at this <;> cases this <;> rfl

theorem decodeName_ok (cs : List Bytes) (R : Bytes) (hall : cs.all compOk = true)
    (hl : (concatB cs).length < 2 ^ 64) : decodeName (tlv 7 (concatB cs) ++ R) 0 = .ok cs := by
  rw [concatB_eq_flatten] at hl ⊢
  rw [decodeName_eq, decodeAt_zero]
  have := decode_encode_append cs (fun c hc => compOk_iff.1 (List.all_eq_true.1 hall c hc)) hl R
  rw [Name.encode] at this
  rw [tlv]
  exact congrArg (Except.map (·.1)) this

end Ndn.Codec
