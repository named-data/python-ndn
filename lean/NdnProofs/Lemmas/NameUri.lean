import NdnModel.Name
/-! The text primitives under `Component.from_str` / `to_str`: decimal (`pyInt_toDec`), hex (`pyHex_spec`), `splitEq`, percent
    escaping.  Escaping is proved by argument, not by a sweep over the 256 bytes: the sixteen hex digits are checked once
    (`hexDigit_fin`), a byte is its two nibbles, and `unescape` reads a concatenation piece by piece (`unescape_flatMap`).
    In front of them the generated character table read as ranges (`charset_ranges`, `inCharset_eq`). -/
namespace Ndn

/-! The character set `lean/NdnGen/C09.lean` generates from `Component.py`, as the name model consumes it: the generated
    table is seven ranges of code points, and membership in ranges is the description the proofs use. -/

theorem char_beq_toNat (c d : Char) : (c == d) = (c.toNat == d.toNat) := by
  by_cases h : c = d
  · subst h; simp
  · have : c.toNat ≠ d.toNat := fun h' => h (Char.ext (UInt32.toNat_inj.mp h'))
    rw [beq_eq_false_iff_ne.mpr h, beq_eq_false_iff_ne.mpr this]

theorem charset_lt : ∀ x ∈ Gen.C09.charset, x < 128 := by decide

/-- `% - .`, the digits, `=`, `A`–`Z`, `_`, `a`–`z`, `~` -/
theorem charset_ranges : Gen.C09.charset =
    [37, 45, 46] ++ List.range' 48 10 ++ [61] ++ List.range' 65 26 ++ [95] ++ List.range' 97 26 ++ [126] := by
  decide +kernel

theorem contains_range' (s k n : Nat) : (List.range' s (k + 1)).contains n = (decide (s ≤ n) && decide (n ≤ s + k)) := by
  rw [Bool.eq_iff_iff, List.contains_iff_mem, List.mem_range'_1, Bool.and_eq_true, decide_eq_true_eq, decide_eq_true_eq,
    ← Nat.add_assoc, Nat.lt_succ_iff]

theorem charset_contains (n : Nat) :
    Gen.C09.charset.contains n =
      ((65 ≤ n && n ≤ 90) || (97 ≤ n && n ≤ 122) || (48 ≤ n && n ≤ 57) ||
        n == 45 || n == 46 || n == 95 || n == 126 || n == 61 || n == 37) := by
  rw [charset_ranges]
  simp only [List.contains_append, contains_range', List.contains_cons, List.contains_nil, Bool.or_false, Nat.reduceAdd]
  ac_rfl

theorem inCharset_eq (c : Char) :
    inCharset c = (isAsciiLetter c || isAsciiDigit c ||
      c == '-' || c == '.' || c == '_' || c == '~' || c == '=' || c == '%') := by
  simp only [inCharset, charset_contains, isAsciiLetter, isAsciiDigit, char_beq_toNat]
  rfl

def decFold (acc : Nat) (s : Str) : Nat := s.foldl (fun a c => a * 10 + digitVal c) acc

theorem isAsciiDigit_ofNat (d : Nat) (h : d < 10) : isAsciiDigit (Char.ofNat (48 + d)) = true := by
  have : ∀ d : Fin 10, isAsciiDigit (Char.ofNat (48 + d.val)) = true := by decide
  exact this ⟨d, h⟩

theorem digitVal_ofNat (d : Nat) (h : d < 10) : digitVal (Char.ofNat (48 + d)) = d := by
  have : ∀ d : Fin 10, digitVal (Char.ofNat (48 + d.val)) = d.val := by decide
  exact this ⟨d, h⟩

theorem toDecAux_fuel : ∀ (n f g : Nat), n < f → n < g → toDecAux f n = toDecAux g n := by
  intro n
  induction n using Nat.strongRecOn with
  | _ n ih =>
    intro f g hf hg
    cases f with
    | zero => omega
    | succ f =>
      cases g with
      | zero => omega
      | succ g =>
        simp only [toDecAux]
        split
        · rfl
        · rw [ih (n / 10) (by omega) f g (by omega) (by omega)]

theorem toDec_eq (n : Nat) :
    toDec n = if n < 10 then [Char.ofNat (48 + n)] else toDec (n / 10) ++ [Char.ofNat (48 + n % 10)] := by
  unfold toDec
  rw [toDecAux]
  split
  · rfl
  · rw [toDecAux_fuel (n / 10) n (n / 10 + 1) (by omega) (by omega)]

theorem toDec_digits (n : Nat) : ∀ c ∈ toDec n, isAsciiDigit c = true := by
  induction n using Nat.strongRecOn with
  | _ n ih =>
    intro c hc
    rw [toDec_eq] at hc
    split at hc
    · simp at hc; subst hc; exact isAsciiDigit_ofNat n (by omega)
    · simp at hc
      rcases hc with hc | hc
      · exact ih (n / 10) (by omega) c hc
      · subst hc; exact isAsciiDigit_ofNat _ (by omega)

theorem toDec_ne_nil (n : Nat) : toDec n ≠ [] := by
  rw [toDec_eq]; split <;> simp

theorem decFold_toDec (n : Nat) : decFold 0 (toDec n) = n := by
  induction n using Nat.strongRecOn with
  | _ n ih =>
    rw [toDec_eq]
    split
    · simp [decFold, digitVal_ofNat n (by omega)]
    · have := ih (n / 10) (by omega)
      simp only [decFold, List.foldl_append, List.foldl_cons, List.foldl_nil] at this ⊢
      rw [this, digitVal_ofNat _ (by omega)]; omega

theorem toDec_length_le (k : Nat) : ∀ n, n < 10 ^ (k + 1) → (toDec n).length ≤ k + 1 := by
  induction k with
  | zero => intro n h; rw [toDec_eq]; simp at h; simp [h]
  | succ k ih =>
    intro n h
    rw [toDec_eq]
    split
    · simp
    · have : n / 10 < 10 ^ (k + 1) := by
        apply Nat.div_lt_of_lt_mul
        rw [Nat.pow_succ] at h; omega
      have := ih _ this
      simp; omega

theorem pyDigitsLoop_digits (s : Str) (hs : ∀ c ∈ s, isAsciiDigit c = true) :
    ∀ acc, pyDigitsLoop acc s = some (decFold acc s) := by
  induction s with
  | nil => intro acc; simp [pyDigitsLoop, decFold]
  | cons c r ih =>
    intro acc
    have hc := hs c (by simp)
    rw [pyDigitsLoop.eq_def]
    simp only [hc, if_true]
    rw [ih (fun x hx => hs x (by simp [hx]))]
    simp [decFold]

theorem toDec_head (n : Nat) : ∃ c r, toDec n = c :: r ∧ isAsciiDigit c = true := by
  match h : toDec n with
  | [] => exact absurd h (toDec_ne_nil n)
  | c :: r => exact ⟨c, r, rfl, toDec_digits n c (by simp [h])⟩

/-- `int(str(n)) = n` below 2^64 (twenty digits, far from the 4300-digit limit) -/
theorem pyNat_toDec (n : Nat) (h : n < 2^64) : pyNat (toDec n) = some n := by
  have hd := toDec_digits n
  have hl : (toDec n).length ≤ 20 := toDec_length_le 19 n (by
    have : (2:Nat)^64 < 10^(19+1) := by decide
    omega)
  have hv := decFold_toDec n
  obtain ⟨c, r, e, hc⟩ := toDec_head n
  rw [e] at hd hl hv ⊢
  unfold pyNat
  simp only [hc, Bool.not_true, Bool.false_eq_true, if_false]
  rw [List.filter_eq_self.mpr hd]
  have : ¬ ((c :: r).length > pyIntMaxStrDigits) := by simp [pyIntMaxStrDigits] at *; omega
  simp only [this, if_false]
  rw [pyDigitsLoop_digits r (fun x hx => hd x (by simp [hx]))]
  simp [decFold] at hv ⊢
  exact hv

theorem pyInt_toDec (n : Nat) (h : n < 2^64) : pyInt (toDec n) = some (n : Int) := by
  obtain ⟨c, r, e, hc⟩ := toDec_head n
  have hp := pyNat_toDec n h
  rw [e] at hp ⊢
  unfold pyInt
  have : c ≠ '-' := by intro h; subst h; revert hc; decide
  simp [this, hp]

theorem splitEq_append (a b : Str) (ha : ∀ c ∈ a, c ≠ '=') : splitEq (a ++ '=' :: b) = some (a, b) := by
  induction a with
  | nil => simp [splitEq]
  | cons c a ih =>
    have hc := ha c (by simp)
    simp [splitEq, hc, ih (fun x hx => ha x (by simp [hx]))]

theorem splitEq_none (a : Str) (ha : ∀ c ∈ a, c ≠ '=') : splitEq a = none := by
  induction a with
  | nil => simp [splitEq]
  | cons c a ih =>
    have hc := ha c (by simp)
    simp [splitEq, hc, ih (fun x hx => ha x (by simp [hx]))]

theorem inCharset_ne_slash (c : Char) (h : inCharset c = true) : c ≠ '/' := by
  intro e; rw [e] at h; revert h; decide

theorem toDec_chars (n : Nat) : ∀ c ∈ toDec n, inCharset c = true ∧ c ≠ '=' := by
  intro c hc
  have h := toDec_digits n c hc
  refine ⟨by simp [inCharset_eq, h], ?_⟩
  intro e; rw [e] at h; revert h; decide

open Comp

theorem unescape_plain (c : Char) (r : Str) (h : c ≠ '%') :
    unescape (c :: r) = (unescape r).map fun bs => UInt8.ofNat c.toNat :: bs := by
  rw [unescape.eq_def]
  simp only [h, if_false]

theorem unescape_pct (x y : Char) (r : Str) (a : UInt8) (h : pyHexByte x y = some a) :
    unescape ('%' :: x :: y :: r) = (unescape r).map fun bs => a :: bs := by
  rw [unescape.eq_def]
  simp only [if_true, h]
  cases unescape r <;> rfl

theorem unescape_flatMap {α} (f : α → Str) (d : α → Bytes) (l : List α)
    (h : ∀ a ∈ l, ∀ r, unescape (f a ++ r) = (unescape r).map fun bs => d a ++ bs) (r : Str) :
    unescape (l.flatMap f ++ r) = (unescape r).map fun bs => l.flatMap d ++ bs := by
  induction l with
  | nil => simp
  | cons a l ih =>
    rw [List.flatMap_cons, List.append_assoc, h a (by simp), ih (fun x hx => h x (by simp [hx]))]
    cases unescape r <;> simp

theorem hexDigit_fin : ∀ n : Fin 16, ∀ c ∈ [hexLower n.val, hexUpper n.val],
    hexVal? c = some n.val ∧ inCharset c = true ∧ c ≠ '=' := by decide +kernel

theorem byte_nibbles (b : UInt8) : UInt8.ofNat (b.toNat / 16 * 16 + b.toNat % 16) = b := by
  rw [Nat.mul_comm, Nat.div_add_mod, UInt8.ofNat_toNat]

theorem pyHex_cons (b : UInt8) (v : Bytes) :
    pyHex (b :: v) = hexLower (b.toNat / 16) :: hexLower (b.toNat % 16) :: pyHex v := by
  simp [pyHex]

theorem pyHex_spec (v : Bytes) : pyFromHex (pyHex v) = some v ∧ ∀ c ∈ pyHex v, inCharset c = true ∧ c ≠ '=' := by
  induction v with
  | nil => exact ⟨rfl, fun c hc => by simp [pyHex] at hc⟩
  | cons b v ih =>
    have hb := b.toNat_lt
    have hi := hexDigit_fin ⟨b.toNat / 16, by omega⟩ (hexLower (b.toNat / 16)) (by simp)
    have lo := hexDigit_fin ⟨b.toNat % 16, by omega⟩ (hexLower (b.toNat % 16)) (by simp)
    rw [pyHex_cons]
    constructor
    · rw [pyFromHex, ih.1]
      simp only [hi.1, lo.1, byte_nibbles]
    · intro c hc
      simp only [List.mem_cons] at hc
      rcases hc with rfl | rfl | hc
      · exact hi.2
      · exact lo.2
      · exact ih.2 c hc

theorem pctByte_spec (b : UInt8) :
    (∀ c ∈ pctByte b, inCharset c = true ∧ c ≠ '=') ∧
    (∀ r, unescape (pctByte b ++ r) = (unescape r).map fun bs => b :: bs) := by
  have hb := b.toNat_lt
  have hi := hexDigit_fin ⟨b.toNat / 16, by omega⟩ (hexUpper (b.toNat / 16)) (by simp)
  have lo := hexDigit_fin ⟨b.toNat % 16, by omega⟩ (hexUpper (b.toNat % 16)) (by simp)
  constructor
  · intro c hc
    simp only [pctByte, List.mem_cons, List.not_mem_nil, or_false] at hc
    rcases hc with rfl | rfl | rfl
    · decide
    · exact hi.2
    · exact lo.2
  · intro r
    refine unescape_pct _ _ r b ?_
    simp only [pyHexByte, hi.1, lo.1, byte_nibbles]

theorem escByte_eq (b : UInt8) :
    escByte b = if inCharset (Char.ofNat b.toNat) && Char.ofNat b.toNat != '%' && Char.ofNat b.toNat != '='
      then [Char.ofNat b.toNat] else pctByte b := rfl

theorem toNat_ofNat_byte (b : UInt8) : (Char.ofNat b.toNat).toNat = b.toNat := by
  have : b.toNat.isValidChar := Or.inl (by have := b.toNat_lt; omega)
  simp [Char.ofNat, this, Char.toNat, Char.ofNatAux]

theorem escByte_spec (b : UInt8) :
    (∀ c ∈ escByte b, inCharset c = true ∧ c ≠ '=') ∧
    (∀ r, unescape (escByte b ++ r) = (unescape r).map fun bs => b :: bs) ∧ escByte b ≠ [] := by
  rw [escByte_eq]
  split
  · rename_i h
    simp only [Bool.and_eq_true, bne_iff_ne, ne_eq] at h
    obtain ⟨⟨hin, hpct⟩, heq⟩ := h
    refine ⟨?_, ?_, by simp⟩
    · intro c hc
      rw [List.mem_singleton.mp hc]
      exact ⟨hin, heq⟩
    · intro r
      rw [List.singleton_append, unescape_plain _ r hpct, toNat_ofNat_byte, UInt8.ofNat_toNat]
  · exact ⟨(pctByte_spec b).1, (pctByte_spec b).2, by simp [pctByte]⟩

theorem escBytes_chars (v : Bytes) : ∀ c ∈ escBytes v, inCharset c = true ∧ c ≠ '=' := by
  intro c hc
  simp only [escBytes, List.mem_flatMap] at hc
  obtain ⟨b, _, hb⟩ := hc
  exact (escByte_spec b).1 c hb

theorem unescape_escBytes (v : Bytes) : unescape (escBytes v) = some v := by
  have := unescape_flatMap escByte (fun b => [b]) v (fun b _ => (escByte_spec b).2.1) []
  simpa [unescape, escBytes] using this

theorem escBytes_eq_nil (v : Bytes) : escBytes v = [] ↔ v = [] := by
  rw [escBytes, List.flatMap_eq_nil_iff]
  constructor
  · intro h
    cases v with
    | nil => rfl
    | cons b v => exact absurd (h b (by simp)) (escByte_spec b).2.2
  · intro h; subst h; simp

end Ndn
