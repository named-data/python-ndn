import NdnProofs.Lemmas.PacketEnc
/-!
  The ParametersSha256Digest component of an Interest name.  `make_interest` looks for it (`digestPos`), appends the
  all-zero placeholder when it needs one and finds none, writes the digest into it (`placeDigest`) and hands the signer
  the name without it (`nameChunks`); `parse_interest` reports the name without it as covered and its value as the
  digest (`lastDigest`).  All for a name `pre ++ c :: post` that holds its one digest component `c` at any position.
  A name of GenericNameComponents holds none (`genericName`).
-/
namespace Ndn.Packet
open Ndn Ndn.Codec

theorem isDigestComp_tlv (t : Nat) (b : Bytes) (ht : t < 2 ^ 64) : isDigestComp (tlv t b) = (t == 2) := by
  have p1 := parse_tlv_T t b [] ht
  rw [List.append_nil] at p1
  unfold isDigestComp; rw [p1]

theorem compValue_tlv (t : Nat) (b : Bytes) (ht : t < 2 ^ 64) (hb : b.length < 2 ^ 64) : compValue (tlv t b) = b := by
  have p1 := parse_tlv_T t b [] ht
  have p2 := parse_tlv_L t b [] hb
  rw [List.append_nil] at p1 p2
  unfold compValue; simp only [p1, p2]
  exact tlv_drop_header t b

/-- the ParametersSha256Digest component with value `d` -/
theorem digestComp_eq_tlv {d : Bytes} (hd : d.length = 32) : 2 :: 32 :: d = tlv 2 d := by
  rw [tlv, hd]; rfl

theorem digestComp_compOk (d : Bytes) (hd : d.length = 32) : compOk (2 :: 32 :: d) = true := by
  rw [digestComp_eq_tlv hd]; exact compOk_tlv 2 d (by decide) (by omega)

theorem digestComp_isDigest (d : Bytes) (hd : d.length = 32) : isDigestComp (2 :: 32 :: d) = true := by
  rw [digestComp_eq_tlv hd]; exact isDigestComp_tlv 2 d (by decide)

theorem digestComp_value (d : Bytes) (hd : d.length = 32) : compValue (2 :: 32 :: d) = d := by
  rw [digestComp_eq_tlv hd]; exact compValue_tlv 2 d (by decide) (by omega)

theorem digestPos_no_digest (need : Bool) (acc : Option Nat) : ∀ (l : List Bytes) (i : Nat),
    (∀ c ∈ l, isDigestComp c = false) → digestPos need l i acc = .ok acc
  | [], _, _ => rfl
  | c :: r, i, h => by
    simp only [digestPos, h c (List.mem_cons_self ..), Bool.false_eq_true, if_false]
    exact digestPos_no_digest need acc r (i + 1) (fun x hx => h x (List.mem_cons_of_mem _ hx))

theorem digestPos_at : ∀ (pre : List Bytes) (c : Bytes) (post : List Bytes) (i : Nat),
    (∀ x ∈ pre, isDigestComp x = false) → isDigestComp c = true → (∀ x ∈ post, isDigestComp x = false) →
    digestPos true (pre ++ c :: post) i none = .ok (some (i + pre.length))
  | [], c, post, i, _, hc, hpost => by
    simp only [List.nil_append, digestPos, hc, if_true, and_self, List.length_nil, Nat.add_zero]
    exact digestPos_no_digest true (some i) post (i + 1) hpost
  | p :: r, c, post, i, hpre, hc, hpost => by
    simp only [List.cons_append, digestPos, hpre p (List.mem_cons_self ..), Bool.false_eq_true, if_false]
    rw [digestPos_at r c post (i + 1) (fun x hx => hpre x (List.mem_cons_of_mem _ hx)) hc hpost,
      List.length_cons, Nat.add_assoc, Nat.add_comm 1]

/-- The scan never forgets a position: it ends without one only if it started without one and met no digest component
    (the converse of `digestPos_no_digest` at `acc = none`). -/
theorem digestPos_ok_none (need : Bool) : ∀ (name : List Bytes) (i : Nat) (acc : Option Nat),
    digestPos need name i acc = .ok none → acc = none ∧ ∀ c ∈ name, isDigestComp c = false
  | [], _, _, h => ⟨Except.ok.inj h, fun _ hc => nomatch hc⟩
  | x :: r, i, acc, h => by
    rw [digestPos] at h
    by_cases hx : isDigestComp x = true
    · rw [if_pos hx] at h
      split at h
      · exact nomatch (digestPos_ok_none need r (i + 1) (some i) h).1
      · exact nomatch h
    · rw [if_neg hx] at h
      obtain ⟨ha, hr⟩ := digestPos_ok_none need r (i + 1) acc h
      exact ⟨ha, List.forall_mem_cons.mpr ⟨Bool.eq_false_iff.mpr hx, hr⟩⟩

/-- `InterestNameField.encoded_length` found no digest component ⇒ the name has none -/
theorem digestPos_none (need : Bool) : ∀ (name : List Bytes) (i : Nat),
    digestPos need name i none = .ok none → ∀ c ∈ name, isDigestComp c = false :=
  fun name i h => (digestPos_ok_none need name i none h).2

theorem placeDigest_at : ∀ (pre : List Bytes) (c : Bytes) (post : List Bytes) (d : Bytes),
    placeDigest (pre ++ c :: post) pre.length d = pre ++ (c.take 2 ++ d ++ c.drop 34) :: post
  | [], c, post, d => by simp [placeDigest]
  | p :: r, c, post, d => by simp [placeDigest, placeDigest_at r c post d]

theorem placeDigest_placeholder (pre post : List Bytes) (x d : Bytes) (hx : x.length = 32) :
    placeDigest (pre ++ (2 :: 32 :: x) :: post) pre.length d = pre ++ (2 :: 32 :: d) :: post := by
  rw [placeDigest_at]
  have : (2 :: 32 :: x).drop 34 = [] := by simp [hx]
  simp [this]

theorem makeInterest_appended (H : Bytes → Bytes) (name : List Bytes) (mid : List Value) (appParam sigInfo : Value)
    (signer : Option SignerOut) (hnd : ∀ c ∈ name, isDigestComp c = false)
    (hneed : (!isNone (effApp signer.isSome appParam)) = true) :
    makeInterest H name mid appParam sigInfo signer =
      makeInterest H (name ++ [digestPlaceholder]) mid appParam sigInfo signer := by
  rw [makeInterest_eq_core H name mid appParam sigInfo signer hneed (digestPos_no_digest true none name 0 hnd),
    makeInterest_eq_core H _ mid appParam sigInfo signer hneed (digestPos_at name digestPlaceholder [] 0 hnd rfl (by simp)),
    Nat.zero_add]
  rfl

theorem placeDigest_take_drop : ∀ (l : List Bytes) (i : Nat) (d : Bytes),
    (placeDigest l i d).take i = l.take i ∧ (placeDigest l i d).drop (i + 1) = l.drop (i + 1)
  | [], _, _ => by simp [placeDigest]
  | _ :: _, 0, _ => by simp [placeDigest]
  | c :: r, i + 1, d => by
    have := placeDigest_take_drop r i d
    simp [placeDigest, this.1, this.2]

theorem nameChunks_placeDigest (l : List Bytes) (i : Nat) (d : Bytes) :
    nameChunks (placeDigest l i d) (some i) = nameChunks l (some i) := by
  simp only [nameChunks, (placeDigest_take_drop l i d).1, (placeDigest_take_drop l i d).2]

theorem concatB_chunk (a : Bytes) : concatB (if a.isEmpty then [] else [a]) = a := by
  cases a <;> simp [concatB]

theorem concatB_nameChunks_at (pre post : List Bytes) (c : Bytes) :
    concatB (nameChunks (pre ++ c :: post) (some pre.length)) = concatB pre ++ concatB post := by
  have h1 : (pre ++ c :: post).take pre.length = pre := List.take_left' rfl
  have h2 : (pre ++ c :: post).drop (pre.length + 1) = post := by
    rw [← List.drop_drop, List.drop_left' rfl]; rfl
  simp only [nameChunks, h1, h2, concatB_app, concatB_chunk]

theorem concatB_at_length (pre post : List Bytes) (c : Bytes) :
    (concatB (pre ++ c :: post)).length = (concatB pre).length + c.length + (concatB post).length := by
  simp [concatB_app, concatB]; omega

theorem filter_nondigest_self (name : List Bytes) (hn : ∀ c ∈ name, isDigestComp c = false) :
    name.filter (fun c => !isDigestComp c) = name :=
  List.filter_eq_self.mpr (fun c hc => by simp [hn c hc])

theorem lastDigest_none : ∀ (name : List Bytes), (∀ c ∈ name, isDigestComp c = false) → lastDigest name = none
  | [], _ => rfl
  | c :: r, h => by
    simp only [lastDigest, lastDigest_none r (fun x hx => h x (List.mem_cons_of_mem _ hx)),
      h c (List.mem_cons_self ..), Bool.false_eq_true, if_false]

theorem lastDigest_at : ∀ (pre post : List Bytes) (d : Bytes), d.length = 32 → (∀ c ∈ post, isDigestComp c = false) →
    lastDigest (pre ++ (2 :: 32 :: d) :: post) = some d
  | [], post, d, hd, h => by
    simp only [List.nil_append, lastDigest, lastDigest_none post h, digestComp_isDigest d hd, digestComp_value d hd,
      if_true]
  | c :: r, post, d, hd, h => by simp only [List.cons_append, lastDigest, lastDigest_at r post d hd h]

theorem filter_nondigest_at (pre post : List Bytes) (d : Bytes) (hd : d.length = 32)
    (hpre : ∀ c ∈ pre, isDigestComp c = false) (hpost : ∀ c ∈ post, isDigestComp c = false) :
    (pre ++ (2 :: 32 :: d) :: post).filter (fun c => !isDigestComp c) = pre ++ post := by
  rw [List.filter_append, filter_nondigest_self pre hpre]
  simp only [List.filter, digestComp_isDigest d hd, Bool.not_true, filter_nondigest_self post hpost]

theorem comps_at_ok (pre post : List Bytes) (d : Bytes) (hpre : pre.all compOk = true)
    (hpost : post.all compOk = true) (hd : d.length = 32) :
    (pre ++ (2 :: 32 :: d) :: post).all compOk = true := by
  simp only [List.all_append, List.all_cons, hpre, hpost, digestComp_compOk d hd, Bool.and_self]

/-- names made of GenericNameComponents (type 8), as `Component.from_bytes` and `Name.from_str` of plain text make them -/
theorem genericComps_ok (vs : List Bytes) (h : ∀ v ∈ vs, v.length < 2 ^ 64) :
    (vs.map (tlv 8)).all compOk = true ∧ ∀ c ∈ vs.map (tlv 8), isDigestComp c = false := by
  constructor
  · rw [List.all_map, List.all_eq_true]
    intro v hv; exact compOk_tlv 8 v (by decide) (h v hv)
  · intro c hc
    obtain ⟨v, hv, rfl⟩ := List.mem_map.mp hc
    exact isDigestComp_tlv 8 v (by decide)

theorem concatB_genericComps_le (vs : List Bytes) :
    (concatB (vs.map (tlv 8))).length ≤ (concatB vs).length + 10 * vs.length := by
  induction vs with
  | nil => exact Nat.le_refl _
  | cons v t ih =>
    have := tlNumSize_cases v.length
    simp only [List.map_cons, concatB, List.length_append, List.length_cons, tlv_length,
      (by decide : tlNumSize 8 = 1)]
    omega

/-- a name of GenericNameComponents whose values have total size at most `B`: what the packet theorems ask of a name,
    and its encoded size -/
theorem genericName (vs : List Bytes) (B : Nat) (h : (concatB vs).length ≤ B) (hB : B < 2 ^ 64) :
    (vs.map (tlv 8)).all compOk = true ∧ (∀ c ∈ vs.map (tlv 8), isDigestComp c = false) ∧
    (concatB (vs.map (tlv 8))).length ≤ B + 10 * vs.length :=
  have ⟨h1, h2⟩ := genericComps_ok vs fun _ hv => Nat.lt_of_le_of_lt (length_le_concatB hv) (Nat.lt_of_le_of_lt h hB)
  ⟨h1, h2, Nat.le_trans (concatB_genericComps_le vs) (Nat.add_le_add_right h _)⟩

end Ndn.Packet
