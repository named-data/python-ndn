import NdnModel.StreamReader
import NdnProofs.Lemmas.TlNum
/-! The readers of the stream framing loop (C06, framing of the concatenated stream).  What `readTlNum` / `readPacket`
    read is a prefix of the stream, and that prefix alone decides the outcome (`readTlNum_prefix`, `readPacket_prefix`);
    `frames` is used without its fuel (`frames_eq`, `frames_induct`); it splits a stream into complete packets and a rest
    that starts with none, and that is the only such split (`frames_unique`). -/
namespace Ndn.Framing
open Ndn
open Ndn.StreamReader (width)

theorem readExactly_iff {s a r : Bytes} {n : Nat} : readExactly s n = some (a, r) ↔ s = a ++ r ∧ a.length = n := by
  unfold readExactly
  constructor
  · intro h
    split at h
    · rename_i hn
      cases h
      exact ⟨(List.take_append_drop n s).symm, List.length_take_of_le hn⟩
    · cases h
  · rintro ⟨rfl, rfl⟩
    rw [if_pos (by rw [List.length_append]; omega), List.take_left, List.drop_left]

theorem readExactly_append (a r : Bytes) : readExactly (a ++ r) a.length = some (a, r) :=
  readExactly_iff.2 ⟨rfl, rfl⟩

theorem readExactly_cancel {a r e : Bytes} {n : Nat} (h : readExactly (a ++ r) n = some (a, r)) :
    readExactly (a ++ e) n = some (a, e) :=
  readExactly_iff.2 ⟨rfl, (readExactly_iff.1 h).2⟩

theorem readExactly_short {s : Bytes} {n : Nat} (h : s.length < n) : readExactly s n = none :=
  if_neg (by omega)

theorem readTlNum_nil : readTlNum [] = none := rfl

-- `width` is `StreamReader.width`: the `if` that `readTlNum` has inline, under the name `StreamReader.Consistent` uses
theorem readTlNum_cons (c : UInt8) (t : Bytes) : readTlNum (c :: t) =
    if c.toNat ≤ 0xFC then some (c.toNat, [c], t)
    else match readExactly t (width c.toNat) with
      | none => none
      | some (v, r) => some (beVal v, c :: v, r) := by
  have h1 : readExactly (c :: t) 1 = some ([c], t) := readExactly_iff.2 ⟨rfl, rfl⟩
  unfold readTlNum
  rw [h1]
  rfl

theorem readTlNum_one (b : UInt8) (rest : Bytes) (h : b.toNat ≤ 0xFC) :
    readTlNum (b :: rest) = some (b.toNat, [b], rest) := by
  rw [readTlNum_cons, if_pos h]

theorem readTlNum_none_of_short (b : UInt8) (buf : Bytes) (h : 0xFC < b.toNat) (hl : buf.length < width b.toNat) :
    readTlNum (b :: buf) = none := by
  rw [readTlNum_cons, if_neg (by omega), readExactly_short hl]

theorem readTlNum_long (b : UInt8) (d rest : Bytes) (h : 0xFC < b.toNat) (hl : d.length = width b.toNat) :
    readTlNum (b :: (d ++ rest)) = some (beVal d, b :: d, rest) := by
  rw [readTlNum_cons, if_neg (by omega), ← hl, readExactly_append]

theorem readTlNum_prefix {s b r : Bytes} {x : Nat} (h : readTlNum s = some (x, b, r)) :
    s = b ++ r ∧ 1 ≤ b.length ∧ ∀ e, readTlNum (b ++ e) = some (x, b, e) := by
  cases s with
  | nil => cases h
  | cons c t =>
    rw [readTlNum_cons] at h
    split at h
    · rename_i hc
      cases h
      exact ⟨rfl, Nat.le_refl _, fun e => readTlNum_one c e hc⟩
    · rename_i hc
      split at h
      · cases h
      · rename_i v r' h1
        obtain ⟨rfl, hv⟩ := readExactly_iff.1 h1
        cases h
        exact ⟨rfl, Nat.le_add_left _ _, fun e => readTlNum_long c v e (by omega) hv⟩

theorem readTlNum_mono {s b r : Bytes} {x : Nat} (e : Bytes) (h : readTlNum s = some (x, b, r)) :
    readTlNum (s ++ e) = some (x, b, r ++ e) := by
  obtain ⟨rfl, _, hp⟩ := readTlNum_prefix h
  rw [List.append_assoc, hp]

theorem readTlNum_exact {s b r : Bytes} {x : Nat} (h : readTlNum s = some (x, b, r)) :
    readTlNum b = some (x, b, []) := by
  have := (readTlNum_prefix h).2.2 []
  rwa [List.append_nil] at this

theorem readTlNum_write (x : Nat) (rest : Bytes) (hx : x < 2^64) :
    readTlNum (writeTlNum x ++ rest) = some (x, writeTlNum x, rest) := by
  unfold writeTlNum
  split
  · have e : (UInt8.ofNat x).toNat = x := by rw [UInt8.toNat_ofNat']; omega
    have := readTlNum_one (UInt8.ofNat x) rest (by omega)
    rwa [e] at this
  · split
    · have := readTlNum_long 0xFD (be2 x) rest (by decide) rfl
      rwa [beVal_be2 x (by omega)] at this
    · split
      · have := readTlNum_long 0xFE (be4 x) rest (by decide) rfl
        rwa [beVal_be4 x (by omega)] at this
      · have := readTlNum_long 0xFF (be8 x) rest (by decide) rfl
        rwa [beVal_be8 x (by omega)] at this

theorem readPacket_of {t n : Nat} {b1 b2 : Bytes} (h1 : readTlNum b1 = some (t, b1, []))
    (h2 : readTlNum b2 = some (n, b2, [])) (body rest : Bytes) (hl : body.length = n) :
    readPacket (b1 ++ (b2 ++ (body ++ rest))) = some ((t, b1 ++ b2 ++ body), rest) := by
  have e1 := readTlNum_mono (b2 ++ (body ++ rest)) h1
  have e2 := readTlNum_mono (body ++ rest) h2
  rw [List.nil_append] at e1 e2
  unfold readPacket
  rw [e1]; dsimp only
  rw [e2]; dsimp only
  rw [← hl, readExactly_append]

theorem readPacket_none_type {s : Bytes} (h : readTlNum s = none) : readPacket s = none := by
  unfold readPacket
  rw [h]

theorem readPacket_none_length {t : Nat} {b1 s : Bytes} (h1 : readTlNum b1 = some (t, b1, []))
    (h : readTlNum s = none) : readPacket (b1 ++ s) = none := by
  have e1 := readTlNum_mono s h1
  rw [List.nil_append] at e1
  unfold readPacket
  rw [e1]; dsimp only
  rw [h]

theorem readPacket_none_value {t n : Nat} {b1 b2 buf : Bytes} (h1 : readTlNum b1 = some (t, b1, []))
    (h2 : readTlNum b2 = some (n, b2, [])) (hl : buf.length < n) : readPacket (b1 ++ (b2 ++ buf)) = none := by
  have e1 := readTlNum_mono (b2 ++ buf) h1
  have e2 := readTlNum_mono buf h2
  rw [List.nil_append] at e1 e2
  unfold readPacket
  rw [e1]; dsimp only
  rw [e2]; dsimp only
  rw [readExactly_short hl]

theorem readPacket_prefix {s r : Bytes} {p : Nat × Bytes} (h : readPacket s = some (p, r)) :
    s = p.2 ++ r ∧ 2 ≤ p.2.length ∧ ∀ e, readPacket (p.2 ++ e) = some (p, e) := by
  unfold readPacket at h
  split at h
  · cases h
  · rename_i typ b1 r1 h1
    split at h
    · cases h
    · rename_i siz b2 r2 h2
      split at h
      · cases h
      · rename_i body r3 h3
        obtain ⟨rfl, l1, _⟩ := readTlNum_prefix h1
        obtain ⟨rfl, l2, _⟩ := readTlNum_prefix h2
        obtain ⟨rfl, hl⟩ := readExactly_iff.1 h3
        cases h
        refine ⟨by simp only [List.append_assoc], by simp only [List.length_append]; omega, fun e => ?_⟩
        have := readPacket_of (readTlNum_exact h1) (readTlNum_exact h2) body e hl
        simpa only [List.append_assoc] using this

theorem readPacket_mono {s r : Bytes} {p : Nat × Bytes} (e : Bytes) (h : readPacket s = some (p, r)) :
    readPacket (s ++ e) = some (p, r ++ e) := by
  obtain ⟨hs, _, hp⟩ := readPacket_prefix h
  rw [hs, List.append_assoc, hp]

theorem readPacket_exact {s r : Bytes} {p : Nat × Bytes} (h : readPacket s = some (p, r)) :
    readPacket p.2 = some (p, []) := by
  have := (readPacket_prefix h).2.2 []
  rwa [List.append_nil] at this

theorem readPacket_tlv (t : Nat) (v rest : Bytes) (ht : t < 2^64) (hv : v.length < 2^64) :
    readPacket (tlv t v ++ rest) = some ((t, tlv t v), rest) := by
  have h1 := readTlNum_write t [] ht
  have h2 := readTlNum_write v.length [] hv
  rw [List.append_nil] at h1 h2
  have := readPacket_of h1 h2 v rest rfl
  simpa only [tlv, List.append_assoc] using this

theorem readPacket_proper_prefix (t : Nat) (v pre ext : Bytes) (ht : t < 2^64) (hv : v.length < 2^64)
    (hp : pre ++ ext = tlv t v) (hne : ext ≠ []) : readPacket pre = none := by
  cases h : readPacket pre with
  | none => rfl
  | some pr =>
    -- the element read from `pre` would also be read from `pre ++ ext`, which is read as the whole of it
    have h1 := readPacket_mono ext h
    rw [hp, ← List.append_nil (tlv t v), readPacket_tlv t v [] ht hv] at h1
    have h2 : [] = pr.2 ++ ext := congrArg Prod.snd (Option.some.inj h1)
    exact absurd (List.append_eq_nil_iff.1 h2.symm).2 hne

theorem readPacket_length {s r : Bytes} {p : Nat × Bytes} (h : readPacket s = some (p, r)) :
    r.length + 2 ≤ s.length := by
  obtain ⟨rfl, h2, _⟩ := readPacket_prefix h
  rw [List.length_append]; omega

theorem framesFuel_enough : ∀ (f g : Nat) (s : Bytes), s.length < f → s.length < g →
    framesFuel f s = framesFuel g s
  | 0, _, _, h, _ => by omega
  | _, 0, _, _, h => by omega
  | f + 1, g + 1, s, hf, hg => by
    simp only [framesFuel]
    cases h : readPacket s with
    | none => rfl
    | some pr =>
      have := readPacket_length h
      dsimp only
      rw [framesFuel_enough f g pr.2 (by omega) (by omega)]

theorem frames_eq (s : Bytes) :
    frames s = match readPacket s with
      | none => ([], s)
      | some (p, r) => (p :: (frames r).1, (frames r).2) := by
  rw [frames, framesFuel]
  cases h : readPacket s with
  | none => rfl
  | some pr =>
    have := readPacket_length h
    dsimp only
    rw [frames, framesFuel_enough s.length (pr.2.length + 1) pr.2 (by omega) (by omega)]

theorem frames_none {s : Bytes} (h : readPacket s = none) : frames s = ([], s) := by
  rw [frames_eq, h]

theorem frames_some {s r : Bytes} {p : Nat × Bytes} (h : readPacket s = some (p, r)) :
    frames s = (p :: (frames r).1, (frames r).2) := by
  rw [frames_eq, h]

theorem frames_induct {motive : Bytes → Prop} (stop : ∀ s, readPacket s = none → motive s)
    (packet : ∀ s p r, readPacket s = some (p, r) → motive r → motive s) (s : Bytes) : motive s := by
  induction hn : s.length using Nat.strongRecOn generalizing s with
  | _ n ih =>
    cases h : readPacket s with
    | none => exact stop s h
    | some pr =>
      have hl := readPacket_length h
      exact packet s pr.1 pr.2 h (ih pr.2.length (by omega) pr.2 rfl)

theorem frames_append (s e : Bytes) :
    frames (s ++ e) = ((frames s).1 ++ (frames ((frames s).2 ++ e)).1, (frames ((frames s).2 ++ e)).2) := by
  induction s using frames_induct with
  | stop s h => rw [frames_none h]; rfl
  | packet s p r h ih => rw [frames_some h, frames_some (readPacket_mono e h), ih]; rfl

theorem frames_prefix_append (s e : Bytes) : (frames s).1 <+: (frames (s ++ e)).1 := by
  rw [frames_append]; exact List.prefix_append _ _

theorem readPacket_frames_rem (s : Bytes) : readPacket (frames s).2 = none := by
  induction s using frames_induct with
  | stop s h => rw [frames_none h]; exact h
  | packet s p r h ih => rw [frames_some h]; exact ih

theorem frames_frames_rem (s : Bytes) : frames (frames s).2 = ([], (frames s).2) :=
  frames_none (readPacket_frames_rem s)

theorem frames_partition (s : Bytes) : ((frames s).1.map (·.2)).flatten ++ (frames s).2 = s := by
  induction s using frames_induct with
  | stop s h => rw [frames_none h]; rfl
  | packet s p r h ih =>
    rw [frames_some h, List.map_cons, List.flatten_cons, List.append_assoc, ih]
    exact (readPacket_prefix h).1.symm

theorem frames_complete (s : Bytes) : ∀ p ∈ (frames s).1, readPacket p.2 = some (p, []) := by
  induction s using frames_induct with
  | stop s h => rw [frames_none h]; intro p hp; cases hp
  | packet s p r h ih =>
    rw [frames_some h]
    intro q hq
    rcases List.mem_cons.1 hq with rfl | hq
    · exact readPacket_exact h
    · exact ih q hq

-- the converse of `frames_partition`, `frames_complete`, `readPacket_frames_rem` together
theorem frames_unique {s rem : Bytes} {ps : List (Nat × Bytes)} (hc : ∀ p ∈ ps, readPacket p.2 = some (p, []))
    (hr : readPacket rem = none) (hs : (ps.map (·.2)).flatten ++ rem = s) : frames s = (ps, rem) := by
  induction ps generalizing s with
  | nil => subst hs; exact frames_none hr
  | cons p ps ih =>
    subst hs
    have := readPacket_mono ((ps.map (·.2)).flatten ++ rem) (hc p List.mem_cons_self)
    rw [List.map_cons, List.flatten_cons, List.append_assoc, frames_some this, List.nil_append,
      ih (fun q hq => hc q (List.mem_cons_of_mem _ hq)) rfl]

end Ndn.Framing
