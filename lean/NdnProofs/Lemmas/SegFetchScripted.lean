import NdnProofs.Lemmas.SegFetchTimed
/-!
The untimed model as a reading of the generator.  `obsOut` forgets what the four outcomes of `SegFetch` do not tell apart
(`logOut`, `resOut`; the log facts of `SegFetchRounds` survive it: `GoodT.timeout_iff_out`, `GoodT.propagates_out`,
`logOut_count`).  An `ask` is `Scripted` when every Interest comes to the scripted answer to that very Interest (`ownObs`);
then the generator, read through `obsOut`, is `SegFetch.fetch` on the script (`fetch_untimed`).  The script alone is such an
`ask` (`askU`), which is how the generator's theorems reach `SegFetch.fetch` (`fetch_eq_askU`); so is the table when every
answer is prompt (`ask_scripted`).
-/
namespace Ndn.SegFetchT
open Ndn.SegFetch (Req Seg Obj End Outcome)

/-- the untimed reading of an observation -/
def obsOut : Pit.Outcome → Outcome
  | .data d => if idValid d then .data else .invalid
  | .nack _ => .nack
  | _ => .timeout

def rresOut : RRes → SegFetch.RRes
  | .ok _ => .ok
  | .timeout => .timeout
  | .nack => .nack
  | .invalid => .invalid
  | .fuel => .fuel

def logOut (l : List (Req × Pit.Outcome)) : List (Req × Outcome) := l.map fun e => (e.1, obsOut e.2)

def resOut (r : Result) : SegFetch.Result := ⟨r.yielded, logOut r.log, r.end_⟩

theorem logOut_block (q : Req) (l : List Pit.Outcome) :
    logOut (l.map fun o => (q, o)) = (l.map obsOut).map fun o => (q, o) := by
  simp [logOut, Function.comp_def]

theorem logOut_append (a b : List (Req × Pit.Outcome)) : logOut (a ++ b) = logOut a ++ logOut b := by
  simp [logOut]

theorem getLast?_logOut (l : List (Req × Pit.Outcome)) :
    (logOut l).getLast? = l.getLast?.map fun e => (e.1, obsOut e.2) := List.getLast?_map ..

theorem endOf_rresOut (r : RRes) : SegFetch.endOf (rresOut r) = endOf r := by cases r <;> rfl

theorem rresOut_ne_ok {r : RRes} (h : ∀ d, r ≠ .ok d) : rresOut r ≠ .ok := by
  cases r with
  | ok d => exact absurd rfl (h d)
  | _ => simp [rresOut]

theorem obsOut_eq_nack {o : Pit.Outcome} (h : obsOut o = .nack) : ∃ rs, o = .nack rs := by
  cases o with
  | nack rs => exact ⟨rs, rfl⟩
  | data d => simp only [obsOut] at h; split at h <;> cases h
  | _ => cases h

theorem obsOut_eq_invalid {o : Pit.Outcome} (h : obsOut o = .invalid) : ∃ d, o = .data d ∧ idValid d = false := by
  cases o with
  | data d =>
    cases hv : idValid d
    · exact ⟨d, rfl, hv⟩
    · simp [obsOut, hv] at h
  | _ => cases h

theorem GoodT.timeout_iff_out {a : Nat} {lg : List (Req × Pit.Outcome)} {e : End} (ha : 0 < a) (h : GoodT a lg e) :
    e = .timeout ↔ ∃ pre req, logOut lg = pre ++ List.replicate a (req, Outcome.timeout) := by
  constructor
  · intro he
    obtain ⟨pre, req, hl⟩ := (h.timeout_iff ha).mp he
    exact ⟨logOut pre, req, by rw [hl]; simp [logOut, obsOut]⟩
  · rintro ⟨pre', req', h'⟩
    obtain ⟨pre, req, _, g2, _, j, last, rfl, g4, _⟩ := h
    obtain ⟨n, rfl⟩ : ∃ n, a = n + 1 := ⟨a - 1, by omega⟩
    have h1 : (logOut lg).getLast? = some (req', .timeout) := by rw [h', List.replicate_succ']; simp
    rw [getLast?_logOut, g2] at h1
    simp only [List.getLast?_append, List.getLast?_singleton, Option.some_or, Option.map_some, Option.some.injEq,
      Prod.mk.injEq] at h1
    cases e with
    | timeout => rfl
    | fuel => exact g4.elim
    | done => obtain ⟨d, rfl, hv⟩ := g4; simp [obsOut, hv] at h1
    | invalid => obtain ⟨d, rfl, hv⟩ := g4; simp [obsOut, hv] at h1
    | nack => obtain ⟨rs, rfl⟩ := g4; simp [obsOut] at h1

theorem GoodT.propagates_out {a : Nat} {lg : List (Req × Pit.Outcome)} {e : End} (h : GoodT a lg e) :
    (∀ req, (req, Outcome.nack) ∈ logOut lg → e = .nack ∧ (logOut lg).getLast? = some (req, Outcome.nack)) ∧
    (∀ req, (req, Outcome.invalid) ∈ logOut lg → e = .invalid ∧ (logOut lg).getLast? = some (req, Outcome.invalid)) ∧
    (e = .nack → ∃ req, (logOut lg).getLast? = some (req, Outcome.nack)) ∧
    (e = .invalid → ∃ req, (logOut lg).getLast? = some (req, Outcome.invalid)) := by
  obtain ⟨p1, p2, p3, p4⟩ := h.propagates
  refine ⟨fun req hm => ?_, fun req hm => ?_, fun he => ?_, fun he => ?_⟩
  · obtain ⟨⟨q, o⟩, hx, hxe⟩ := List.mem_map.mp hm
    obtain ⟨rfl, ho⟩ := Prod.mk.inj hxe
    obtain ⟨rs, rfl⟩ := obsOut_eq_nack ho
    obtain ⟨e1, e2⟩ := p1 _ rs hx
    exact ⟨e1, by rw [getLast?_logOut, e2]; rfl⟩
  · obtain ⟨⟨q, o⟩, hx, hxe⟩ := List.mem_map.mp hm
    obtain ⟨rfl, ho⟩ := Prod.mk.inj hxe
    obtain ⟨d, rfl, hv⟩ := obsOut_eq_invalid ho
    obtain ⟨e1, e2⟩ := p2 _ d hv hx
    exact ⟨e1, by rw [getLast?_logOut, e2]; simp [obsOut, hv]⟩
  · obtain ⟨req, rs, e⟩ := p3 he
    exact ⟨req, by rw [getLast?_logOut, e]; rfl⟩
  · obtain ⟨req, d, hv, e⟩ := p4 he
    exact ⟨req, by rw [getLast?_logOut, e]; simp [obsOut, hv]⟩

theorem logOut_count (l : List (Req × Pit.Outcome)) (req : Req) :
    ((logOut l).filter fun e => decide (e.1 = req)).length = (l.filter fun e => decide (e.1 = req)).length := by
  simp [logOut, List.filter_map, Function.comp_def]

/-- what the awaitable comes to when the answer to the Interest itself decides -/
def ownObs (C : Cfg) (q : Req) (o : Outcome) : Pit.Outcome :=
  match respond C q o with
  | some (.data _ d) => .data d
  | some (.nack _ r) => .nack r
  | none => .timeout

theorem ownObs_spec (C : Cfg) (q : Req) (b : Bool) :
    (exB C q = false ∧ ownObs C q (bif b then .data else .invalid) = .timeout) ∨
    (exB C q = true ∧ ∃ n d, dataFor C q b = some (.data n d) ∧
      ownObs C q (bif b then .data else .invalid) = .data d ∧ idValid d = b) := by
  have hr : respond C q (bif b then .data else .invalid) = dataFor C q b := by cases b <;> rfl
  unfold ownObs
  rw [hr]
  rcases dataFor_spec C q b with ⟨he, hn⟩ | ⟨he, n, d, hs, hv, _⟩
  · exact .inl ⟨he, by rw [hn]⟩
  · exact .inr ⟨he, n, d, hs, by rw [hs], hv⟩

theorem obsOut_ownObs (C : Cfg) (q : Req) (o : Outcome) : obsOut (ownObs C q o) = SegFetch.eff o (exB C q) := by
  have hd : ∀ b : Bool, obsOut (ownObs C q (bif b then .data else .invalid)) =
      SegFetch.eff (bif b then .data else .invalid) (exB C q) := fun b => by
    rcases ownObs_spec C q b with ⟨he, ho⟩ | ⟨he, n, d, _, ho, hv⟩
    · rw [ho, he]; cases b <;> rfl
    · rw [ho, he]; simp only [obsOut, hv]; cases b <;> rfl
  cases o with
  | nack => rfl
  | timeout => cases h : exB C q <;> simp [ownObs, respond, obsOut, SegFetch.eff]
  | data => exact hd true
  | invalid => exact hd false

theorem ownObs_data {C : Cfg} {q : Req} {o : Outcome} {d : Nat} (h : ownObs C q o = .data d) :
    ∃ b n, dataFor C q b = some (.data n d) := by
  have hd : ∀ b, ownObs C q (bif b then .data else .invalid) = .data d → ∃ n, dataFor C q b = some (.data n d) :=
    fun b hb => by
      rcases ownObs_spec C q b with ⟨_, ho⟩ | ⟨_, n, d', hs, ho, _⟩
      · rw [ho] at hb; cases hb
      · rw [ho] at hb; cases hb; exact ⟨n, hs⟩
  cases o with
  | nack => cases h
  | timeout => cases h
  | data => exact ⟨true, hd true h⟩
  | invalid => exact ⟨false, hd false h⟩

theorem ownObs_disc_segs {C : Cfg} {l : List Seg} (hobj : C.obj = .segs l) {d : Nat} {o : Outcome}
    (h : Pit.Outcome.data d = ownObs C .disc o) : idSeg d = some C.disc := by
  obtain ⟨b, n, hb⟩ := ownObs_data h.symm
  rcases dataFor_spec C .disc b with ⟨_, hn⟩ | ⟨_, _, _, hs, _, _, _, hi⟩
  · rw [hn] at hb; cases hb
  · rw [hs] at hb; cases hb; exact hi l hobj rfl

theorem ownObs_genuine (C : Cfg) (q : Req) (o : Outcome) : Genuine C.obj q (ownObs C q o) := by
  refine ⟨by unfold ownObs; split <;> trivial, fun d h => ?_⟩
  obtain ⟨b, n, hb⟩ := ownObs_data h
  rcases dataFor_spec C q b with ⟨_, hn⟩ | ⟨_, _, _, hs, _, hok, hm, _⟩
  · rw [hn] at hb; cases hb
  · rw [hs] at hb; cases hb; exact (data_genuine hok (hm 0)).2 d rfl

section scripted
variable {W : Type} {ask : W → Req → Pit.Outcome × W} {C : Cfg} {R : W → List Outcome → Prop}

/-- Every Interest comes to the scripted answer to that very Interest; `R w sc`: in world `w` the outcomes still to come
    are `sc`.  Such an `ask` makes the generator the untimed fetcher. -/
def Scripted (ask : W → Req → Pit.Outcome × W) (C : Cfg) (R : W → List Outcome → Prop) : Prop :=
  ∀ w sc q, R w sc → (ask w q).1 = ownObs C q (SegFetch.pop sc).1 ∧ R (ask w q).2 (SegFetch.pop sc).2

theorem Scripted.askOk (hS : Scripted ask C R) : AskOk ask C.obj (fun w => ∃ sc, R w sc) := by
  intro w q ⟨sc, hr⟩
  obtain ⟨h1, h2⟩ := hS w sc q hr
  exact ⟨⟨_, h2⟩, h1 ▸ ownObs_genuine C q _⟩

theorem retry_untimed (hS : Scripted ask C R) (limit : Nat) (q : Req) :
    ∀ (fuel trial : Nat) (w : W) (sc : List Outcome), R w sc →
    rresOut (retryG ask limit q fuel trial w).1 = (SegFetch.retry limit (exB C q) fuel trial sc).1 ∧
    R (retryG ask limit q fuel trial w).2.1 (SegFetch.retry limit (exB C q) fuel trial sc).2.1 ∧
    (retryG ask limit q fuel trial w).2.2.map obsOut = (SegFetch.retry limit (exB C q) fuel trial sc).2.2 ∧
    (∀ d, (retryG ask limit q fuel trial w).1 = .ok d → ∃ o, Pit.Outcome.data d = ownObs C q o) := by
  intro fuel
  induction fuel with
  | zero => intro trial w sc hr; exact ⟨rfl, hr, rfl, nofun⟩
  | succ n ih =>
    intro trial w sc hr
    obtain ⟨h1, h2⟩ := hS w sc q hr
    have hp : Plain (ask w q).1 := h1 ▸ (ownObs_genuine C q _).1
    rw [retryG_succ, SegFetch.retry_succ, ← obsOut_ownObs C q, ← h1]
    cases ho : (ask w q).1 with
    | data d =>
      cases hv : idValid d <;> simp only [obsOut, hv, if_true, Bool.false_eq_true, if_false, List.map_cons, List.map_nil]
      · exact ⟨rfl, h2, trivial, nofun⟩
      · exact ⟨rfl, h2, trivial, fun d' hd' => ⟨_, by cases hd'; rw [← h1, ho]⟩⟩
    | nack r => exact ⟨rfl, h2, rfl, nofun⟩
    | timeout =>
      simp only [obsOut]
      by_cases h : trial + 1 ≥ limit
      · simp only [h, if_true]; exact ⟨rfl, h2, rfl, nofun⟩
      · simp only [h, if_false]
        obtain ⟨i1, i2, i3, i4⟩ := ih (trial + 1) _ _ h2
        exact ⟨i1, i2, by rw [← i3]; rfl, i4⟩
    | _ => rw [ho] at hp; exact hp.elim

theorem loop_untimed (hS : Scripted ask C R) {segs : List Seg} (hobj : C.obj = .segs segs) (limit : Nat) :
    ∀ (fuel i : Nat) (w : W) (sc : List Outcome), R w sc →
    resOut (fetchLoopG ask limit segs fuel i w).1 = SegFetch.fetchLoop limit segs fuel i sc := by
  have hA : AskOk ask (.segs segs) _ := hobj ▸ hS.askOk
  intro fuel
  induction fuel with
  | zero => intro i w sc _; rfl
  | succ n ih =>
    intro i w sc hr
    obtain ⟨c2, c1, c4, _⟩ := retry_untimed hS limit (.seg i) (limit + 1) 0 w sc hr
    have hex : exB C (.seg i) = decide (i < segs.length) := by simp [exB, hobj]
    rw [hex] at c2 c1 c4
    rcases loop_step ask hA limit n i w ⟨sc, hr⟩ rfl with ⟨d, hd, hlt, heq⟩ | ⟨hne, heq⟩
    · rw [hd] at c2
      obtain ⟨_, hu⟩ := SegFetch.fetchLoop_ok rfl c2.symm n
      rw [heq, hu, ← c4, ← ih (i + 1) _ _ c1]
      by_cases hf : segs[i].fbi = some i
      · simp only [hf, if_true, resOut, logOut_block]
      · simp only [hf, if_false, resOut, logOut_append, logOut_block]
    · rw [heq, SegFetch.fetchLoop_fail rfl (c2 ▸ rresOut_ne_ok hne), ← c2, ← c4, endOf_rresOut]
      simp only [resOut, logOut_block]

theorem fetch_untimed (hS : Scripted ask C R) (limit : Nat) {w : W} {sc : List Outcome} (hr : R w sc) :
    resOut (fetchG ask C.obj limit w).1 = SegFetch.fetch ⟨C.obj, C.disc, sc, limit⟩ := by
  have hA := hS.askOk
  obtain ⟨c2, c1, c4, c5⟩ := retry_untimed hS limit .disc (limit + 1) 0 w sc hr
  cases hobj : C.obj with
  | unseg c =>
    rw [hobj] at hA
    have hex : exB C .disc = true := by simp [exB, hobj]
    rw [hex] at c2 c4
    rw [SegFetch.fetch_unseg rfl, ← c2, ← c4]
    rcases fetch_step_unseg ask hA limit w ⟨sc, hr⟩ with ⟨d, hd, heq⟩ | ⟨hne, heq⟩
    · rw [heq, hd, if_pos (show rresOut (.ok d) = .ok from rfl)]; simp only [resOut, logOut_block]
    · rw [heq, if_neg (rresOut_ne_ok hne), endOf_rresOut]; simp only [resOut, logOut_block]
  | segs l =>
    rw [hobj] at hA
    have hex : exB C .disc = decide (C.disc < l.length) := by simp [exB, hobj]
    rw [hex] at c2 c1 c4
    rcases fetch_step_segs ask hA limit w ⟨sc, hr⟩ with ⟨d, k, hd, hk, hlt, hcase⟩ | ⟨hne, heq⟩
    · -- `Genuine` leaves open which segment answered discovery; the scripted answer is segment `C.disc`
      obtain ⟨o, ho⟩ := c5 d hd
      have hkd : k = C.disc := Option.some.inj (hk.symm.trans (ownObs_disc_segs hobj ho))
      rw [hd] at c2
      obtain ⟨_, hu⟩ := SegFetch.fetch_segs_ok rfl c2.symm
      rw [hu, ← c4]
      rcases hcase with ⟨hk0, h0, heq⟩ | ⟨hk0, heq⟩
      · have hd0 : C.disc = 0 := hkd ▸ hk0
        rw [heq, ← loop_untimed hS hobj limit _ 1 _ _ c1]
        simp only [hd0, if_true]
        by_cases hf : l[0].fbi = some 0
        · simp only [hf, if_true, resOut, logOut_block]
        · simp only [hf, if_false, resOut, logOut_append, logOut_block]
      · have hd0 : ¬ C.disc = 0 := hkd ▸ hk0
        rw [heq, if_neg hd0, ← loop_untimed hS hobj limit _ 0 _ _ c1]
        simp only [resOut, logOut_append, logOut_block]
    · rw [heq, SegFetch.fetch_segs_fail rfl (c2 ▸ rresOut_ne_ok hne), ← c2, ← c4, endOf_rresOut]
      simp only [resOut, logOut_block]

end scripted

/-- the untimed world: the script of outcomes; every Interest comes to its scripted answer -/
def askU (C : Cfg) (sc : List Outcome) (q : Req) : Pit.Outcome × List Outcome :=
  (ownObs C q (SegFetch.pop sc).1, (SegFetch.pop sc).2)

theorem askU_scripted (C : Cfg) : Scripted (askU C) C Eq := by
  intro w sc q h
  subst h
  exact ⟨rfl, rfl⟩

/-- the configuration the untimed scenario is run under: `askU` reads the object and the discovery segment only (no Interest
    expires in the untimed world, and `obsOut` forgets the reason of a Nack) -/
def cfgU (S : SegFetch.Scenario) : Cfg := ⟨S.obj, S.disc, 0, 0⟩

theorem fetch_eq_askU (S : SegFetch.Scenario) :
    SegFetch.fetch S = resOut (fetchG (askU (cfgU S)) S.obj S.limit S.script).1 :=
  (fetch_untimed (askU_scripted (cfgU S)) S.limit rfl).symm

/-- every scripted answer arrives before the Interest it answers expires -/
def Prompt (life : Nat) (sc : List (Outcome × Nat)) : Prop := ∀ e ∈ sc, e.1 = Outcome.timeout ∨ e.2 < life

theorem react_own (C : Cfg) (now : Nat) (q : Req) (o : Outcome) (p : Pkt) (h : respond C q o = some p) :
    react (reqOf C now q) p = some (ownObs C q o) := by
  have hd : ∀ b, dataFor C q b = some p → ∃ n d, p = .data n d ∧ Pit.Matches (reqOf C now q) n d := fun b hb => by
    rcases dataFor_spec C q b with ⟨_, hn⟩ | ⟨_, n, d, hs, _, _, hm, _⟩
    · rw [hn] at hb; cases hb
    · rw [hs] at hb; cases hb; exact ⟨n, d, rfl, hm now⟩
  cases o with
  | nack =>
    cases h
    simp [react, ownObs, respond, Pit.Named, show (reqOf C now q).name = reqName q from rfl,
      show (reqOf C now q).implicit = none from rfl]
  | timeout => cases h
  | data =>
    obtain ⟨n, d, rfl, hm⟩ := hd true h
    simp only [ownObs, h, react, hm, if_true]
  | invalid =>
    obtain ⟨n, d, rfl, hm⟩ := hd false h
    simp only [ownObs, h, react, hm, if_true]

theorem ask_prompt (C : Cfg) (w : World) (q : Req) (hw : WInv C w) (hfl : w.fl = []) (hlife : 0 < C.life)
    (hp : (pop w.script).1.1 = Outcome.timeout ∨ (pop w.script).1.2 < C.life) :
    (ask C w q).1 = ownObs C q (pop w.script).1.1 ∧ (ask C w q).2.fl = [] := by
  obtain ⟨_, _, h4, h5⟩ := ask_spec C w q hw
  rw [if_neg (by omega)] at h4 h5
  rw [h4, h5]
  unfold flightWith
  cases hr : respond C q (pop w.script).1.1 with
  | none => simp [hfl, scan, ownObs, hr]
  | some p =>
    have hd : (pop w.script).1.2 < C.life := by
      rcases hp with h | h
      · rw [h] at hr; simp [respond] at hr
      · exact h
    have hre := react_own C w.σ.clock q _ p hr
    simp only [hfl, insertPkt, scan, hre]
    rw [if_neg (by omega)]
    exact ⟨rfl, rfl⟩

theorem pop_map (sc : List (Outcome × Nat)) :
    (SegFetch.pop (sc.map Prod.fst)).1 = (pop sc).1.1 ∧ (SegFetch.pop (sc.map Prod.fst)).2 = (pop sc).2.map Prod.fst := by
  cases sc <;> simp [SegFetch.pop, pop]

theorem prompt_pop {life : Nat} {sc : List (Outcome × Nat)} (hl : 0 < life) (h : Prompt life sc) :
    ((pop sc).1.1 = Outcome.timeout ∨ (pop sc).1.2 < life) ∧ Prompt life (pop sc).2 := by
  cases sc with
  | nil => exact ⟨.inr hl, by intro e he; simp [pop] at he⟩
  | cons x r => exact ⟨h x (by simp), fun e he => h e (by simp [pop] at he; simp [he])⟩

/-- the world between two Interests when every answer is prompt: nothing in flight; `sc` are the outcomes still to come -/
structure Calm (C : Cfg) (w : World) (sc : List Outcome) : Prop where
  winv : WInv C w
  fl : w.fl = []
  prompt : Prompt C.life w.script
  script : w.script.map Prod.fst = sc

theorem ask_scripted (C : Cfg) (hlife : 0 < C.life) : Scripted (ask C) C (Calm C) := by
  intro w sc q hc
  obtain ⟨hpp, hrest⟩ := prompt_pop hlife hc.prompt
  obtain ⟨h1, h2⟩ := ask_prompt C w q hc.winv hc.fl hlife hpp
  obtain ⟨pm1, pm2⟩ := pop_map w.script
  rw [← hc.script, pm1, pm2]
  exact ⟨h1, (ask_spec C w q hc.winv).1, h2, hrest, rfl⟩

end Ndn.SegFetchT
