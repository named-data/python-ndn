import NdnProofs.Lemmas.NameWire
/-! Python's order on `bytes` against the canonical order.  A shortest-form TL number is a head byte that grows with the
    value and a big-endian body whose width the head fixes (`tl_forms`), and on equal lengths byte order is the order of
    the big-endian values (`bytesLt_eq_beVal`): hence the order of two TL numbers in front of anything
    (`writeTlNum_lt_append`) and of two encoded components (`tlv_lt_append`). -/
namespace Ndn

theorem bytesLt_cons_lt (x y : UInt8) (s t : Bytes) (h : x.toNat < y.toNat) : bytesLt (x :: s) (y :: t) = true := by
  simp [bytesLt, h]

theorem bytesLt_cons_gt (x y : UInt8) (s t : Bytes) (h : y.toNat < x.toNat) : bytesLt (x :: s) (y :: t) = false := by
  have hne : x ≠ y := fun e => by rw [e] at h; exact Nat.lt_irrefl _ h
  simp [bytesLt, Nat.lt_asymm h, hne]

theorem bytesLt_cons_eq (x : UInt8) (s t : Bytes) : bytesLt (x :: s) (x :: t) = bytesLt s t := by
  simp [bytesLt]

theorem bytesLt_nil_left (y : Bytes) : bytesLt [] y = true ↔ y ≠ [] := by
  cases y <;> simp [bytesLt]

theorem bytesLt_nil_right (x : Bytes) : bytesLt x [] = false := by
  cases x <;> rfl

theorem bytesLt_irrefl (s : Bytes) : bytesLt s s = false := by
  induction s with
  | nil => rfl
  | cons x s ih => rw [bytesLt_cons_eq, ih]

theorem bytesLt_append_eqlen (x y p q : Bytes) (h : x.length = y.length) :
    bytesLt (x ++ p) (y ++ q) = if x = y then bytesLt p q else bytesLt x y := by
  induction x generalizing y with
  | nil => cases y with
    | nil => rfl
    | cons b y => simp at h
  | cons a x ih => cases y with
    | nil => simp at h
    | cons b y =>
      rw [List.cons_append, List.cons_append, bytesLt, bytesLt, ih y (by simpa using h)]
      by_cases hab : a = b
      · subst hab; by_cases hxy : x = y <;> simp [hxy]
      · simp [beq_eq_false_iff_ne.mpr hab, hab]

/-- the accumulators let the induction start at the most significant byte -/
theorem beVal_lt_aux (x y : Bytes) (h : x.length = y.length) : ∀ m n : Nat,
    (x.foldl (fun a b => a * 256 + b.toNat) m < y.foldl (fun a b => a * 256 + b.toNat) n ↔
      m < n ∨ (m = n ∧ bytesLt x y = true)) ∧
    (x.foldl (fun a b => a * 256 + b.toNat) m = y.foldl (fun a b => a * 256 + b.toNat) n ↔ m = n ∧ x = y) := by
  induction x generalizing y with
  | nil =>
    cases y with
    | nil => intro m n; simp [bytesLt]
    | cons b y => simp at h
  | cons a x ih =>
    cases y with
    | nil => simp at h
    | cons b y =>
      intro m n
      have ha := a.toNat_lt
      have hb := b.toNat_lt
      obtain ⟨ih1, ih2⟩ := ih y (by simpa using h) (m * 256 + a.toNat) (n * 256 + b.toNat)
      have h1 : m * 256 + a.toNat < n * 256 + b.toNat ↔ m < n ∨ (m = n ∧ a.toNat < b.toNat) := by omega
      have h2 : m * 256 + a.toNat = n * 256 + b.toNat ↔ m = n ∧ a.toNat = b.toNat := by omega
      rw [List.foldl_cons, List.foldl_cons, ih1, ih2, h1, h2]
      simp only [bytesLt, Bool.or_eq_true, Bool.and_eq_true, decide_eq_true_eq, beq_iff_eq,
        List.cons.injEq, ← UInt8.toNat_inj, and_or_left, or_assoc, and_assoc, and_self]

theorem bytesLt_eq_beVal (x y : Bytes) (h : x.length = y.length) : bytesLt x y = decide (beVal x < beVal y) := by
  rw [Bool.eq_iff_iff, decide_eq_true_eq]
  simpa [beVal] using ((beVal_lt_aux x y h 0 0).1).symm

theorem beVal_inj (x y : Bytes) (h : x.length = y.length) : beVal x = beVal y ↔ x = y := by
  simpa [beVal] using (beVal_lt_aux x y h 0 0).2

def tlHead (v : Nat) : Nat := if v ≤ 0xFC then v else if v ≤ 0xFFFF then 0xFD else if v ≤ 0xFFFFFFFF then 0xFE else 0xFF

def tlBody (v : Nat) : Bytes := if v ≤ 0xFC then [] else if v ≤ 0xFFFF then be2 v else if v ≤ 0xFFFFFFFF then be4 v else be8 v

theorem writeTlNum_split (v : Nat) : writeTlNum v = UInt8.ofNat (tlHead v) :: tlBody v := by
  unfold writeTlNum tlHead tlBody
  split
  · rfl
  · split
    · rfl
    · split <;> rfl

theorem tl_forms (v : Nat) :
    (v ≤ 0xFC ∧ tlHead v = v ∧ (tlBody v).length = 0) ∨
    (0xFC < v ∧ v ≤ 0xFFFF ∧ tlHead v = 0xFD ∧ (tlBody v).length = 2) ∨
    (0xFFFF < v ∧ v ≤ 0xFFFFFFFF ∧ tlHead v = 0xFE ∧ (tlBody v).length = 4) ∨
    (0xFFFFFFFF < v ∧ tlHead v = 0xFF ∧ (tlBody v).length = 8) := by
  unfold tlHead tlBody
  repeat' split
  all_goals simp
  all_goals omega

theorem tlHead_lt (v : Nat) : tlHead v < 256 := by
  have := tl_forms v
  omega

theorem tlHead_lt_imp (a b : Nat) (h : tlHead a < tlHead b) : a < b := by
  have := tl_forms a
  have := tl_forms b
  omega

theorem tlHead_eq (a b : Nat) (h : tlHead a = tlHead b) :
    a = b ∨ (0xFC < a ∧ 0xFC < b ∧ (tlBody a).length = (tlBody b).length) := by
  have := tl_forms a
  have := tl_forms b
  omega

theorem beVal_tlBody (v : Nat) (h : 0xFC < v) (hv : v < 2^64) : beVal (tlBody v) = v := by
  unfold tlBody
  rw [if_neg (by omega)]
  split
  · exact beVal_be2 v (by omega)
  · split
    · exact beVal_be4 v (by omega)
    · exact beVal_be8 v (by omega)

theorem writeTlNum_lt_append (a b : Nat) (p q : Bytes) (ha : a < 2^64) (hb : b < 2^64) :
    bytesLt (writeTlNum a ++ p) (writeTlNum b ++ q) = if a = b then bytesLt p q else decide (a < b) := by
  have ta := tlHead_lt a
  have tb := tlHead_lt b
  rw [writeTlNum_split, writeTlNum_split, List.cons_append, List.cons_append]
  rcases Nat.lt_trichotomy (tlHead a) (tlHead b) with hlt | hh | hlt
  · have hab := tlHead_lt_imp a b hlt
    rw [bytesLt_cons_lt _ _ _ _ (by simp only [UInt8.toNat_ofNat']; omega), if_neg (by omega), decide_eq_true hab]
  · rw [hh, bytesLt_cons_eq]
    rcases tlHead_eq a b hh with rfl | ⟨ha', hb', hl⟩
    · rw [bytesLt_append_eqlen _ _ _ _ rfl, if_pos rfl, if_pos rfl]
    · -- same width: the bodies are the big-endian forms of `a` and `b`
      have e : tlBody a = tlBody b ↔ a = b := by
        rw [← beVal_inj _ _ hl, beVal_tlBody a ha' ha, beVal_tlBody b hb' hb]
      rw [bytesLt_append_eqlen _ _ _ _ hl, bytesLt_eq_beVal _ _ hl, beVal_tlBody a ha' ha, beVal_tlBody b hb' hb]
      simp only [e]
  · have hab := tlHead_lt_imp b a hlt
    rw [bytesLt_cons_gt _ _ _ _ (by simp only [UInt8.toNat_ofNat']; omega), if_neg (by omega),
      decide_eq_false (by omega)]

theorem tlv_lt_append (t1 t2 : Nat) (v1 v2 r1 r2 : Bytes) (ht1 : t1 < 2^64) (ht2 : t2 < 2^64)
    (hv1 : v1.length < 2^64) (hv2 : v2.length < 2^64) :
    bytesLt (tlv t1 v1 ++ r1) (tlv t2 v2 ++ r2) =
      if t1 = t2 then
        if v1.length = v2.length then (if v1 = v2 then bytesLt r1 r2 else bytesLt v1 v2)
        else decide (v1.length < v2.length)
      else decide (t1 < t2) := by
  unfold tlv
  simp only [List.append_assoc]
  rw [writeTlNum_lt_append _ _ _ _ ht1 ht2]
  by_cases ht : t1 = t2
  · simp only [ht, if_true]
    rw [writeTlNum_lt_append _ _ _ _ hv1 hv2]
    by_cases hl : v1.length = v2.length
    · simp only [hl, if_true]
      exact bytesLt_append_eqlen _ _ _ _ hl
    · simp only [hl, if_false]
  · simp only [ht, if_false]

end Ndn
