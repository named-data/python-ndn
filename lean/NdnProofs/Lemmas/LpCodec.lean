import NdnModel.Lp
import NdnModel.ReceiveBytes
import NdnProofs.Lemmas.Lp
import NdnProofs.Lemmas.CodecTotal
import NdnProofs.Lemmas.MarkerRun
/-!
  `Ndn.Lp.parseLoop` (NdnModel/Lp.lean: fields collected into an association list by type number) and
  `Ndn.Codec.parseFields` (NdnModel/Codec.lean, the generic codec of C07/C08: one positional slot per field) are two
  models of `TlvModel.parse`, written independently from the same Python loop.  For a format made of UintField /
  BytesField / BoolField / one level of ModelField with pairwise different type numbers - which is what `LpPacketValue`
  is - the two return the same result on every byte string (`sim_loop`), for `parseLoop` without its length check,
  which is what the generated table says (`table_facts` in Lemmas/LpAgree); with the check the two differ (`parseLoop`
  raises IndexError on an element that overruns the wire).
-/
namespace Ndn.LpCodec
open Ndn Ndn.Codec Ndn.Lp

/-- positional form of an association list of decoded fields: one slot per field of the table -/
def posOf {κ ν : Type} (cv : κ → ν → Value) (tbl : List (Nat × κ)) (acc : List (Nat × ν)) : List Value :=
  tbl.map fun f => match lookup acc f.1 with
    | some v => cv f.2 v
    | none => .none

def fschema (f : Nat × FKind) : Schema :=
  match f.2 with
  | .uint => .uint f.1 none
  | .bytes => .bytes f.1 false
  | .bool => .bool f.1

def kschema (f : Nat × Kind) : Schema :=
  match f.2 with
  | .flat k => fschema (f.1, k)
  | .model sub ic => .model f.1 (sub.map fschema) ic

def fvalue (_ : FKind) : FVal → Value
  | .uint n => .uint n
  | .bytes b => .bytes b
  | .bool => .bool

/- `parseVal` returns a value of the shape of its kind, so the two mixed cases of `kvalue` never arise; they only make
   the function total. -/
def kvalue : Kind → Val → Value
  | .flat k, .flat v => fvalue k v
  | .model _ _, .flat v => fvalue .bool v
  | .model sub _, .model m => .model (posOf fvalue sub m)
  | .flat _, .model _ => .model []

/-- what the simulation needs to know about one kind of field table -/
structure Sim {κ ν : Type} (tbl : List (Nat × κ)) (toS : Nat × κ → Schema) (cv : κ → ν → Value)
    (pv : κ → Bytes → Nat → Except PyErr ν) : Prop where
  typ : ∀ f, (toS f).typ = some f.1
  kind : ∀ f, isElemKind (toS f) = true
  /-- width / bounds check and value parsing of one element give the same value or the same exception -/
  step : ∀ (fuel : Nat) (f : Nat × κ) (rest : Bytes) (hdr len : Nat), f ∈ tbl → 2 ≤ hdr → 2 ≤ rest.length → rest.length ≤ fuel →
    (leafCheck (toS f) len (pySlice rest hdr (hdr + len)) >>= fun _ =>
        parseValue fuel (toS f) (pySlice rest hdr (hdr + len)) rest)
      = (pv f.2 (rest.drop hdr) len).map (cv f.2)

/-- pairwise different type numbers -/
def Distinct {κ : Type} (tbl : List (Nat × κ)) : Prop :=
  ∀ (i j t : Nat) (k k' : κ), tbl[i]? = some (t, k) → tbl[j]? = some (t, k') → i = j

theorem distinct_of_nodup {κ : Type} (tbl : List (Nat × κ)) (hn : (tbl.map (·.1)).Nodup) : Distinct tbl := by
  intro i j t k k' hi hj
  have hi' : (tbl.map (·.1))[i]? = some t := by rw [List.getElem?_map, hi]; rfl
  have hj' : (tbl.map (·.1))[j]? = some t := by rw [List.getElem?_map, hj]; rfl
  exact (List.getElem?_inj (lt_of_getElem? hi') hn).1 (hi'.trans hj'.symm)

theorem posOf_length {κ ν} (cv : κ → ν → Value) (tbl : List (Nat × κ)) (acc : List (Nat × ν)) :
    (posOf cv tbl acc).length = tbl.length := by simp [posOf]

theorem posOf_set {κ ν} (cv : κ → ν → Value) (tbl : List (Nat × κ)) (hd : Distinct tbl) (acc : List (Nat × ν))
    (i t : Nat) (k : κ) (x : ν) (hi : tbl[i]? = some (t, k)) (hacc : ∀ e ∈ acc, e.1 ≠ t) :
    (posOf cv tbl acc).set i (cv k x) = posOf cv tbl (acc ++ [(t, x)]) := by
  apply List.ext_getElem?
  intro j
  by_cases hj : j = i
  · subst hj
    rw [List.getElem?_set_self (by rw [posOf_length]; exact lt_of_getElem? hi)]
    simp only [posOf, List.getElem?_map, hi, Option.map_some]
    rw [lookup_append, lookup_none_of_not_mem _ _ hacc]
    simp [lookup]
  · rw [List.getElem?_set_ne (Ne.symm hj)]
    simp only [posOf, List.getElem?_map]
    cases hg : tbl[j]? with
    | none => rfl
    | some f =>
      obtain ⟨t', k'⟩ := f
      have hne : t' ≠ t := by
        intro e; subst e
        exact hj (hd _ _ _ _ _ hg hi)
      simp only [Option.map_some, lookup_append, lookup, Ne.symm hne, if_false, Option.or_none]

theorem field_posOf {κ ν} (toS : Nat × κ → Schema) (htyp : ∀ f, (toS f).typ = some f.1) (cv : κ → ν → Value)
    (fs : List (Nat × ν)) (t : Nat) : ∀ tbl : List (Nat × κ),
    RecvBytes.field (tbl.map toS) (posOf cv tbl fs) t
      = (tbl.find? (·.1 == t)).map fun f => (toS f, ((lookup fs f.1).map (cv f.2)).getD .none) := by
  intro tbl
  induction tbl with
  | nil => rfl
  | cons a r ih =>
    have ih' : RecvBytes.field (r.map toS) (posOf cv r fs) t = _ := ih
    simp only [posOf, List.map_cons, RecvBytes.field, htyp, Option.some.injEq, List.find?_cons] at ih' ⊢
    by_cases h : a.1 = t
    · subst h
      simp only [BEq.rfl, if_true, Option.map_some]
      cases lookup fs a.1 <;> rfl
    · simp [h, beq_false_of_ne h, ih']

theorem anyPresent_posOf {κ ν} (toS : Nat × κ → Schema) (htyp : ∀ f, (toS f).typ = some f.1) (cv : κ → ν → Value)
    (hcv : ∀ k v, Packet.isNone (cv k v) = false) (fs : List (Nat × ν)) (forbid : List Nat) : ∀ tbl : List (Nat × κ),
    Packet.anyPresent (tbl.map toS) (posOf cv tbl fs) forbid
      = tbl.any fun f => forbid.contains f.1 && (lookup fs f.1).isSome := by
  intro tbl
  induction tbl with
  | nil => rfl
  | cons a r ih =>
    have ih' : Packet.anyPresent (r.map toS) (posOf cv r fs) forbid = _ := ih
    simp only [posOf, List.map_cons, Packet.anyPresent, htyp, List.any_cons] at ih' ⊢
    rw [ih']
    cases lookup fs a.1 with
    | none => simp [Packet.isNone]
    | some v => simp [hcv]

theorem findField_map {κ} (toS : Nat × κ → Schema) (htyp : ∀ f, (toS f).typ = some f.1) :
    ∀ (tbl : List (Nat × κ)) (pos t : Nat), findField (tbl.map toS) pos t = (findFrom tbl pos t).map (·.1) := by
  intro tbl
  induction tbl with
  | nil => intro pos t; rfl
  | cons a r ih =>
    intro pos t
    obtain ⟨t0, k0⟩ := a
    simp only [List.map_cons, findField, findFrom, htyp]
    split
    · split
      · rename_i h; simp only [Option.some.injEq] at h; simp [h]
      · rename_i h
        have : ¬ t0 = t := fun e => h (by rw [e])
        simp only [this, if_false, ih, Option.map_map]
        rfl
    · simp only [ih, Option.map_map]; rfl

theorem skipMarkers_of_elemKind (fs : List Schema) (acc : List Value) (lo hi off : Nat)
    (h : ∀ s ∈ fs, isElemKind s = true) : skipMarkers fs acc lo hi off = acc :=
  skipMarkers_noop fs acc lo hi off (noMarkerIn_of_forall fs lo hi fun s hs => by
    have := h s hs
    cases s <;> first | rfl | cases this)

/-- every field already collected lies before the scan position -/
def Inv {κ ν : Type} (tbl : List (Nat × κ)) (pos : Nat) (acc : List (Nat × ν)) : Prop :=
  ∀ e ∈ acc, ∃ j k, j < pos ∧ tbl[j]? = some (e.1, k)

theorem Inv.mono {κ ν} {tbl : List (Nat × κ)} {pos pos' : Nat} {acc : List (Nat × ν)} (h : Inv tbl pos acc)
    (hp : pos ≤ pos') : Inv tbl pos' acc := by
  intro e he
  obtain ⟨j, k, hj, hg⟩ := h e he
  exact ⟨j, k, by omega, hg⟩

theorem Inv.fresh {κ ν} {tbl : List (Nat × κ)} (hd : Distinct tbl) {pos i t : Nat} {k : κ} {acc : List (Nat × ν)}
    (h : Inv tbl pos acc) (hp : pos ≤ i) (hi : tbl[i]? = some (t, k)) : ∀ e ∈ acc, e.1 ≠ t := by
  intro e he heq
  obtain ⟨j, k', hj, hg⟩ := h e he
  rw [heq] at hg
  have := hd _ _ _ _ _ hg hi
  omega

theorem Inv.snoc {κ ν} {tbl : List (Nat × κ)} {pos i t : Nat} {k : κ} {acc : List (Nat × ν)} (x : ν)
    (h : Inv tbl pos acc) (hp : pos ≤ i) (hi : tbl[i]? = some (t, k)) : Inv tbl (i + 1) (acc ++ [(t, x)]) := by
  intro e he
  simp only [List.mem_append, List.mem_singleton] at he
  rcases he with he | rfl
  · exact h.mono (by omega) e he
  · exact ⟨i, k, by omega, hi⟩

/-- **the two scan loops agree**, element for element, on every byte string -/
theorem sim_loop {κ ν : Type} (toS : Nat × κ → Schema) (cv : κ → ν → Value) (pv : κ → Bytes → Nat → Except PyErr ν)
    (tbl : List (Nat × κ)) (S : Sim tbl toS cv pv) (hd : Distinct tbl) (ic : Bool) :
    ∀ (fuel2 fuel1 : Nat) (rest : Bytes) (off pos : Nat) (acc : List (Nat × ν)),
      rest.length < fuel2 → rest.length ≤ fuel1 → Inv tbl pos acc →
      parseFields fuel2 (tbl.map toS) ic rest off pos (posOf cv tbl acc)
        = (parseLoop tbl pv ic false fuel1 rest pos acc).map (posOf cv tbl) := by
  intro fuel2
  induction fuel2 with
  | zero => intro _ _ _ _ _ h; omega
  | succ f2 ih =>
    intro fuel1 rest off pos acc h2 h1 hinv
    cases fuel1 with
    | zero =>
      have : rest = [] := List.eq_nil_of_length_eq_zero (by omega)
      subst this
      simp [parseFields, parseLoop, Except.map]
    | succ f1 =>
      obtain he | ⟨he, ⟨e, herr⟩ | ⟨typ, st, len, sl, hp1, hp2⟩⟩ := hdr_cases rest
      · simp [parseFields, parseLoop, he, Except.map]
      · rw [parseFields_hdr_error he herr]
        obtain g1 | ⟨_, _, g1, g2⟩ := herr
        · simp [parseLoop, he, readTL, g1, bind, Except.bind, Except.map]
        · simp [parseLoop, he, readTL, g1, g2, bind, Except.bind, Except.map]
      have hst := parseTlNum_pos hp1
      have hsl := parseTlNum_pos hp2
      have hr2 : 2 ≤ rest.length := by omega
      have hdrop2 : (rest.drop (st + sl + len)).length < f2 := drop_len_lt rest _ f2 h2 (by omega) hr2
      have hdrop1 : (rest.drop (st + sl + len)).length ≤ f1 := by simp; omega
      have hfind := findField_map toS S.typ tbl pos typ
      have hr : readTL rest = .ok (typ, len, rest.drop (st + sl)) := by
        simp only [readTL, hp1, hp2, bind, Except.bind, pure, Except.pure]
      rw [parseLoop_step tbl pv ic false f1 rest pos acc typ len _ he hr, if_neg (by simp), List.drop_drop]
      cases hf : findFrom tbl pos typ with
      | none =>
        rw [hf] at hfind
        rw [parseFields_unknown hp1 hp2 hfind]
        cases ic <;> by_cases hc : typ % 2 = 1 <;> simp [hc, Except.map] <;>
          exact ih f1 _ _ pos acc hdrop2 hdrop1 hinv
      | some ik =>
        obtain ⟨i, k⟩ := ik
        obtain ⟨hpi, hget⟩ := findFrom_spec _ _ _ _ _ hf
        rw [hf] at hfind
        obtain ⟨hrep, helem, -, hmap⟩ := elemKind_plain (S.kind (typ, k))
        rw [parseFields_field hp1 hp2 hfind (s := toS (typ, k)) (by simp [hget]) hmap, helem, ← bind_assoc,
          skipMarkers_of_elemKind _ _ _ _ _ (List.forall_mem_map.2 fun f _ => S.kind f),
          S.step f2 (typ, k) rest (st + sl) len (List.mem_of_getElem? hget) (by omega) hr2 (by omega)]
        simp only [upd, hrep, Bool.false_eq_true, if_false]
        cases pv k (rest.drop (st + sl)) len with
        | error e => rfl
        | ok x =>
          -- the field is set for the first time: every field collected so far lies before the scan position
          show parseFields f2 _ ic _ _ (i + 1) ((posOf cv tbl acc).set i (cv k x)) = _
          rw [posOf_set cv tbl hd acc i typ k x hget (hinv.fresh hd hpi hget)]
          exact ih f1 _ _ (i + 1) _ hdrop2 hdrop1 (hinv.snoc x hpi hget)

theorem simF (tbl : List (Nat × FKind)) : Sim tbl fschema fvalue parseFVal where
  typ := by intro ⟨t, k⟩; cases k <;> rfl
  kind := by intro ⟨t, k⟩; cases k <;> rfl
  step := by
    intro fuel ⟨t, k⟩ rest hdr len _ hh hr hf
    obtain ⟨f, rfl⟩ : ∃ f, fuel = f + 1 := ⟨fuel - 1, by omega⟩
    rw [pySlice_eq_take_drop]
    cases k with
    | bytes => simp [fschema, leafCheck, Codec.parseValue, parseFVal, Except.map, fvalue, bind, Except.bind]
    | bool => simp [fschema, leafCheck, Codec.parseValue, parseFVal, Except.map, fvalue, bind, Except.bind]
    | uint =>
      simp only [fschema, leafCheck, parseFVal]
      by_cases hl : len = 1 ∨ len = 2 ∨ len = 4 ∨ len = 8
      · simp only [hl, if_true, List.length_take, List.length_drop]
        by_cases hb : rest.length - hdr < len
        · have : ¬ (min len (rest.length - hdr) = len) := by omega
          simp [this, hb, bind, Except.bind, Except.map]
        · have : min len (rest.length - hdr) = len := by omega
          simp [this, hb, bind, Except.bind, Except.map, Codec.parseValue, fvalue]
      · simp [hl, bind, Except.bind, Except.map]

/-- the nested models of a table have pairwise different type numbers themselves -/
def SubsDistinct (tbl : List (Nat × Kind)) : Prop :=
  ∀ t sub ic, (t, Kind.model sub ic) ∈ tbl → Distinct sub

theorem init_posOf (sub : List (Nat × FKind)) : (sub.map fschema).map initVal = posOf fvalue sub [] := by
  simp only [posOf, lookup, List.map_map]
  apply List.map_congr_left
  intro ⟨t, k⟩ _
  cases k <;> rfl

theorem kschema_typ (f : Nat × Kind) : (kschema f).typ = some f.1 := by
  obtain ⟨t, k⟩ := f
  cases k with
  | flat fk => cases fk <;> rfl
  | model sub ic => rfl

theorem simK (tbl : List (Nat × Kind)) (hsd : SubsDistinct tbl) : Sim tbl kschema kvalue (parseVal false) where
  typ := kschema_typ
  kind := by
    intro ⟨t, k⟩
    cases k with
    | flat fk => cases fk <;> rfl
    | model sub ic => rfl
  step := by
    intro fuel ⟨t, k⟩ rest hdr len hm hh hr hf
    cases k with
    | flat fk =>
      have := (simF [(t, fk)]).step fuel (t, fk) rest hdr len (by simp) hh hr hf
      simp only [kschema, parseVal]
      rw [this]
      cases parseFVal fk (List.drop hdr rest) len <;> simp [Except.map, kvalue]
    | model sub ic =>
      obtain ⟨f, rfl⟩ : ∃ f, fuel = f + 1 := ⟨fuel - 1, by omega⟩
      have hbody : (pySlice rest hdr (hdr + len)).length < f := by
        have := pySlice_len_le rest hdr (hdr + len); omega
      have hsim := sim_loop fschema fvalue parseFVal sub (simF sub) (hsd t sub ic hm) ic f
        (pySlice rest hdr (hdr + len)).length (pySlice rest hdr (hdr + len)) 0 0 [] hbody (Nat.le_refl _)
        (by intro e he; simp at he)
      simp only [kschema, leafCheck, Codec.parseValue, parseVal, parseFlat, bind, Except.bind, init_posOf, hsim,
        ← pySlice_eq_take_drop]
      cases parseLoop sub parseFVal ic false (pySlice rest hdr (hdr + len)).length (pySlice rest hdr (hdr + len)) 0 [] <;>
        simp [Except.map, kvalue, pure, Except.pure]

end Ndn.LpCodec
