import NdnModel.PySem
import NdnProofs.Lemmas.Shrink
/-
  How translated code (`lean/NdnGen/{TlvVar,Component,NameGen,TlvModelFields}.lean`, in the vocabulary of
  `lean/NdnModel/PySem.lean`) is read as the hand-written models.  Python ints are `Int`, the models are over `Nat`, and
  on the arguments the theorems quantify over every int the code computes is the cast of a natural number.  So the casts
  are pulled outward (`add_natCast`, `lit_natCast`, `sub_natCast`, with `Int.ofNat_le`, `Int.ofNat_lt`,
  `Int.natCast_inj` for the tests); every operation of the vocabulary then stands at cast arguments, where its equation
  is a rewrite rule without side conditions, in the vocabulary of the models (be1/be2/be4/be8, pySlice, beVal, blit),
  and the tests of the code are the tests of the model.  Buffer writes at a cursor are `blit`s, and blits at consecutive
  offsets are one blit (`blit_blit`, Lemmas/Shrink).
-/
namespace Ndn.Py
open Ndn

/- Casts.  `lit_natCast` makes every `Int` literal of the source a cast as well (`offset + 1` becomes `↑(off + 1)`). -/

theorem add_natCast (a b : Nat) : (a : Int) + (b : Int) = ((a + b : Nat) : Int) := (Int.natCast_add a b).symm
theorem lit_natCast (n : Nat) : (OfNat.ofNat n : Int) = ((OfNat.ofNat n : Nat) : Int) := rfl
theorem sub_natCast {a b : Nat} (h : b ≤ a) : (a : Int) - (b : Int) = ((a - b : Nat) : Int) := (Int.ofNat_sub h).symm
theorem natCast_add_sub_cancel (a b : Nat) : ((a + b : Nat) : Int) - (a : Int) = (b : Int) := by omega

/- An index counted from the end, `↑a - ↑len` for a position `a < len`, stays one when a natural number is added. -/

theorem sub_add_natCast (a L b : Nat) : (a : Int) - (L : Int) + (b : Int) = ((a + b : Nat) : Int) - (L : Int) := by omega

theorem sub_sub_sub_natCast (a L b : Nat) : ((a + b : Nat) : Int) - (L : Int) - ((a : Int) - (L : Int)) = (b : Int) := by
  omega

theorem len_eq {α} (l : List α) : len l = ((l.length : Nat) : Int) := rfl
theorem intFromBytesBig_eq (x : Bytes) : intFromBytesBig x = ((Ndn.beVal x : Nat) : Int) := rfl

theorem beBytes_one (n : Nat) : beBytes 1 n = be1 n := rfl
theorem beBytes_two (n : Nat) : beBytes 2 n = be2 n := rfl

theorem beBytes_four (n : Nat) : beBytes 4 n = be4 n := by
  simp [beBytes, be4, Nat.div_div_eq_div_mul]

theorem beBytes_eight (n : Nat) : beBytes 8 n = be8 n := by
  simp [beBytes, be8, Nat.div_div_eq_div_mul]

theorem beBytes_length (w n : Nat) : (beBytes w n).length = w := by
  induction w generalizing n with
  | zero => rfl
  | succ k ih => simp [beBytes, ih]

theorem packField_natCast (w v : Nat) :
    packField w (v : Int) = if v < 256 ^ w then .ok (beBytes w v) else .error .structError := by
  unfold packField
  have : ((v : Int) < (256 : Int) ^ w) ↔ v < 256 ^ w := by
    rw [show ((256 : Int) ^ w) = ((256 ^ w : Nat) : Int) by simp]; exact Int.ofNat_lt
  simp [this]

theorem packField_neg (w : Nat) (v : Int) (h : v < 0) : packField w v = .error .structError := by
  unfold packField; simp; omega

theorem pack_one (w v : Nat) :
    pack [w] [(v : Int)] = if v < 256 ^ w then .ok (beBytes w v) else .error .structError := by
  simp only [pack, packField_natCast]
  by_cases h : v < 256 ^ w <;> simp [h]

/-- `struct.pack('!BH', k, v)` and its like: a byte `k`, then `v` in `w` bytes -/
theorem pack_marker (k w v : Nat) (hk : k < 256) :
    pack [1, w] [(k : Int), (v : Int)]
      = if v < 256 ^ w then .ok (UInt8.ofNat k :: beBytes w v) else .error .structError := by
  simp only [pack, packField_natCast, Nat.pow_one, if_pos hk]
  by_cases h : v < 256 ^ w <;> simp [h, beBytes]

theorem pack_cases : ∀ (ws : List Nat) (vs : List Int),
    (∃ bs, pack ws vs = .ok bs ∧ bs.length = ws.sum) ∨ pack ws vs = .error .structError
  | [], [] => .inl ⟨[], rfl, rfl⟩
  | [], _ :: _ => .inr rfl
  | _ :: _, [] => .inr rfl
  | w :: ws, v :: vs => by
    unfold pack packField
    by_cases hv : 0 ≤ v ∧ v < (256 : Int) ^ w
    · rw [if_pos hv]
      rcases pack_cases ws vs with ⟨r, hr, hl⟩ | hr
      · rw [hr]; exact .inl ⟨_, rfl, by simp [beBytes_length, hl]⟩
      · rw [hr]; exact .inr rfl
    · rw [if_neg hv]; exact .inr rfl

/-- `off < 2^63`: an offset that does not fit `Py_ssize_t` is `IndexError` (see `packInto`). -/
theorem packInto_natCast (ws : List Nat) (vs : List Int) (buf : Bytes) (off : Nat) (hoff : off < 2 ^ 63) :
    packInto ws vs buf off = (pack ws vs >>= blit buf off) := by
  unfold packInto
  have h1 : ¬ ((off : Int) < -9223372036854775808 ∨ 9223372036854775807 < (off : Int)) := by omega
  have h2 : ¬ ((off : Int) < 0) := by omega
  simp only [h1, h2, if_false, false_and]
  rcases pack_cases ws vs with ⟨bs, hp, hl⟩ | hp <;> rw [hp]
  · show _ = blit buf off bs
    simp only [blit, Int.toNat_natCast, ← hl]
    by_cases hfit : off + bs.length ≤ buf.length
    · rw [if_neg (by omega), if_pos hfit]
    · rw [if_pos (by omega), if_neg hfit]
  · simp only []
    split <;> rfl

/-- PySem repeats the fold of `NdnModel/TlNum.lean`, so as not to import a model -/
theorem beVal_eq (s : Bytes) : Py.beVal s = Ndn.beVal s := rfl

theorem unpack_one (n : Nat) (s : Bytes) :
    unpack [n] s = if s.length = n then .ok [((Ndn.beVal s : Nat) : Int)] else .error .structError := by
  unfold unpack
  by_cases h : s.length = n
  · subst h
    simp only [if_true, unpackFields, List.sum_cons, List.sum_nil, Nat.add_zero, List.take_length, beVal_eq]
  · simp only [List.sum_cons, List.sum_nil, Nat.add_zero, h, if_false]

theorem unpackFrom_natCast (ws : List Nat) (buf : Bytes) (off : Nat) (hoff : off < 2 ^ 63) :
    unpackFrom ws buf (off : Int)
      = if off + ws.sum ≤ buf.length then .ok (unpackFields ws (buf.drop off)) else .error .structError := by
  unfold unpackFrom
  rw [if_neg (by omega)]
  simp only [show ¬ ((off : Int) < 0) by omega, if_false, false_and, Int.toNat_natCast]
  by_cases h : off + ws.sum ≤ buf.length
  · rw [if_neg (by omega), if_pos h]
  · rw [if_pos (by omega), if_neg h]

theorem unpackFrom_one (n : Nat) (hn : 0 < n) (buf : Bytes) (off : Nat) (hoff : off < 2 ^ 63) :
    unpackFrom [n] buf (off : Int)
      = if (pySlice buf off (off + n)).length = n then .ok [((Ndn.beVal (pySlice buf off (off + n)) : Nat) : Int)]
        else .error .structError := by
  have hl : (pySlice buf off (off + n)).length = min (off + n) buf.length - off := by
    simp only [pySlice, List.length_drop, List.length_take]
  rw [unpackFrom_natCast _ _ _ hoff, List.sum_cons, List.sum_nil, Nat.add_zero, hl]
  by_cases h : off + n ≤ buf.length
  · rw [if_pos h, if_pos (by omega)]
    simp only [unpackFields, beVal_eq, pySlice, List.drop_take, Nat.add_sub_cancel_left]
  · rw [if_neg h, if_neg (by omega)]

theorem normIdx_natCast (len i : Nat) : normIdx len (i : Int) = min i len := by
  unfold normIdx; rw [if_neg (by omega), Int.toNat_natCast]

theorem normIdx_wrap {len a : Nat} (h : a < len) : normIdx len ((a : Int) - (len : Int)) = a := by
  unfold normIdx; rw [if_pos (by omega)]; omega

theorem slice_natCast {α} (l : List α) (a b : Nat) : slice l (a : Int) (b : Int) = pySlice l a b := by
  unfold slice pySlice
  rw [normIdx_natCast, normIdx_natCast, ← List.take_eq_take_min, List.drop_eq_drop_iff, List.length_take]
  omega

theorem sliceFrom_natCast {α} (l : List α) (n : Nat) : sliceFrom l (n : Int) = l.drop n := by
  unfold sliceFrom
  rw [normIdx_natCast, ← List.drop_eq_drop_min]

theorem slice_negCast (l : Bytes) (a k : Nat) : slice l (a : Int) (-(k : Int)) = sliceToNeg l a k := by
  unfold sliceToNeg
  by_cases hk : k = 0
  · subst hk; rw [if_pos rfl]; exact (slice_natCast l a 0).trans (by simp [pySlice])
  · have e : normIdx l.length (-(k : Int)) = l.length - k := by
      unfold normIdx; rw [if_pos (by omega)]; omega
    rw [if_neg hk, ← slice_natCast]
    unfold slice
    rw [e, normIdx_natCast (i := l.length - k), Nat.min_eq_left (by omega)]

theorem slice_wrap {α} (l : List α) {a b : Nat} (ha : a < l.length) (hb : b < l.length) :
    slice l ((a : Int) - (l.length : Int)) ((b : Int) - (l.length : Int)) = pySlice l a b := by
  unfold slice
  rw [normIdx_wrap ha, normIdx_wrap hb]
  rfl

theorem getItem_natCast {α} (l : List α) (i : Nat) :
    getItem l (i : Int) = match l[i]? with | some x => .ok x | none => .error .indexError := by
  unfold getItem
  have : ¬ ((i : Int) < 0) := by omega
  simp only [this, if_false, Int.toNat_natCast]
  cases l[i]? <;> rfl

theorem bytesGet_natCast (buf : Bytes) (i : Nat) :
    bytesGet buf (i : Int) = match buf[i]? with | some b => .ok ((b.toNat : Nat) : Int) | none => .error .indexError := by
  unfold bytesGet; rw [getItem_natCast]; cases buf[i]? <;> rfl

theorem bytesGet_below (buf : Bytes) (off : Int) (h : off + (buf.length : Int) < 0) :
    bytesGet buf off = .error .indexError := by
  unfold bytesGet getItem
  have e : off < 0 := by omega
  simp only [e, h, if_true]

theorem bytesGet_wrap (buf : Bytes) {a : Nat} (h : a < buf.length) :
    bytesGet buf ((a : Int) - (buf.length : Int)) = bytesGet buf (a : Int) := by
  unfold bytesGet getItem
  have h0 : (a : Int) - (buf.length : Int) < 0 := by omega
  have e' : ¬ (a : Int) < 0 := by omega
  simp only [h0, e', if_true, if_false, Int.sub_add_cancel]

theorem bytearrayOfSize_natCast {n : Nat} (hn : n < 2 ^ 63) : bytearrayOfSize (n : Int) = .ok (List.replicate n 0) := by
  unfold bytearrayOfSize
  rw [if_neg (by omega), if_neg (by omega), Int.toNat_natCast]

theorem powLit_natCast (k w : Nat) : powLit k (w : Int) = .ok ((k ^ w : Nat) : Int) := by
  unfold powLit; rw [if_pos (by omega), Int.toNat_natCast]

theorem dictGet_dictSet (m : Dict) (k : String) (v : Int) : dictGet (dictSet m k v) k = .ok v := by
  induction m with
  | nil => simp [dictSet, dictGet]
  | cons p r ih =>
    obtain ⟨k', v'⟩ := p
    unfold dictSet
    by_cases h : (k' == k) = true
    · simp [h, dictGet]
    · have h' : (k' == k) = false := by simpa using h
      rw [if_neg h]
      unfold dictGet at ih ⊢
      rw [List.find?_cons]
      simp only [h']
      exact ih

/- Writes at a cursor.  Every write of the translated code that fits is a `blit` (the model's `struct.pack_into`), a blit
   leaves the length alone, and blits at consecutive offsets are one blit: a sequence of writes is `blit buf off` of the
   concatenation, with ONE fit condition at the end (`blit_ok`). -/

theorem blit_bind_blit {β} (buf a c : Bytes) (off n : Nat) (K : Bytes → Except PyErr β) (hn : n = off + a.length) :
    (blit buf off a >>= fun b => blit b n c >>= K) = (blit buf off (a ++ c) >>= K) := by
  subst hn; rw [← blit_blit, bind_assoc]

/-- what runs next, `op`, need only be a blit on buffers of the length of `buf` (that is where its fit condition is met);
    `g` is what `op` returns beside the buffer -/
theorem blit_bind_map {β γ} {buf a c : Bytes} {off n : Nat} {op : Bytes → Except PyErr γ} {g : Bytes → γ}
    {K : γ → Except PyErr β} (hn : n = off + a.length)
    (hop : ∀ b, b.length = buf.length → op b = (blit b n c).map g) :
    (blit buf off a >>= fun b => op b >>= K) = (blit buf off (a ++ c) >>= fun b => K (g b)) := by
  subst hn
  rw [← blit_blit, bind_assoc]
  exact bind_congr_ok fun b hb => by rw [hop b (blit_length hb), except_bind_map]

theorem blit_bind_op {β} {buf a c : Bytes} {off n : Nat} {op : Bytes → Except PyErr Bytes} {K : Bytes → Except PyErr β}
    (hn : n = off + a.length) (hop : ∀ b, b.length = buf.length → op b = blit b n c) :
    (blit buf off a >>= fun b => op b >>= K) = (blit buf off (a ++ c) >>= K) :=
  blit_bind_map (g := id) hn fun b hb => by rw [hop b hb]; cases blit b n c <;> rfl

theorem setSliceSameSize_blit (buf v : Bytes) (off : Nat) (h : off + v.length ≤ buf.length) :
    setSliceSameSize buf (off : Int) ((off + v.length : Nat) : Int) v = blit buf off v := by
  unfold setSliceSameSize blit
  simp only
  rw [normIdx_natCast, normIdx_natCast, Nat.min_eq_left (by omega), Nat.min_eq_left h,
    Nat.max_eq_right (by omega), if_pos (by omega), if_pos h]

theorem setSlice_blit (buf v : Bytes) (off : Nat) (h : off + v.length ≤ buf.length) :
    .ok (setSlice buf (off : Int) ((off + v.length : Nat) : Int) v) = blit buf off v := by
  unfold setSlice
  rw [blit_ok _ _ _ h, normIdx_natCast, normIdx_natCast, Nat.min_eq_left (by omega), Nat.min_eq_left h,
    Nat.max_eq_right (by omega)]

theorem setSliceFrom_blit (buf v : Bytes) (off : Nat) (h : off + v.length = buf.length) :
    .ok (setSliceFrom buf (off : Int) v) = blit buf off v := by
  unfold setSliceFrom
  rw [blit_ok _ _ _ (by omega), normIdx_natCast, Nat.min_eq_left (by omega), List.drop_eq_nil_of_le (by omega),
    List.append_nil]

theorem setItem_blit (buf : Bytes) (off v : Nat) (h : off < buf.length) :
    setItem buf (off : Int) v = blit buf off [UInt8.ofNat v] := by
  unfold setItem
  have c : ¬ ((off : Int) < 0) := by omega
  simp only [c, if_false, false_or]
  rw [if_neg (by omega), Int.toNat_natCast, blit_ok _ _ _ (Nat.succ_le_of_lt h), List.set_eq_take_append_cons_drop,
    if_pos h, List.append_assoc]
  rfl

end Ndn.Py
