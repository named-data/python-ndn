import NdnModel.PyDict
import NdnProofs.Lemmas.Basic
/-! `set` and `erase` of the insertion-ordered dict against `get?`, `keys` and membership. -/
namespace Ndn.PyDict
variable {κ ν : Type} [DecidableEq κ]

theorem get?_set (d : PyDict κ ν) (k k' : κ) (v : ν) :
    get? (set d k v) k' = if k = k' then some v else get? d k' := by
  induction d with
  | nil => simp [set, get?]
  | cons p r ih =>
    obtain ⟨a, b⟩ := p
    by_cases h : a = k
    · subst h; simp only [set, if_true, get?]; split <;> simp_all
    · simp only [set, h, if_false, get?, ih]
      by_cases h2 : a = k'
      · have : ¬ k = k' := fun e => h (e ▸ h2); simp [h2, this]
      · simp [h2]

theorem keys_set (d : PyDict κ ν) (k : κ) (v : ν) :
    keys (set d k v) = if k ∈ keys d then keys d else keys d ++ [k] := by
  induction d with
  | nil => simp [set, keys]
  | cons p r ih =>
    obtain ⟨a, b⟩ := p
    by_cases h : a = k
    · subst h; simp [set, keys]
    · have h' : ¬ k = a := fun e => h e.symm
      simp only [set, h, if_false, keys, List.map_cons, List.mem_cons, h', false_or] at ih ⊢
      rw [ih]; split <;> simp_all

theorem nodup_keys_set (d : PyDict κ ν) (k : κ) (v : ν) (h : (keys d).Nodup) :
    (keys (set d k v)).Nodup := by
  rw [keys_set]; split
  · exact h
  · rename_i hk
    rw [List.nodup_append]
    refine ⟨h, by simp, ?_⟩
    intro a ha b hb; simp at hb; subst hb; intro e; exact hk (e ▸ ha)

theorem get?_of_mem (d : PyDict κ ν) (h : (keys d).Nodup) (k : κ) (v : ν) (hm : (k, v) ∈ d) :
    get? d k = some v := by
  induction d with
  | nil => simp at hm
  | cons p r ih =>
    obtain ⟨a, b⟩ := p
    simp only [keys, List.map_cons, List.nodup_cons] at h
    simp only [List.mem_cons, Prod.mk.injEq] at hm
    rcases hm with ⟨rfl, rfl⟩ | hm
    · simp [get?]
    · have : a ≠ k := by
        intro e; subst e; exact h.1 (List.mem_map.mpr ⟨(a, v), hm, rfl⟩)
      simp only [get?, this, if_false]; exact ih h.2 hm

theorem mem_of_get? (d : PyDict κ ν) (k : κ) (v : ν) (hg : get? d k = some v) : (k, v) ∈ d := by
  induction d with
  | nil => simp [get?] at hg
  | cons p r ih =>
    obtain ⟨a, b⟩ := p
    by_cases h : a = k
    · subst h; simp [get?] at hg; simp [hg]
    · simp only [get?, h, if_false] at hg; exact List.mem_cons_of_mem _ (ih hg)

theorem get?_erase (d : PyDict κ ν) (k k' : κ) :
    get? (erase d k) k' = if k = k' then none else get? d k' := by
  induction d with
  | nil => simp [erase, get?]
  | cons p r ih =>
    obtain ⟨a, b⟩ := p
    simp only [erase] at ih
    by_cases h : a = k
    · subst h
      simp only [erase, List.filter_cons, ne_eq, not_true_eq_false, decide_false, Bool.false_eq_true,
        if_false, get?]
      rw [ih]; split <;> simp_all
    · simp only [erase, List.filter_cons, ne_eq, h, not_false_eq_true, decide_true, if_true, get?]
      rw [ih]
      by_cases h2 : a = k'
      · have : ¬ k = k' := fun e => h (e ▸ h2)
        simp [h2, this]
      · simp [h2]

theorem set_ne_nil (d : PyDict κ ν) (k : κ) (v : ν) : set d k v ≠ [] := by
  cases d with
  | nil => exact List.cons_ne_nil _ _
  | cons a r => simp only [set]; split <;> exact List.cons_ne_nil _ _

theorem set_of_not_mem (d : PyDict κ ν) (k : κ) (v : ν) (h : k ∉ keys d) : set d k v = d ++ [(k, v)] := by
  induction d with
  | nil => rfl
  | cons p r ih =>
    obtain ⟨a, b⟩ := p
    simp only [keys, List.map_cons, List.mem_cons, not_or] at h
    rw [set, if_neg (Ne.symm h.1), ih h.2, List.cons_append]

theorem set_self (d : PyDict κ ν) (k : κ) (v : ν) (h : get? d k = some v) : set d k v = d := by
  fun_induction set d k v <;> simp_all [get?]

theorem set_set (d : PyDict κ ν) (k : κ) (v w : ν) : set (set d k v) k w = set d k w := by
  fun_induction set d k v <;> simp_all [set]

theorem mem_set_self (d : PyDict κ ν) (k : κ) (v : ν) : (k, v) ∈ set d k v :=
  mem_of_get? _ _ _ (by rw [get?_set, if_pos rfl])

theorem mem_set_of_ne (d : PyDict κ ν) (k : κ) (v : ν) (e : κ × ν) (he : e ∈ d) (hne : e.1 ≠ k) :
    e ∈ set d k v := by
  induction d with
  | nil => cases he
  | cons p r ih =>
    obtain ⟨a, b⟩ := p
    by_cases hk : a = k
    · rw [set, if_pos hk]
      rcases List.mem_cons.1 he with rfl | he
      · exact absurd hk hne
      · exact List.mem_cons_of_mem _ he
    · rw [set, if_neg hk]
      rcases List.mem_cons.1 he with rfl | he
      · exact List.mem_cons_self
      · exact List.mem_cons_of_mem _ (ih he)

theorem mem_set_cases (d : PyDict κ ν) (k : κ) (v : ν) (e : κ × ν) (he : e ∈ set d k v) :
    e = (k, v) ∨ e ∈ d := by
  induction d with
  | nil => exact .inl (List.mem_singleton.1 he)
  | cons p r ih =>
    obtain ⟨a, b⟩ := p
    by_cases hk : a = k
    · rw [set, if_pos hk] at he
      exact (List.mem_cons.1 he).imp_right (List.mem_cons_of_mem _)
    · rw [set, if_neg hk] at he
      rcases List.mem_cons.1 he with rfl | he
      · exact .inr List.mem_cons_self
      · exact (ih he).imp_right (List.mem_cons_of_mem _)

theorem erase_set_of_get?_none (d : PyDict κ ν) (k : κ) (v : ν) (h : get? d k = none) :
    erase (set d k v) k = d := by
  fun_induction set d k v <;> simp_all [get?, erase]

theorem get?_map_fst {κ' : Type} (f : κ' → κ) (l : List (κ' × ν)) (key : κ) :
    get? (l.map (fun p => (f p.1, p.2))) key = (l.find? (fun p => decide (f p.1 = key))).map (·.2) := by
  induction l with
  | nil => rfl
  | cons a r ih =>
    by_cases h : f a.1 = key
    · simp [get?, List.find?, h]
    · simp [get?, List.find?, h, ih]

end Ndn.PyDict
