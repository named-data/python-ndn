import NdnModel.Cascade
/-!
  Specification of the trust-schema validator (C14) and the lemmas behind `Props/C14.lean`.  One validation is covered
  by three theorems: an acceptance has a chain that may end at a key the storage held (`validate_chainC`, for any reading
  `T` of the storage: `CacheInv` is one, the trust relation of a history another); conversely a packet with such a chain
  is accepted from any storage that agrees with the world (`validate_of_chainC`, by induction on the fuel); a key is
  stored only after the next level accepted its certificate (`validate_cache`).  Histories are inductions on top of these.
-/
namespace Ndn.Cascade

variable {N : Type} [DecidableEq N]

/-- "the signature of `o` verifies under the public key `k`": the key is of the kind the declared
    signature type needs and the signature was produced by the holder of `k`'s private key
    (`Signed`, the ground truth).  No HMAC / digest / unknown-type signature ever verifies under a
    certificate's *public* key. -/
def Verifies (Signed : Key → Obj N → Prop) (k : Key) (o : Obj N) : Prop :=
  keyFits o.sigType k.kty = true ∧ Signed k o

/-- `ChainD E Signed d o`: there is a chain  o — certificate — … — trust anchor  with `d`
    certificates strictly between `o` and the anchor, in which every element names the next as its
    key, every link is allowed by the schema's signing check (which answers `True`, without raising),
    every signature verifies under the next certificate's public key, and every certificate on the way
    can be retrieved: the network answers the exact-name, must-be-fresh Interest for the key name
    (`certInterest kn`) with a Data of exactly that name.
    A name equal to the anchor's name denotes the anchor.
    There are three inductives of this shape: `ChainD` (indexed by the depth, which bounds the fuel), `ChainC` below
    (any link relation, may end at a key trusted from before: histories with a storage) and `ChainL` in
    `Lemmas/CascadeLvs.lean` (indexed by the key names, so that "every key on the chain" can be said). -/
inductive ChainD (E : Env N) (Signed : Key → Obj N → Prop) : Nat → Obj N → Prop where
  | anchor (o : Obj N) :
      o.keyLoc = some E.anchorName → E.allowed o.name E.anchorName = .ok true →
      Verifies Signed E.anchorKey o → ChainD E Signed 0 o
  | step (o : Obj N) (kn : N) (c : Obj N) (k : Key) (d : Nat) :
      o.keyLoc = some kn → kn ≠ E.anchorName → E.allowed o.name kn = .ok true →
      E.world (certInterest kn) = some (.data c) → c.name = kn → c.content = some k →
      Verifies Signed k o → ChainD E Signed d c → ChainD E Signed (d + 1) o

def Chain (E : Env N) (Signed : Key → Obj N → Prop) (o : Obj N) : Prop := ∃ d, ChainD E Signed d o

/-- invariant of an instance's key storage: every cached key is the key of a certificate that is
    retrievable in this world under that name and itself has a chain to this instance's anchor -/
def CacheInv (E : Env N) (Signed : Key → Obj N → Prop) (st : Cache N) : Prop :=
  ∀ n k, cacheLoad st n = some k →
    ∃ c, E.world (certInterest n) = some (.data c) ∧ c.name = n ∧ c.content = some k ∧ Chain E Signed c

/-- the ideal-signature hypotheses, always stated as hypotheses of theorems -/
def Unforgeable (E : Env N) (Signed : Key → Obj N → Prop) : Prop := ∀ k o, E.crypto k o = true → Signed k o
def Correct (E : Env N) (Signed : Key → Obj N → Prop) : Prop := ∀ k o, Signed k o → E.crypto k o = true

/-- the link relation the validator itself uses -/
def AllowedR (allowed : N → N → Except PyErr Bool) : N → N → Prop := fun a b => allowed a b = .ok true

/-- `ChainC R E Signed T d o`: a chain from `o` towards the anchor of `E` whose links satisfy `R`, in the world of `E`
    as it is now, that may end early at a link to a key `T` vouches for (`T kn k`: "the certificate named `kn`, with
    key `k`, is trusted from before"); `d` certificates are retrieved now. -/
inductive ChainC (R : N → N → Prop) (E : Env N) (Signed : Key → Obj N → Prop) (T : N → Key → Prop) :
    Nat → Obj N → Prop where
  | anchor (o : Obj N) :
      o.keyLoc = some E.anchorName → R o.name E.anchorName →
      Verifies Signed E.anchorKey o → ChainC R E Signed T 0 o
  | step (o : Obj N) (kn : N) (c : Obj N) (k : Key) (d : Nat) :
      o.keyLoc = some kn → kn ≠ E.anchorName → R o.name kn →
      E.world (certInterest kn) = some (.data c) → c.name = kn → c.content = some k →
      Verifies Signed k o → ChainC R E Signed T d c → ChainC R E Signed T (d + 1) o
  | cached (o : Obj N) (kn : N) (k : Key) :
      o.keyLoc = some kn → kn ≠ E.anchorName → R o.name kn →
      T kn k → Verifies Signed k o → ChainC R E Signed T 0 o

def Trusts (st : Cache N) (T : N → Key → Prop) : Prop := ∀ n k, cacheLoad st n = some k → T n k

/-- what a storage satisfying `CacheInv` vouches for: `CacheInv E Signed st` unfolds to
    `Trusts st (Certified E Signed)` -/
def Certified (E : Env N) (Signed : Key → Obj N → Prop) (n : N) (k : Key) : Prop :=
  ∃ c, E.world (certInterest n) = some (.data c) ∧ c.name = n ∧ c.content = some k ∧ Chain E Signed c

/-- the storage holds no key other than the one the certificate retrievable under that name now carries -/
def CacheAgrees (E : Env N) (st : Cache N) : Prop :=
  ∀ n k c, cacheLoad st n = some k → E.world (certInterest n) = some (.data c) → c.name = n → c.content = some k

variable {E : Env N} {Signed : Key → Obj N → Prop}

theorem trusts_nil (T : N → Key → Prop) : Trusts ([] : Cache N) T := fun _ _ h => nomatch h

theorem cacheInv_nil (E : Env N) (Signed) : CacheInv E Signed [] := fun _ _ h => nomatch h

theorem cacheAgrees_nil (E : Env N) : CacheAgrees E [] := fun _ _ _ h => nomatch h

theorem CacheInv.trusts {st : Cache N} (h : CacheInv E Signed st) : Trusts st (Certified E Signed) := h

theorem CacheInv.agrees {st : Cache N} (h : CacheInv E Signed st) : CacheAgrees E st := by
  intro n k c hl hw _
  obtain ⟨c', hw', _, hcc, _⟩ := h n k hl
  rw [hw] at hw'
  cases hw'
  exact hcc

theorem cacheLoad_save (st : Cache N) (n m : N) (k : Key) :
    cacheLoad (cacheSave st n k) m = if n = m then some k else cacheLoad st m := rfl

omit [DecidableEq N] in
theorem ChainC.mono {R R' : N → N → Prop} {T T' : N → Key → Prop}
    (hR : ∀ a b, R a b → R' a b) (hT : ∀ n k, T n k → T' n k) {d : Nat} {o : Obj N}
    (h : ChainC R E Signed T d o) : ChainC R' E Signed T' d o := by
  induction h with
  | anchor o hk ha hv => exact .anchor o hk (hR _ _ ha) hv
  | step o kn c k d hk hn ha hw hcn hcc hv _ ih => exact .step o kn c k d hk hn (hR _ _ ha) hw hcn hcc hv ih
  | cached o kn k hk hn ha ht hv => exact .cached o kn k hk hn (hR _ _ ha) (hT _ _ ht) hv

omit [DecidableEq N] in
theorem chainC_of_chainD (E : Env N) (Signed : Key → Obj N → Prop) (T : N → Key → Prop) (d : Nat) (o : Obj N)
    (h : ChainD E Signed d o) : ChainC (AllowedR E.allowed) E Signed T d o := by
  induction h with
  | anchor o hk ha hv => exact .anchor o hk ha hv
  | step o kn c k d hk hn ha hw hcn hcc hv _ ih => exact .step o kn c k d hk hn ha hw hcn hcc hv ih

omit [DecidableEq N] in
theorem ChainC.chain {d : Nat} {o : Obj N}
    (h : ChainC (AllowedR E.allowed) E Signed (Certified E Signed) d o) : Chain E Signed o := by
  induction h with
  | anchor o hk ha hv => exact ⟨0, .anchor o hk ha hv⟩
  | step o kn c k _ hk hn ha hw hcn hcc hv _ ih =>
    obtain ⟨d, hd⟩ := ih
    exact ⟨d + 1, .step o kn c k d hk hn ha hw hcn hcc hv hd⟩
  | cached o kn k hk hn ha ht hv =>
    obtain ⟨c, hw, hcn, hcc, d, hd⟩ := ht
    exact ⟨d + 1, .step o kn c k d hk hn ha hw hcn hcc hv hd⟩

omit [DecidableEq N] in
/-- how certificate loops are excluded: `S` is the set of names on the loop -/
theorem no_chain_in_closed_set (E : Env N) (Signed : Key → Obj N → Prop) (S : N → Prop)
    (hS : ∀ n c, S n → E.world (certInterest n) = some (.data c) → ∃ m, c.keyLoc = some m ∧ S m)
    (hA : ¬ S E.anchorName) :
    ∀ d o, ChainD E Signed d o → ∀ n, o.keyLoc = some n → S n → False := by
  intro d o h
  induction h with
  | anchor o hk _ _ =>
    intro n hn hs
    rw [hk] at hn; cases hn; exact hA hs
  | step o kn c k d hk _ _ hw _ _ _ _ ih =>
    intro n hn hs
    rw [hk] at hn; cases hn
    obtain ⟨m, hm, hsm⟩ := hS _ c hs hw
    exact ih m hm hsm

omit [DecidableEq N] in
theorem verifySig_eq_accept {crypto : Key → Obj N → Bool} {k : Key} {o : Obj N} :
    verifySig crypto k o = .accept ↔ keyFits o.sigType k.kty = true ∧ crypto k o = true := by
  unfold verifySig
  cases o.sigType <;> cases k.kty <;> simp [keyFits]

omit [DecidableEq N] in
theorem verifySig_raise {crypto : Key → Obj N → Bool} {k : Key} {o : Obj N} {e : PyErr}
    (h : verifySig crypto k o = .raise e) : e = .valueError := by
  unfold verifySig at h
  grind

omit [DecidableEq N] in
theorem Unforgeable.verifies (hu : Unforgeable E Signed) {k : Key} {o : Obj N}
    (h : verifySig E.crypto k o = .accept) : Verifies Signed k o :=
  have ⟨hf, hc⟩ := verifySig_eq_accept.mp h
  ⟨hf, hu k o hc⟩

omit [DecidableEq N] in
theorem Correct.accepts (hc : Correct E Signed) {k : Key} {o : Obj N} (h : Verifies Signed k o) :
    verifySig E.crypto k o = .accept :=
  verifySig_eq_accept.mpr ⟨h.1, hc k o h.2⟩

omit [DecidableEq N] in
/-- `verifySig` under the ideal-signature hypotheses is exactly `Verifies` -/
theorem verifySig_iff (E : Env N) (Signed) (hu : Unforgeable E Signed) (hc : Correct E Signed) (k : Key) (o : Obj N) :
    verifySig E.crypto k o = .accept ↔ Verifies Signed k o :=
  ⟨hu.verifies, hc.accepts⟩

theorem pitPasses_certInterest (kn : N) (c : Obj N) : pitPasses (certInterest kn) c = true ↔ c.name = kn := by
  simp only [pitPasses, certInterest, Bool.or_false]
  exact decide_eq_true_iff

theorem express_certInterest (E : Env N) (kn : N) (c : Obj N) :
    express E (certInterest kn) = some c ↔ E.world (certInterest kn) = some (.data c) ∧ c.name = kn := by
  unfold express
  split
  · next d hw =>
    simp only [hw, pitPasses_certInterest, Option.ite_none_right_eq_some, Option.some.injEq, Outcome.data.injEq]
    constructor <;> rintro ⟨rfl, rfl⟩ <;> exact ⟨rfl, rfl⟩
  · next h => exact ⟨nofun, fun hc => (h c hc.1).elim⟩

/-!
  `fun_induction validate` numbers the branches of `validate` in source order: 1 no fuel; 2 no key locator;
  3, 4 the signing check raises, refuses; 5 the key is the anchor's; 6 the key is in the storage; 7 the fetch
  fails; 8 – 12 a certificate was fetched and the next level gave no verdict, accepted it but its content is
  empty, accepted it (the one branch that stores a key), refused it, raised. -/

theorem validate_chainC (hu : Unforgeable E Signed) {T : N → Key → Prop} (fuel : Nat) (st : Cache N) (o : Obj N)
    (hT : Trusts st T) (h : (validate E fuel st o).verdict = some .accept) :
    ∃ d, ChainC (AllowedR E.allowed) E Signed T d o := by
  fun_induction validate E fuel st o
  case case5 hk ha => exact ⟨0, .anchor _ hk ha (hu.verifies (Option.some.inj h))⟩
  case case6 hk ha hn k hl => exact ⟨0, .cached _ _ k hk hn ha (hT _ k hl) (hu.verifies (Option.some.inj h))⟩
  case case10 kn hk ha hn _ c hex _ hacc k hcc ih =>
    obtain ⟨hw, hcn⟩ := (express_certInterest E kn c).mp hex
    obtain ⟨d, hd⟩ := ih hT hacc
    exact ⟨d + 1, .step _ kn c k d hk hn ha hw hcn hcc (hu.verifies (Option.some.inj h)) hd⟩
  all_goals cases h

theorem validate_cache (E : Env N) (fuel : Nat) (st : Cache N) (o : Obj N) (n : N) (k : Key)
    (h : cacheLoad (validate E fuel st o).cache n = some k) :
    cacheLoad st n = some k ∨
      (certInterest n ∈ (validate E fuel st o).log ∧ ∃ f c, express E (certInterest n) = some c ∧
        c.content = some k ∧ (validate E f st c).verdict = some .accept) := by
  fun_induction validate E fuel st o
  case case10 f _ _ kn _ _ _ _ c hex _ hacc k' hcc ih =>
    rw [cacheLoad_save] at h
    split at h
    · next hnn =>
      cases h
      subst hnn
      exact .inr ⟨List.mem_cons_self, f, c, hex, hcc, hacc⟩
    · exact (ih h).imp_right (And.imp_left (List.mem_cons_of_mem _))
  case case8 ih | case9 ih | case11 ih | case12 ih => exact (ih h).imp_right (And.imp_left (List.mem_cons_of_mem _))
  all_goals exact .inl h

theorem validate_cache_chainC (hu : Unforgeable E Signed) {T : N → Key → Prop} {fuel : Nat} {st : Cache N} {o : Obj N}
    (hT : Trusts st T) {n : N} {k : Key} (h : cacheLoad (validate E fuel st o).cache n = some k) :
    cacheLoad st n = some k ∨
      ∃ c, E.world (certInterest n) = some (.data c) ∧ c.name = n ∧ c.content = some k ∧
        ∃ d, ChainC (AllowedR E.allowed) E Signed T d c := by
  refine (validate_cache E fuel st o n k h).imp_right fun ⟨_, f, c, hex, hcc, hacc⟩ => ?_
  obtain ⟨hw, hcn⟩ := (express_certInterest E n c).mp hex
  exact ⟨c, hw, hcn, hcc, validate_chainC hu f st c hT hacc⟩

theorem CacheInv.preserved (hu : Unforgeable E Signed) {st : Cache N} (hinv : CacheInv E Signed st) (fuel : Nat)
    (o : Obj N) : CacheInv E Signed (validate E fuel st o).cache := by
  intro n k hl
  rcases validate_cache_chainC hu hinv.trusts hl with h0 | ⟨c, hw, hcn, hcc, _, hd⟩
  · exact hinv n k h0
  · exact ⟨c, hw, hcn, hcc, hd.chain⟩

/-- a disjunction, not a case split on `d < fuel`: with less fuel the packet is still accepted when a key on the way is
    found in the storage -/
theorem validate_of_chainC (hc : Correct E Signed) {st : Cache N} (hst : CacheAgrees E st) {d : Nat} {o : Obj N}
    (h : ChainC (AllowedR E.allowed) E Signed (fun n k => cacheLoad st n = some k) d o) (fuel : Nat) :
    (validate E fuel st o).verdict = some .accept ∨ (fuel ≤ d ∧ (validate E fuel st o).verdict = none) := by
  induction fuel generalizing d o with
  | zero => exact .inr ⟨Nat.zero_le _, rfl⟩
  | succ f ih =>
    rw [validate]
    cases h with
    | anchor o hk ha hv => left; simp [hk, show E.allowed _ _ = _ from ha, hc.accepts hv]
    | cached o kn k hk hn ha hl hv => left; simp [hk, show E.allowed _ _ = _ from ha, hn, hl, hc.accepts hv]
    | step o kn c k d hk hn ha hw hcn hcc hv hd =>
      simp only [hk, show E.allowed _ _ = _ from ha, hn, if_false]
      cases hl : cacheLoad st kn with
      | some k' =>
        cases (hst kn k' c hl hw hcn).symm.trans hcc
        exact .inl (congrArg some (hc.accepts hv))
      | none =>
        simp only [(express_certInterest E kn c).mpr ⟨hw, hcn⟩]
        rcases ih hd with h1 | ⟨hf, h0⟩
        · simp [h1, hcc, hc.accepts hv]
        · simp [h0, hf]

theorem runHist_inv (E : Env N) (Signed : Key → Obj N → Prop) (hu : Unforgeable E Signed) :
    ∀ (h : List (Nat × Obj N)) st, CacheInv E Signed st → CacheInv E Signed (runHist E st h) := by
  intro h
  induction h with
  | nil => exact fun _ hs => hs
  | cons x r ih => exact fun st hs => ih _ (hs.preserved hu x.1 x.2)

/- `unforgeable_env` and `correct_env` return their hypothesis: `Cfg.env` copies `crypto`, so the two sides are the same
   after unfolding.  They only tell the elaborator which `Env` is meant. -/
omit [DecidableEq N] in
theorem unforgeable_env (c : Cfg N) (Signed : Key → Obj N → Prop) (w : World N)
    (h : ∀ k o, c.crypto k o = true → Signed k o) : Unforgeable (c.env w) Signed := h

omit [DecidableEq N] in
theorem correct_env (c : Cfg N) (Signed : Key → Obj N → Prop) (w : World N)
    (h : ∀ k o, Signed k o → c.crypto k o = true) : Correct (c.env w) Signed := h

/-- one `validate` event of instance configuration `c` in the world `w`: what the storage objects may vouch for
    afterwards -/
def trustStep (R : N → N → Prop) (c : Cfg N) (Signed : Key → Obj N → Prop) (w : World N)
    (T : Nat → N → Key → Prop) : Nat → N → Key → Prop :=
  fun s n k => T s n k ∨ (c.store = .mem s ∧ ∃ x, w (certInterest n) = some (.data x) ∧ x.name = n ∧
    x.content = some k ∧ ∃ d, ChainC R (c.env w) Signed (T s) d x)

/-- `TrustedD R cfgs Signed w T h`: what the storage objects may vouch for after the history `h` that started in the
    world `w` with `T`: what `T` vouched for, and every `(name, key)` such that, at the time of some `validate` event
    of an instance holding that storage object, the network answered the certificate Interest for the name with a
    certificate of that name and key that had a chain (`ChainC`, at that time) to the anchor of that instance -/
def TrustedD (R : Nat → N → N → Prop) (cfgs : Nat → Cfg N) (Signed : Key → Obj N → Prop) :
    World N → (Nat → N → Key → Prop) → List (Event N) → (Nat → N → Key → Prop)
  | _, T, [] => T
  | _, T, .world w' :: r => TrustedD R cfgs Signed w' T r
  | w, T, .validate j _ _ :: r => TrustedD R cfgs Signed w (trustStep (R j) (cfgs j) Signed w T) r

/-- nothing is trusted from before (a fresh process) -/
def noTrust : Nat → N → Key → Prop := fun _ _ _ => False

/-- what the storage object behind a `StoreRef` may vouch for -/
def trustOf (T : Nat → N → Key → Prop) : StoreRef → N → Key → Prop
  | .empty => fun _ _ => False
  | .mem s => T s

/-- every state of the network during a history, in order (the last one is the state after it) -/
def worldsOf : World N → List (Event N) → List (World N)
  | w, [] => [w]
  | w, .world w' :: r => w :: worldsOf w' r
  | w, .validate _ _ _ :: r => worldsOf w r

omit [DecidableEq N] in
theorem worldsOf_head_mem (w : World N) (h : List (Event N)) : w ∈ worldsOf w h := by
  induction h generalizing w with
  | nil => exact List.mem_singleton.mpr rfl
  | cons e r ih =>
    cases e with
    | world w' => exact List.mem_cons_self
    | validate j f o => exact ih w

theorem runD_world_last (cfgs : Nat → Cfg N) :
    ∀ (h : List (Event N)) (st : DState N), (runD cfgs st h).world ∈ worldsOf st.world h := by
  intro h
  induction h with
  | nil => intro st; simp [runD, worldsOf]
  | cons e r ih =>
    intro st
    cases e with
    | world w => simpa [runD, worldsOf, stepD] using Or.inr (ih ⟨w, st.stores⟩)
    | validate j f o => simpa [runD, worldsOf, stepD] using ih (stepD cfgs st (.validate j f o))

omit [DecidableEq N] in
theorem trustedD_induction (R : Nat → N → N → Prop) (cfgs : Nat → Cfg N) (Signed : Key → Obj N → Prop)
    (J : (Nat → N → Key → Prop) → Prop) :
    ∀ (h : List (Event N)) (w : World N) (T : Nat → N → Key → Prop), J T →
      (∀ w' ∈ worldsOf w h, ∀ j T, J T → J (trustStep (R j) (cfgs j) Signed w' T)) →
      J (TrustedD R cfgs Signed w T h) := by
  intro h
  induction h with
  | nil => exact fun _ _ hT _ => hT
  | cons e r ih =>
    intro w T hT hJ
    cases e with
    | world w' => exact ih w' T hT fun w'' hm => hJ w'' (List.mem_cons_of_mem _ hm)
    | validate j f o => exact ih w _ (hJ w (worldsOf_head_mem w r) j T hT) hJ

omit [DecidableEq N] in
/-- the trust relation only grows along a history -/
theorem trustedD_mono_T (R : Nat → N → N → Prop) (cfgs : Nat → Cfg N) (Signed : Key → Obj N → Prop) :
    ∀ (h : List (Event N)) (w : World N) (T : Nat → N → Key → Prop) s n k, T s n k → TrustedD R cfgs Signed w T h s n k :=
  fun h w T => trustedD_induction R cfgs Signed (fun T' => ∀ s n k, T s n k → T' s n k) h w T (fun _ _ _ ht => ht)
    fun _ _ _ _ hT s n k ht => .inl (hT s n k ht)

omit [DecidableEq N] in
theorem trustedD_mono (R R' : Nat → N → N → Prop) (cfgs : Nat → Cfg N) (Signed : Key → Obj N → Prop)
    (hR : ∀ j a b, R j a b → R' j a b) :
    ∀ (h : List (Event N)) (w : World N) (T T' : Nat → N → Key → Prop), (∀ s n k, T s n k → T' s n k) →
      ∀ s n k, TrustedD R cfgs Signed w T h s n k → TrustedD R' cfgs Signed w T' h s n k := by
  intro h
  induction h with
  | nil => intro w T T' hT s n k ht; exact hT s n k ht
  | cons e r ih =>
    intro w T T' hT s n k ht
    cases e with
    | world w' => exact ih w' T T' hT s n k ht
    | validate j f o =>
      refine ih w _ _ ?_ s n k ht
      intro s n k hs
      rcases hs with h0 | ⟨hst, x, hw, hxn, hxc, d, hd⟩
      · exact Or.inl (hT s n k h0)
      · exact Or.inr ⟨hst, x, hw, hxn, hxc, d, ChainC.mono (hR j) (hT s) hd⟩

/-- a name denotes one key: whatever one of the states `ws` served under a name carries the key bits of what `now`
    serves under it -/
def KeyStable (ws : List (World N)) (now : World N) : Prop :=
  ∀ w ∈ ws, ∀ n c c', w (certInterest n) = some (.data c) → c.name = n →
    now (certInterest n) = some (.data c') → c'.name = n → c.content = c'.content

omit [DecidableEq N] in
theorem KeyStable.self (w : World N) : KeyStable [w] w := by
  intro w' hm n c c' hc _ hc' _
  cases List.mem_singleton.mp hm
  cases hc.symm.trans hc'
  rfl

omit [DecidableEq N] in
theorem KeyStable.cons {w : World N} {ws : List (World N)} {now : World N} (hw : ∀ i c, w i ≠ some (.data c))
    (h : KeyStable ws now) : KeyStable (w :: ws) now := by
  intro w' hm n c c' hc
  rcases List.mem_cons.mp hm with rfl | hm
  · exact (hw _ c hc).elim
  · exact h w' hm n c c' hc

theorem cacheAgrees_of_stable (E : Env N) (ws : List (World N)) (hst : KeyStable ws E.world) (st : Cache N)
    (h : ∀ n k, cacheLoad st n = some k →
      ∃ w ∈ ws, ∃ x, w (certInterest n) = some (.data x) ∧ x.name = n ∧ x.content = some k) :
    CacheAgrees E st := by
  intro n k c hl hw hcn
  obtain ⟨w, hm, x, hxw, hxn, hxc⟩ := h n k hl
  rw [← hst w hm n x c hxw hxn hw hcn, hxc]

def allowedOf (cfgs : Nat → Cfg N) : Nat → N → N → Prop := fun j => AllowedR (cfgs j).allowed

omit [DecidableEq N] in
theorem saveStore_apply (stores : Nat → Cache N) (r : StoreRef) (c : Cache N) (s : Nat) :
    saveStore stores r c s = if r = .mem s then c else stores s := by
  cases r with
  | empty => rfl
  | mem s' => simp only [saveStore, setCache, StoreRef.mem.injEq, eq_comm]

def StoresTrusted (st : DState N) (T : Nat → N → Key → Prop) : Prop := ∀ s, Trusts (st.stores s) (T s)

theorem trusts_loadStore {st : DState N} {T : Nat → N → Key → Prop} (h : StoresTrusted st T) (r : StoreRef) :
    Trusts (loadStore st r) (trustOf T r) := by
  cases r with
  | empty => exact trusts_nil _
  | mem s => exact h s

theorem storesTrusted_step (cfgs : Nat → Cfg N) (Signed : Key → Obj N → Prop)
    (hu : ∀ i k o, (cfgs i).crypto k o = true → Signed k o) (st : DState N) (T : Nat → N → Key → Prop)
    (h : StoresTrusted st T) (j f : Nat) (o : Obj N) :
    StoresTrusted (stepD cfgs st (.validate j f o)) (trustStep (allowedOf cfgs j) (cfgs j) Signed st.world T) := by
  intro s n k hl
  simp only [stepD, validateD, saveStore_apply] at hl
  split at hl
  · next hst =>
    rcases validate_cache_chainC (unforgeable_env (cfgs j) Signed st.world (hu j)) (trusts_loadStore h _) hl
      with h0 | ⟨c, hw, hcn, hcc, d, hd⟩
    · rw [hst] at h0
      exact .inl (h s n k h0)
    · rw [hst] at hd
      exact .inr ⟨hst, c, hw, hcn, hcc, d, hd⟩
  · exact .inl (h s n k hl)

theorem storesTrusted_run (cfgs : Nat → Cfg N) (Signed : Key → Obj N → Prop)
    (hu : ∀ i k o, (cfgs i).crypto k o = true → Signed k o) :
    ∀ (h : List (Event N)) (st : DState N) (T : Nat → N → Key → Prop), StoresTrusted st T →
      StoresTrusted (runD cfgs st h) (TrustedD (allowedOf cfgs) cfgs Signed st.world T h) := by
  intro h
  induction h with
  | nil => exact fun _ _ hT => hT
  | cons e r ih =>
    intro st T hT
    cases e with
    | world w => exact ih ⟨w, st.stores⟩ T hT
    | validate j f o => exact ih _ _ (storesTrusted_step cfgs Signed hu st T hT j f o)

/-- the events that can touch the storage object `s` or the network -/
def touches (cfgs : Nat → Cfg N) (s : Nat) : Event N → Bool
  | .world _ => true
  | .validate i _ _ => decide ((cfgs i).store = .mem s)

theorem runD_filter (cfgs : Nat → Cfg N) (s : Nat) :
    ∀ (h : List (Event N)) (st1 st2 : DState N), st1.world = st2.world → st1.stores s = st2.stores s →
      (runD cfgs st1 h).world = (runD cfgs st2 (h.filter (touches cfgs s))).world ∧
      (runD cfgs st1 h).stores s = (runD cfgs st2 (h.filter (touches cfgs s))).stores s := by
  intro h
  induction h with
  | nil => exact fun _ _ hw hs => ⟨hw, hs⟩
  | cons e r ih =>
    intro st1 st2 hw hs
    cases e with
    | world w => exact ih _ _ rfl hs
    | validate i f o =>
      by_cases hst : (cfgs i).store = .mem s
      · simp only [List.filter, touches, hst, decide_true, runD]
        refine ih _ _ hw ?_
        simp only [stepD, validateD, saveStore_apply, hst, if_true, loadStore, hw, hs]
      · simp only [List.filter, touches, hst, decide_false, runD]
        refine ih _ _ hw ?_
        simp only [stepD, saveStore_apply, if_neg hst, hs]

/-- the events that change the state of the network -/
def isWorld : Event N → Bool
  | .world _ => true
  | .validate _ _ _ => false

theorem runD_world_only (cfgs : Nat → Cfg N) :
    ∀ (h : List (Event N)) (st1 st2 : DState N), st1.world = st2.world →
      (runD cfgs st1 h).world = (runD cfgs st2 (h.filter isWorld)).world := by
  intro h
  induction h with
  | nil => exact fun _ _ hw => hw
  | cons e r ih =>
    intro st1 st2 hw
    cases e with
    | world w => exact ih _ _ rfl
    | validate i f o => exact ih _ _ hw

/-- a history of `runSys` (no `world` event) as a history of `runD` -/
def staticEvents (h : List (Nat × Nat × Obj N)) : List (Event N) := h.map fun s => .validate s.1 s.2.1 s.2.2

end Ndn.Cascade
