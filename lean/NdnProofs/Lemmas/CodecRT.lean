import NdnProofs.Lemmas.CodecLoop
/-! Round trip `parse (enc v) = v` for every well-formed schema (plain, repeated and map fields; no markers).  What `enc`
    writes is cut into items (Lemmas/CodecLoop): `FieldRT`, `SuffixRT`, `ListRT`, `MapRT` say which items a field, a
    suffix of the field list, a repeated field's elements and a map field's entries are written as, and what folding
    them does to the accumulator (`ElemRT`: how one element is read).  `rt_all` proves them together by
    `enc_ok_induct`; `SuffixRT.parse` turns the fold into a run of the scan loop. -/
namespace Ndn.Codec
open Ndn

theorem mapSet_fresh : ∀ (l : List (Value × Value)) (k v : Value),
    (∀ e ∈ l, keyEq e.1 k = false) → mapSet l k v = l ++ [(k, v)]
  | [], _, _, _ => rfl
  | (k', v') :: r, k, v, h => by
    have h1 : keyEq k' k = false := h (k', v') (List.mem_cons_self ..)
    simp only [mapSet, h1, Bool.false_eq_true, if_false, List.cons_append]
    rw [mapSet_fresh r k v (fun e he => h e (List.mem_cons_of_mem _ he))]

/-- what parsing one encoded element of (element-kind) schema `e` gives -/
def ElemRT (e : Schema) (v : Value) (a : Bytes) : Prop :=
  ∃ t body, a = tlv t body ∧ e.typ = some t ∧ t < 2 ^ 64 ∧ body.length < 2 ^ 64 ∧
    leafCheck e body.length body = .ok () ∧
    ∀ fuel R, body.length + 2 ≤ fuel → parseValue fuel e body (tlv t body ++ R) = .ok v

theorem set_append_mid (d : List Value) (x y : Value) (tl : List Value) :
    (d ++ x :: tl).set d.length y = d ++ y :: tl := by
  induction d with
  | nil => simp
  | cons a r ih => simp [ih]

theorem getElem?_append_mid (d : List Value) (x : Value) (tl : List Value) :
    (d ++ x :: tl)[d.length]? = some x := by
  simp

theorem set_of_getElem? {α} : ∀ {l : List α} {k : Nat} {x : α}, l[k]? = some x → l.set k x = l
  | [], _, _, h => by simp at h
  | a :: r, 0, x, h => by simp at h; simp [h]
  | a :: r, k + 1, x, h => by simp at h; simp [set_of_getElem? h]

theorem elemKind_plain {s : Schema} (h : isElemKind s = true) :
    isRep s = false ∧ elemOf s = s ∧ plainOrRep s = true ∧ isMapS s = false := by
  cases s <;> first | exact ⟨rfl, rfl, rfl, rfl⟩ | cases h

/-- the round trip of field `k`: its items stand at `k`, encode to `a`, and turn the field's initial entry into `v` -/
def FieldRT (fs : List Schema) (k : Nat) (s : Schema) (v : Value) (a : Bytes) : Prop :=
  ∃ items, ItemsOK fs k items ∧ endPos k items ≤ k + 1 ∧ encItems items = a ∧
    ∀ acc : List Value, acc[k]? = some (initVal s) → items.foldl applyItem acc = acc.set k v

theorem FieldRT.plain {fs : List Schema} {k : Nat} {s : Schema} {v : Value} {a : Bytes}
    (hek : isElemKind s = true) (hget : fs[k]? = some s) (h : ElemRT s v a) : FieldRT fs k s v a := by
  obtain ⟨t, body, rfl, htyp, ht, hb, hleaf, hpv⟩ := h
  obtain ⟨hnr, hel, hpr, hnm⟩ := elemKind_plain hek
  refine ⟨[⟨k, s, v, t, body, none⟩], ?_, ?_, by simp [encItems, encItem, encTail], ?_⟩
  · exact ⟨Nat.le_refl _, ⟨hget, hpr, htyp, ht, hb, by rw [hel]; exact hleaf, by rw [hel]; exact hpv, hnm⟩, trivial⟩
  · simp [endPos, nextPos, hnr, hnm]
  · intro acc _
    simp only [List.foldl, applyItem, hnr, Bool.false_eq_true, if_false]

theorem FieldRT.of_at {fs : List Schema} {k : Nat} {s : Schema} {v : Value} {a : Bytes} {items : List Item}
    (hall : ∀ it ∈ items, it.idx = k ∧ (isRep it.fld || isMapS it.fld) = true ∧ ItemOK fs it)
    (henc : encItems items = a)
    (hfold : ∀ acc : List Value, acc[k]? = some (initVal s) → items.foldl applyItem acc = acc.set k v) :
    FieldRT fs k s v a := by
  obtain ⟨hok, hend⟩ := ItemsOK_at fs k items k (Nat.le_refl _) hall
  exact ⟨items, hok, Nat.le_succ_of_le hend, henc, hfold⟩

/-- the round trip for a suffix `ss` of the field list: the whole schema `pre ++ ss` stays in view (indices start
    at `pre.length`, `findField` / `nodupB` see all Types); `d` is an arbitrary already-decoded prefix -/
def SuffixRT (pre ss : List Schema) (vs : List Value) (B : Bytes) : Prop :=
  ∃ items, ItemsOK (pre ++ ss) pre.length items ∧ encItems items = B ∧
    ∀ d : List Value, d.length = pre.length →
      items.foldl applyItem (d ++ ss.map initVal) = d ++ vs

theorem SuffixRT.parse {fs : List Schema} {vs : List Value} {B : Bytes} (h : SuffixRT [] fs vs B) (ic : Bool)
    (hw : wfFs fs = true) (hn : nodupB (typs fs) = true) (fuel : Nat) (hf : B.length < fuel) :
    parseFields fuel fs ic B 0 0 (fs.map initVal) = .ok vs := by
  obtain ⟨items, hok, rfl, hfold⟩ := h
  rw [loop_items fs ic hw hn items fuel 0 0 _ (by simpa using hok) hf]
  exact congrArg _ (hfold [] rfl)

/-- the items of one repeated field at index `k` -/
def ListRT (fs : List Schema) (k : Nat) (xs : List Value) (a : Bytes) : Prop :=
  ∃ items, (∀ it ∈ items, it.idx = k ∧ isRep it.fld = true ∧ ItemOK fs it) ∧ encItems items = a ∧
    ∀ (acc : List Value) (l : List Value), acc[k]? = some (.list l) →
      items.foldl applyItem acc = acc.set k (.list (l ++ xs))

/-- the items (key element + value element each) of one map field at index `k` -/
def MapRT (fs : List Schema) (k : Nat) (es : List (Value × Value)) (a : Bytes) : Prop :=
  ∃ items, (∀ it ∈ items, it.idx = k ∧ isMapS it.fld = true ∧ ItemOK fs it) ∧ encItems items = a ∧
    ∀ (acc : List Value) (l : List (Value × Value)), acc[k]? = some (.map l) → keysDistinct es = true →
      (∀ e ∈ l, ∀ e' ∈ es, keyEq e.1 e'.1 = false) →
      items.foldl applyItem acc = acc.set k (.map (l ++ es))

/-- One schema `s` is treated in two forms: as a field of any list `fs` holding it at `k`, and, when it is of an
    element kind, as one element, which is what the rules for repeated and map fields need of their elements. -/
theorem rt_all :
    (∀ s v a, enc s v = .ok a → wfS s = true → fits s v = true →
      (∀ fs k, fs[k]? = some s → FieldRT fs k s v a) ∧ (isElemKind s = true → v ≠ .none → ElemRT s v a)) ∧
    (∀ ss vs B, encFields ss vs = .ok B → ∀ pre, wfFs ss = true → fitsFs ss vs = true → SuffixRT pre ss vs B) ∧
    (∀ e xs a, encList e xs = .ok a → isElemKind e = true → wfS e = true → fitsList e xs = true →
      ∀ fs k, fs[k]? = some (.repeated e) → ListRT fs k xs a) ∧
    (∀ ks vs es a, encMap ks vs es = .ok a → isKeyKind ks = true → wfS ks = true → isElemKind vs = true →
      wfS vs = true → fitsMap ks vs es = true → ∀ fs k, fs[k]? = some (.map ks vs) → MapRT fs k es a) := by
  -- a leaf or sub-model field: the element form gives the field form
  have plain : ∀ {s v a}, isElemKind s = true → ElemRT s v a →
      (∀ fs k, fs[k]? = some s → FieldRT fs k s v a) ∧ (isElemKind s = true → v ≠ .none → ElemRT s v a) :=
    fun hek h => ⟨fun _ _ hget => FieldRT.plain hek hget h, fun _ _ => h⟩
  apply enc_ok_induct
  case none =>
    intro s _ hfit
    refine ⟨fun fs k _ => ⟨[], trivial, Nat.le_succ k, rfl, fun acc h => ?_⟩, fun _ h => absurd rfl h⟩
    have : initVal s = .none := by cases s <;> first | rfl | cases hfit
    exact (set_of_getElem? (this ▸ h)).symm
  case marker => intro v hw; cases hw
  case uint =>
    intro t fl v hv ht hb hw _
    have hleg := uintWidth_legal fl v hw
    refine plain rfl ⟨t, _, rfl, rfl, ht, hb, by simp [leafCheck, beN_length _ v hleg, hleg], fun fuel R hf => ?_⟩
    cases fuel with
    | zero => omega
    | succ f => simp [parseValue, beVal_beN (uintWidth fl v) v hleg hv]
  case bool =>
    intro t ht _ _
    refine plain rfl ⟨t, _, rfl, rfl, ht, by decide, rfl, fun fuel R hf => ?_⟩
    cases fuel with
    | zero => omega
    | succ f => rfl
  case bytes =>
    intro t isStr x ht hb _ hfit
    refine plain rfl ⟨t, _, rfl, rfl, ht, hb, rfl, fun fuel R hf => ?_⟩
    cases fuel with
    | zero => omega
    | succ f =>
      cases isStr with
      | false => rfl
      | true => simp only [fits, Bool.not_true, Bool.false_or] at hfit; simp [parseValue, hfit]
  case name =>
    intro t cs hb hw hfit
    have h7 : t = 7 := by simpa [wfS] using hw
    subst h7
    refine plain rfl ⟨7, _, rfl, rfl, by decide, hb, rfl, fun fuel R hf => ?_⟩
    cases fuel with
    | zero => omega
    | succ f => simp [parseValue, decodeName_ok cs R (by simpa only [fits] using hfit) hb, bind, Except.bind, pure, Except.pure]
  case model =>
    intro t fs ic vs body hbody ih ht hb hw hfit
    simp only [wfS, Bool.and_eq_true] at hw
    have hrt := ih [] hw.1 (by simpa only [fits] using hfit)
    refine plain rfl ⟨t, _, rfl, rfl, ht, hb, rfl, fun fuel R hf => ?_⟩
    cases fuel with
    | zero => omega
    | succ f => simp [parseValue, hrt.parse ic hw.1 hw.2 f (by omega), bind, Except.bind, pure, Except.pure]
  case list =>
    intro e xs a ih hw hfit
    simp only [wfS, Bool.and_eq_true] at hw
    refine ⟨fun fs k hget => ?_, fun h => by cases h⟩
    obtain ⟨items, hall, henc, hfold⟩ := ih hw.1 hw.2 (by simpa only [fits] using hfit) fs k hget
    exact FieldRT.of_at (fun it h => ⟨(hall it h).1, by simp [(hall it h).2.1], (hall it h).2.2⟩) henc
      (fun acc h => by simpa using hfold acc [] h)
  case map =>
    intro ks vs es a ih hw hfit
    simp only [wfS, Bool.and_eq_true] at hw
    simp only [fits, Bool.and_eq_true] at hfit
    refine ⟨fun fs k hget => ?_, fun h => by cases h⟩
    obtain ⟨items, hall, henc, hfold⟩ := ih hw.1.1.1.1 hw.1.1.1.2 hw.1.1.2 hw.1.2 hfit.1 fs k hget
    exact FieldRT.of_at (fun it h => ⟨(hall it h).1, by simp [(hall it h).2.1], (hall it h).2.2⟩) henc
      (fun acc h => by simpa using hfold acc [] h hfit.2 (by intro e he; simp at he))
  case fnil =>
    intro vs pre _ hfit
    cases vs with
    | nil => exact ⟨[], trivial, rfl, by intro d _; simp⟩
    | cons _ _ => cases hfit
  case fshort => intro s ss pre _ hfit; cases hfit
  case fcons =>
    intro s ss v vs a c _ ih1 ih2 pre hw hfit
    simp only [wfFs, Bool.and_eq_true] at hw
    simp only [fitsFs, Bool.and_eq_true] at hfit
    have hassoc : pre ++ s :: ss = (pre ++ [s]) ++ ss := by simp
    obtain ⟨items2, hok2, henc2, hfold2⟩ := ih2 (pre ++ [s]) hw.2 hfit.2
    rw [← hassoc, List.length_append, List.length_singleton] at hok2
    obtain ⟨items1, hok1, hnext1, henc1, hfold1⟩ := (ih1 hw.1 hfit.1).1 (pre ++ s :: ss) pre.length (by simp)
    refine ⟨items1 ++ items2, ?_, by rw [encItems_append, henc1, henc2], ?_⟩
    · exact ItemsOK_append _ items1 items2 pre.length (pre.length + 1) hok1 hnext1 hok2
    · intro d hd
      rw [List.foldl_append, List.map_cons, hfold1 _ (by rw [← hd]; simp), ← hd, set_append_mid]
      have := hfold2 (d ++ [v]) (by simp [hd])
      simpa [List.append_assoc] using this
  case lnil =>
    intro e _ _ _ fs k _
    exact ⟨[], by simp, rfl, fun acc l hl => by simpa using (set_of_getElem? hl).symm⟩
  case lcons =>
    intro e x xs a1 a2 _ ih1 ih2 hek hw hfit fs k hk
    simp only [fitsList, Bool.and_eq_true] at hfit
    have hxne : x ≠ .none := by intro e; subst e; simp at hfit
    obtain ⟨t, body, rfl, htyp, ht, hb, hleaf, hpv⟩ := (ih1 hw hfit.1.2).2 hek hxne
    obtain ⟨items, hall, henc, hfold⟩ := ih2 hek hw hfit.2 fs k hk
    refine ⟨⟨k, .repeated e, x, t, body, none⟩ :: items, ?_, by simp [encItems, encItem, encTail, henc], ?_⟩
    · intro it hit
      simp only [List.mem_cons] at hit
      rcases hit with rfl | hit
      · exact ⟨rfl, rfl, hk, rfl, by simpa [Schema.typ] using htyp, ht, hb, hleaf, hpv, rfl⟩
      · exact hall it hit
    · intro acc l hl
      simp only [List.foldl, applyItem, isRep, if_true, hl, listOf]
      have hlt : k < acc.length := lt_of_getElem? hl
      rw [hfold _ (l ++ [x]) (by simp [hlt])]
      simp [List.set_set, List.append_assoc]
  case mnil =>
    intro ks vs _ _ _ _ _ fs k _
    exact ⟨[], by simp, rfl, fun acc l hl _ _ => by simpa using (set_of_getElem? hl).symm⟩
  case mcons =>
    intro ks vs x y r a1 a2 a3 _ _ ih1 ih2 ih3 hkk hwk hek hwv hfit fs k hk
    simp only [fitsMap, Bool.and_eq_true] at hfit
    have hxne : x ≠ .none := by intro e; subst e; simp [notNone] at hfit
    have hyne : y ≠ .none := by intro e; subst e; simp [notNone] at hfit
    have hkek : isElemKind ks = true := by cases ks <;> first | rfl | cases hkk
    obtain ⟨t, body, rfl, htyp, ht, hb, hleaf, hpv⟩ := (ih1 hwk hfit.1.1.2).2 hkek hxne
    obtain ⟨t2, body2, rfl, htyp2, ht2, hb2, hleaf2, hpv2⟩ := (ih2 hwv hfit.1.2).2 hek hyne
    obtain ⟨items, hall, henc, hfold⟩ := ih3 hkk hwk hek hwv hfit.2 fs k hk
    refine ⟨⟨k, .map ks vs, x, t, body, some ⟨y, t2, body2⟩⟩ :: items, ?_,
      by simp [encItems, encItem, encTail, henc, List.append_assoc], ?_⟩
    · intro it hit
      simp only [List.mem_cons] at hit
      rcases hit with rfl | hit
      · exact ⟨rfl, rfl, hk, rfl, by simpa [Schema.typ] using htyp, ht, hb, hleaf, hpv,
          ⟨ks, vs, rfl, htyp2, ht2, hb2, hleaf2, hpv2⟩⟩
      · exact hall it hit
    · intro acc l hl hdist hdisj
      simp only [keysDistinct, Bool.and_eq_true] at hdist
      have hfresh : mapSet l x y = l ++ [(x, y)] :=
        mapSet_fresh l x y (fun e he => hdisj e he (x, y) (List.mem_cons_self ..))
      simp only [List.foldl, applyItem, hl, mapOf, hfresh]
      have hlt : k < acc.length := lt_of_getElem? hl
      have hdisj2 : ∀ e ∈ l ++ [(x, y)], ∀ e' ∈ r, keyEq e.1 e'.1 = false := by
        intro e he e' he'
        rcases List.mem_append.1 he with h | h
        · exact hdisj e h e' (List.mem_cons_of_mem _ he')
        · simp only [List.mem_singleton] at h; subst h
          have := List.all_eq_true.1 hdist.1 e' he'
          simpa using this
      rw [hfold _ (l ++ [(x, y)]) (by simp [hlt]) hdist.2 hdisj2]
      simp [List.set_set, List.append_assoc]

theorem rt_elem : ∀ (e : Schema) (v : Value) (a : Bytes),
    isElemKind e = true → wfS e = true → fits e v = true → v ≠ .none → enc e v = .ok a → ElemRT e v a :=
  fun e v a hk hw hfit hne h => (rt_all.1 e v a h hw hfit).2 hk hne

theorem rt_map : ∀ (fs : List Schema) (k : Nat) (ks vs : Schema) (es : List (Value × Value)) (a : Bytes),
    fs[k]? = some (.map ks vs) → isKeyKind ks = true → wfS ks = true → isElemKind vs = true → wfS vs = true →
    fitsMap ks vs es = true → encMap ks vs es = .ok a → MapRT fs k es a :=
  fun fs k ks vs es a hk hkk hwk hek hwv hfit h => rt_all.2.2.2 ks vs es a h hkk hwk hek hwv hfit fs k hk

theorem rt_suffix : ∀ (pre ss : List Schema) (vs : List Value) (B : Bytes),
    wfFs ss = true → fitsFs ss vs = true → encFields ss vs = .ok B → SuffixRT pre ss vs B :=
  fun pre ss vs B hw hfit h => rt_all.2.1 ss vs B h pre hw hfit

theorem parse_encFields (fs : List Schema) (vs : List Value) (b : Bytes) (ic : Bool) (hw : wfFs fs = true)
    (hn : nodupB (typs fs) = true) (hfit : fitsFs fs vs = true) (h : encFields fs vs = .ok b) :
    parse fs ic b = .ok vs :=
  (rt_suffix [] fs vs b hw hfit h).parse ic hw hn _ (Nat.lt_succ_self _)

end Ndn.Codec
