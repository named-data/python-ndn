import NdnModel.Svs
import NdnProofs.Lemmas.PyDict
/-! The loops of `sync_handler` and `aggregate` read as functions NodeId → SeqNo, the vector decoded entries denote,
    and what one event of the atomic model does to the local vector. -/
namespace Ndn.Svs
open Ndn

theorem vget_set (d : Vec) (k k' : Bytes) (v : Nat) :
    vget (PyDict.set d k v) k' = if k = k' then v else vget d k' := by
  unfold vget; rw [PyDict.get?_set]; split <;> rfl

theorem vget_cons (i k : Bytes) (q : Nat) (r : Vec) :
    vget ((i, q) :: r) k = if i = k then q else vget r k := by
  unfold vget; simp only [PyDict.get?]; split <;> rfl

theorem vget_of_not_mem {d : Vec} {k : Bytes} (h : k ∉ PyDict.keys d) : vget d k = 0 := by
  induction d with
  | nil => rfl
  | cons p r ih =>
    simp only [PyDict.keys, List.map_cons, List.mem_cons, not_or] at h
    rw [vget_cons, if_neg (Ne.symm h.1)]; exact ih h.2

theorem vget_of_mem {d : Vec} (h : (PyDict.keys d).Nodup) {k : Bytes} {q : Nat} (hm : (k, q) ∈ d) :
    vget d k = q := by
  unfold vget; rw [PyDict.get?_of_mem d h k q hm]; rfl

theorem mergeLoop_inv (P : Vec → Prop) (rsv : Vec) (hset : ∀ p ∈ rsv, ∀ d, P d → P (PyDict.set d p.1 p.2))
    (loc : Vec) (nf nn : Bool) (h : P loc) : P (mergeLoop rsv loc nf nn).1 := by
  -- the cases of `mergeLoop`: end of the dict; the entry raises the local one; is outdated; is equal
  fun_induction mergeLoop rsv loc nf nn with
  | case1 => exact h
  | case2 i q r loc _ _ _ _ ih =>
    exact ih (fun p hp => hset p (List.mem_cons_of_mem _ hp)) (hset (i, q) List.mem_cons_self loc h)
  | case3 | case4 => rename_i ih; exact ih (fun p hp => hset p (List.mem_cons_of_mem _ hp)) h

theorem mergeLoop_vget (rsv : Vec) (h : (PyDict.keys rsv).Nodup) (loc : Vec) (nf nn : Bool) (k : Bytes) :
    vget (mergeLoop rsv loc nf nn).1 k = max (vget loc k) (vget rsv k) := by
  -- a dict does not repeat `i`, so what the loop does to `i` now is final: the larger of the two
  fun_induction mergeLoop rsv loc nf nn with
  | case1 => exact (Nat.max_zero _).symm
  | case2 i q r loc _ _ _ hlt ih =>
    obtain ⟨hi, hr⟩ := List.nodup_cons.mp h
    rw [ih hr, vget_set, vget_cons]; split
    · subst_vars; rw [vget_of_not_mem hi, Nat.max_zero, Nat.max_eq_right (Nat.le_of_lt hlt)]
    · rfl
  | case3 i q r loc _ _ _ hge _ ih | case4 i q r loc _ _ _ hge _ ih =>
    obtain ⟨hi, hr⟩ := List.nodup_cons.mp h
    rw [ih hr, vget_cons]; split
    · subst_vars; rw [vget_of_not_mem hi, Nat.max_zero, Nat.max_eq_left (Nat.not_lt.mp hge)]
    · rfl

theorem mergeLoop_nf (rsv : Vec) (h : (PyDict.keys rsv).Nodup) (loc : Vec) (nf nn : Bool) :
    (mergeLoop rsv loc nf nn).2.1 = true ↔
      (nf = true ∨ ∃ k, vget loc k < vget (mergeLoop rsv loc nf nn).1 k) := by
  fun_induction mergeLoop rsv loc nf nn with
  | case1 => exact ⟨.inl, fun h => h.resolve_right fun ⟨k, hk⟩ => Nat.lt_irrefl _ hk⟩
  | case2 i q r loc _ _ _ hlt ih =>
    have hr := (List.nodup_cons.mp h).2
    refine (ih hr).trans ⟨fun _ => .inr ⟨i, ?_⟩, fun _ => .inl rfl⟩
    rw [mergeLoop_vget r hr, vget_set, if_pos rfl]
    exact Nat.lt_of_lt_of_le hlt (Nat.le_max_left ..)
  | case3 | case4 => rename_i ih; exact ih (List.nodup_cons.mp h).2

theorem aggregate_vget (rsv : Vec) (h : (PyDict.keys rsv).Nodup) (agg : Vec) (k : Bytes) :
    vget (aggregate rsv agg) k = max (vget agg k) (vget rsv k) := by
  induction rsv generalizing agg with
  | nil => exact (Nat.max_zero _).symm
  | cons p r ih =>
    obtain ⟨i, q⟩ := p
    obtain ⟨hi, hr⟩ := List.nodup_cons.mp h
    have hi : vget r i = 0 := vget_of_not_mem hi
    simp only [aggregate]; rw [ih hr, vget_set, vget_cons]; split
    · subst_vars; rw [hi, Nat.max_zero]
    · rfl

theorem necessary_iff (loc agg : Vec) (h : (PyDict.keys loc).Nodup) :
    necessary loc agg = true ↔ ∃ k, vget agg k < vget loc k := by
  unfold necessary
  rw [List.any_eq_true]
  constructor
  · rintro ⟨⟨i, q⟩, hm, hlt⟩
    exact ⟨i, by rw [vget_of_mem h hm]; exact of_decide_eq_true hlt⟩
  · rintro ⟨k, hlt⟩
    cases hg : PyDict.get? loc k with
    | none => simp [vget, hg] at hlt
    | some q =>
      have hm := PyDict.mem_of_get? loc k q hg
      exact ⟨(k, q), hm, by rw [vget_of_mem h hm] at hlt; exact decide_eq_true hlt⟩

/-- the merge loop as the second half of `sync_handler` runs it: `need_notif` starts as "some received id is new" -/
abbrev merged (s : State) (rsv : Vec) : Vec × Bool × Bool :=
  mergeLoop rsv s.loc false (rsv.any fun p => !(PyDict.contains s.loc p.1))

theorem afterBuild_fst (s : State) (rsv : Vec) :
    (afterBuild s rsv).1 =
      (let m := merged s rsv
       { s with loc := m.1, suppress := m.2.2 || s.suppress,
                agg := if s.suppress then aggregate rsv s.agg else if m.2.2 then rsv else s.agg }) := by
  obtain ⟨selfId, selfSeq, loc, agg, suppress⟩ := s
  unfold afterBuild merged
  dsimp only
  generalize mergeLoop rsv loc false _ = m
  obtain ⟨loc', nf, nn⟩ := m
  cases suppress <;> cases nn <;> rfl

theorem afterBuild_out (s : State) (rsv : Vec) :
    (afterBuild s rsv).2 =
      if (merged s rsv).2.1
      then [Out.missing] else [] := rfl

/-- the vector denoted by decoded entries, as a function (entries lacking NodeId or SeqNo, or with an empty
    NodeId, are not part of it; for a repeated id the last entry wins — Python dict semantics) -/
def vecOfF : List Entry → (Bytes → Nat) → (Bytes → Nat)
  | [], f => f
  | (some i, some q) :: r, f => if i = [] then vecOfF r f else vecOfF r (fun k => if i = k then q else f k)
  | _ :: r, f => vecOfF r f

def vecOf (es : List Entry) : Bytes → Nat := vecOfF es (fun _ => 0)

/-- some entry claims more data for this node than it has produced -/
def overclaims (selfId : Bytes) (selfSeq : Nat) (es : List Entry) : Prop :=
  ∃ q, (some selfId, some q) ∈ es ∧ selfId ≠ [] ∧ selfSeq < q

theorem overclaims_cons (selfId : Bytes) (selfSeq : Nat) (e : Entry) (r : List Entry) :
    overclaims selfId selfSeq (e :: r) ↔
      (∃ q, e = (some selfId, some q) ∧ selfId ≠ [] ∧ selfSeq < q) ∨ overclaims selfId selfSeq r := by
  unfold overclaims
  constructor
  · rintro ⟨q, hm, h⟩
    rcases List.mem_cons.mp hm with he | hm
    · exact .inl ⟨q, he.symm, h⟩
    · exact .inr ⟨q, hm, h⟩
  · rintro (⟨q, rfl, h⟩ | ⟨q, hm, h⟩)
    · exact ⟨q, List.mem_cons_self, h⟩
    · exact ⟨q, List.mem_cons_of_mem _ hm, h⟩

theorem buildRsv_none_iff (selfId : Bytes) (selfSeq : Nat) (es : List Entry) (acc : Vec) :
    buildRsv selfId selfSeq es acc = none ↔ overclaims selfId selfSeq es := by
  -- the cases of `buildRsv`: end of the list; no id; no sequence number; empty id; over-claim; entry kept.
  -- An entry the loop skips, or keeps, is not the over-claiming one
  fun_induction buildRsv selfId selfSeq es acc with
  | case1 => simp [overclaims]
  | case2 _ _ _ ih | case3 _ _ _ ih =>
    rw [ih, overclaims_cons]; exact (or_iff_right (by rintro ⟨_, h, _⟩; cases h)).symm
  | case4 _ _ _ ih =>
    rw [ih, overclaims_cons]; exact (or_iff_right (by rintro ⟨_, h, hne, _⟩; cases h; exact hne rfl)).symm
  | case5 _ _ i q hi hs =>
    rw [overclaims_cons]; exact ⟨fun _ => .inl ⟨q, by rw [hs.1], hs.1 ▸ hi, hs.2⟩, fun _ => rfl⟩
  | case6 _ _ _ _ _ hs ih =>
    rw [ih, overclaims_cons]; exact (or_iff_right (by rintro ⟨_, h, _, hlt⟩; cases h; exact hs ⟨rfl, hlt⟩)).symm

theorem buildRsv_inv (P : Vec → Prop) (selfId : Bytes) (selfSeq : Nat) (es : List Entry)
    (hset : ∀ i q, (some i, some q) ∈ es → i ≠ [] → ∀ d, P d → P (PyDict.set d i q)) (acc rsv : Vec) (ha : P acc)
    (h : buildRsv selfId selfSeq es acc = some rsv) : P rsv := by
  fun_induction buildRsv selfId selfSeq es acc with
  | case1 => cases h; exact ha
  | case2 _ _ _ ih | case3 _ _ _ ih | case4 _ _ _ ih =>
    exact ih (fun i q hm => hset i q (List.mem_cons_of_mem _ hm)) ha h
  | case5 => cases h
  | case6 _ acc i q hi _ ih =>
    exact ih (fun i q hm => hset i q (List.mem_cons_of_mem _ hm)) (hset i q List.mem_cons_self hi acc ha) h

theorem buildRsv_some (selfId : Bytes) (selfSeq : Nat) (es : List Entry) (acc rsv : Vec)
    (h : buildRsv selfId selfSeq es acc = some rsv) (k : Bytes) : vget rsv k = vecOfF es (vget acc) k := by
  fun_induction buildRsv selfId selfSeq es acc with
  | case1 => cases h; rfl
  | case2 _ _ _ ih | case3 _ _ _ ih | case4 _ _ _ ih => exact ih h
  | case5 => cases h
  | case6 _ _ _ _ hi _ ih =>
    rw [ih h, vecOfF, if_neg hi]
    congr 1; funext k'; exact vget_set ..

theorem vecOf_self_le {selfId : Bytes} {selfSeq : Nat} {es : List Entry} (h : ¬ overclaims selfId selfSeq es) :
    vecOf es selfId ≤ selfSeq := by
  -- by way of the handler: its first loop computes `vecOf es` and never assigns more than `selfSeq` to the own id
  cases hb : buildRsv selfId selfSeq es [] with
  | none => exact absurd ((buildRsv_none_iff ..).mp hb) h
  | some rsv =>
    show vecOfF es (vget []) selfId ≤ selfSeq
    rw [← buildRsv_some _ _ _ _ _ hb]
    refine buildRsv_inv (vget · selfId ≤ selfSeq) _ _ es (fun i q hm hne d hd => ?_) [] rsv (Nat.zero_le _) hb
    rw [vget_set]; split
    · subst_vars; exact Nat.not_lt.mp fun hlt => h ⟨q, hm, hne, hlt⟩
    · exact hd

/-- the three branches of `sync_handler` on a decoded vector, under the model's own conditions; `step_recv_dropped`
    and `step_recv_merged` have those of the specification -/
theorem step_recv_cases (s : State) (es : List Entry) :
    (es.isEmpty = true ∧ step s (.recv es) = (s, [])) ∨
    (es.isEmpty = false ∧ buildRsv s.selfId s.selfSeq es [] = none ∧ step s (.recv es) = (s, [])) ∨
    ∃ rsv, es.isEmpty = false ∧ buildRsv s.selfId s.selfSeq es [] = some rsv ∧
      step s (.recv es) = afterBuild s rsv := by
  simp only [step]
  cases es.isEmpty
  · cases buildRsv s.selfId s.selfSeq es [] with
    | none => exact .inr (.inl ⟨rfl, rfl, rfl⟩)
    | some rsv => exact .inr (.inr ⟨rsv, rfl, rfl, rfl⟩)
  · exact .inl ⟨rfl, rfl⟩

theorem step_recv_dropped (s : State) (es : List Entry) (h : es = [] ∨ overclaims s.selfId s.selfSeq es) :
    step s (.recv es) = (s, []) := by
  rcases step_recv_cases s es with ⟨_, hs⟩ | ⟨_, _, hs⟩ | ⟨rsv, he, hb, _⟩
  · exact hs
  · exact hs
  · rcases h with rfl | h
    · cases he
    · rw [(buildRsv_none_iff ..).mpr h] at hb; cases hb

/-- `nn` is `need_notif` of the handler, which opens a suppression period; when it is set is not said -/
theorem step_recv_merged (s : State) (es : List Entry) (hne : es ≠ []) (h : ¬ overclaims s.selfId s.selfSeq es) :
    ∃ (loc' agg' : Vec) (nf nn : Bool),
      step s (.recv es) =
        ({ s with loc := loc', suppress := nn || s.suppress, agg := agg' }, if nf then [Out.missing] else []) ∧
      (∀ k, vget loc' k = max (vget s.loc k) (vecOf es k)) ∧
      (nf = true ↔ ∃ k, vget s.loc k < vget loc' k) ∧
      (∀ k, vget agg' k =
        if s.suppress then max (vget s.agg k) (vecOf es k) else if nn then vecOf es k else vget s.agg k) := by
  rcases step_recv_cases s es with ⟨he, _⟩ | ⟨_, hb, _⟩ | ⟨rsv, _, hb, hs⟩
  · exact absurd (List.isEmpty_iff.mp he) hne
  · exact absurd ((buildRsv_none_iff ..).mp hb) h
  · have hn : (PyDict.keys rsv).Nodup :=
      buildRsv_inv _ _ _ es (fun i q _ _ d => PyDict.nodup_keys_set d i q) [] rsv List.nodup_nil hb
    have hv : ∀ k, vget rsv k = vecOf es k := buildRsv_some _ _ _ _ _ hb
    refine ⟨_, _, _, _, hs.trans (Prod.ext (afterBuild_fst s rsv) (afterBuild_out s rsv)),
      fun k => (mergeLoop_vget rsv hn ..).trans (congrArg _ (hv k)),
      (mergeLoop_nf rsv hn ..).trans (or_iff_right Bool.false_ne_true), fun k => ?_⟩
    generalize s.suppress = b, (merged s rsv).2.2 = nn
    cases b
    · cases nn
      · rfl
      · exact hv k
    · exact (aggregate_vget rsv hn ..).trans (congrArg _ (hv k))

theorem step_timer_fst (s : State) : (step s .timer).1 = { s with suppress := false } := by
  obtain ⟨selfId, selfSeq, loc, agg, suppress⟩ := s
  cases suppress <;> rfl

theorem run_inv (P : State → Prop) (hstep : ∀ s e, P s → P (step s e).1) (s : State) (evs : List Ev) (h : P s) :
    P (run s evs).1 := by
  induction evs generalizing s with
  | nil => exact h
  | cons e r ih => exact ih _ (hstep s e h)

def pubInc : Ev → Nat
  | .publish => 1
  | _ => 0

theorem step_self (s : State) (e : Ev) :
    (step s e).1.selfId = s.selfId ∧ (step s e).1.selfSeq = s.selfSeq + pubInc e := by
  cases e with
  | recv es =>
    rcases step_recv_cases s es with ⟨_, h⟩ | ⟨_, _, h⟩ | ⟨rsv, _, _, h⟩ <;> rw [h]
    · exact ⟨rfl, rfl⟩
    · exact ⟨rfl, rfl⟩
    · rw [afterBuild_fst]; exact ⟨rfl, rfl⟩
  | timer => rw [step_timer_fst]; exact ⟨rfl, rfl⟩
  | _ => exact ⟨rfl, rfl⟩

theorem step_loc_inv (P : Vec → Prop) (s : State) (e : Ev) (h : P s.loc)
    (hpub : e = .publish → P (PyDict.set s.loc s.selfId (s.selfSeq + 1)))
    (hrecv : ∀ es rsv, e = .recv es → buildRsv s.selfId s.selfSeq es [] = some rsv →
      ∀ p ∈ rsv, ∀ d, P d → P (PyDict.set d p.1 p.2)) :
    P (step s e).1.loc := by
  cases e with
  | undecodable => exact h
  | timer => rw [step_timer_fst]; exact h
  | publish => exact hpub rfl
  | recv es =>
    rcases step_recv_cases s es with ⟨_, hs⟩ | ⟨_, _, hs⟩ | ⟨rsv, _, hb, hs⟩ <;> rw [hs]
    · exact h
    · exact h
    · rw [afterBuild_fst]; exact mergeLoop_inv P _ (hrecv es _ rfl hb) _ _ _ h

theorem step_loc_ne_nil (s : State) (e : Ev) (h : s.loc ≠ []) : (step s e).1.loc ≠ [] :=
  step_loc_inv (· ≠ []) s e h (fun _ => PyDict.set_ne_nil _ _ _) fun _ _ _ _ _ _ _ _ => PyDict.set_ne_nil _ _ _

end Ndn.Svs
