import NdnModel.Shrink
import NdnProofs.Lemmas.TlNum
/-! `shrink_length` is correct for every type, old length `n` and shrink amount `0 < k ≤ n`, on an element whose Type
    is in the shortest form (the Length may be in any form `parse_tl_num` reads). The two cases of the proof are the
    function's own `if` (does the Length get shorter); the 253 / 65536 crossings need none. Every buffer write it makes
    overwrites a middle part of the buffer by as many bytes (`blit_mid`).
    Before that, the buffer write `blit` itself: it keeps the length, and writes at consecutive offsets are one write. -/
namespace Ndn

theorem blit_ok (buf : Bytes) (off : Nat) (bs : Bytes) (h : off + bs.length ≤ buf.length) :
    blit buf off bs = .ok (buf.take off ++ bs ++ buf.drop (off + bs.length)) := by
  simp [blit, h]

theorem blit_length {buf b bs : Bytes} {off : Nat} (h : blit buf off bs = .ok b) : b.length = buf.length := by
  unfold blit at h
  by_cases hf : off + bs.length ≤ buf.length
  · rw [if_pos hf] at h; cases h
    simp only [List.length_append, List.length_take, List.length_drop]; omega
  · rw [if_neg hf] at h; cases h

theorem blit_blit (buf : Bytes) (off : Nat) (a c : Bytes) :
    (blit buf off a >>= fun b => blit b (off + a.length) c) = blit buf off (a ++ c) := by
  by_cases h1 : off + a.length ≤ buf.length
  · rw [blit_ok _ _ _ h1]
    show blit _ _ _ = _
    have hl : (List.take off buf ++ a ++ List.drop (off + a.length) buf).length = buf.length :=
      blit_length (blit_ok _ _ _ h1)
    have ht : (List.take off buf ++ a).length = off + a.length := by
      rw [List.length_append, List.length_take, Nat.min_eq_left (by omega)]
    unfold blit
    rw [hl, List.length_append, ← Nat.add_assoc]
    by_cases h2 : off + a.length + c.length ≤ buf.length
    · rw [if_pos h2, if_pos h2, ← ht, List.take_left, ← List.drop_drop, List.drop_left, List.drop_drop, ht,
        List.append_assoc (List.take off buf)]
    · rw [if_neg h2, if_neg h2]
  · unfold blit
    rw [if_neg h1, if_neg (by rw [List.length_append]; omega)]; rfl

theorem blit_nil (buf : Bytes) (n : Nat) (h : n ≤ buf.length) : blit buf n [] = .ok buf := by
  rw [blit_ok _ _ _ h, List.append_nil, List.length_nil, Nat.add_zero, List.take_append_drop]

theorem blit_all (buf bs : Bytes) (h : bs.length = buf.length) : blit buf 0 bs = .ok bs := by
  rw [blit_ok _ _ _ (by omega), List.take_zero, List.nil_append, List.drop_eq_nil_of_le (by omega), List.append_nil]

theorem blit_mid (A X B Y : Bytes) (h : X.length = Y.length) :
    blit (A ++ X ++ B) A.length Y = .ok (A ++ Y ++ B) := by
  rw [blit_ok _ _ _ (by simp only [List.length_append]; omega), List.append_assoc A X B, List.take_left, ← h,
    ← List.length_append, ← List.append_assoc A X B, List.drop_left]

theorem sliceToNeg_mid (P M body : Bytes) (k : Nat) (hk : 0 < k) (hkb : k ≤ body.length) :
    sliceToNeg (P ++ M ++ body) P.length k = M ++ body.take (body.length - k) := by
  have : (P ++ M ++ body).length - k = (P ++ M).length + (body.length - k) := by
    simp only [List.length_append]; omega
  rw [sliceToNeg, if_neg (by omega), pySlice, this, List.take_length_add_append, List.append_assoc, List.drop_left]

theorem exists_append3 {α} (H : List α) (p x y : Nat) (h : H.length = p + x + y) :
    ∃ P X Y, H = P ++ X ++ Y ∧ P.length = p ∧ X.length = x ∧ Y.length = y :=
  ⟨H.take p, (H.drop p).take x, (H.drop p).drop x,
    by rw [List.append_assoc, List.take_append_drop, List.take_append_drop], by rw [List.length_take]; omega,
    by rw [List.length_take, List.length_drop]; omega, by rw [List.length_drop, List.length_drop]; omega⟩

theorem writeTlNumInto_blit {v : Nat} (hv : v < 2 ^ 64) (buf : Bytes) (off : Nat) :
    writeTlNumInto v buf off = (blit buf off (writeTlNum v)).map fun b => (b, tlNumSize v) := by
  unfold writeTlNumInto; rw [if_pos hv]; cases blit buf off (writeTlNum v) <;> rfl

theorem writeTlNumInto_size {v : Nat} {buf b : Bytes} {off n : Nat} (h : writeTlNumInto v buf off = .ok (b, n)) :
    n = tlNumSize v := by
  unfold writeTlNumInto at h
  split at h
  · cases hb : blit buf off (writeTlNum v) with
    | error e => rw [hb] at h; cases h
    | ok x => rw [hb] at h; cases h; rfl
  · cases h

theorem writeTlNumInto_mid (v : Nat) (A X B : Bytes) (hv : v < 2 ^ 64) (h : X.length = tlNumSize v) :
    writeTlNumInto v (A ++ X ++ B) A.length = .ok (A ++ writeTlNum v ++ B, tlNumSize v) := by
  rw [writeTlNumInto, if_pos hv, blit_mid A X B _ (by rw [h, writeTlNum_length])]; rfl

theorem shrinkLength_ok (t n k : Nat) (L body : Bytes) (ht : t < 2^64)
    (hp : parseTlNum (L ++ body) 0 = .ok (n, L.length)) (hb : body.length = n) (hk : 0 < k) (hkn : k ≤ n) :
    shrinkLength (writeTlNum t ++ L ++ body) k
      = .ok (writeTlNum t ++ writeTlNum (n - k) ++ body.take (n - k)) := by
  have hT := writeTlNum_length t
  have hL' := writeTlNum_length (n - k)
  have p1 : parseTlNum (writeTlNum t ++ L ++ body) 0 = .ok (t, tlNumSize t) := by
    rw [List.append_assoc]; exact parse_write t _ ht
  have p2 : parseTlNum (writeTlNum t ++ L ++ body) (tlNumSize t) = .ok (n, L.length) := by
    have := parseTlNum_shift (writeTlNum t) (L ++ body) 0
    rw [hT, Nat.add_zero, ← List.append_assoc] at this
    rw [this]; exact hp
  have hn : n - k < 2 ^ 64 := by have := parseTlNum_bounds hp; omega
  unfold shrinkLength
  simp only [p1, p2, bind, Except.bind, pure, Except.pure, if_neg (Nat.not_lt.2 hkn)]
  -- the new Length is written over the head `La` of the old one, `L = La ++ Lr`
  have hle : tlNumSize (n - k) ≤ L.length :=
    Nat.le_trans (tlNumSize_mono (Nat.sub_le n k)) (parseTlNum_size_ge hp).1
  obtain ⟨La, Lr, rfl, hLa⟩ : ∃ La Lr, L = La ++ Lr ∧ La.length = tlNumSize (n - k) :=
    ⟨_, _, (List.take_append_drop (tlNumSize (n - k)) _).symm, by rw [List.length_take]; omega⟩
  have w1 := writeTlNumInto_mid (n - k) (writeTlNum t) La (Lr ++ body) hn hLa
  rw [hT] at w1
  rw [(by simp only [List.append_assoc] :
    writeTlNum t ++ (La ++ Lr) ++ body = writeTlNum t ++ La ++ (Lr ++ body)), w1, List.length_append, hLa]
  simp only []
  by_cases heq : tlNumSize (n - k) = tlNumSize (n - k) + Lr.length
  · obtain rfl : Lr = [] := List.eq_nil_of_length_eq_zero (by omega)
    rw [if_pos heq, List.nil_append, ← hb]
    exact congrArg _ (sliceToNeg_mid [] _ body k hk (by omega))
  · -- Type and new Length are written again `|Lr|` bytes further right: over `X`, `Y` of the header `P ++ X ++ Y`
    obtain ⟨P, X, Y, hH, hP, hX, hY⟩ := exists_append3 (writeTlNum t ++ writeTlNum (n - k) ++ Lr) Lr.length
      (tlNumSize t) (tlNumSize (n - k)) (by simp only [List.length_append, hT, hL']; omega)
    rw [if_neg heq, Nat.add_sub_cancel_left, ← List.append_assoc _ Lr body, hH, ← hP, List.append_assoc _ Y body,
      writeTlNumInto_mid t P X (Y ++ body) ht hX]
    simp only []
    rw [(by rw [List.length_append, hT, Nat.add_comm] : tlNumSize t + P.length = (P ++ writeTlNum t).length),
      ← List.append_assoc, writeTlNumInto_mid (n - k) (P ++ writeTlNum t) Y body hn hY]
    simp only []
    rw [List.append_assoc P, ← hb, sliceToNeg_mid P _ body k hk (by omega)]

/-- For a well-formed element `T L body` and any `0 < k ≤ |body|`,
    `shrink_length` returns the well-formed element with the last `k` body bytes removed,
    with the Length re-encoded in shortest form. -/
theorem shrink_spec (t n k : Nat) (body : Bytes) (ht : t < 2^64) (hn : n < 2^64)
    (hb : body.length = n) (hk : 0 < k) (hkn : k ≤ n) :
    shrinkLength (writeTlNum t ++ writeTlNum n ++ body) k
      = .ok (writeTlNum t ++ writeTlNum (n - k) ++ body.take (n - k)) :=
  shrinkLength_ok t n k _ body ht (by rw [writeTlNum_length]; exact parse_write n body hn) hb hk hkn

end Ndn
