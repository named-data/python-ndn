import NdnProofs.Lemmas.CodecParse
/-! One turn of the scan loop of `TlvModel.parse` (`parseFields`) on any input: the equation of each kind of turn once the
    header of the element at the head is read, the case rule `hdr_cases`, and what a successful run of the loop
    (`parseFields_ok`), of one value (`parseValue_ok`), of the Name decoder and of the search for a map value did.
    At the end the same turns on an input that starts with a known element `tlv t body`, by `head_elem`. -/
namespace Ndn.Codec
open Ndn

def isRep : Schema → Bool
  | .repeated _ => true
  | _ => false

def isMapS : Schema → Bool
  | .map _ _ => true
  | _ => false

/-- the schema an element of field `fld` is parsed with (for a MapField: the key) -/
def elemOf : Schema → Schema
  | .repeated e => e
  | .map k _ => k
  | s => s

/-- the entry of a plain or repeated field `s` after an element of it yielded `v` -/
def upd (s : Schema) (old : Option Value) (v : Value) : Value :=
  if isRep s then .list (listOf old ++ [v]) else v

/-- what the scan loop does with the result of the search for the value element -/
def afterKey (fs : List Schema) (ic : Bool) (f : Nat) (idx : Nat) (key : Value) (vs : Schema) (acc1 : List Value)
    (found : Except PyErr (Nat × Bytes × Bytes × Bytes × Nat)) : Except PyErr (List Value) := do
  let (len2, body2, elem2, rest3, off3) ← found
  leafCheck vs len2 body2
  let v ← parseValue f vs body2 elem2
  parseFields f fs ic rest3 off3 idx (acc1.set idx (.map (mapSet (mapOf acc1[idx]?) key v)))

theorem parseFields_isEmpty {f : Nat} {fs : List Schema} {ic : Bool} {rest : Bytes} {off pos : Nat}
    {acc : List Value} (h : rest.isEmpty = true) : parseFields (f + 1) fs ic rest off pos acc = .ok acc := by
  unfold parseFields; rw [if_pos h]

theorem parseFields_hdr_error {f : Nat} {fs : List Schema} {ic : Bool} {rest : Bytes} {off pos : Nat}
    {acc : List Value} {e : PyErr} (hne : rest.isEmpty = false)
    (h : parseTlNum rest 0 = .error e ∨
      ∃ typ st, parseTlNum rest 0 = .ok (typ, st) ∧ parseTlNum rest st = .error e) :
    parseFields (f + 1) fs ic rest off pos acc = .error e := by
  unfold parseFields
  obtain h1 | ⟨typ, st, h1, h2⟩ := h
  · simp only [hne, Bool.false_eq_true, if_false, h1, bind, Except.bind]
  · simp only [hne, Bool.false_eq_true, if_false, h1, h2, bind, Except.bind]

theorem hdr_cases (rest : Bytes) :
    rest.isEmpty = true ∨ rest.isEmpty = false ∧
      ((∃ e, parseTlNum rest 0 = .error e ∨
          ∃ typ st, parseTlNum rest 0 = .ok (typ, st) ∧ parseTlNum rest st = .error e) ∨
        ∃ typ st len sl, parseTlNum rest 0 = .ok (typ, st) ∧ parseTlNum rest st = .ok (len, sl)) := by
  cases hne : rest.isEmpty with
  | true => exact .inl rfl
  | false =>
    refine .inr ⟨rfl, ?_⟩
    cases h1 : parseTlNum rest 0 with
    | error e => exact .inl ⟨e, .inl rfl⟩
    | ok p =>
      obtain ⟨typ, st⟩ := p
      cases h2 : parseTlNum rest st with
      | error e => exact .inl ⟨e, .inr ⟨typ, st, rfl, h2⟩⟩
      | ok q => exact .inr ⟨typ, st, q.1, q.2, rfl, h2⟩

theorem parseFields_unknown {f : Nat} {fs : List Schema} {ic : Bool} {rest : Bytes} {off pos : Nat}
    {acc : List Value} {typ st len sl : Nat} (h1 : parseTlNum rest 0 = .ok (typ, st))
    (h2 : parseTlNum rest st = .ok (len, sl)) (hfind : findField fs pos typ = none) :
    parseFields (f + 1) fs ic rest off pos acc =
      if typ % 2 = 1 ∧ ¬ ic then .error .decodeError
      else parseFields f fs ic (rest.drop (st + sl + len)) (off + (st + sl) + len) pos acc := by
  conv => lhs; unfold parseFields
  simp only [isEmpty_of_tl h1, Bool.false_eq_true, if_false, h1, h2, bind, Except.bind, hfind]

theorem parseFields_field {f : Nat} {fs : List Schema} {ic : Bool} {rest : Bytes} {off pos : Nat}
    {acc : List Value} {typ st len sl i : Nat} {s : Schema} (h1 : parseTlNum rest 0 = .ok (typ, st))
    (h2 : parseTlNum rest st = .ok (len, sl)) (hfind : findField fs pos typ = some i) (hs : fs[i]? = some s)
    (hm : isMapS s = false) :
    parseFields (f + 1) fs ic rest off pos acc =
      (leafCheck (elemOf s) len (pySlice rest (st + sl) (st + sl + len)) >>= fun _ =>
       parseValue f (elemOf s) (pySlice rest (st + sl) (st + sl + len)) rest >>= fun v =>
       parseFields f fs ic (rest.drop (st + sl + len)) (off + (st + sl) + len) (if isRep s then i else i + 1)
         ((skipMarkers fs acc pos i off).set i (upd s (skipMarkers fs acc pos i off)[i]? v))) := by
  conv => lhs; unfold parseFields
  simp only [isEmpty_of_tl h1, Bool.false_eq_true, if_false, h1, h2, bind, Except.bind, hfind, hs]
  cases s with
  | map k w => simp [isMapS] at hm
  | _ => rfl

theorem parseFields_mapKey {f : Nat} {fs : List Schema} {ic : Bool} {rest : Bytes} {off pos : Nat}
    {acc : List Value} {typ st len sl i : Nat} {ks vs : Schema} (h1 : parseTlNum rest 0 = .ok (typ, st))
    (h2 : parseTlNum rest st = .ok (len, sl)) (hfind : findField fs pos typ = some i)
    (hs : fs[i]? = some (.map ks vs)) :
    parseFields (f + 1) fs ic rest off pos acc =
      (leafCheck ks len (pySlice rest (st + sl) (st + sl + len)) >>= fun _ =>
       parseValue f ks (pySlice rest (st + sl) (st + sl + len)) rest >>= fun k =>
       afterKey fs ic f i k vs (skipMarkers fs acc pos i off)
         (findMapValue f vs.typ ic (rest.drop (st + sl + len)) (off + (st + sl) + len))) := by
  conv => lhs; unfold parseFields
  simp only [isEmpty_of_tl h1, Bool.false_eq_true, if_false, h1, h2, bind, Except.bind, hfind, hs]
  rfl

theorem parseFields_ok {f : Nat} {fs : List Schema} {ic : Bool} {rest : Bytes} {off pos : Nat}
    {acc vs : List Value} (h : parseFields (f + 1) fs ic rest off pos acc = .ok vs) :
    (rest.isEmpty = true ∧ vs = acc) ∨
    ∃ typ st len sl, parseTlNum rest 0 = .ok (typ, st) ∧ parseTlNum rest st = .ok (len, sl) ∧
      ((findField fs pos typ = none ∧
        parseFields f fs ic (rest.drop (st + sl + len)) (off + (st + sl) + len) pos acc = .ok vs) ∨
      ∃ i s v, findField fs pos typ = some i ∧ fs[i]? = some s ∧ s.typ = some typ ∧
        leafCheck (elemOf s) len (pySlice rest (st + sl) (st + sl + len)) = .ok () ∧
        parseValue f (elemOf s) (pySlice rest (st + sl) (st + sl + len)) rest = .ok v ∧
        ((isMapS s = false ∧
          parseFields f fs ic (rest.drop (st + sl + len)) (off + (st + sl) + len) (if isRep s then i else i + 1)
            ((skipMarkers fs acc pos i off).set i
              (upd s (skipMarkers fs acc pos i off)[i]? v)) = .ok vs) ∨
        ∃ ks vs' len2 body2 elem2 rest3 off3 w, s = .map ks vs' ∧
          findMapValue f vs'.typ ic (rest.drop (st + sl + len)) (off + (st + sl) + len)
            = .ok (len2, body2, elem2, rest3, off3) ∧
          leafCheck vs' len2 body2 = .ok () ∧ parseValue f vs' body2 elem2 = .ok w ∧
          parseFields f fs ic rest3 off3 i
            ((skipMarkers fs acc pos i off).set i
              (.map (mapSet (mapOf (skipMarkers fs acc pos i off)[i]?) v w))) = .ok vs)) := by
  obtain hne | ⟨hne, ⟨e, herr⟩ | ⟨typ, st, len, sl, h1, h2⟩⟩ := hdr_cases rest
  · rw [parseFields_isEmpty hne] at h; cases h; exact .inl ⟨hne, rfl⟩
  · rw [parseFields_hdr_error hne herr] at h; cases h
  refine .inr ⟨typ, st, len, sl, h1, h2, ?_⟩
  cases hfind : findField fs pos typ with
  | none =>
    rw [parseFields_unknown h1 h2 hfind] at h
    split at h
    · cases h
    · exact .inl ⟨rfl, h⟩
  | some i =>
    obtain ⟨s, hs, ht⟩ := findField_get fs pos typ i hfind
    refine .inr ⟨i, s, ?_⟩
    cases hm : isMapS s with
    | false =>
      rw [parseFields_field h1 h2 hfind hs hm] at h
      obtain ⟨_, hl, h⟩ := bind_ok h
      obtain ⟨v, hv, h⟩ := bind_ok h
      exact ⟨v, rfl, hs, ht, hl, hv, .inl ⟨rfl, h⟩⟩
    | true =>
      obtain ⟨ks, vs', rfl⟩ : ∃ ks vs', s = .map ks vs' := by
        cases s <;> first | exact ⟨_, _, rfl⟩ | cases hm
      rw [parseFields_mapKey h1 h2 hfind hs] at h
      obtain ⟨_, hl, h⟩ := bind_ok h
      obtain ⟨v, hv, h⟩ := bind_ok h
      obtain ⟨⟨len2, body2, elem2, rest3, off3⟩, hfm, h⟩ := bind_ok h
      obtain ⟨_, hl2, h⟩ := bind_ok h
      obtain ⟨w, hw, h⟩ := bind_ok h
      exact ⟨v, rfl, hs, ht, hl, hv, .inr ⟨ks, vs', len2, body2, elem2, rest3, off3, w, rfl, hfm, hl2, hw, h⟩⟩

theorem parseValue_ok {f : Nat} {s : Schema} {body elem : Bytes} {v : Value} (hk : isElemKind s = true)
    (h : parseValue (f + 1) s body elem = .ok v) :
    (∃ t fl, s = .uint t fl ∧ v = .uint (beVal body)) ∨
    (∃ t, s = .bool t ∧ v = .bool) ∨
    (∃ t isStr, s = .bytes t isStr ∧ v = .bytes body ∧ (isStr = true → utf8Valid body = true)) ∨
    (∃ t cs, s = .name t ∧ decodeName elem 0 = .ok cs ∧ v = .name cs) ∨
    (∃ t fs ic vs, s = .model t fs ic ∧ parseFields f fs ic body 0 0 (fs.map initVal) = .ok vs ∧ v = .model vs) := by
  unfold parseValue at h
  cases s with
  | uint t fl => cases h; exact .inl ⟨t, fl, rfl, rfl⟩
  | bool t => cases h; exact .inr (.inl ⟨t, rfl, rfl⟩)
  | bytes t isStr =>
    refine .inr (.inr (.inl ⟨t, isStr, rfl, ?_⟩))
    dsimp only at h
    split at h
    · split at h
      · cases h; exact ⟨rfl, fun _ => ‹_›⟩
      · cases h
    · cases h; exact ⟨rfl, fun hs => absurd hs ‹_›⟩
  | name t =>
    obtain ⟨cs, hcs, h⟩ := bind_ok h
    cases h; exact .inr (.inr (.inr (.inl ⟨t, cs, rfl, hcs, rfl⟩)))
  | model t fs ic =>
    obtain ⟨vs, hvs, h⟩ := bind_ok h
    cases h; exact .inr (.inr (.inr (.inr ⟨t, fs, ic, vs, rfl, hvs, rfl⟩)))
  | _ => cases hk

theorem decodeName_accepted {buf : Bytes} {cs : List Bytes} (h : decodeName buf 0 = .ok cs) :
    ∃ typ st len sl, parseTlNum buf 0 = .ok (typ, st) ∧ parseTlNum buf st = .ok (len, sl) ∧
      (concatB cs).length = len ∧ st + sl + len ≤ buf.length ∧ cs.all compOk = true := by
  rw [decodeName_eq, decodeAt_zero] at h
  cases hd : Name.decode buf with
  | error e => rw [hd] at h; cases h
  | ok r =>
    obtain ⟨cs', used⟩ := r
    rw [hd] at h
    cases h
    obtain ⟨st, L, sl, h1, h2, hu, hle, hf, he⟩ := decode_ok_exact hd
    refine ⟨7, st, L, sl, h1, h2, ?_, by omega, List.all_eq_true.2 fun c hc => compOk_iff.2 (he c hc)⟩
    rw [concatB_eq_flatten, hf, pySlice_length_of_le _ _ _ hle]; omega

theorem findMapValue_accepted : ∀ (fuel : Nat) (vt : Option Nat) (ic : Bool) (rest : Bytes) (off : Nat)
    (len2 : Nat) (body2 elem2 rest3 : Bytes) (off3 : Nat),
    findMapValue fuel vt ic rest off = .ok (len2, body2, elem2, rest3, off3) →
    ∃ typ st sl, parseTlNum elem2 0 = .ok (typ, st) ∧ parseTlNum elem2 st = .ok (len2, sl) ∧ some typ = vt ∧
      body2 = pySlice elem2 (st + sl) (st + sl + len2) ∧ rest3 = elem2.drop (st + sl + len2) ∧
      elem2.length ≤ rest.length
  | 0, _, _, _, _, _, _, _, _, _, h => by simp [findMapValue] at h
  | fuel + 1, vt, ic, rest, off, len2, body2, elem2, rest3, off3, h => by
    unfold findMapValue at h
    obtain ⟨⟨typ, st⟩, h1, h⟩ := bind_ok h
    obtain ⟨⟨len, sl⟩, h2, h⟩ := bind_ok h
    simp only [] at h
    split at h
    · rename_i hvt
      simp only [pure, Except.pure, Except.ok.injEq, Prod.mk.injEq] at h
      obtain ⟨rfl, rfl, rfl, rfl, rfl⟩ := h
      exact ⟨typ, st, sl, h1, h2, hvt, rfl, rfl, Nat.le_refl _⟩
    · split at h
      · cases h
      · obtain ⟨typ', st', sl', g1, g2, g3, g4, g5, g6⟩ :=
          findMapValue_accepted fuel vt ic _ _ _ _ _ _ _ h
        exact ⟨typ', st', sl', g1, g2, g3, g4, g5, by
          have : (rest.drop (st + sl + len)).length ≤ rest.length := by simp
          omega⟩

theorem leafCheck_uint {t : Nat} {fl : Option Nat} {len : Nat} {body : Bytes}
    (h : leafCheck (.uint t fl) len body = .ok ()) :
    body.length = len ∧ (len = 1 ∨ len = 2 ∨ len = 4 ∨ len = 8) := by
  unfold leafCheck at h
  simp only [] at h
  split at h
  · split at h
    · exact ⟨‹_›, ‹_›⟩
    · cases h
  · cases h

theorem findMapValue_hit (vt : Option Nat) (ic : Bool) (t : Nat) (body R : Bytes) (f off : Nat)
    (hvt : vt = some t) (ht : t < 2 ^ 64) (hb : body.length < 2 ^ 64) :
    findMapValue (f + 1) vt ic (tlv t body ++ R) off =
      .ok (body.length, body, tlv t body ++ R, R, off + (tlNumSize t + tlNumSize body.length) + body.length) := by
  obtain ⟨q1, q2, r1, _, r3⟩ := head_elem t body R ht hb
  simp only [findMapValue, q1, q2, bind, Except.bind, hvt, if_true, r1, r3, pure, Except.pure]

theorem not_critical {t : Nat} {ic : Bool} (h : t % 2 = 0 ∨ ic = true) : ¬ (t % 2 = 1 ∧ ¬ ic = true) := by
  rcases h with h | h
  · omega
  · simp [h]

theorem findMapValue_skip (vt : Option Nat) (ic : Bool) (t : Nat) (x R : Bytes) (f off : Nat)
    (ht : t < 2 ^ 64) (hx : x.length < 2 ^ 64) (hne : some t ≠ vt) (hcrit : t % 2 = 0 ∨ ic = true) :
    findMapValue (f + 1) vt ic (tlv t x ++ R) off =
      findMapValue f vt ic R (off + (tlNumSize t + tlNumSize x.length) + x.length) := by
  obtain ⟨q1, q2, _, _, r3⟩ := head_elem t x R ht hx
  have := not_critical hcrit
  simp only [findMapValue, q1, q2, bind, Except.bind, hne, if_false, this, r3]

theorem findMapValue_reject (vt : Option Nat) (t : Nat) (x R : Bytes) (f off : Nat)
    (ht : t < 2 ^ 64) (hx : x.length < 2 ^ 64) (hne : some t ≠ vt) (hodd : t % 2 = 1) :
    findMapValue (f + 1) vt false (tlv t x ++ R) off = .error .decodeError := by
  obtain ⟨q1, q2, _, _, _⟩ := head_elem t x R ht hx
  simp [findMapValue, q1, q2, bind, Except.bind, hne, hodd]

theorem junk_skip (fs : List Schema) (ic : Bool) (t : Nat) (x R : Bytes) (f off pos : Nat)
    (acc : List Value) (ht : t < 2 ^ 64) (hx : x.length < 2 ^ 64) (hnot : t ∉ typs fs)
    (hcrit : t % 2 = 0 ∨ ic = true) :
    parseFields (f + 1) fs ic (tlv t x ++ R) off pos acc =
      parseFields f fs ic R (off + (tlv t x).length) pos acc := by
  obtain ⟨p1, p2, _, _, s3⟩ := head_elem t x R ht hx
  have := not_critical hcrit
  rw [parseFields_unknown p1 p2 (findField_none fs pos t hnot), s3, if_neg this, tlv_length, Nat.add_assoc,
    Nat.add_assoc]

theorem junk_reject (fs : List Schema) (t : Nat) (x R : Bytes) (f off pos : Nat)
    (acc : List Value) (ht : t < 2 ^ 64) (hx : x.length < 2 ^ 64) (hnot : t ∉ typs fs)
    (hodd : t % 2 = 1) :
    parseFields (f + 1) fs false (tlv t x ++ R) off pos acc = .error .decodeError := by
  obtain ⟨p1, p2, _, _, _⟩ := head_elem t x R ht hx
  rw [parseFields_unknown p1 p2 (findField_none fs pos t hnot), if_pos ⟨hodd, by simp⟩]

end Ndn.Codec
