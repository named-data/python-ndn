/-! What the proof files share and the model has no part in: equality on `Except` is decidable (the `decide` examples
    compare results of the model with `.ok …` / `.error …`), the `Except` monad read through `>>=`, `map` and `if`, and
    the facts about lists that more than one family of files needs.  Some stand in the namespace (`Codec`, `Py`,
    `Calendar`) that their users work in or open, and are called there by their short names.  `(ok a >>= f) = f a` is
    not here: it is stated once per namespace that needs it, as `Codec.ok_bind` (Lemmas/CodecStrict),
    `TlvVarGen.ok_bind` (Props/TlvVarGen) and `exc_ok_bind` (Lemmas/NameWire). -/
namespace Ndn

instance {ε α} [DecidableEq ε] [DecidableEq α] : DecidableEq (Except ε α) := fun a b =>
  match a, b with
  | .ok x, .ok y => if h : x = y then isTrue (by rw [h]) else isFalse (fun e => h (by injection e))
  | .error x, .error y => if h : x = y then isTrue (by rw [h]) else isFalse (fun e => h (by injection e))
  | .ok _, .error _ => isFalse (fun e => by cases e)
  | .error _, .ok _ => isFalse (fun e => by cases e)

theorem Codec.bind_ok {ε α β} {x : Except ε α} {f : α → Except ε β} {b : β}
    (h : (x >>= f) = .ok b) : ∃ a, x = .ok a ∧ f a = .ok b := by
  cases x with
  | error e => cases h
  | ok a => exact ⟨a, rfl, h⟩

theorem bind_error_cases {ε α β} {x : Except ε α} {f : α → Except ε β} {e : ε}
    (h : (x >>= f) = .error e) : x = .error e ∨ ∃ a, x = .ok a ∧ f a = .error e := by
  cases x with
  | error e' => cases h; exact .inl rfl
  | ok a => exact .inr ⟨a, rfl, h⟩

namespace Py

theorem pure_eq_ok {ε α} (a : α) : (pure a : Except ε α) = .ok a := rfl
theorem map_ok {ε α β} (g : α → β) (a : α) : (Except.ok a : Except ε α).map g = .ok (g a) := rfl
theorem map_error {ε α β} (g : α → β) (e : ε) : (Except.error e : Except ε α).map g = .error e := rfl

theorem except_bind_map {ε α α' β} (x : Except ε α) (c : α → α') (f : α' → Except ε β) :
    (x.map c >>= f) = (x >>= fun a => f (c a)) := by
  cases x <;> rfl

theorem except_map_bind {ε α β γ} (x : Except ε α) (f : α → Except ε β) (p : β → γ) :
    (x >>= f).map p = x >>= fun a => (f a).map p := by
  cases x <;> rfl

theorem bind_congr_ok {ε α β} {x : Except ε α} {f g : α → Except ε β}
    (h : ∀ a, x = .ok a → f a = g a) : (x >>= f) = (x >>= g) := by
  cases x with
  | error e => rfl
  | ok a => exact h a rfl

theorem bind_congr_pair {ε α₁ α₂ β} {x : Except ε (α₁ × α₂)} {f g : α₁ × α₂ → Except ε β}
    (h : ∀ a b, x = .ok (a, b) → f (a, b) = g (a, b)) : (x >>= f) = (x >>= g) :=
  bind_congr_ok fun p hp => h p.1 p.2 hp

theorem ite_bind {ε α β} (c : Prop) [Decidable c] (a b : Except ε α) (f : α → Except ε β) :
    ((if c then a else b) >>= f) = if c then a >>= f else b >>= f := by
  split <;> rfl

end Py

namespace Calendar

theorem ite_ok_iff {α ε : Type} {c : Prop} [Decidable c] {a b : α} {e : ε} :
    (if c then Except.ok a else Except.error e) = .ok b ↔ c ∧ b = a := by
  split <;> simp [*, eq_comm]

theorem ite_error_iff {α ε : Type} {c : Prop} [Decidable c] {a : α} {e x : ε} :
    (if c then Except.ok a else Except.error e) = .error x ↔ x = e ∧ ¬ c := by
  split <;> simp [*, eq_comm]

theorem bind_ite_ok {α β ε : Type} {c : Prop} [Decidable c] (a : α) (e : ε) (f : α → Except ε β) :
    ((if c then Except.ok a else Except.error e) >>= f) = if c then f a else .error e := by
  split <;> rfl

end Calendar

theorem mapM_map_ok {ε α β γ} (g : β → Except ε γ) (f : α → β) (k : α → γ) (l : List α)
    (h : ∀ a ∈ l, g (f a) = .ok (k a)) : (l.map f).mapM g = .ok (l.map k) := by
  induction l with
  | nil => rfl
  | cons a l ih =>
    rw [List.map_cons, List.mapM_cons, h a (by simp), ih (fun x hx => h x (by simp [hx]))]
    rfl

theorem snoc_induction {α} {P : List α → Prop} (nil : P [])
    (append_singleton : ∀ l a, P l → P (l ++ [a])) : ∀ l, P l := by
  intro l
  rw [← List.reverse_reverse l]
  induction l.reverse with
  | nil => exact nil
  | cons a r ih => rw [List.reverse_cons]; exact append_singleton _ _ ih

theorem lt_of_getElem? {α} {l : List α} {i : Nat} {a : α} (h : l[i]? = some a) : i < l.length :=
  (List.getElem?_eq_some_iff.mp h).1

theorem inj_of_nodup_map {α β} (f : α → β) {l : List α} (hn : (l.map f).Nodup) {a b : α}
    (ha : a ∈ l) (hb : b ∈ l) (h : f a = f b) : a = b := by
  induction l with
  | nil => simp at ha
  | cons c r ih =>
    simp only [List.map_cons, List.nodup_cons, List.mem_map, not_exists, not_and] at hn
    rcases List.mem_cons.mp ha with ha | ha
    · rcases List.mem_cons.mp hb with hb | hb
      · rw [ha, hb]
      · exact absurd (by rw [← ha]; exact h.symm) (hn.1 b hb)
    · rcases List.mem_cons.mp hb with hb | hb
      · exact absurd (by rw [← hb]; exact h) (hn.1 a ha)
      · exact ih hn.2 ha hb

theorem lookup_of_mem {α β} [BEq α] [LawfulBEq α] {l : List (α × β)} {k : α} {v : β}
    (hnd : (l.map (·.1)).Nodup) (h : (k, v) ∈ l) : l.lookup k = some v := by
  obtain ⟨l1, l2, rfl⟩ := List.append_of_mem h
  refine List.lookup_eq_some_iff.mpr ⟨l1, l2, rfl, fun p hp => ?_⟩
  rw [List.map_append, List.map_cons] at hnd
  have := (List.nodup_append.mp hnd).2.2 p.1 (List.mem_map.mpr ⟨p, hp, rfl⟩) k List.mem_cons_self
  simpa using Ne.symm this

end Ndn
