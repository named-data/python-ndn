import NdnProofs.Lemmas.CodecTurn
/-! What the generic decoder accepts is well-formed: every value `parse` returns is a legal assignment (`fitsFs`, the
    hypothesis of the encoder theorems of C08) whose integers fit 64 bits and whose byte strings / names are no longer
    than the wire they were read from (`boundedL`).  Both are invariants of the accumulator: the initial one has them,
    every write of the scan loop (`upd`, `mapSet`) keeps them, given that the value written is such (`ElemAcc`). -/
namespace Ndn.Codec
open Ndn

mutual
/-- integers fit 8 bytes; byte strings and names (the concatenated components) hold at most `n` bytes -/
def bounded (n : Nat) : Value → Bool
  | .none => true
  | .uint v => decide (v < 2 ^ 64)
  | .bool => true
  | .bytes b => decide (b.length ≤ n)
  | .name cs => decide ((concatB cs).length ≤ n)
  | .model vs => boundedL n vs
  | .list vs => boundedL n vs
  | .map es => boundedM n es
def boundedL (n : Nat) : List Value → Bool
  | [] => true
  | v :: r => bounded n v && boundedL n r
def boundedM (n : Nat) : List (Value × Value) → Bool
  | [] => true
  | (a, b) :: r => bounded n a && bounded n b && boundedM n r
end

theorem wfFs_get : ∀ (fs : List Schema) (i : Nat) (s : Schema), wfFs fs = true → fs[i]? = some s → wfS s = true :=
  allFs_get (fun _ _ => by rw [wfFs])

theorem fitsFs_get : ∀ (fs : List Schema) (acc : List Value) (i : Nat) (s : Schema),
    fitsFs fs acc = true → fs[i]? = some s → ∃ a, acc[i]? = some a ∧ fits s a = true
  | [], _, _, _, _, h => by simp at h
  | _ :: _, [], _, _, hf, _ => by simp [fitsFs] at hf
  | s0 :: ss, v :: vs, 0, s, hf, h => by
    simp at h; subst h
    simp only [fitsFs, Bool.and_eq_true] at hf
    exact ⟨v, by simp, hf.1⟩
  | s0 :: ss, v :: vs, i + 1, s, hf, h => by
    simp only [fitsFs, Bool.and_eq_true] at hf
    simp at h
    obtain ⟨a, ha, hfa⟩ := fitsFs_get ss vs i s hf.2 h
    exact ⟨a, by simpa using ha, hfa⟩

theorem fitsFs_set : ∀ (fs : List Schema) (acc : List Value) (i : Nat) (s : Schema) (x : Value),
    fitsFs fs acc = true → fs[i]? = some s → fits s x = true → fitsFs fs (acc.set i x) = true
  | [], _, _, _, _, _, h, _ => by simp at h
  | _ :: _, [], _, _, _, hf, _, _ => by simp [fitsFs] at hf
  | s0 :: ss, v :: vs, 0, s, x, hf, h, hx => by
    simp at h; subst h
    simp only [fitsFs, Bool.and_eq_true] at hf
    simp only [List.set_cons_zero, fitsFs, Bool.and_eq_true]
    exact ⟨hx, hf.2⟩
  | s0 :: ss, v :: vs, i + 1, s, x, hf, h, hx => by
    simp only [fitsFs, Bool.and_eq_true] at hf
    simp at h
    simp only [List.set_cons_succ, fitsFs, Bool.and_eq_true]
    exact ⟨hf.1, fitsFs_set ss vs i s x hf.2 h hx⟩

theorem boundedL_get (n : Nat) : ∀ (acc : List Value) (i : Nat) (a : Value),
    boundedL n acc = true → acc[i]? = some a → bounded n a = true
  | [], _, _, _, h => by simp at h
  | v :: vs, 0, a, hb, h => by
    simp at h; subst h
    simp only [boundedL, Bool.and_eq_true] at hb; exact hb.1
  | v :: vs, i + 1, a, hb, h => by
    simp only [boundedL, Bool.and_eq_true] at hb
    simp at h
    exact boundedL_get n vs i a hb.2 h

theorem boundedL_set (n : Nat) : ∀ (acc : List Value) (i : Nat) (x : Value),
    boundedL n acc = true → bounded n x = true → boundedL n (acc.set i x) = true
  | [], _, _, _, _ => by simp [boundedL]
  | v :: vs, 0, x, hb, hx => by
    simp only [boundedL, Bool.and_eq_true] at hb
    simp only [List.set_cons_zero, boundedL, Bool.and_eq_true]; exact ⟨hx, hb.2⟩
  | v :: vs, i + 1, x, hb, hx => by
    simp only [boundedL, Bool.and_eq_true] at hb
    simp only [List.set_cons_succ, boundedL, Bool.and_eq_true]
    exact ⟨hb.1, boundedL_set n vs i x hb.2 hx⟩

theorem boundedL_append_one (n : Nat) : ∀ (l : List Value) (v : Value),
    boundedL n l = true → bounded n v = true → boundedL n (l ++ [v]) = true
  | [], v, _, hv => by simp [boundedL, hv]
  | a :: r, v, hl, hv => by
    simp only [boundedL, Bool.and_eq_true] at hl
    simp only [List.cons_append, boundedL, Bool.and_eq_true]
    exact ⟨hl.1, boundedL_append_one n r v hl.2 hv⟩

theorem fitsList_append_one (e : Schema) : ∀ (l : List Value) (v : Value),
    fitsList e l = true → v ≠ .none → fits e v = true → fitsList e (l ++ [v]) = true
  | [], v, _, hn, hv => by
    cases v <;> simp_all [fitsList]
  | a :: r, v, hl, hn, hv => by
    simp only [fitsList, Bool.and_eq_true] at hl
    simp only [List.cons_append, fitsList, Bool.and_eq_true]
    exact ⟨hl.1, fitsList_append_one e r v hl.2 hn hv⟩

theorem notNone_of_ne {v : Value} (h : v ≠ .none) : notNone v = true := by
  cases v <;> simp_all [notNone]

theorem fitsMap_mapSet (ks vs : Schema) (k v : Value) (hk : notNone k = true) (hv : notNone v = true)
    (fk : fits ks k = true) (fv : fits vs v = true) : ∀ (l : List (Value × Value)),
    fitsMap ks vs l = true → fitsMap ks vs (mapSet l k v) = true
  | [], _ => by simp [mapSet, fitsMap, hk, hv, fk, fv]
  | (k', v') :: r, h => by
    simp only [fitsMap, Bool.and_eq_true] at h
    simp only [mapSet]; split
    · simp only [fitsMap, Bool.and_eq_true]
      exact ⟨⟨⟨⟨h.1.1.1.1, hv⟩, h.1.1.2⟩, fv⟩, h.2⟩
    · simp only [fitsMap, Bool.and_eq_true]
      exact ⟨h.1, fitsMap_mapSet ks vs k v hk hv fk fv r h.2⟩

theorem mapSet_all (a k v : Value) : ∀ (l : List (Value × Value)),
    l.all (fun e => !keyEq a e.1) = true → keyEq a k = false →
    (mapSet l k v).all (fun e => !keyEq a e.1) = true
  | [], _, hk => by simp [mapSet, hk]
  | (k', v') :: r, h, hk => by
    simp only [List.all_cons, Bool.and_eq_true] at h
    simp only [mapSet]; split
    · simp only [List.all_cons, Bool.and_eq_true]; exact ⟨h.1, h.2⟩
    · simp only [List.all_cons, Bool.and_eq_true]; exact ⟨h.1, mapSet_all a k v r h.2 hk⟩

theorem keysDistinct_mapSet (k v : Value) : ∀ (l : List (Value × Value)),
    keysDistinct l = true → keysDistinct (mapSet l k v) = true
  | [], _ => by simp [mapSet, keysDistinct]
  | (k', v') :: r, h => by
    simp only [keysDistinct, Bool.and_eq_true] at h
    simp only [mapSet]; split
    · simp only [keysDistinct, Bool.and_eq_true]; exact h
    · rename_i hne
      simp only [keysDistinct, Bool.and_eq_true]
      exact ⟨mapSet_all k' k v r h.1 (by simpa using hne), keysDistinct_mapSet k v r h.2⟩

theorem boundedM_mapSet (n : Nat) (k v : Value) (hk : bounded n k = true) (hv : bounded n v = true) :
    ∀ (l : List (Value × Value)), boundedM n l = true → boundedM n (mapSet l k v) = true
  | [], _ => by simp [mapSet, boundedM, hk, hv]
  | (k', v') :: r, h => by
    simp only [boundedM, Bool.and_eq_true] at h
    simp only [mapSet]; split
    · simp only [boundedM, Bool.and_eq_true]; exact ⟨⟨h.1.1, hv⟩, h.2⟩
    · simp only [boundedM, Bool.and_eq_true]; exact ⟨h.1, boundedM_mapSet n k v hk hv r h.2⟩

theorem fitsFs_init : ∀ (fs : List Schema), fitsFs fs (fs.map initVal) = true
  | [] => rfl
  | s :: r => by
    simp only [List.map_cons, fitsFs, Bool.and_eq_true]
    exact ⟨by cases s <;> simp [initVal, fits, fitsList, fitsMap, keysDistinct], fitsFs_init r⟩

theorem boundedL_init (n : Nat) : ∀ (fs : List Schema), boundedL n (fs.map initVal) = true
  | [] => rfl
  | s :: r => by
    simp only [List.map_cons, boundedL, Bool.and_eq_true]
    exact ⟨by cases s <;> simp [initVal, bounded, boundedL, boundedM], boundedL_init n r⟩

theorem wfS_elemOf {s : Schema} (h : wfS s = true) : isElemKind (elemOf s) = true ∧ wfS (elemOf s) = true := by
  cases s with
  | repeated e => simpa [wfS, elemOf] using h
  | map k v =>
    simp only [wfS, Bool.and_eq_true] at h
    have hk : isElemKind k = true := by cases k <;> first | rfl | exact h.1.1.1.1
    exact ⟨hk, h.1.1.1.2⟩
  | marker => simp [wfS] at h
  | _ => exact ⟨rfl, h⟩

theorem wfS_mapVal {k v : Schema} (h : wfS (.map k v) = true) : isElemKind v = true ∧ wfS v = true := by
  simp only [wfS, Bool.and_eq_true] at h
  exact ⟨h.1.1.2, h.1.2⟩

/-- what `parse_from` yields for one recognised element: a present, legal, bounded value -/
def ElemAcc (n : Nat) (s : Schema) (v : Value) : Prop := fits s v = true ∧ v ≠ .none ∧ bounded n v = true

theorem ElemAcc.of_upd {n : Nat} {s : Schema} {a v : Value} (hm : isMapS s = false)
    (hfa : fits s a = true) (hba : bounded n a = true) (hv : ElemAcc n (elemOf s) v) :
    fits s (upd s (some a) v) = true ∧ bounded n (upd s (some a) v) = true := by
  obtain ⟨f1, f2, f3⟩ := hv
  cases s with
  | repeated e =>
    cases a with
    | list l =>
      simp only [fits] at hfa
      simp only [bounded] at hba
      simp only [upd, isRep, if_true, listOf, fits, bounded]
      exact ⟨fitsList_append_one e l v hfa f2 f1, boundedL_append_one n l v hba f3⟩
    | _ => simp [fits] at hfa
  | map k w => simp [isMapS] at hm
  | _ => exact ⟨f1, f3⟩

theorem ElemAcc.of_updMap {n : Nat} {ks vs : Schema} {a k w : Value} (hfa : fits (.map ks vs) a = true)
    (hba : bounded n a = true) (hk : ElemAcc n ks k) (hw : ElemAcc n vs w) :
    fits (.map ks vs) (.map (mapSet (mapOf (some a)) k w)) = true ∧
      bounded n (.map (mapSet (mapOf (some a)) k w)) = true := by
  cases a with
  | map l =>
    simp only [fits, Bool.and_eq_true] at hfa
    simp only [bounded] at hba
    simp only [mapOf, fits, bounded, Bool.and_eq_true]
    exact ⟨⟨fitsMap_mapSet ks vs k w (notNone_of_ne hk.2.1) (notNone_of_ne hw.2.1) hk.1 hw.1 l hfa.1,
      keysDistinct_mapSet k w l hfa.2⟩, boundedM_mapSet n k w hk.2.2 hw.2.2 l hba⟩
  | _ => simp [fits] at hfa

theorem accept_step : ∀ (fuel : Nat),
    (∀ (fs : List Schema) (ic : Bool) (rest : Bytes) (off pos : Nat) (acc vs : List Value) (n : Nat),
      wfFs fs = true → fitsFs fs acc = true → boundedL n acc = true → rest.length ≤ n →
      parseFields fuel fs ic rest off pos acc = .ok vs → fitsFs fs vs = true ∧ boundedL n vs = true) ∧
    (∀ (s : Schema) (len : Nat) (body elem : Bytes) (v : Value) (n : Nat),
      isElemKind s = true → wfS s = true → leafCheck s len body = .ok () → body.length ≤ n → elem.length ≤ n →
      parseValue fuel s body elem = .ok v → ElemAcc n s v)
  | 0 => ⟨fun _ _ _ _ _ _ _ _ _ _ _ _ h => by simp [parseFields] at h,
          fun _ _ _ _ _ _ _ _ _ _ _ h => by simp [parseValue] at h⟩
  | f + 1 => by
    obtain ⟨ihF, ihV⟩ := accept_step f
    refine ⟨?_, ?_⟩
    · intro fs ic rest off pos acc vs n hw hfit hb hlen h
      obtain ⟨_, rfl⟩ | ⟨typ, st, len, sl, h1, h2, hstep⟩ := parseFields_ok h
      · exact ⟨hfit, hb⟩
      have hbody : (pySlice rest (st + sl) (st + sl + len)).length ≤ n := by
        have := pySlice_len_le rest (st + sl) (st + sl + len); omega
      have hdrop : (rest.drop (st + sl + len)).length ≤ n := by simp; omega
      obtain ⟨_, h⟩ | ⟨i, s, v, _, hs, _, hl, hv, hstep⟩ := hstep
      · exact ihF _ _ _ _ _ _ _ _ hw hfit hb hdrop h
      have hws := wfFs_get fs i s hw hs
      rw [skipMarkers_id fs acc pos i off hw] at hstep
      obtain ⟨a, ha, hfa⟩ := fitsFs_get fs acc i _ hfit hs
      have hba := boundedL_get n acc i a hb ha
      have hv' := ihV _ _ _ _ v n (wfS_elemOf hws).1 (wfS_elemOf hws).2 hl hbody hlen hv
      rw [ha] at hstep
      obtain ⟨hm, h⟩ | ⟨ks, vs', len2, body2, elem2, rest3, off3, w, rfl, hfm, hl2, hw2, h⟩ := hstep
      · obtain ⟨g1, g2⟩ := hv'.of_upd hm hfa hba
        exact ihF _ _ _ _ _ _ _ _ hw (fitsFs_set fs acc i _ _ hfit hs g1) (boundedL_set n acc i _ hb g2) hdrop h
      · obtain ⟨typ2, st2, sl2, _, _, _, gb, gr, ge⟩ := findMapValue_accepted _ _ _ _ _ _ _ _ _ _ hfm
        have he2 : elem2.length ≤ n := by omega
        have hb2 : body2.length ≤ n := by
          have := pySlice_len_le elem2 (st2 + sl2) (st2 + sl2 + len2); rw [gb]; omega
        have hr3 : rest3.length ≤ n := by rw [gr]; simp; omega
        have hw' := ihV vs' _ _ _ w n (wfS_mapVal hws).1 (wfS_mapVal hws).2 hl2 hb2 he2 hw2
        obtain ⟨g1, g2⟩ := ElemAcc.of_updMap hfa hba hv' hw'
        exact ihF _ _ _ _ _ _ _ _ hw (fitsFs_set fs acc i _ _ hfit hs g1) (boundedL_set n acc i _ hb g2) hr3 h
    · intro s len body elem v n hk hws hl hbl hel h
      obtain ⟨t, fl, rfl, rfl⟩ | ⟨t, rfl, rfl⟩ | ⟨t, isStr, rfl, rfl, hu⟩ | ⟨t, cs, rfl, hcs, rfl⟩ |
        ⟨t, fs', ic', vs, rfl, hvs, rfl⟩ := parseValue_ok hk h
      · exact ⟨by simp [fits], by simp, by
          simp only [bounded, decide_eq_true_eq]; exact beVal_lt_of_width (by have := leafCheck_uint hl; omega)⟩
      · exact ⟨by simp [fits], by simp, by simp [bounded]⟩
      · refine ⟨?_, by simp, by simp [bounded, hbl]⟩
        cases isStr with
        | false => rfl
        | true => simp [fits, hu rfl]
      · obtain ⟨typ, st, len', sl, _, _, hlen', hle, hall⟩ := decodeName_accepted hcs
        exact ⟨by simp [fits, hall], by simp, by simp only [bounded, decide_eq_true_eq]; omega⟩
      · simp only [wfS, Bool.and_eq_true] at hws
        obtain ⟨g1, g2⟩ := ihF fs' ic' body 0 0 _ vs n hws.1 (fitsFs_init fs') (boundedL_init n fs') hbl hvs
        exact ⟨by simp [fits, g1], by simp, by simp [bounded, g2]⟩

/-- **what `parse` accepts is well-formed**: a legal assignment for the schema, integers below 2^64, byte
    strings and names no longer than the wire -/
theorem parse_accept (fs : List Schema) (ic : Bool) (w : Bytes) (vs : List Value) (hw : wfFs fs = true)
    (h : parse fs ic w = .ok vs) : fitsFs fs vs = true ∧ boundedL w.length vs = true :=
  (accept_step _).1 fs ic w 0 0 _ vs w.length hw (fitsFs_init fs) (boundedL_init _ fs) (Nat.le_refl _) h

end Ndn.Codec
