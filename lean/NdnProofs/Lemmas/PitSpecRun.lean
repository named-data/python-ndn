import NdnProofs.Lemmas.PitSpec
import NdnProofs.Lemmas.PitGen
import NdnProofs.Lemmas.Basic
/-!
The abstract table of `PitSpec` on its own: nothing here mentions the state of the model.  First the facts about the
functions of one request (`resolve`, `taken`, `specFire`, `specReact`, ...), then `Spec.step` and `Spec.run`: a request lives
its own life (`reqTrace`) whatever table it stands in (`Spec.trace_from`), induction over that life, from its `express`
on (`Spec.run_induct`), every state is justified by the history (`spec_justified`), and what a history without ties adds
(`waiting_before_deadline`, `taken_before_deadline`).
-/
namespace Ndn.Pit

theorem getElem?_concat_old {α} {l : List α} {a : α} {j : Nat} {x : α} (h : l[j]? = some x) :
    (l ++ [a])[j]? = some x := by
  rw [List.getElem?_append_left (lt_of_getElem? h)]; exact h

theorem getElem?_concat_cases {α} {l : List α} {a : α} {j : Nat} {x : α} (h : (l ++ [a])[j]? = some x) :
    l[j]? = some x ∨ (j = l.length ∧ x = a) := by
  rcases Nat.lt_trichotomy j l.length with h1 | h1 | h1
  · left; rw [List.getElem?_append_left h1] at h; exact h
  · right; subst h1; simp at h; exact ⟨rfl, h.symm⟩
  · rw [List.getElem?_append_right (Nat.le_of_lt h1)] at h
    have : j - l.length ≠ 0 := by omega
    cases hk : j - l.length with
    | zero => exact absurd hk this
    | succ k => rw [hk] at h; simp at h

theorem resolve_ne_waiting (now : Nat) (r : Req) (o : Outcome) : resolve now r o ≠ .waiting := by
  unfold resolve; split <;> simp

theorem taken_ne_waiting (fe : FrontEnd) (now : Nat) (r : Req) (d : Nat) : taken fe now r d ≠ .waiting := by
  unfold taken; split
  · exact resolve_ne_waiting _ _ _
  · simp

theorem taken_pass {r : Req} (hv : r.verdict = .pass) (hl : r.lat = 0) {c : Nat} (ha : r.awaitAt ≤ c) (d : Nat) :
    taken .v1 c r d = .done (.data d) c := by
  have hvs : vstart .v1 c r ≤ c := by simp only [vstart]; omega
  simp [taken, hl, hvs, hv, validatorOutcome_eq_ref, validatorOutcomeRef, resolve, ha]

/-!
  `fun_cases specFire` numbers the branches of `specFire` in source order: 1, 2 waiting, the deadline due, not due;
  3, 4 held, the first await due, not due; 5 – 7 validating in the legacy front-end: the validator has finished with an
  outcome, without one, has not finished; 8 – 13 validating in the current one: an answer due and ahead of the deadline,
  the caller awaiting (8), not yet (9); an answer not yet due or not ahead of the deadline, which is due (10), not due
  (11); no answer (the validator raises), the deadline due (12), not due (13); 14 done.
  `fun_cases specReact`: 1, 2 a Data that is taken, is not; 3, 4 a Nack likewise; 5, 6 a cancellation of this request, of
  another; 7, 8 shutdown while waiting, otherwise; 9 tick; 10 reach; 11 express. -/

theorem specFire_eq_waiting_iff {fe : FrontEnd} {t : Nat} {r : Req} {s : IState} :
    specFire fe t r s = .waiting ↔ s = .waiting ∧ t < r.deadline := by
  fun_cases specFire fe t r s with
  | case1 _ h => exact iff_of_false (fun e => nomatch e) fun e => Nat.not_lt.mpr h e.2
  | case2 _ h => exact iff_of_true rfl ⟨rfl, Nat.lt_of_not_le h⟩
  | _ => simp

theorem specReact_done (fe : FrontEnd) (now i : Nat) (r : Req) (o : Outcome) (t : Nat) (ev : Ev) :
    specReact fe now i r (.done o t) ev = .done o t := by
  cases ev <;> simp [specReact, specFire, specCancel, specReach]

theorem specReact_ne_waiting_of {fe : FrontEnd} {now i : Nat} {r : Req} {s : IState} (h : s ≠ .waiting) (ev : Ev) :
    specReact fe now i r s ev ≠ .waiting := by
  fun_cases specReact fe now i r s ev with
  | case1 _ _ _ hc | case3 _ _ _ hc => exact absurd hc.1 h
  | case7 hw => exact absurd hw h
  | case2 | case4 | case6 | case8 | case11 => exact h
  | case5 =>
    unfold specCancel
    split
    · exact h
    · cases s <;> simp at h ⊢
  | case9 t => exact fun e => h (specFire_eq_waiting_iff.mp e).1
  | case10 t =>
    unfold specReach
    split
    · exact h
    · exact fun e => h (specFire_eq_waiting_iff.mp e).1

/-- `done` only in the current front-end: in the legacy one the validator runs outside `wait_for`, so a request whose
    Data was taken may still be validating after its deadline -/
theorem specFire_due {t : Nat} {r : Req} (hd : r.deadline ≤ t) (ha : r.awaitAt ≤ t) (s : IState) :
    ∃ o t', specFire .v2 t r s = .done o t' := by
  -- the front-end as a variable, so that the cases are numbered as above
  generalize hfe : FrontEnd.v2 = fe
  fun_cases specFire fe t r s with
  | case2 _ h | case11 _ _ _ _ _ h | case13 _ _ _ h => exact absurd hd h
  | case4 _ _ h | case9 _ _ _ _ _ h => exact absurd ha h
  | case5 | case6 | case7 => nomatch hfe
  | _ => exact ⟨_, _, rfl⟩

theorem validatorOutcome_form {fe : FrontEnd} {v : Verdict} {d : Nat} {o : Outcome}
    (h : validatorOutcome fe v d = some o) : o = .data d ∨ (∃ v', o = .valFail d v') ∨ o = .validatorError d := by
  unfold validatorOutcome at h
  split at h
  · split at h
    · cases h; exact Or.inl rfl
    · cases fe <;> cases h <;> exact Or.inr (Or.inl ⟨_, rfl⟩)
  · cases fe <;> cases h
    exact Or.inr (Or.inr rfl)

theorem vstart_ge (fe : FrontEnd) (now : Nat) (r : Req) : now ≤ vstart fe now r := by
  unfold vstart; cases fe <;> simp <;> omega

theorem vstart_await (now : Nat) (r : Req) : r.awaitAt ≤ vstart .v1 now r := by
  unfold vstart; simp; omega

theorem expiry_ge (fe : FrontEnd) (now life defer : Nat) : now + defer ≤ expiry fe now life defer := by
  cases fe
  · rw [expiry_v1]; omega
  · rw [expiry_v2]; split <;> omega

theorem silent_iff {fe : FrontEnd} {nr : Bool} : silent fe nr = true ↔ fe = .v2 ∧ nr = true := by
  cases fe <;> simp

theorem clockStep_ge (c : Nat) (ev : Ev) : c ≤ clockStep c ev := by
  unfold clockStep; cases ev <;> simp <;> omega

theorem Spec.run_snoc (fe : FrontEnd) (evs : List Ev) (ev : Ev) :
    Spec.run fe (evs ++ [ev]) = Spec.step fe (Spec.run fe evs) ev := by
  simp [Spec.run, List.foldl_append]

theorem Spec.run_append (fe : FrontEnd) (a b : List Ev) :
    Spec.run fe (a ++ b) = b.foldl (Spec.step fe) (Spec.run fe a) := by
  simp [Spec.run, List.foldl_append]

theorem Spec.step_clock (fe : FrontEnd) (S : Spec) (ev : Ev) :
    (Spec.step fe S ev).clock = clockStep S.clock ev := by
  unfold Spec.step clockStep; cases ev <;> rfl

theorem Spec.clock_le_step (fe : FrontEnd) (S : Spec) (ev : Ev) : S.clock ≤ (Spec.step fe S ev).clock := by
  rw [Spec.step_clock]; exact clockStep_ge _ _

theorem Spec.react_get (fe : FrontEnd) (S : Spec) (ev : Ev) {i : Nat} {r : Req} {s : IState}
    (hr : S.reqs[i]? = some r) (hs : S.sts[i]? = some s) :
    (S.react fe ev)[i]? = some (specReact fe S.clock i r s ev) := by
  unfold Spec.react
  rw [List.getElem?_mapIdx, hs, hr]; rfl

theorem Spec.react_length (fe : FrontEnd) (S : Spec) (ev : Ev) : (S.react fe ev).length = S.sts.length := by
  unfold Spec.react; simp

theorem Spec.step_old (fe : FrontEnd) (S : Spec) (ev : Ev) {i : Nat} {r : Req} {s : IState}
    (hr : S.reqs[i]? = some r) (hs : S.sts[i]? = some s) :
    (Spec.step fe S ev).reqs[i]? = some r ∧ (Spec.step fe S ev).sts[i]? = some (specReact fe S.clock i r s ev) := by
  have h1 := Spec.react_get fe S ev hr hs
  unfold Spec.step
  cases ev with
  | express nm imp cbp life v lat defer nr =>
    exact ⟨getElem?_concat_old hr, getElem?_concat_old h1⟩
  | _ => exact ⟨hr, h1⟩

theorem Spec.step_express (fe : FrontEnd) (S : Spec) (hlen : S.sts.length = S.reqs.length) (nm : Name)
    (imp : Option Nat) (cbp : Bool) (life : Nat) (v : Verdict) (lat defer : Nat) (nr : Bool) :
    (Spec.step fe S (.express nm imp cbp life v lat defer nr)).reqs[S.reqs.length]? =
      some (mkReq fe S.clock nm imp cbp life v lat defer) ∧
    (Spec.step fe S (.express nm imp cbp life v lat defer nr)).sts[S.reqs.length]? =
      some (specFire fe S.clock (mkReq fe S.clock nm imp cbp life v lat defer) (initSt fe S.clock nr)) := by
  have h := Spec.react_length fe S (.express nm imp cbp life v lat defer nr)
  constructor
  · simp [Spec.step]
  · simp only [Spec.step]
    rw [← hlen, ← h, List.getElem?_append_right (Nat.le_refl _), Nat.sub_self]; rfl

theorem Spec.step_cases (fe : FrontEnd) (S : Spec) (hlen : S.sts.length = S.reqs.length) (ev : Ev) {i : Nat}
    {r : Req} {s' : IState} (hr : (Spec.step fe S ev).reqs[i]? = some r) (hs : (Spec.step fe S ev).sts[i]? = some s') :
    (∃ s, S.reqs[i]? = some r ∧ S.sts[i]? = some s ∧ s' = specReact fe S.clock i r s ev) ∨
    (∃ nm imp cbp life v lat defer nr, ev = .express nm imp cbp life v lat defer nr ∧ i = S.reqs.length ∧
      r = mkReq fe S.clock nm imp cbp life v lat defer ∧ s' = specFire fe S.clock r (initSt fe S.clock nr)) := by
  have old : S.reqs[i]? = some r → ∃ s, S.reqs[i]? = some r ∧ S.sts[i]? = some s ∧
      s' = specReact fe S.clock i r s ev := by
    intro h0
    have hlt : i < S.sts.length := hlen ▸ lt_of_getElem? h0
    have h1 : S.sts[i]? = some S.sts[i] := by simp [hlt]
    have := (Spec.step_old fe S ev h0 h1).2
    rw [this] at hs
    exact ⟨_, h0, h1, (Option.some.inj hs).symm⟩
  cases ev with
  | express nm imp cbp life v lat defer nr =>
    have hr' : (S.reqs ++ [mkReq fe S.clock nm imp cbp life v lat defer])[i]? = some r := hr
    rcases getElem?_concat_cases hr' with h0 | ⟨h0, h1⟩
    · exact Or.inl (old h0)
    · right
      refine ⟨nm, imp, cbp, life, v, lat, defer, nr, rfl, h0, h1, ?_⟩
      rw [h0, (Spec.step_express fe S hlen nm imp cbp life v lat defer nr).2] at hs
      rw [h1, Option.some.inj hs]
  | _ => exact Or.inl (old hr)

theorem Spec.run_len (fe : FrontEnd) (evs : List Ev) : (Spec.run fe evs).sts.length = (Spec.run fe evs).reqs.length := by
  induction evs using snoc_induction with
  | nil => rfl
  | append_singleton l ev ih =>
    rw [Spec.run_snoc]
    unfold Spec.step
    cases ev <;> simp [Spec.react_length, ih]

theorem Spec.trace_from (fe : FrontEnd) (post : List Ev) : ∀ (S : Spec) {i : Nat} {r : Req} {s : IState},
    S.reqs[i]? = some r → S.sts[i]? = some s →
    (post.foldl (Spec.step fe) S).reqs[i]? = some r ∧
    (post.foldl (Spec.step fe) S).sts[i]? = some (reqTrace fe i r S.clock s post) := by
  induction post with
  | nil => intro S i r s hr hs; exact ⟨hr, hs⟩
  | cons ev rest ih =>
    intro S i r s hr hs
    obtain ⟨a, b⟩ := Spec.step_old fe S ev hr hs
    simp only [List.foldl_cons, reqTrace]
    rw [← Spec.step_clock fe S ev]
    exact ih _ a b

theorem reqTrace_done (fe : FrontEnd) (i : Nat) (r : Req) (o : Outcome) (t : Nat) (post : List Ev) :
    ∀ c, reqTrace fe i r c (.done o t) post = .done o t := by
  induction post with
  | nil => intro c; rfl
  | cons ev rest ih => intro c; simp only [reqTrace, specReact_done]; exact ih _

theorem Spec.run_induct (fe : FrontEnd) {P : List Ev → Nat → Req → IState → Prop}
    (new : ∀ evs nm imp cbp life v lat defer nr,
      P (evs ++ [.express nm imp cbp life v lat defer nr]) (Spec.run fe evs).reqs.length
        (mkReq fe (Spec.run fe evs).clock nm imp cbp life v lat defer)
        (specFire fe (Spec.run fe evs).clock (mkReq fe (Spec.run fe evs).clock nm imp cbp life v lat defer)
          (initSt fe (Spec.run fe evs).clock nr)))
    (old : ∀ evs ev i r s, (Spec.run fe evs).reqs[i]? = some r → (Spec.run fe evs).sts[i]? = some s → P evs i r s →
      P (evs ++ [ev]) i r (specReact fe (Spec.run fe evs).clock i r s ev)) :
    ∀ evs i r s, (Spec.run fe evs).reqs[i]? = some r → (Spec.run fe evs).sts[i]? = some s → P evs i r s := by
  intro evs
  induction evs using snoc_induction with
  | nil => intro i r s hr; simp [Spec.run] at hr
  | append_singleton l ev ih =>
    intro i r s' hr hs'
    rw [Spec.run_snoc] at hr hs'
    rcases Spec.step_cases fe (Spec.run fe l) (Spec.run_len fe l) ev hr hs' with
      ⟨s, h1, h2, h3⟩ | ⟨nm, imp, cbp, life, v, lat, defer, nr, h1, h2, h3, h4⟩
    · rw [h3]; exact old l ev i r s h1 h2 (ih i r s h1 h2)
    · rw [h1, h2, h4, h3]; exact new l nm imp cbp life v lat defer nr

theorem TakenAt.snoc {fe : FrontEnd} {evs : List Ev} {i : Nat} {r : Req} {d a : Nat} (ev : Ev)
    (h : TakenAt fe evs i r d a) : TakenAt fe (evs ++ [ev]) i r d a := by
  obtain ⟨pre, post, nm, dg, h1, h2⟩ := h
  exact ⟨pre, post ++ [ev], nm, dg, by rw [h1]; simp, h2⟩

theorem Resolved.snoc {fe : FrontEnd} {evs : List Ev} {i : Nat} {r : Req} {o : Outcome} {t0 : Nat} (ev : Ev)
    (h : Resolved fe evs i r o t0) : Resolved fe (evs ++ [ev]) i r o t0 := by
  cases o with
  | timeout | noResponse => simp only [Resolved] at h
  | nack rsn =>
    obtain ⟨pre, post, nm, dg, h1, h2⟩ := h
    exact ⟨pre, post ++ [ev], nm, dg, by rw [h1]; simp, h2⟩
  | cancelled =>
    obtain ⟨pre, post, h1, h2⟩ := h
    exact ⟨pre, post ++ [ev], h1.imp (fun h => by rw [h]; simp) (fun h => by rw [h]; simp), h2⟩
  | data | valFail | validatorError =>
    obtain ⟨d', a, h1, h2⟩ := h
    exact ⟨d', a, h1.snoc ev, h2⟩

theorem JustifiedAt.done_of_resolved {c : Nat} {fe : FrontEnd} {evs : List Ev} {i : Nat} {r : Req} {o : Outcome} {t0 : Nat}
    (h : Resolved fe evs i r o t0) : JustifiedAt c fe evs i r (.done o (max t0 r.awaitAt)) := by
  cases o with
  | timeout | noResponse => simp only [Resolved] at h
  | _ => exact ⟨t0, h, rfl⟩

theorem JustifiedAt.snoc {c : Nat} {fe : FrontEnd} {evs : List Ev} {i : Nat} {r : Req} {s : IState} (ev : Ev)
    (h : JustifiedAt c fe evs i r s) : JustifiedAt c fe (evs ++ [ev]) i r s := by
  cases s with
  | waiting => exact h
  | validating d fin =>
    obtain ⟨a, hT, hfin⟩ := h
    exact ⟨a, hT.snoc ev, hfin⟩
  | held o =>
    obtain ⟨h1, t0, h2, h3⟩ := h
    exact ⟨h1, t0, h2.snoc ev, h3⟩
  | done o t =>
    cases o with
    | timeout => exact h
    | noResponse =>
      obtain ⟨hfe, pre, post, nm, imp, cbp, life, v, lat, defer, h1, h2⟩ := h
      exact ⟨hfe, pre, post ++ [ev], nm, imp, cbp, life, v, lat, defer, by rw [h1]; simp, h2⟩
    | _ => obtain ⟨t0, h1, h2⟩ := h; exact ⟨t0, h1.snoc ev, h2⟩

theorem Resolved.of_validator {fe : FrontEnd} {evs : List Ev} {i : Nat} {r : Req} {d a t0 : Nat} {o : Outcome}
    (hv : validatorOutcome fe r.verdict d = some o) (hT : TakenAt fe evs i r d a) (ht : t0 = vstart fe a r + r.lat)
    (hd : fe = .v2 → t0 < r.deadline ∨ r.lat = 0) : Resolved fe evs i r o t0 := by
  rcases validatorOutcome_form hv with h | ⟨v', h⟩ | h <;> subst h <;>
    exact ⟨d, a, hT, ht, hv, hd⟩

theorem JustifiedAt.resolve_of_resolved {c : Nat} {fe : FrontEnd} {evs : List Ev} {i : Nat} {r : Req} {o : Outcome}
    (h : Resolved fe evs i r o c) : JustifiedAt c fe evs i r (resolve c r o) := by
  unfold resolve
  by_cases ha : r.awaitAt ≤ c
  · rw [if_pos ha]
    have := JustifiedAt.done_of_resolved (c := c) h
    rwa [Nat.max_eq_left ha] at this
  · rw [if_neg ha]
    exact ⟨Nat.le_of_lt (Nat.lt_of_not_le ha), c, h, Nat.le_of_lt (Nat.lt_of_not_le ha)⟩

/-- the timers due up to `b` fire while the clock moves from `c` to `c'`; `b ≤ c' ≤ b + 1` because `tick` fires what is
    due at `c'` too (`b = c'`) and `reach` does not (`b = c' - 1`) -/
theorem JustifiedAt.fire {c c' b : Nat} {fe : FrontEnd} {evs : List Ev} {i : Nat} {r : Req} {s : IState}
    (hc : c ≤ c') (hb : b ≤ c') (hb' : c' ≤ b + 1) (h : JustifiedAt c fe evs i r s) :
    JustifiedAt c' fe evs i r (specFire fe b r s) := by
  have ahead : ∀ {x : Nat}, ¬ x ≤ b → c' ≤ x := fun hx => Nat.le_trans hb' (Nat.lt_of_not_le hx)
  have timeout : r.deadline ≤ b → JustifiedAt c' fe evs i r (.done .timeout r.deadline) :=
    fun hd => ⟨rfl, Nat.le_trans hd hb⟩
  fun_cases specFire fe b r s with
  | case1 _ hd | case10 _ _ _ _ _ hd | case12 _ _ _ hd => exact timeout hd
  | case2 _ hd => exact ahead hd
  | case3 _ o ha =>
    obtain ⟨_, t0, h2, h3⟩ := h
    have := JustifiedAt.done_of_resolved (c := c') h2
    rwa [Nat.max_eq_right h3] at this
  | case4 _ o ha => exact ⟨ahead ha, h.2⟩
  | case5 d fin hf o hv =>
    obtain ⟨a, hT, hfin⟩ := h
    have := JustifiedAt.done_of_resolved (c := c') (Resolved.of_validator hv hT hfin (fun h => nomatch h))
    have hge : r.awaitAt ≤ fin := hfin ▸ Nat.le_trans (vstart_await a r) (Nat.le_add_right _ _)
    rwa [Nat.max_eq_left hge] at this
  | case6 | case7 | case11 | case13 => exact h
  | case8 d fin o hv hf ha =>
    obtain ⟨a, hT, hfin⟩ := h
    exact JustifiedAt.done_of_resolved (Resolved.of_validator hv hT hfin (fun _ => Or.inl hf.2))
  | case9 d fin o hv hf ha =>
    obtain ⟨a, hT, hfin⟩ := h
    exact ⟨ahead ha, fin, Resolved.of_validator hv hT hfin (fun _ => Or.inl hf.2),
      Nat.le_trans hf.1 (Nat.le_of_lt (Nat.lt_of_not_le ha))⟩
  | case14 _ o t =>
    cases o with
    | timeout => exact ⟨h.1, Nat.le_trans h.2 hc⟩
    | _ => exact h

theorem justified_step (fe : FrontEnd) (evs : List Ev) (ev : Ev) {i : Nat} {r : Req} {s : IState}
    (hs : (Spec.run fe evs).sts[i]? = some s) (hJ : Justified fe evs i r s) :
    Justified fe (evs ++ [ev]) i r (specReact fe (Spec.run fe evs).clock i r s ev) := by
  unfold Justified at hJ ⊢
  rw [Spec.run_snoc, Spec.step_clock]
  generalize hnow : (Spec.run fe evs).clock = now at hJ ⊢
  have keep := hJ.snoc ev
  fun_cases specReact fe now i r s ev with
  | case1 nm dg d hc =>
    obtain ⟨rfl, hM⟩ := hc
    have hT : TakenAt fe (evs ++ [Ev.data nm dg d]) i r d now := ⟨evs, [], nm, dg, rfl, hs, hM, hnow, hJ⟩
    -- `taken`: the validator answers in this very instant, or the request is validating
    fun_cases taken fe now r d with
    | case1 o hm =>
      obtain ⟨hcond, hm⟩ := Option.ite_none_right_eq_some.mp hm
      have hvs : vstart fe now r = now := Nat.le_antisymm hcond.2 (vstart_ge fe now r)
      exact JustifiedAt.resolve_of_resolved
        (Resolved.of_validator hm hT (by rw [hvs, hcond.1]; rfl) (fun _ => Or.inr hcond.1))
    | case2 => exact ⟨now, hT, rfl⟩
  | case3 nm dg rsn hc =>
    obtain ⟨rfl, hN⟩ := hc
    exact JustifiedAt.resolve_of_resolved (o := .nack rsn) ⟨evs, [], nm, dg, rfl, hs, hN, hnow⟩
  | case5 =>
    -- `specCancel`: not awaited yet, done, held; otherwise the request ends
    fun_cases specCancel now r s with
    | case1 | case2 | case3 => exact keep
    | case4 s hu => exact ⟨now, ⟨evs, [], Or.inl rfl, hnow⟩, (Nat.max_eq_left (Nat.le_of_not_lt hu)).symm⟩
  | case7 hw => exact JustifiedAt.resolve_of_resolved (o := .cancelled) ⟨evs, [], Or.inr rfl, hnow⟩
  | case9 t => exact JustifiedAt.fire (Nat.le_max_left _ _) (Nat.le_refl _) (Nat.le_succ _) keep
  | case10 t =>
    unfold specReach
    by_cases h0 : max now t = 0
    · rw [if_pos h0]
      have : max now t = now := Nat.le_antisymm (h0 ▸ Nat.zero_le _) (Nat.le_max_left _ _)
      show JustifiedAt (max now t) _ _ _ _ _
      rw [this]; exact keep
    · rw [if_neg h0]
      exact JustifiedAt.fire (Nat.le_max_left _ _) (Nat.sub_le _ _) (Nat.le_of_eq (Nat.succ_pred h0).symm) keep
  -- the other events leave the request as it is, and the clock (it moves in `tick` and `reach` only)
  | case2 | case4 | case6 | case8 | case11 => exact keep

/-- no hypothesis on the history: lifetime 0, late awaits, `no_response` and same-turn ties included -/
theorem spec_justified (fe : FrontEnd) (evs : List Ev) :
    ∀ (i : Nat) (r : Req) (s : IState), (Spec.run fe evs).reqs[i]? = some r → (Spec.run fe evs).sts[i]? = some s →
      Justified fe evs i r s := by
  refine Spec.run_induct fe (P := fun evs i r s => Justified fe evs i r s) (fun l nm imp cbp life v lat defer nr => ?_)
    (fun l ev i r s _ h2 hJ => justified_step fe l ev h2 hJ) evs
  unfold Justified
  rw [Spec.run_snoc, Spec.step_clock]
  apply JustifiedAt.fire (c := (Spec.run fe l).clock) (Nat.le_refl _) (Nat.le_refl _) (Nat.le_succ _)
  unfold initSt
  cases hsil : silent fe nr with
  | true =>
    obtain ⟨hfe, hnr⟩ := silent_iff.mp hsil
    simp only [if_true]
    subst hnr
    exact ⟨hfe, l, [], nm, imp, cbp, life, v, lat, defer, rfl, rfl, rfl⟩
  | false =>
    simp only [Bool.false_eq_true, if_false]
    exact Nat.le_trans (Nat.le_add_right _ _) (expiry_ge fe (Spec.run fe l).clock life defer)

theorem NoTie.prefix {pre post : List Ev} (h : NoTie (pre ++ post)) : NoTie pre :=
  fun e he => h e (List.mem_append_left _ he)

theorem waiting_before_deadline (fe : FrontEnd) (evs : List Ev) (hn : NoTie evs) :
    ∀ (i : Nat) (r : Req), (Spec.run fe evs).reqs[i]? = some r → (Spec.run fe evs).sts[i]? = some .waiting →
      (Spec.run fe evs).clock < r.deadline := by
  intro i r hr hs
  refine Spec.run_induct fe
    (P := fun evs _ r s => NoTie evs → s = .waiting → (Spec.run fe evs).clock < r.deadline)
    (fun l nm imp cbp life v lat defer nr _ h4 => ?_) (fun l ev i r s _ _ ih hn h3 => ?_) evs i r _ hr hs hn rfl
  · rw [Spec.run_snoc, Spec.step_clock]
    exact (specFire_eq_waiting_iff.mp h4).2
  · have hw : s = .waiting := Decidable.byContradiction fun hne => specReact_ne_waiting_of hne ev h3
    subst hw
    have := ih hn.prefix rfl
    rw [Spec.run_snoc, Spec.step_clock]
    cases ev with
    | tick t => exact (specFire_eq_waiting_iff.mp (show specFire fe _ r .waiting = _ from h3)).2
    | reach t => exact absurd rfl (hn (.reach t) (by simp) t)
    | _ => exact this

theorem taken_before_deadline (fe : FrontEnd) (evs : List Ev) (hn : NoTie evs) {i : Nat} {r : Req} {d a : Nat}
    (hr : (Spec.run fe evs).reqs[i]? = some r) (hT : TakenAt fe evs i r d a) : a < r.deadline := by
  obtain ⟨pre, post, nm, dg, h1, h2, _, h4, _⟩ := hT
  subst h1
  have hlt : i < (Spec.run fe pre).reqs.length := by
    rw [← Spec.run_len]; exact lt_of_getElem? h2
  have hr' : (Spec.run fe pre).reqs[i]? = some (Spec.run fe pre).reqs[i] := by simp [hlt]
  have := (Spec.trace_from fe (Ev.data nm dg d :: post) _ hr' h2).1
  rw [← Spec.run_append, hr] at this
  rw [← Option.some.inj this] at hr'
  rw [← h4]
  exact waiting_before_deadline fe pre hn.prefix i r hr' h2

end Ndn.Pit
