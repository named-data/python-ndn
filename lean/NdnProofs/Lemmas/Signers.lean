import NdnProofs.Lemmas.PacketName
import NdnModel.Signers
/-!
  Signer objects and verifiers inside the packet model (C02): one `make_*` call with a signer object (`signWith_eq`);
  when `verifyPtrs` accepts, and what that means for a scheme whose verifier computes the value again (`Recomputes`:
  DigestSha256, HMAC-SHA256); an HMAC collision is a collision of the underlying hash.
-/
namespace Ndn.Sign
open Ndn Ndn.Codec Ndn.Packet

/-- One `make_*` call with a signer object that always fills the reserved space, when the covered parts `cov` do not
    depend on what the signer writes: the packet is the one made with the value over `cov`. -/
theorem signWith_eq (sg : Signer) (mk : Value → Option SignerOut → Except PyErr Made) (out : Bytes → Made)
    (cov : List Bytes) (hlen : ∀ parts, (sg.value parts).length = sg.reserved)
    (hmk : ∀ sig : Bytes, sig.length = sg.reserved →
      mk sg.sigInfo (some { reserved := sg.reserved, sig := sig }) = .ok (out sig))
    (hcov : ∀ sig, (out sig).covered = cov) : signWith sg mk = .ok (out (sg.value cov)) := by
  unfold signWith
  rw [hmk _ (List.length_replicate ..)]
  simp only [bind, Except.bind, hcov]
  exact hmk _ (hlen _)

theorem makeInterestS_appended (H : Bytes → Bytes) (sg : Signer) (name : List Bytes) (mid : List Value)
    (appParam : Value) (hnd : ∀ c ∈ name, isDigestComp c = false) :
    makeInterestS H sg name mid appParam = makeInterestS H sg (name ++ [digestPlaceholder]) mid appParam := by
  have h (s : SignerOut) := makeInterest_appended H name mid appParam sg.sigInfo (some s) hnd (not_isNone_effApp_true appParam)
  simp only [makeInterestS, signWith, h]

theorem verifyPtrs_iff (S : Scheme) (p : Ptrs) :
    verifyPtrs S p = true ↔ ∃ s, p.sigValue = some s ∧ S.verify (concatB p.sigCovered) s = true := by
  unfold verifyPtrs
  cases p.sigValue with
  | none => exact ⟨fun h => absurd h Bool.false_ne_true, fun ⟨_, h, _⟩ => nomatch h⟩
  | some s => exact ⟨fun h => ⟨s, rfl, h⟩, fun ⟨_, h, hv⟩ => Option.some.inj h ▸ hv⟩

/-- a scheme whose verifier computes the value again and compares, as DigestSha256 and HMAC-SHA256 do: what such a
    verifier accepts and refuses is a matter of equations between values of `sign` -/
def Recomputes (S : Scheme) : Prop := ∀ m s, S.verify m s = true ↔ s = S.sign m

theorem digestScheme_recomputes (H : Bytes → Bytes) : Recomputes (digestScheme H) :=
  fun _ _ => beq_iff_eq.trans eq_comm

theorem hmacScheme_recomputes (H : Bytes → Bytes) (key : Bytes) : Recomputes (hmacScheme H key) :=
  fun _ _ => beq_iff_eq.trans eq_comm

theorem Recomputes.verifyPtrs_iff {S : Scheme} (hS : Recomputes S) (p : Ptrs) :
    verifyPtrs S p = true ↔ ∃ s, p.sigValue = some s ∧ s = S.sign (concatB p.sigCovered) :=
  (Sign.verifyPtrs_iff S p).trans (exists_congr fun s => and_congr_right fun _ => hS _ s)

theorem Recomputes.same_value {S : Scheme} (hS : Recomputes S) {p p' : Ptrs} (h : verifyPtrs S p = true)
    (h' : verifyPtrs S p' = true) (hsv : p'.sigValue = p.sigValue) :
    S.sign (concatB p'.sigCovered) = S.sign (concatB p.sigCovered) := by
  obtain ⟨s, h1, h2⟩ := (hS.verifyPtrs_iff p).mp h
  obtain ⟨s', h1', h2'⟩ := (hS.verifyPtrs_iff p').mp h'
  rw [h1, h1'] at hsv
  cases hsv
  exact h2'.symm.trans h2

theorem Recomputes.other_value {S : Scheme} (hS : Recomputes S) {p p' : Ptrs} (h : verifyPtrs S p = true)
    (hcov : concatB p'.sigCovered = concatB p.sigCovered) (hsv : p'.sigValue ≠ p.sigValue) :
    verifyPtrs S p' = false := by
  obtain ⟨s, h1, h2⟩ := (hS.verifyPtrs_iff p).mp h
  refine Bool.eq_false_iff.mpr fun h' => ?_
  obtain ⟨s', h1', h2'⟩ := (hS.verifyPtrs_iff p').mp h'
  rw [hcov, ← h2] at h2'
  exact hsv (by rw [h1, h1', h2'])

end Ndn.Sign

namespace Ndn.Hmac
open Ndn

/-- either the inner hashes collide, or the outer hash collides on two different inner results -/
theorem hmac_collision (H : Bytes → Bytes) (key m m' : Bytes) (hne : m' ≠ m)
    (heq : hmac H key m' = hmac H key m) : ∃ x y, x ≠ y ∧ H x = H y := by
  unfold hmac at heq
  by_cases hin : H (xorWith ipad (blockKey H key) ++ m') = H (xorWith ipad (blockKey H key) ++ m)
  · exact ⟨_, _, fun e => hne (List.append_cancel_left e), hin⟩
  · exact ⟨_, _, fun e => hin (List.append_cancel_left e), heq⟩

end Ndn.Hmac
