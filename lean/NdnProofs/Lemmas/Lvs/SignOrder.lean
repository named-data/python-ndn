import NdnProofs.Lemmas.Lvs.Sanity
/-!
  `top_order` inside `_sanity_check`: on a model that obeys the documented rules it raises exactly when reachable nodes sign
  each other in a cycle (`C13.SignCycle`); hence the loader's three outcomes in the documented terms, for every model:
  accepted iff `Sane` without such a cycle, `SemanticError` iff `Sane` with one, `LvsModelError` otherwise
  (`sanityCheck_modelError_iff` of `Sanity`).
-/
namespace Ndn.C13
open Ndn Ndn.Lvs

/-- a signing cycle among reachable nodes of a model: a non-empty set of nodes each of which is listed as
    signer by a reachable member of the set -/
def SignCycle (m : Model) : Prop :=
  ∃ C : List Nat, (∃ c, c ∈ C) ∧
    ∀ c ∈ C, ∃ p ∈ C, Reach m p ∧ ∃ pnode, m.nodes[p]? = some pnode ∧ c ∈ pnode.signCons

end Ndn.C13

namespace Ndn.Lvs

/-- the signing relation `_sanity_check` hands to `top_order`: (node visited by `dfs`, one of its signers) -/
def signEdges (m : Model) : List (Nat × Nat) :=
  (collect m (m.nodes.length + 1) m.startId).eraseDups.flatMap (fun n =>
    match m.nodes[n]? with
    | some node => node.signCons.map (fun k => (n, k))
    | none => [])

/-- the node identifiers `top_order` sorts -/
def signIds (m : Model) : List Nat := (m.nodes.filterMap (·.id)).eraseDups

theorem signOK_eq (m : Model) :
    signOK m = ((signEdges m).all (fun e => (signIds m).contains e.1 && (signIds m).contains e.2)
      && kahn (signIds m).length (signIds m) (signEdges m)) := rfl

theorem mem_signEdges {m : Model} {p c : Nat} :
    (p, c) ∈ signEdges m ↔ p ∈ collect m (m.nodes.length + 1) m.startId ∧
      ∃ pnode, m.nodes[p]? = some pnode ∧ c ∈ pnode.signCons := by
  simp only [signEdges, List.mem_flatMap, List.mem_eraseDups]
  constructor
  · rintro ⟨n, hn, hm⟩
    cases hnode : m.nodes[n]? with
    | none => simp [hnode] at hm
    | some node =>
      simp only [hnode, List.mem_map, Prod.mk.injEq] at hm
      obtain ⟨k, hk, rfl, rfl⟩ := hm
      exact ⟨hn, node, hnode, hk⟩
  · rintro ⟨hp, pnode, hpn, hc⟩
    exact ⟨p, hp, by simp [hpn, hc]⟩

/-- the test by which a round of `top_order` keeps `n` back: an edge into `n` from a node still to be sorted -/
theorem blocked_iff {edges : List (Nat × Nat)} {rem : List Nat} {n : Nat} :
    (edges.any fun e => e.2 == n && rem.contains e.1) = true ↔ ∃ p ∈ rem, (p, n) ∈ edges := by
  simp only [List.any_eq_true, Bool.and_eq_true, beq_iff_eq, List.contains_eq_mem, decide_eq_true_eq]
  constructor
  · rintro ⟨⟨p, c⟩, he, rfl, hp⟩; exact ⟨p, hp, he⟩
  · rintro ⟨p, hp, he⟩; exact ⟨(p, n), he, rfl, hp⟩

theorem kahn_false_of_cycle (C : List Nat) (edges : List (Nat × Nat))
    (hC : ∀ c ∈ C, ∃ p ∈ C, (p, c) ∈ edges) (f : Nat) (rem : List Nat) (hne : ∃ c, c ∈ C)
    (hsub : ∀ c ∈ C, c ∈ rem) : kahn f rem edges = false := by
  fun_induction kahn f rem edges with
  | case1 => obtain ⟨c, hc⟩ := hne; exact nomatch hsub c hc
  | case2 => rfl
  | case3 => rfl
  | case4 f rem edges _ ready _ ih =>
    -- no member of `C` is ready, so all of `C` stays for the next round
    refine ih hC fun c hc => List.mem_filter.mpr ⟨hsub c hc, ?_⟩
    obtain ⟨p, hp, hpe⟩ := hC c hc
    have hnr : c ∉ ready := fun h => by
      have := (List.mem_filter.mp h).2
      rw [blocked_iff.mpr ⟨p, hsub p hp, hpe⟩] at this
      cases this
    rw [List.contains_eq_mem, decide_eq_false hnr]
    rfl

theorem kahn_stuck (edges : List (Nat × Nat)) (f : Nat) (rem : List Nat) (hl : rem.length ≤ f)
    (h : kahn f rem edges = false) : ∃ C : List Nat, (∃ c, c ∈ C) ∧ ∀ c ∈ C, ∃ p ∈ C, (p, c) ∈ edges := by
  fun_induction kahn f rem edges with
  | case1 => cases h
  | case2 => cases hl
  | case3 f rem edges hne ready hempty =>
    refine ⟨rem, List.exists_mem_of_ne_nil _ (fun h => hne h), fun c hc => blocked_iff.mp ?_⟩
    simpa only [Bool.not_eq_true', Bool.not_eq_false] using
      List.filter_eq_nil_iff.mp (List.isEmpty_iff.mp hempty) c hc
  | case4 f rem edges _ ready hne ih =>
    -- some node is ready, so fewer remain for the next round
    obtain ⟨y, hy⟩ := List.exists_mem_of_ne_nil _ (mt List.isEmpty_iff.mpr hne)
    refine ih (Nat.le_of_lt_succ (Nat.lt_of_lt_of_le
      (List.length_filter_lt_length_iff_exists.mpr ⟨y, (List.mem_filter.mp hy).1, ?_⟩) hl)) h
    rw [List.contains_eq_mem, decide_eq_true hy]
    decide

theorem signOK_false_of_cycle {m : Model} (hs : structCheck m = true) (hc : C13.SignCycle m) : signOK m = false := by
  obtain ⟨C, hne, hC⟩ := hc
  have hE : ∀ c ∈ C, ∃ p ∈ C, (p, c) ∈ signEdges m := by
    intro c hc
    obtain ⟨p, hp, hrp, hsig⟩ := hC c hc
    exact ⟨p, hp, mem_signEdges.mpr ⟨(mem_collect_iff hs).mpr hrp, hsig⟩⟩
  rw [signOK_eq]
  cases hall : (signEdges m).all (fun e => (signIds m).contains e.1 && (signIds m).contains e.2) with
  | false => rfl
  | true =>
    refine kahn_false_of_cycle C _ hE _ _ hne fun c hc => ?_
    obtain ⟨p, _, hpe⟩ := hE c hc
    have := List.all_eq_true.mp hall (p, c) hpe
    simp only [Bool.and_eq_true, List.contains_eq_mem, decide_eq_true_eq] at this
    exact this.2

theorem signOK_of_acyclic (m : Model)
    (hids : ∀ (i : Nat) (node : Node), m.nodes[i]? = some node → node.id = some i)
    (hsig : ∀ (i : Nat) (node : Node), Reach m i → m.nodes[i]? = some node → ∀ k ∈ node.signCons, k < m.nodes.length)
    (hac : ¬ C13.SignCycle m) :
    signOK m = true := by
  have hin : ∀ i, i < m.nodes.length → i ∈ signIds m := fun i hi =>
    List.mem_eraseDups.mpr (List.mem_filterMap.mpr
      ⟨m.nodes[i], List.getElem_mem hi, hids i _ (List.getElem?_eq_getElem hi)⟩)
  have hedge : ∀ p c, (p, c) ∈ signEdges m → Reach m p ∧ p < m.nodes.length ∧
      ∃ pnode, m.nodes[p]? = some pnode ∧ c ∈ pnode.signCons := fun p c he =>
    have ⟨hp, hsig⟩ := mem_signEdges.mp he
    have ⟨hr, hlt⟩ := collect_reach_lt m _ _ _ Reach.start hp
    ⟨hr, hlt, hsig⟩
  rw [signOK_eq, Bool.and_eq_true, List.all_eq_true]
  constructor
  · intro ⟨p, c⟩ he
    obtain ⟨hr, hlt, pnode, hp, hk⟩ := hedge p c he
    simp only [Bool.and_eq_true, List.contains_eq_mem, decide_eq_true_eq]
    exact ⟨hin _ hlt, hin _ (hsig _ pnode hr hp _ hk)⟩
  · cases hk : kahn (signIds m).length (signIds m) (signEdges m) with
    | true => rfl
    | false =>
      obtain ⟨C, hne, hC⟩ := kahn_stuck _ _ _ (Nat.le_refl _) hk
      refine absurd ⟨C, hne, fun c hc => ?_⟩ hac
      obtain ⟨p, hp, hpe⟩ := hC c hc
      obtain ⟨hr, _, hsig⟩ := hedge p c hpe
      exact ⟨p, hp, hr, hsig⟩

theorem Sane.signOK_iff {m : Model} (hs : Sane m) : signOK m = true ↔ ¬ C13.SignCycle m :=
  ⟨fun h hc => Bool.false_ne_true ((signOK_false_of_cycle (structCheck_of_sane m hs) hc).symm.trans h),
   signOK_of_acyclic m hs.ids hs.signers⟩

/-- **a signing cycle among reachable nodes is rejected with `SemanticError`** (when the structural
    check passes; `C13.sign_cycle_rejected` has `Sane m` for that hypothesis) -/
theorem sign_cycle_rejected (m : Model) (hs : structCheck m = true) (C : List Nat) (hne : ∃ c, c ∈ C)
    (hC : ∀ c ∈ C, ∃ p ∈ C, Reach m p ∧ ∃ pnode, m.nodes[p]? = some pnode ∧ c ∈ pnode.signCons) :
    sanityCheck m = .error .semanticError :=
  (sanityCheck_semanticError_iff m).mpr ⟨hs, signOK_false_of_cycle hs ⟨C, hne, hC⟩⟩

theorem sanityCheck_ok_iff_sane (m : Model) : sanityCheck m = .ok () ↔ Sane m ∧ ¬ C13.SignCycle m :=
  (sanityCheck_ok_iff m).trans <| (and_congr_left' ⟨sane_of_structCheck m, structCheck_of_sane m⟩).trans
    (and_congr_right fun hs => hs.signOK_iff)

theorem sanityCheck_semanticError_iff_sane (m : Model) :
    sanityCheck m = .error .semanticError ↔ Sane m ∧ C13.SignCycle m :=
  (sanityCheck_semanticError_iff m).trans <| (and_congr_left' ⟨sane_of_structCheck m, structCheck_of_sane m⟩).trans
    (and_congr_right fun hs => by rw [← Bool.not_eq_true, hs.signOK_iff, Classical.not_not])

end Ndn.Lvs
