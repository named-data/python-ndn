import NdnProofs.Lemmas.Lvs.KeyInj
import NdnProofs.Lemmas.Lvs.SrcRun
import NdnProofs.Lemmas.Lvs.SrcRepl
/-!
  A chain that implements the expansion `f` (`Impl`) makes, component by component, the moves that `Flat.keys f` describes,
  with patterns and constraints numbered (`Tracks`, `impl_tracks`: the one place where the tags passed by the chain are
  matched with the named patterns met by the text).  Read off it: the chain accepts what the text matches, with the same
  bindings (`impl_run`), and its merge-key path is `Flat.keys f` numbered (`impl_keys`); the key path determines `Flat.keys f`
  (`keyNum_left_unique`: numbering is injective on arguments, options and constraints, `numArg_inj`, `numOpt_inj`,
  `optsNum_left_unique`) and - temporary patterns aside - `Flat.keys f` determines the key path (`keyNum_right_unique`).

  `Impl` lists the constraints on named patterns as one flat list (`resCons`), `pattern_movement` takes the terms whose
  left-hand side mentions the number.  The two agree (`resCons_filter_eq`) because the left-hand side of every constraint
  term of a rule chain is either ONE number (a named pattern) or a list of negative numbers (the occurrences of a temporary
  pattern): `chainsOf_patOK`.

  With pass 3 (`replicateLoop_sem`, `SrcRepl`), for the chains of a schema: `chainsOf_sem`, `chains_iff_src`.
-/
namespace Ndn.Lvs

def PatOK (t : NTerm) : Prop := t.pat.length ≤ 1 ∨ ∀ i ∈ t.pat, i < 0

def ConsPatOK (c : Chain) : Prop := ∀ t ∈ c.cons, PatOK t

theorem ruleNum_patOK {F : List String} {r : SRule} {nr : NRule} (h : RuleNum F r nr) :
    ∀ cs ∈ nr.cons, ∀ t ∈ cs, PatOK t := by
  obtain ⟨_, _, tp, _, htp, hcons⟩ := h
  intro cs hcs t ht
  obtain ⟨cs0, _, hm⟩ := mapE_ok_mem' hcons cs hcs
  obtain ⟨t0, _, hm2⟩ := mapE_ok_mem' hm t ht
  rcases (numTerm_inv hm2).2 with ⟨_, hl⟩ | ⟨_, _, hids⟩
  · exact .inr fun i hi => (mem_negsOf.mp (htp t0.pat t.pat hl i hi)).2
  · exact .inl (by rw [hids]; simp)

theorem chainsOf_patOK (S : Schema) (chains : List Chain) (named : List String)
    (h : chainsOf S = .ok (chains, named)) : ∀ c ∈ chains, ConsPatOK c := by
  -- renaming keeps the length, and negative numbers negative
  have hren : RenClosed PatOK := fun ρ hρ t ht =>
    ht.imp (fun hl => by rwa [List.length_map]) fun hn i hi => by
      obtain ⟨j, hj, rfl⟩ := List.mem_map.mp hi
      exact hρ j (hn j hj)
  intro c hc
  exact (chainsOf_all (A := fun _ => True) (T := PatOK) (fun _ _ => trivial) hren h
    (fun _ _ _ hrn => ⟨fun _ _ => trivial, fun _ _ => trivial, ruleNum_patOK hrn⟩) c hc).2

theorem resCons_filter_eq (cons : List NTerm) (h : ∀ t ∈ cons, PatOK t) (k : Int) (hk : 0 ≤ k) :
    ((resCons cons).filter (fun q => q.1 == k)).map (·.2) = (cons.filter (fun c => c.pat.contains k)).map (·.opts) := by
  -- in one term `k`, not being negative, is listed at most once
  have hterm : ∀ (os : List (Opt Int)) (pat : List Int), (pat.length ≤ 1 ∨ ∀ i ∈ pat, i < 0) →
      (((pat.filter (fun j => decide (0 ≤ j))).map (fun j => (j, os))).filter (fun q => q.1 == k)).map (·.2)
        = if pat.contains k then [os] else [] := by
    rintro os (_ | ⟨j, _ | ⟨j', tl⟩⟩) hp
    · rfl
    · by_cases hjk : j = k
      · subst hjk
        simp only [hk, decide_true, List.filter_cons_of_pos, List.filter_nil, List.map_cons, List.map_nil, BEq.rfl,
          List.contains_eq_mem, List.mem_cons, List.not_mem_nil, or_false, ↓reduceIte]
      · have h1 : ((j, os).1 == k) = false := beq_eq_false_iff_ne.mpr hjk
        rw [if_neg (by simpa using Ne.symm hjk)]
        cases hj : decide (0 ≤ j) <;> simp only [List.filter_cons, hj, h1, List.filter_nil, List.map_cons, List.map_nil,
          Bool.false_eq_true, ↓reduceIte]
    · have hn : ∀ i ∈ j :: j' :: tl, i < 0 := hp.resolve_left (by simp)
      have h1 : (j :: j' :: tl).filter (fun j => decide (0 ≤ j)) = [] :=
        List.filter_eq_nil_iff.mpr fun i hi => by have := hn i hi; simp only [decide_eq_true_eq]; omega
      have h2 : k ∉ j :: j' :: tl := fun hm => by have := hn k hm; omega
      rw [h1, if_neg (by simpa using h2)]
      rfl
  induction cons with
  | nil => rfl
  | cons c r ih =>
    rw [show resCons (c :: r) = _ ++ resCons r from List.flatMap_cons .., List.filter_append, List.map_append,
      ih fun t ht => h t (.tail _ ht), hterm c.opts c.pat (h c (.head _)), List.filter_cons]
    split <;> rfl

theorem numArg_inj {F : List String} {a a' : Arg String} {n : Arg Int} (h : numArg F a = .ok n)
    (h' : numArg F a' = .ok n) : a = a' := by
  rcases numArg_inv h with ⟨v, rfl, rfl⟩ | ⟨p, rfl, hp, rfl⟩
  · rcases numArg_inv h' with ⟨v', rfl, hn⟩ | ⟨p', rfl, _, hn⟩ <;> cases hn
    rfl
  · rcases numArg_inv h' with ⟨v', rfl, hn⟩ | ⟨p', rfl, _, hn⟩
    · cases hn
    · injection hn with hn
      rw [tagIn_inj hp hn]

theorem mapE_inj {α β ε : Type} {f : α → Except ε β} (hf : ∀ a a' b, f a = .ok b → f a' = .ok b → a = a')
    {l l' : List α} {bs : List β} (h : mapE f l = .ok bs) (h' : mapE f l' = .ok bs) : l = l' :=
  All2.left_unique (R := fun a b => f a = .ok b) hf (mapE_all2 h) (mapE_all2 h')

theorem numOpt_inj {F : List String} {o o' : Opt String} {n : Opt Int} (h : numOpt F o = .ok n)
    (h' : numOpt F o' = .ok n) : o = o' := by
  rcases numOpt_inv h with ⟨v, rfl, rfl⟩ | ⟨p, rfl, hp, rfl⟩ | ⟨f, args, nargs, rfl, hargs, rfl⟩
  · rcases numOpt_inv h' with ⟨v', rfl, hn⟩ | ⟨p', rfl, _, hn⟩ | ⟨f', args', nargs', rfl, _, hn⟩ <;> cases hn
    rfl
  · rcases numOpt_inv h' with ⟨v', rfl, hn⟩ | ⟨p', rfl, _, hn⟩ | ⟨f', args', nargs', rfl, _, hn⟩
    · cases hn
    · injection hn with hn
      rw [tagIn_inj hp hn]
    · cases hn
  · rcases numOpt_inv h' with ⟨v', rfl, hn⟩ | ⟨p', rfl, _, hn⟩ | ⟨f', args', nargs', rfl, hargs', hn⟩
    · cases hn
    · cases hn
    · cases hn
      rw [mapE_inj (fun _ _ _ => numArg_inj) hargs hargs']

theorem optsNum_left_unique {F : List String} {tc tc' : List (List (Opt String))} {ntc : List (List (Opt Int))}
    (h : OptsNum F tc ntc) (h' : OptsNum F tc' ntc) : tc = tc' :=
  All2.left_unique (R := fun os nos => mapE (numOpt F) os = .ok nos)
    (fun _ _ _ h1 h2 => mapE_inj (fun _ _ _ => numOpt_inj) h1 h2) h h'

/-- a position of the key of an expansion, and the merge key the compiler computes for it -/
inductive KeyNum (F : List String) : SKey → MKey → Prop
  | lit (v : Bytes) : KeyNum F (.lit v) (.lit v)
  | named (x : String) (tc : List (List (Opt String))) (ntc : List (List (Opt Int))) :
      x ∈ F → OptsNum F tc ntc → (∀ os ∈ ntc, OptsFnOK os) → KeyNum F (.named x tc) (.pat (keyStr (tagIn F x) ntc))
  | temp (t : Int) (tc : List (List (Opt String))) (ntc : List (List (Opt Int))) :
      t < 0 → OptsNum F tc ntc → (∀ os ∈ ntc, OptsFnOK os) → KeyNum F (.temp tc) (.pat (keyStr t ntc))

theorem keyNum_left_unique {F : List String} {a a' : SKey} {m : MKey} (h : KeyNum F a m) (h' : KeyNum F a' m) : a = a' := by
  generalize hm : m = m' at h'
  cases h with
  | lit v => cases h' <;> cases hm; rfl
  | named x tc ntc hx hn hok =>
    cases h' with
    | lit v' => cases hm
    | named x' tc' ntc' _ hn' hok' =>
      injection hm with hm
      obtain ⟨hk, rfl⟩ := keyStr_inj hok hok' hm
      rw [tagIn_inj hx hk, optsNum_left_unique hn hn']
    | temp t' tc' ntc' ht' _ hok' =>
      injection hm with hm
      have := (keyStr_inj hok hok' hm).1
      have := tagIn_pos F x
      omega
  | temp t tc ntc ht hn hok =>
    cases h' with
    | lit v' => cases hm
    | named x' tc' ntc' _ _ hok' =>
      injection hm with hm
      have := (keyStr_inj hok hok' hm).1
      have := tagIn_pos F x'
      omega
    | temp t' tc' ntc' _ hn' hok' =>
      injection hm with hm
      obtain ⟨_, rfl⟩ := keyStr_inj hok hok' hm
      rw [optsNum_left_unique hn hn']

def SKey.isTemp : SKey → Bool
  | .temp _ => true
  | _ => false

theorem keyNum_right_unique {F : List String} {a : SKey} {m m' : MKey} (ha : a.isTemp = false) (h : KeyNum F a m)
    (h' : KeyNum F a m') : m = m' := by
  generalize ha' : a = a' at h'
  cases h with
  | lit v => cases h' <;> cases ha'; rfl
  | named x tc ntc _ hn _ =>
    cases h' with
    | named x' tc' ntc' _ hn' _ => cases ha'; rw [All2.right_unique (P := fun _ => True) (fun _ _ _ _ h1 h2 => Except.ok.inj (h1.symm.trans h2)) (fun _ _ => trivial) hn hn']
    | lit v' => cases ha'
    | temp t' tc' ntc' _ _ _ => cases ha'
  | temp t tc ntc _ _ _ => cases ha

/-- the moves of chain `rc` from the components `atoms` on (the tags `prev` passed) are, one by one, the keys `ks` of the
    text with patterns and constraints numbered -/
inductive Tracks (F : List String) (rc : Chain) : List SKey → List Atom → List Int → Prop
  | nil {prev} : Tracks F rc [] [] prev
  | lit {v ks as prev} : Tracks F rc ks as prev → Tracks F rc (.lit v :: ks) (.lit v :: as) prev
  | named {x tc ks as prev} : x ∈ F → OptsNum F tc (consAt rc (tagIn F x) prev) →
      Tracks F rc ks as (prev ++ [tagIn F x]) → Tracks F rc (.named x tc :: ks) (.pat (tagIn F x) :: as) prev
  | temp {t tc ks as prev} : t < 0 → OptsNum F tc (consAt rc t prev) →
      Tracks F rc ks as (prev ++ [t]) → Tracks F rc (.temp tc :: ks) (.pat t :: as) prev

/-- the tags a chain has passed are the numbers of the named patterns the text has met -/
def SeenNum (F : List String) (prev : List Int) (seen : List String) : Prop :=
  ∀ x ∈ F, (tagIn F x ∈ prev ↔ x ∈ seen)

theorem SeenNum.temp {F : List String} {prev : List Int} {seen : List String} {t : Int} (ht : t < 0)
    (h : SeenNum F prev seen) : SeenNum F (prev ++ [t]) seen := by
  intro x hx
  rw [List.mem_append, List.mem_singleton, ← h x hx]
  exact or_iff_left fun he => Int.lt_irrefl 0 (Int.lt_trans (he ▸ tagIn_pos F x) ht)

theorem SeenNum.named {F : List String} {prev : List Int} {seen : List String} {x : String}
    (h : SeenNum F prev seen) : SeenNum F (prev ++ [tagIn F x]) (x :: seen) := by
  intro y hy
  rw [List.mem_append, List.mem_singleton, List.mem_cons, h y hy, or_comm]
  exact or_congr_left ⟨tagIn_inj hy, fun he => he ▸ rfl⟩

theorem ncons_filter_num {F : List String} {x : String} {ncons : List (String × List (Opt String))}
    {rc : List (Int × List (Opt Int))} (h : All2 (NconsNum F) ncons rc) :
    OptsNum F ((ncons.filter (fun t => t.1 == x)).map (·.2)) ((rc.filter (fun q => q.1 == tagIn F x)).map (·.2)) := by
  refine h.filter_map (fun p q hr => ?_) fun p q hr => hr.2.2.2
  obtain ⟨_, hp, hq, _⟩ := hr
  rw [hq, Bool.eq_iff_iff, beq_iff_eq, beq_iff_eq]
  exact ⟨fun he => he ▸ rfl, tagIn_inj hp⟩

theorem impl_tracks_aux (F : List String) (ch : Chain) (hpat : ConsPatOK ch)
    (ncons : List (String × List (Opt String))) (hnc : All2 (NconsNum F) ncons (resCons ch.cons)) :
    ∀ (atoms : List Atom) (items : List SItem), All2 (ItemNum F) items (atoms.map (resItem ch.cons)) →
    (negTags atoms).Nodup → ∀ (prev : List Int) (seen : List String),
    SeenNum F prev seen → (∀ t ∈ negTags atoms, t ∉ prev) →
    Tracks F ch (skeysFrom ncons items seen) atoms prev := by
  intro atoms
  induction atoms with
  | nil =>
    intro items h _ prev seen _ _
    cases h
    exact .nil
  | cons a r ih =>
    intro items h hnd prev seen hps hfresh
    cases h with
    | @cons it _ its _ hit hrest =>
    cases a with
    | lit v =>
      cases hit
      rw [negTags_cons_lit] at hnd hfresh
      exact .lit (ih its hrest hnd prev seen hps hfresh)
    | pat t =>
      rw [negTags_cons_pat] at hnd hfresh
      rw [resItem_pat] at hit
      by_cases ht : t < 0
      · -- a temporary pattern: its number is new, so the move carries its constraints
        rw [if_pos ht] at hit hnd hfresh
        cases hit with
        | temp tc ntc hnum =>
        refine .temp ht ?_ (ih its hrest (List.nodup_cons.mp hnd).2 (prev ++ [t]) seen (hps.temp ht) fun u hu => ?_)
        · rw [consAt, if_neg (by simpa using hfresh t List.mem_cons_self)]; exact hnum
        · rw [List.mem_append, List.mem_singleton, not_or]
          exact ⟨hfresh u (List.mem_cons_of_mem _ hu), fun e => (List.nodup_cons.mp hnd).1 (e ▸ hu)⟩
      · -- a named pattern: the constraints where it is met first, none where it is met again
        rw [if_neg ht] at hit hnd hfresh
        cases hit with
        | named x hxt hx =>
        refine .named hx ?_ (ih its hrest hnd (prev ++ [tagIn F x]) (x :: seen) hps.named fun u hu => ?_)
        · unfold consAt
          by_cases hs : x ∈ seen
          · rw [if_pos (by simpa using hs), if_pos (by simpa using (hps x hx).mpr hs)]
            exact .nil
          · rw [if_neg (by simpa using hs), if_neg (by simpa using fun hm => hs ((hps x hx).mp hm)),
              ← resCons_filter_eq ch.cons hpat (tagIn F x) (Int.le_of_lt (tagIn_pos F x))]
            exact ncons_filter_num hnc
        · rw [List.mem_append, List.mem_singleton, not_or]
          exact ⟨hfresh u hu, by have := (mem_negTags.mp hu).2; have := tagIn_pos F x; omega⟩

theorem impl_tracks {F : List String} {ch : Chain} {f : Flat} (h : Impl F ch f) (hpat : ConsPatOK ch)
    (hnd : (negTags ch.name).Nodup) : Tracks F ch f.keys ch.name [] :=
  impl_tracks_aux F ch hpat f.ncons h.2 ch.name f.items h.1 hnd [] [] (fun _ _ => by simp) (by simp)

theorem Tracks.run {F : List String} (fns : PureEnv) {rc : Chain} {ks : List SKey} {atoms : List Atom} {prev : List Int}
    (h : Tracks F rc ks atoms prev) : ∀ (σ : SCtx), SCtxIn F σ → ∀ (name : List Bytes) (σn' : Ctx),
    ChainRun fns rc atoms prev (encCtx F σ) name σn' ↔ ∃ σ', keysRun fns ks σ name = some σ' ∧ σn' = encCtx F σ' := by
  induction h with
  | nil =>
    intro σ _ name σn'
    cases name with
    | nil => exact ⟨fun h => ⟨σ, rfl, h⟩, fun ⟨_, h, he⟩ => Option.some.inj h ▸ he⟩
    | cons c cs => exact ⟨False.elim, fun ⟨_, h, _⟩ => nomatch h⟩
  | @lit v ks as prev _ ih =>
    intro σ hσ name σn'
    cases name with
    | nil => exact ⟨False.elim, fun ⟨_, h, _⟩ => nomatch h⟩
    | cons c cs =>
      rw [ChainRun, keysRun]
      by_cases hcv : c = v
      · rw [if_pos hcv, and_iff_right hcv]; exact ih σ hσ cs σn'
      · rw [if_neg hcv]; exact ⟨fun h => absurd h.1 hcv, fun ⟨_, h, _⟩ => nomatch h⟩
  | @named x tc ks as prev hx hnum _ ih =>
    intro σ hσ name σn'
    cases name with
    | nil => exact ⟨False.elim, fun ⟨_, h, _⟩ => nomatch h⟩
    | cons c cs =>
      rw [ChainRun, keysRun, pmove_consAt, numCons_sat hσ fns c hnum]
      cases consHold fns σ c tc with
      | false => exact ⟨fun h => Bool.noConfusion h.1, fun ⟨_, h, _⟩ => nomatch h⟩
      | true =>
        simp only [true_and, if_true, bindStep_named hσ c]
        cases hg : PyDict.get? σ x with
        | none =>
          simp only [reduceCtorEq, false_and, true_and, false_or, exists_eq_left]
          exact ih _ (sctxIn_set hσ hx c) cs σn'
        | some v =>
          simp only [Option.some.injEq, reduceCtorEq, false_and, or_false]
          by_cases hvc : v = c
          · subst hvc
            simp only [true_and, if_true, exists_eq_left]
            exact ih σ hσ cs σn'
          · simp [hvc]
  | @temp t tc ks as prev ht hnum _ ih =>
    intro σ hσ name σn'
    cases name with
    | nil => exact ⟨False.elim, fun ⟨_, h, _⟩ => nomatch h⟩
    | cons c cs =>
      rw [ChainRun, keysRun, pmove_consAt, numCons_sat hσ fns c hnum]
      simp only [BindStep, if_pos ht, exists_eq_left]
      by_cases hc : consHold fns σ c tc = true
      · rw [if_pos hc, and_iff_right hc]; exact ih σ hσ cs σn'
      · rw [if_neg hc]; exact ⟨fun h => absurd h.1 hc, fun ⟨_, h, _⟩ => nomatch h⟩

theorem Tracks.keyNum {F : List String} {rc : Chain} (hok : ChainOK rc) {ks : List SKey} {atoms : List Atom}
    {prev : List Int} (h : Tracks F rc ks atoms prev) : All2 (KeyNum F) ks (keyFrom rc atoms prev) := by
  induction h with
  | nil => exact .nil
  | lit _ ih => exact .cons (.lit _) ih
  | named hx hnum _ ih =>
    rw [keyFrom, pmove_consAt]
    exact .cons (.named _ _ _ hx hnum (consAt_fnOK hok _ _)) ih
  | temp ht hnum _ ih =>
    rw [keyFrom, pmove_consAt]
    exact .cons (.temp _ _ _ ht hnum (consAt_fnOK hok _ _)) ih

theorem impl_run {F : List String} (fns : PureEnv) {ch : Chain} {f : Flat} (himpl : Impl F ch f) (hpat : ConsPatOK ch)
    (hnd : (negTags ch.name).Nodup) (σ : SCtx) (hσ : SCtxIn F σ) (name : List Bytes) (σn' : Ctx) :
    ChainRun fns ch ch.name [] (encCtx F σ) name σn' ↔ ∃ σ', f.run fns σ name = some σ' ∧ σn' = encCtx F σ' := by
  rw [Flat.run_eq_keysRun]
  exact (impl_tracks himpl hpat hnd).run fns σ hσ name σn'

theorem impl_keys {F : List String} {ch : Chain} {f : Flat} (h : Impl F ch f) (hok : ChainOK ch) (hpat : ConsPatOK ch)
    (hnd : (negTags ch.name).Nodup) : All2 (KeyNum F) f.keys (keyPath ch) :=
  (impl_tracks h hpat hnd).keyNum hok

/-!
  Passes 1–3 together (`chainsOf`): the chains the tree is generated from implement exactly the expansions of the rules
  of the source text (temporary rules under their renamed identifiers), each chain with the signers of the very
  definition it expands (`chainsOf_sem`); and what the chains accept (`ChainRun`) is what the text says (`SrcMatches`),
  bindings numbered on the side of the chains (`chains_iff_src`).
-/

theorem sortRuleReferences_refsDone (S : Schema) (rules : List SRule) (h : sortRuleReferences S = .ok rules) :
    RefsDone ⟨rules⟩ [] rules := fun _ _ _ hsplit _ hq =>
  have ⟨ht, _, hearly⟩ := sortRuleReferences_refsEarlier S rules h hsplit (mem_refsOf.mpr hq)
  ⟨ht, fun r' hr' hr'q => .inr (hearly r' hr' hr'q)⟩

theorem chainsOf_sem (S : Schema) (chains : List Chain) (F : List String) (h : chainsOf S = .ok (chains, F)) :
    F.Nodup ∧
    (∀ c ∈ chains, ChainClosed c ∧ ∃ r ∈ renameTemps S.rules 1, r.id = c.id ∧ c.sign = isort strLe r.sign ∧
      ∃ f, ExpandsDef ⟨renameTemps S.rules 1⟩ r f ∧ Impl F c f) ∧
    (∀ r ∈ renameTemps S.rules 1, ∀ f, ExpandsDef ⟨renameTemps S.rules 1⟩ r f →
      ∃ c ∈ chains, c.id = r.id ∧ c.sign = isort strLe r.sign ∧ Impl F c f) := by
  obtain ⟨srules, nrules, rep, hsort, hnum, hrep, rfl⟩ := chainsOf_ok_inv h
  obtain ⟨hF, hall, hnd, hfresh⟩ := genPatternNumbers_num hnum
  have hperm := sortRuleReferences_perm S srules hsort
  obtain ⟨hsem, hclosed⟩ := replicateLoop_sem (S := ⟨srules⟩) hall [] [] (firstFreshTemp nrules) rep
    (by simp) (fun r hr => hr) (sortRuleReferences_refsDone S srules hsort) hnd
    ⟨firstFreshTemp_neg nrules, by simp, fun t ht => by
      obtain ⟨nr, hnr, htn⟩ := List.mem_flatMap.mp ht
      exact hfresh nr hnr t htn⟩
    (by intro q chains hq; simp [PyDict.get?] at hq)
    ⟨by intro q chains hq; simp [PyDict.get?] at hq, by simp⟩ hrep
  rw [List.nil_append] at hsem
  refine ⟨hF, fun c hc => ?_, fun r hr f hf => ?_⟩
  · obtain ⟨k, v, hget, hcp⟩ := (mem_allChains_loop hrep).mp hc
    obtain ⟨hid, r, hr, hrk, hsg, f, hf, himpl⟩ := hsem.sound k v hget c hcp
    exact ⟨hclosed k v hget c hcp, r, hperm.mem_iff.mp hr, by rw [hid, hrk], hsg, f,
      expandsDef_mono (S := ⟨srules⟩) (S' := ⟨renameTemps S.rules 1⟩) (fun r hr => hperm.mem_iff.mp hr) hf, himpl⟩
  · obtain ⟨cs, hch, c, hc, hsg, himpl⟩ := hsem.complete r (hperm.mem_iff.mpr hr) f
      (expandsDef_mono (S := ⟨renameTemps S.rules 1⟩) (S' := ⟨srules⟩) (fun r hr => hperm.mem_iff.mpr hr) hf)
    exact ⟨c, (mem_allChains_loop hrep).mpr ⟨_, cs, hch, hc⟩, (hsem.sound _ _ hch c hc).1, hsg, himpl⟩

theorem chainsOf_complete (S : Schema) (chains : List Chain) (F : List String) (h : chainsOf S = .ok (chains, F))
    {q : String} {f : Flat} (hf : Expands ⟨renameTemps S.rules 1⟩ q f) : ∃ c ∈ chains, c.id = q ∧ Impl F c f := by
  obtain ⟨r, hr, rfl, hdef⟩ := expands_iff.mp hf
  obtain ⟨c, hc, hid, _, himpl⟩ := (chainsOf_sem S chains F h).2.2 r hr f hdef
  exact ⟨c, hc, hid, himpl⟩

theorem chains_iff_src (S : Schema) (chains : List Chain) (F : List String) (h : chainsOf S = .ok (chains, F))
    (fns : PureEnv) (σ : SCtx) (hσ : SCtxIn F σ) (name : List Bytes) (σn' : Ctx) (rid : String) :
    (∃ rc ∈ chains, rc.id = rid ∧ ChainRun fns rc rc.name [] (encCtx F σ) name σn') ↔
      ∃ σ', σn' = encCtx F σ' ∧ SrcMatches ⟨renameTemps S.rules 1⟩ fns rid σ name σ' := by
  obtain ⟨_, hsound, _⟩ := chainsOf_sem S chains F h
  have hpat := chainsOf_patOK S chains F h
  constructor
  · rintro ⟨rc, hrc, rfl, hrun⟩
    obtain ⟨hcl, r, hr, hrid, _, f, hf, himpl⟩ := hsound rc hrc
    obtain ⟨σ', hrun', he⟩ := (impl_run fns himpl (hpat rc hrc) hcl.nodup σ hσ name σn').mp hrun
    exact ⟨σ', he, f, expands_iff.mpr ⟨r, hr, hrid, hf⟩, hrun'⟩
  · rintro ⟨σ', he, f, hf, hr⟩
    obtain ⟨c, hc, hid, himpl⟩ := chainsOf_complete S chains F h hf
    exact ⟨c, hc, hid, (impl_run fns himpl (hpat c hc) (hsound c hc).1.nodup σ hσ name σn').mpr ⟨σ', hr, he⟩⟩

end Ndn.Lvs
