import NdnProofs.Lemmas.Lvs.CompileNumber
import NdnModel.Lvs.SrcSem
/-!
  Pass 2 (`_gen_pattern_numbers`), characterised component by component: a named pattern gets the same number
  everywhere (its position in the final `named_pats` + 1), every occurrence of a temporary pattern gets a negative
  number of its own, and `temp_pats[_x]` lists exactly the numbers of the occurrences of `_x` in the rule.
-/
namespace Ndn.Lvs

/-- `named_pats[p]` as a number, `F` being the keys of `named_pats` in insertion order (for `p ∈ F`: `tagOf F p`) -/
def tagIn (F : List String) (p : String) : Int := Int.ofNat (F.idxOf p + 1)

/-- the negative (temporary) numbers written in a numbered name -/
def negsOf (l : List (Comp Int)) : List Int := (patsOf l).filter (· < 0)

theorem negsOf_cons_pat (t : Int) (l : List (Comp Int)) :
    negsOf (.pat t :: l) = if t < 0 then t :: negsOf l else negsOf l := by
  simp only [negsOf, patsOf, List.filterMap_cons, List.filter_cons, decide_eq_true_eq]

theorem negsOf_cons_lit (v : Bytes) (l : List (Comp Int)) : negsOf (.lit v :: l) = negsOf l := rfl

theorem negsOf_cons_ref (q : String) (l : List (Comp Int)) : negsOf (.ref q :: l) = negsOf l := rfl

theorem mem_negsOf {l : List (Comp Int)} {t : Int} : t ∈ negsOf l ↔ Comp.pat t ∈ l ∧ t < 0 := by
  unfold negsOf
  rw [List.mem_filter, mem_patsOf, decide_eq_true_eq]

theorem tagIn_of_prefix {A F : List String} {p : String} (h : A <+: F) (hp : p ∈ A) : tagIn F p = tagIn A p := by
  obtain ⟨B, rfl⟩ := h
  rw [tagIn, List.idxOf_append, if_pos hp]; rfl

theorem tagIn_snoc_new {A : List String} {p : String} (h : p ∉ A) : tagIn (A ++ [p]) p = Int.ofNat (A.length + 1) := by
  rw [tagIn, List.idxOf_append, if_neg h, List.idxOf_cons_self, Nat.zero_add]

theorem idxOf_inj {F : List String} {x y : String} (hx : x ∈ F) (h : F.idxOf x = F.idxOf y) : x = y := by
  have hlt : F.idxOf x < F.length := List.idxOf_lt_length_of_mem hx
  calc x = F[F.idxOf x] := (List.getElem_idxOf hlt).symm
    _ = F[F.idxOf y]'(h ▸ hlt) := by simp only [h]
    _ = y := List.getElem_idxOf (h ▸ hlt)

theorem tagIn_toNat (F : List String) (x : String) : (tagIn F x).toNat = F.idxOf x + 1 := by
  simp [tagIn]

theorem tagIn_pos (F : List String) (x : String) : 0 < tagIn F x := by
  unfold tagIn; simp only [Int.ofNat_eq_natCast]; omega

theorem tagIn_inj {F : List String} {x y : String} (hx : x ∈ F) (h : tagIn F x = tagIn F y) : x = y := by
  unfold tagIn at h
  simp only [Int.ofNat_eq_natCast] at h
  exact idxOf_inj hx (by omega)

/-- how one component is numbered, with what `temp_pats` of the rule (`tp`) records for a temporary pattern -/
inductive CompNum (F : List String) (tp : PyDict String (List Int)) : Comp String → Comp Int → Prop
  | lit (v : Bytes) : CompNum F tp (.lit v) (.lit v)
  | ref (q : String) : CompNum F tp (.ref q) (.ref q)
  | named (p : String) : isTempPat p = false → p ∈ F → CompNum F tp (.pat p) (.pat (tagIn F p))
  | temp (p : String) (t : Int) : isTempPat p = true → t < 0 →
      (∀ p' l, PyDict.get? tp p' = some l → (t ∈ l ↔ p' = p)) → CompNum F tp (.pat p) (.pat t)

theorem numberName_lit (v : Bytes) (r : List (Comp String)) (st : NumSt) (tp : PyDict String (List Int)) :
    numberName (.lit v :: r) st tp = (.lit v :: (numberName r st tp).1, (numberName r st tp).2) := rfl

theorem numberName_ref (q : String) (r : List (Comp String)) (st : NumSt) (tp : PyDict String (List Int)) :
    numberName (.ref q :: r) st tp = (.ref q :: (numberName r st tp).1, (numberName r st tp).2) := rfl

theorem numberName_temp {p : String} (hp : isTempPat p = true) (r : List (Comp String)) (st : NumSt)
    (tp : PyDict String (List Int)) :
    numberName (.pat p :: r) st tp =
      (.pat st.nextTemp :: (numberName r { st with nextTemp := st.nextTemp - 1 }
          (PyDict.set tp p ((PyDict.get? tp p).getD [] ++ [st.nextTemp]))).1,
        (numberName r { st with nextTemp := st.nextTemp - 1 }
          (PyDict.set tp p ((PyDict.get? tp p).getD [] ++ [st.nextTemp]))).2) := by
  simp only [numberName, hp, if_true]
  cases PyDict.get? tp p <;> rfl

theorem numberName_seen {p : String} (hp : isTempPat p = false) {st : NumSt} (hm : p ∈ st.named)
    (r : List (Comp String)) (tp : PyDict String (List Int)) :
    numberName (.pat p :: r) st tp =
      (.pat (tagIn st.named p) :: (numberName r st tp).1, (numberName r st tp).2) := by
  simp only [numberName, hp, tagOf, List.contains_eq_mem, hm, decide_true, if_true, Bool.false_eq_true, if_false]
  rfl

theorem numberName_new {p : String} (hp : isTempPat p = false) {st : NumSt} (hm : p ∉ st.named)
    (r : List (Comp String)) (tp : PyDict String (List Int)) :
    numberName (.pat p :: r) st tp =
      (.pat (Int.ofNat (st.named.length + 1)) :: (numberName r { st with named := st.named ++ [p] } tp).1,
        (numberName r { st with named := st.named ++ [p] } tp).2) := by
  simp only [numberName, hp, tagOf, List.contains_eq_mem, hm, decide_false, Bool.false_eq_true, if_false]

/-- the inner loop of pass 2.  `tp` holds only numbers above `next_temp` (those handed out earlier), which is why the number
    an occurrence gets stands under no other identifier of the final `temp_pats` (the last field of `CompNum.temp`). -/
theorem numberName_num (comps : List (Comp String)) : ∀ (st : NumSt) (tp : PyDict String (List Int)),
    st.nextTemp < 0 → (∀ p u, u ∈ (PyDict.get? tp p).getD [] → st.nextTemp < u) →
    st.named <+: (numberName comps st tp).2.1.named ∧
    (st.named.Nodup → (numberName comps st tp).2.1.named.Nodup) ∧
    (numberName comps st tp).2.1.nextTemp ≤ st.nextTemp ∧
    (∀ t ∈ negsOf (numberName comps st tp).1, (numberName comps st tp).2.1.nextTemp < t ∧ t ≤ st.nextTemp) ∧
    (negsOf (numberName comps st tp).1).Nodup ∧
    (∀ p u, u ∈ (PyDict.get? tp p).getD [] → u ∈ (PyDict.get? (numberName comps st tp).2.2 p).getD []) ∧
    (∀ p u, u ∈ (PyDict.get? (numberName comps st tp).2.2 p).getD [] →
      u ∈ (PyDict.get? tp p).getD [] ∨ u ∈ negsOf (numberName comps st tp).1) ∧
    ∀ F, (numberName comps st tp).2.1.named <+: F →
      All2 (CompNum F (numberName comps st tp).2.2) comps (numberName comps st tp).1 := by
  induction comps with
  | nil =>
    exact fun st tp _ _ => ⟨List.prefix_rfl, id, Int.le_refl _, nofun, List.nodup_nil, fun _ _ => id, fun _ _ => .inl,
      fun _ _ => .nil⟩
  | cons c r ih =>
    intro st tp hneg htp
    have hnn : ∀ k : Nat, ¬ Int.ofNat k < 0 := fun k => Int.not_lt.mpr (Int.natCast_nonneg k)
    cases c with
    | lit v =>
      obtain ⟨h1, h2, h3, h4, h5, h6, h7, h8⟩ := ih st tp hneg htp
      rw [numberName_lit, negsOf_cons_lit]
      exact ⟨h1, h2, h3, h4, h5, h6, h7, fun F hF => .cons (.lit v) (h8 F hF)⟩
    | ref q =>
      obtain ⟨h1, h2, h3, h4, h5, h6, h7, h8⟩ := ih st tp hneg htp
      rw [numberName_ref, negsOf_cons_ref]
      exact ⟨h1, h2, h3, h4, h5, h6, h7, fun F hF => .cons (.ref q) (h8 F hF)⟩
    | pat p =>
      cases hp : isTempPat p with
      | true =>
        -- the occurrence gets `next_temp`; whatever follows gets smaller numbers
        have hsub : st.nextTemp - 1 < st.nextTemp := Int.sub_one_lt_of_le (Int.le_refl _)
        have hget : ∀ p' u, u ∈ (PyDict.get? (PyDict.set tp p ((PyDict.get? tp p).getD [] ++ [st.nextTemp])) p').getD [] ↔
            u ∈ (PyDict.get? tp p').getD [] ∨ (p' = p ∧ u = st.nextTemp) := by
          intro p' u
          rw [PyDict.get?_set]
          by_cases hpp : p = p'
          · subst hpp; simp only [if_true, Option.getD_some, List.mem_append, List.mem_singleton, true_and]
          · simp only [if_neg hpp, show ¬ p' = p from fun h => hpp h.symm, false_and, or_false]
        obtain ⟨h1, h2, h3, h4, h5, h6, h7, h8⟩ := ih { st with nextTemp := st.nextTemp - 1 }
          (PyDict.set tp p ((PyDict.get? tp p).getD [] ++ [st.nextTemp])) (Int.lt_trans hsub hneg) fun p' u hu =>
            ((hget p' u).mp hu).elim (fun h => Int.lt_trans hsub (htp p' u h)) fun h => by rw [h.2]; exact hsub
        rw [numberName_temp hp, negsOf_cons_pat, if_pos hneg]
        generalize numberName r { st with nextTemp := st.nextTemp - 1 }
          (PyDict.set tp p ((PyDict.get? tp p).getD [] ++ [st.nextTemp])) = R at h1 h2 h3 h4 h5 h6 h7 h8
        have hnot : st.nextTemp ∉ negsOf R.1 := fun hm => Int.lt_irrefl _ (Int.lt_of_le_of_lt (h4 _ hm).2 hsub)
        refine ⟨h1, h2, Int.le_of_lt (Int.lt_of_le_of_lt h3 hsub), ?_, List.nodup_cons.mpr ⟨hnot, h5⟩,
          fun p' u hu => h6 p' u ((hget p' u).mpr (.inl hu)), fun p' u hu => ?_, fun F hF => .cons (.temp p _ hp hneg ?_) (h8 F hF)⟩
        · rintro t (_ | ⟨_, ht⟩)
          · exact ⟨Int.lt_of_le_of_lt h3 hsub, Int.le_refl _⟩
          · exact ⟨(h4 t ht).1, Int.le_of_lt (Int.lt_of_le_of_lt (h4 t ht).2 hsub)⟩
        · rcases h7 p' u hu with h | h
          · exact ((hget p' u).mp h).imp_right fun h' => by rw [h'.2]; exact List.mem_cons_self
          · exact .inr (List.mem_cons_of_mem _ h)
        · intro p' l hl
          rw [← Option.getD_some (a := l) (b := []), ← hl]
          constructor
          · intro hm
            rcases h7 p' _ hm with h | h
            · exact ((hget p' _).mp h).elim (fun h => absurd (htp p' _ h) (Int.lt_irrefl _)) (·.1)
            · exact absurd h hnot
          · rintro rfl; exact h6 _ _ ((hget _ _).mpr (.inr ⟨rfl, rfl⟩))
      | false =>
        by_cases hm : p ∈ st.named
        · obtain ⟨h1, h2, h3, h4, h5, h6, h7, h8⟩ := ih st tp hneg htp
          rw [numberName_seen hp hm, negsOf_cons_pat, if_neg (show ¬ tagIn st.named p < 0 from hnn _)]
          refine ⟨h1, h2, h3, h4, h5, h6, h7, fun F hF => ?_⟩
          rw [← tagIn_of_prefix (h1.trans hF) hm]
          exact .cons (.named p hp ((h1.trans hF).subset hm)) (h8 F hF)
        · obtain ⟨h1, h2, h3, h4, h5, h6, h7, h8⟩ := ih { st with named := st.named ++ [p] } tp hneg htp
          rw [numberName_new hp hm, negsOf_cons_pat, if_neg (hnn _)]
          have hmem : p ∈ st.named ++ [p] := List.mem_append_right _ (List.mem_singleton_self p)
          refine ⟨(List.prefix_append _ _).trans h1, fun hnd => h2 ?_, h3, h4, h5, h6, h7, fun F hF => ?_⟩
          · rw [List.nodup_append]
            refine ⟨hnd, List.nodup_cons.mpr ⟨List.not_mem_nil, List.nodup_nil⟩, fun x hx y hy => ?_⟩
            rw [List.mem_singleton.mp hy]
            exact fun he => hm (he ▸ hx)
          · rw [← tagIn_snoc_new hm, ← tagIn_of_prefix (h1.trans hF) hmem]
            exact .cons (.named p hp ((h1.trans hF).subset hmem)) (h8 F hF)

/-- every number recorded in `temp_pats` (`tp`) is a negative number written in the numbered name `out` -/
def TpNegs (tp : PyDict String (List Int)) (out : List (Comp Int)) : Prop :=
  ∀ p l, PyDict.get? tp p = some l → ∀ t ∈ l, t ∈ negsOf out

theorem numberNames_cons (r : SRule) (rs : List SRule) (st : NumSt) :
    numberNames (r :: rs) st =
      ((r, (numberName r.name st []).1, (numberName r.name st []).2.2) ::
        (numberNames rs (numberName r.name st []).2.1).1, (numberNames rs (numberName r.name st []).2.1).2) := rfl

theorem numberNames_num (rules : List SRule) : ∀ (st : NumSt), st.nextTemp < 0 →
    st.named <+: (numberNames rules st).2.named ∧ (st.named.Nodup → (numberNames rules st).2.named.Nodup) ∧
    (numberNames rules st).2.nextTemp ≤ st.nextTemp ∧
    (∀ F : List String, (numberNames rules st).2.named <+: F →
      All2 (fun r x => x.1 = r ∧ All2 (CompNum F x.2.2) r.name x.2.1 ∧ TpNegs x.2.2 x.2.1) rules
        (numberNames rules st).1) ∧
    (∀ x ∈ (numberNames rules st).1, ∀ t ∈ negsOf x.2.1, (numberNames rules st).2.nextTemp < t ∧ t ≤ st.nextTemp) ∧
    ((numberNames rules st).1.flatMap (fun x => negsOf x.2.1)).Nodup := by
  induction rules with
  | nil => exact fun st _ => ⟨List.prefix_rfl, id, Int.le_refl _, fun _ _ => .nil, nofun, List.nodup_nil⟩
  | cons r rs ih =>
    intro st hneg
    obtain ⟨a1, a2, a3, a5, a6, _, a7, a8⟩ := numberName_num r.name st [] hneg nofun
    obtain ⟨b1, b2, b3, b4, b5, b6⟩ := ih (numberName r.name st []).2.1 (Int.lt_of_le_of_lt a3 hneg)
    simp only [numberNames_cons]
    refine ⟨a1.trans b1, fun h => b2 (a2 h), Int.le_trans b3 a3, fun F hF => ?_, ?_, ?_⟩
    · refine .cons ⟨rfl, a8 F (b1.trans hF), fun p l hl t ht => (a7 p t ?_).resolve_left nofun⟩ (b4 F hF)
      rw [hl]; exact ht
    · intro x hx t ht
      rcases List.mem_cons.mp hx with rfl | hx
      · exact ⟨Int.lt_of_le_of_lt b3 (a5 t ht).1, (a5 t ht).2⟩
      · exact ⟨(b5 x hx t ht).1, Int.le_trans (b5 x hx t ht).2 a3⟩
    · rw [List.flatMap_cons, List.nodup_append]
      refine ⟨a6, b6, fun t ht u hu => ?_⟩
      obtain ⟨x, hx, hu⟩ := List.mem_flatMap.mp hu
      exact fun he => Int.lt_irrefl u (Int.lt_of_le_of_lt (b5 x hx u hu).2 (he ▸ (a5 t ht).1))

theorem numRhs_tag {F : List String} {p : String} {k : Int} (h : numRhs F p = .ok k) :
    isTempPat p = false ∧ p ∈ F ∧ k = tagIn F p := by
  unfold numRhs at h
  split at h
  · cases h
  · rename_i ht
    split at h
    · rename_i j hj
      cases h
      obtain ⟨hp, rfl⟩ := tagOf_eq_some.mp hj
      exact ⟨by simpa using ht, hp, rfl⟩
    · cases h

theorem numArg_inv {F : List String} {a : Arg String} {n : Arg Int} (h : numArg F a = .ok n) :
    (∃ v, a = .lit v ∧ n = .lit v) ∨ ∃ p, a = .pat p ∧ p ∈ F ∧ n = .pat (tagIn F p) := by
  cases a with
  | lit v => cases h; exact .inl ⟨v, rfl, rfl⟩
  | pat p =>
    simp only [numArg] at h
    split at h
    · rename_i k hk
      cases h
      obtain ⟨_, hp, rfl⟩ := numRhs_tag hk
      exact .inr ⟨p, rfl, hp, rfl⟩
    · cases h

theorem numOpt_inv {F : List String} {o : Opt String} {n : Opt Int} (h : numOpt F o = .ok n) :
    (∃ v, o = .lit v ∧ n = .lit v) ∨ (∃ p, o = .pat p ∧ p ∈ F ∧ n = .pat (tagIn F p)) ∨
    ∃ f args nargs, o = .fn f args ∧ mapE (numArg F) args = .ok nargs ∧ n = .fn f nargs := by
  cases o with
  | lit v => cases h; exact .inl ⟨v, rfl, rfl⟩
  | pat p =>
    simp only [numOpt] at h
    split at h
    · rename_i k hk
      cases h
      obtain ⟨_, hp, rfl⟩ := numRhs_tag hk
      exact .inr (.inl ⟨p, rfl, hp, rfl⟩)
    · cases h
  | fn f args =>
    simp only [numOpt] at h
    split at h
    · rename_i nargs hargs
      cases h
      exact .inr (.inr ⟨f, args, nargs, rfl, hargs, rfl⟩)
    · cases h

theorem numLhs_inv {F : List String} {tp : PyDict String (List Int)} {p : String} {ids : List Int}
    (h : numLhs F tp p = .ok ids) :
    (isTempPat p = true ∧ PyDict.get? tp p = some ids) ∨ (isTempPat p = false ∧ p ∈ F ∧ ids = [tagIn F p]) := by
  unfold numLhs at h
  split at h
  · rename_i ht
    split at h
    · cases h; exact .inl ⟨ht, ‹_›⟩
    · cases h
  · rename_i ht
    split at h
    · rename_i k hk
      cases h
      obtain ⟨hp, rfl⟩ := tagOf_eq_some.mp hk
      exact .inr ⟨by simpa using ht, hp, rfl⟩
    · cases h

theorem numTerm_inv {F : List String} {tp : PyDict String (List Int)} {t : Term String String} {nt : NTerm}
    (h : numTerm F tp t = .ok nt) : mapE (numOpt F) t.opts = .ok nt.opts ∧
    ((isTempPat t.pat = true ∧ PyDict.get? tp t.pat = some nt.pat) ∨
     (isTempPat t.pat = false ∧ t.pat ∈ F ∧ nt.pat = [tagIn F t.pat])) := by
  unfold numTerm at h
  split at h
  · cases h
  · rename_i ids hids
    split at h
    · cases h
    · cases h; exact ⟨‹_›, numLhs_inv hids⟩

theorem numRule_inv {F : List String} {x : SRule × List (Comp Int) × PyDict String (List Int)} {nr : NRule}
    (h : numRule F x = .ok nr) : nr.id = x.1.id ∧ nr.sign = x.1.sign ∧ nr.name = x.2.1 ∧
    mapE (mapE (numTerm F x.2.2)) x.1.cons = .ok nr.cons := by
  unfold numRule at h
  split at h
  · cases h
  · cases h; exact ⟨rfl, rfl, rfl, ‹_›⟩

/-- `nr` is `r` numbered against the final table `F`: same id and signers, name numbered component by component with some
    `temp_pats` `tp` that lists only numbers of the name, constraints numbered with `F` and `tp` -/
def RuleNum (F : List String) (r : SRule) (nr : NRule) : Prop :=
  nr.id = r.id ∧ nr.sign = r.sign ∧ ∃ tp : PyDict String (List Int),
    All2 (CompNum F tp) r.name nr.name ∧ TpNegs tp nr.name ∧
    mapE (mapE (numTerm F tp)) r.cons = .ok nr.cons

theorem foldl_min_le_mem (l : List Int) : ∀ (a : Int), ∀ t ∈ l, l.foldl min a ≤ t := by
  induction l with
  | nil => intro a t ht; simp at ht
  | cons x r ih =>
    intro a t ht
    simp only [List.foldl_cons]
    rcases List.mem_cons.mp ht with rfl | ht
    · exact Int.le_trans (foldl_min_le r _) (Int.min_le_right _ _)
    · exact ih _ t ht

/-- **pass 2**: the final table has no repetition, every rule is numbered component by component against it, the
    numbers of temporary patterns are pairwise distinct (over all rules) and above the first fresh number of pass 3 -/
theorem genPatternNumbers_num {rules : List SRule} {nrules : List NRule} {F : List String}
    (h : genPatternNumbers rules = .ok (nrules, F)) :
    F.Nodup ∧ All2 (RuleNum F) rules nrules ∧ (nrules.flatMap (fun nr => negsOf nr.name)).Nodup ∧
    ∀ nr ∈ nrules, ∀ t ∈ negsOf nr.name, firstFreshTemp nrules < t := by
  obtain ⟨rfl, hn⟩ := genPatternNumbers_ok h
  obtain ⟨_, h1, _, h4, _, h6⟩ := numberNames_num rules { named := [], nextTemp := -1 } (by decide)
  have hB := mapE_all2 hn
  -- `numRule` keeps the numbered name
  rw [List.flatMap_def, hB.map_eq fun x nr hr => congrArg negsOf (numRule_inv hr).2.2.1.symm, ← List.flatMap_def] at h6
  refine ⟨h1 List.nodup_nil, ?_, h6, ?_⟩
  · refine All2.trans ?_ (h4 _ List.prefix_rfl) hB
    intro r x nr ⟨hxr, hc, htp⟩ hf
    obtain ⟨i1, i2, i3, i4⟩ := numRule_inv hf
    subst hxr
    exact ⟨i1, i2, x.2.2, i3 ▸ hc, i3 ▸ htp, i4⟩
  · intro nr hnr t ht
    unfold firstFreshTemp
    have hm : t ∈ nrules.flatMap (fun r => patsOf r.name) :=
      List.mem_flatMap.mpr ⟨nr, hnr, (List.mem_filter.mp ht).1⟩
    have := foldl_min_le_mem _ 0 t hm
    omega

end Ndn.Lvs
