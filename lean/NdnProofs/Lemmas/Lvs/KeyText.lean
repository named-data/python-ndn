import NdnModel.Lvs.Compile
import Std.Data.String.ToInt
/-!
  The merge key `RuleChain.pattern_movement` builds (`argStr`, `optStr`, `termStr`, `pmove`), read as a list of characters,
  parses back uniquely.  A number is printed in decimal and a literal in lowercase hex (*atom characters* `0`–`9`, `a`–`f`,
  `-`; the model writes the empty literal `-`, Python's `bytes.hex` writes nothing, and no literal of a parsed schema is
  empty); both printings are injective, and an atom ends where the atom characters end (`span_unique`), since what follows
  it is `v`, `t`, `)`, `,` or the end.  Options end with `,`, a constraint is `{…}`, the tag ends with `:`.  Only the
  user-function name is not over a fixed alphabet: the key (`keyStr`) is injective as soon as no name contains `(`, `,` or
  `}` (`keyStr_inj`; `FnNameOK`), and it is not injective without that (`Ndn.C11.keyInj_counterexample`).
-/
namespace Ndn.Lvs

/-- the characters of a printed number or literal: `0`–`9`, `a`–`f`, `-` -/
def atomCh (c : Char) : Bool := c.isDigit || (decide ('a' ≤ c) && decide (c ≤ 'f')) || c == '-'

/-- what the key needs of a user-function name: none of the separators `(` `,` `}` occurs in it
    (`grammar.py`: `FN_IDENT: "$" CNAME`, so a name is `$` followed by letters, digits and `_`) -/
def FnNameOK (f : String) : Prop := ∀ c ∈ f.toList, c ≠ '(' ∧ c ≠ ',' ∧ c ≠ '}'

instance (f : String) : Decidable (FnNameOK f) := by unfold FnNameOK; infer_instance

def OptsFnOK (os : List (Opt Int)) : Prop := ∀ f args, Opt.fn f args ∈ os → FnNameOK f

theorem takeWhile_run {p : Char → Bool} {a x : List Char} (ha : ∀ c ∈ a, p c = true) (hx : ∀ c ∈ x.head?, p c = false) :
    (a ++ x).takeWhile p = a := by
  rw [List.takeWhile_append_of_pos ha]
  cases x with
  | nil => simp
  | cons c r => rw [List.takeWhile_cons_of_neg (by simp [hx c rfl]), List.append_nil]

theorem span_unique {p : Char → Bool} (a a' x y : List Char) (ha : ∀ c ∈ a, p c = true) (ha' : ∀ c ∈ a', p c = true)
    (hx : ∀ c ∈ x.head?, p c = false) (hy : ∀ c ∈ y.head?, p c = false) (h : a ++ x = a' ++ y) : a = a' ∧ x = y := by
  have : a = a' := by rw [← takeWhile_run ha hx, h, takeWhile_run ha' hy]
  exact ⟨this, List.append_cancel_left (this ▸ h)⟩

/-- a list printed as `g a₁ ++ [s] ++ g a₂ ++ [s] ++ …` is determined by the text when `s` occurs in no `g a` and `g` is
injective -/
theorem flatMap_terminated_inj {α : Type} (g : α → List Char) (s : Char) (P : α → Prop) (hs : ∀ a, P a → s ∉ g a)
    (hinj : ∀ a b, P a → P b → g a = g b → a = b) : ∀ (l l' : List α), (∀ a ∈ l, P a) → (∀ a ∈ l', P a) →
    l.flatMap (fun a => g a ++ [s]) = l'.flatMap (fun a => g a ++ [s]) → l = l' := by
  intro l
  induction l with
  | nil =>
    intro l' _ _ h
    cases l' with
    | nil => rfl
    | cons b r => simp at h
  | cons a r ih =>
    intro l' hl hl' h
    cases l' with
    | nil => simp at h
    | cons b r' =>
      simp only [List.flatMap_cons, List.append_assoc] at h
      have hsa := hs a (hl a List.mem_cons_self)
      have hsb := hs b (hl' b List.mem_cons_self)
      obtain ⟨h1, h2⟩ := span_unique (p := fun c => c != s) (g a) (g b) _ _
        (fun c hc => by simp only [bne_iff_ne, ne_eq]; intro e; exact hsa (e ▸ hc))
        (fun c hc => by simp only [bne_iff_ne, ne_eq]; intro e; exact hsb (e ▸ hc))
        (fun c hc => by simp at hc; subst hc; simp) (fun c hc => by simp at hc; subst hc; simp) h
      have hab := hinj a b (hl a List.mem_cons_self) (hl' b List.mem_cons_self) h1
      subst hab
      simp only [List.singleton_append, List.cons.injEq, true_and] at h2
      rw [ih r' (fun x hx => hl x (List.mem_cons_of_mem _ hx)) (fun x hx => hl' x (List.mem_cons_of_mem _ hx)) h2]

theorem nat_repr_atomCh (n : Nat) : ∀ c ∈ n.repr.toList, atomCh c = true := by
  intro c hc
  rw [Nat.toList_repr] at hc
  simp [atomCh, Nat.isDigit_of_mem_toDigits (by decide) (by decide) hc]

theorem int_toString_atomCh (t : Int) : ∀ c ∈ (toString t).toList, atomCh c = true := by
  intro c hc
  rw [Int.toString_eq_repr, Int.repr_eq_if] at hc
  split at hc
  · exact nat_repr_atomCh _ c hc
  · rw [String.toList_append] at hc
    rcases List.mem_append.mp hc with h | h
    · have : c = '-' := by simpa using h
      subst this; decide
    · exact nat_repr_atomCh _ c h

theorem int_toString_inj {a b : Int} (h : (toString a).toList = (toString b).toList) : a = b := by
  have := String.toList_injective h
  simp only [Int.toString_eq_repr] at this
  exact Int.repr_inj.mp this

theorem hexDigit_spec : ∀ n, n < 16 → hexVal (hexDigit n) = some n ∧ atomCh (hexDigit n) = true := by decide +kernel

theorem hexDigit_atomCh (n : Nat) (hn : n < 16) : atomCh (hexDigit n) = true := (hexDigit_spec n hn).2

theorem hexDigit_ne_minus (n : Nat) (hn : n < 16) : hexDigit n ≠ '-' :=
  fun h => nomatch (hexDigit_spec n hn).1.symm.trans (congrArg hexVal h)

theorem hexDigit_inj (i : Nat) (hi : i < 16) (j : Nat) (hj : j < 16) (h : hexDigit i = hexDigit j) : i = j :=
  Option.some.inj ((hexDigit_spec i hi).1.symm.trans ((congrArg hexVal h).trans (hexDigit_spec j hj).1))

theorem hexOfByte_inj {a b : UInt8} (h : hexOfByte a = hexOfByte b) : a = b := by
  unfold hexOfByte at h
  have hd : ∀ x : UInt8, x.toNat / 16 < 16 := fun x => Nat.div_lt_of_lt_mul x.toNat_lt
  have hm : ∀ x : UInt8, x.toNat % 16 < 16 := fun x => Nat.mod_lt _ (by decide)
  have h1 := hexDigit_inj _ (hd a) _ (hd b) (List.cons.inj h).1
  have h2 := hexDigit_inj _ (hm a) _ (hm b) (List.cons.inj (List.cons.inj h).2).1
  apply UInt8.toNat_inj.mp
  rw [← Nat.div_add_mod a.toNat 16, h1, h2, Nat.div_add_mod]

theorem hexBytes_inj : ∀ (v w : Bytes), v.flatMap hexOfByte = w.flatMap hexOfByte → v = w := by
  intro v
  induction v with
  | nil =>
    intro w h
    cases w with
    | nil => rfl
    | cons b r => simp [hexOfByte] at h
  | cons a r ih =>
    intro w h
    cases w with
    | nil => simp [hexOfByte] at h
    | cons b r' =>
      simp only [List.flatMap_cons, hexOfByte, List.cons_append, List.nil_append, List.cons.injEq] at h
      have hab : a = b := hexOfByte_inj (by simp [hexOfByte, h.1, h.2.1])
      rw [hab, ih r' h.2.2]

theorem toHex_toList (v : Bytes) : (toHex v).toList = if v.isEmpty then ['-'] else v.flatMap hexOfByte := by
  unfold toHex
  split
  · rfl
  · exact String.toList_ofList

theorem toHex_atomCh (v : Bytes) : ∀ c ∈ (toHex v).toList, atomCh c = true := by
  intro c hc
  rw [toHex_toList] at hc
  split at hc
  · cases List.mem_singleton.mp hc
    decide
  · obtain ⟨b, _, hb⟩ := List.mem_flatMap.mp hc
    unfold hexOfByte at hb
    rcases List.mem_cons.mp hb with rfl | hb
    · exact hexDigit_atomCh _ (Nat.div_lt_of_lt_mul b.toNat_lt)
    · cases List.mem_singleton.mp hb
      exact hexDigit_atomCh _ (Nat.mod_lt _ (by decide))

theorem toHex_inj {v w : Bytes} (h : (toHex v).toList = (toHex w).toList) : v = w := by
  rw [toHex_toList, toHex_toList] at h
  cases v with
  | nil =>
    cases w with
    | nil => rfl
    | cons b r =>
      exfalso
      simp only [List.isEmpty_nil, if_true, List.isEmpty_cons, Bool.false_eq_true, if_false, List.flatMap_cons,
        hexOfByte, List.cons_append] at h
      injection h with h _
      exact hexDigit_ne_minus _ (Nat.div_lt_of_lt_mul b.toNat_lt) h.symm
  | cons a r =>
    cases w with
    | nil =>
      exfalso
      simp only [List.isEmpty_nil, if_true, List.isEmpty_cons, Bool.false_eq_true, if_false, List.flatMap_cons,
        hexOfByte, List.cons_append] at h
      injection h with h _
      exact hexDigit_ne_minus _ (Nat.div_lt_of_lt_mul a.toNat_lt) h
    | cons b r' =>
      simp only [List.isEmpty_cons, Bool.false_eq_true, if_false] at h
      exact hexBytes_inj _ _ h

def argL (a : Arg Int) : List Char := (argStr a).toList

theorem argL_eq (a : Arg Int) : argL a = match a with
    | .lit v => 'v' :: '=' :: (toHex v).toList
    | .pat t => 't' :: '=' :: (toString t).toList := by
  cases a <;> simp [argL, argStr, String.toList_append]

/-- an argument is printed as `v=` or `t=` and then atom characters -/
theorem argL_shape (a : Arg Int) :
    ∃ k s, argL a = k :: '=' :: s ∧ (k = 'v' ∨ k = 't') ∧ ∀ c ∈ s, atomCh c = true := by
  rw [argL_eq]
  cases a with
  | lit v => exact ⟨_, _, rfl, .inl rfl, toHex_atomCh v⟩
  | pat t => exact ⟨_, _, rfl, .inr rfl, int_toString_atomCh t⟩

theorem argL_inj (a b : Arg Int) (h : argL a = argL b) : a = b := by
  rw [argL_eq, argL_eq] at h
  cases a <;> cases b <;> simp only [List.cons.injEq, Char.reduceEq, true_and, false_and] at h
  · rw [toHex_inj h]
  · rw [int_toString_inj h]

def argCh (c : Char) : Bool := atomCh c || c == 'v' || c == 't' || c == '='

theorem argL_argCh (a : Arg Int) : ∀ c ∈ argL a, argCh c = true := by
  obtain ⟨k, s, hk, hkv, hs⟩ := argL_shape a
  rw [hk]
  refine List.forall_mem_cons.mpr ⟨?_, List.forall_mem_cons.mpr ⟨by decide, fun c hc => by simp [argCh, hs c hc]⟩⟩
  rcases hkv with rfl | rfl <;> decide

theorem argsL_head (as : List (Arg Int)) : ∀ c ∈ (as.flatMap argL).head?, atomCh c = false := by
  intro c hc
  cases as with
  | nil => simp at hc
  | cons a r =>
    obtain ⟨k, s, hk, hkv, _⟩ := argL_shape a
    rw [List.flatMap_cons, hk] at hc
    cases hc
    rcases hkv with rfl | rfl <;> decide

/-- the arguments are printed without a separator, yet the text determines them: each starts with `v` or `t` -/
theorem argsL_inj : ∀ (as bs : List (Arg Int)), as.flatMap argL = bs.flatMap argL → as = bs := by
  intro as
  induction as with
  | nil =>
    intro bs h
    cases bs with
    | nil => rfl
    | cons b r => obtain ⟨k, s, hk, _⟩ := argL_shape b; rw [List.flatMap_cons, hk] at h; cases h
  | cons a r ih =>
    intro bs h
    cases bs with
    | nil => obtain ⟨k, s, hk, _⟩ := argL_shape a; rw [List.flatMap_cons, hk] at h; cases h
    | cons b r' =>
      obtain ⟨k, s, hk, _, hs⟩ := argL_shape a
      obtain ⟨k', s', hk', _, hs'⟩ := argL_shape b
      rw [List.flatMap_cons, List.flatMap_cons, hk, hk'] at h
      simp only [List.cons_append, List.cons.injEq, true_and] at h
      obtain ⟨h1, h2⟩ := span_unique (p := atomCh) _ _ _ _ hs hs' (argsL_head r) (argsL_head r') h.2
      rw [argL_inj a b (hk.trans (h.1 ▸ h1 ▸ hk'.symm)), ih r' h2]

def optL (o : Opt Int) : List Char := (optStr o).toList

theorem optL_eq (o : Opt Int) : optL o = match o with
    | .lit v => 'v' :: '=' :: (toHex v).toList
    | .pat t => 't' :: '=' :: (toString t).toList
    | .fn f args => f.toList ++ '(' :: (args.flatMap argL ++ [')']) := by
  cases o with
  | lit v => simp [optL, optStr, String.toList_append]
  | pat t => simp [optL, optStr, String.toList_append]
  | fn f args =>
    simp only [optL, optStr, String.toList_append, String.toList_join, List.flatMap_map]
    simp
    rfl

theorem paren_mem_fn (f : String) (args : List (Arg Int)) : '(' ∈ optL (.fn f args) := by
  rw [optL_eq]; simp

theorem optL_no_sep (o : Opt Int) (hf : ∀ f args, o = .fn f args → FnNameOK f) :
    ∀ c ∈ optL o, c ≠ ',' ∧ c ≠ '}' := by
  intro c hc
  have sep : argCh c = true → c ≠ ',' ∧ c ≠ '}' := fun h => by
    constructor <;> (intro e; subst e; revert h; decide)
  cases o with
  | lit v => exact sep (argL_argCh (.lit v) c hc)
  | pat t => exact sep (argL_argCh (.pat t) c hc)
  | fn f args =>
    rw [optL_eq] at hc
    simp only [List.mem_append, List.mem_cons, List.not_mem_nil, or_false] at hc
    rcases hc with hc | rfl | hc | rfl
    · exact (hf f args rfl c hc).2
    · decide
    · obtain ⟨a, _, ha⟩ := List.mem_flatMap.mp hc
      exact sep (argL_argCh a c ha)
    · decide

theorem optL_inj (o o' : Opt Int) (hf : ∀ f args, o = .fn f args → FnNameOK f)
    (hf' : ∀ f args, o' = .fn f args → FnNameOK f) (h : optL o = optL o') : o = o' := by
  -- a literal or a pattern is printed like an argument, without `(`
  have noparen : ∀ (a : Arg Int) (x : Opt Int), optL x = argL a → '(' ∉ optL x :=
    fun a x e hm => absurd (argL_argCh a _ (e ▸ hm)) (by decide)
  cases o with
  | lit v =>
    cases o' with
    | lit w => cases argL_inj (.lit v) (.lit w) h; rfl
    | pat t => cases argL_inj (.lit v) (.pat t) h
    | fn f args => exact (noparen (.lit v) (.lit v) rfl (by rw [h]; exact paren_mem_fn f args)).elim
  | pat t =>
    cases o' with
    | lit w => cases argL_inj (.pat t) (.lit w) h
    | pat u => cases argL_inj (.pat t) (.pat u) h; rfl
    | fn f args => exact (noparen (.pat t) (.pat t) rfl (by rw [h]; exact paren_mem_fn f args)).elim
  | fn f args =>
    cases o' with
    | lit w => exact (noparen (.lit w) (.lit w) rfl (by rw [← h]; exact paren_mem_fn f args)).elim
    | pat u => exact (noparen (.pat u) (.pat u) rfl (by rw [← h]; exact paren_mem_fn f args)).elim
    | fn g bs =>
      -- the name ends at the first `(`
      rw [optL_eq, optL_eq] at h
      obtain ⟨h1, h2⟩ := span_unique (p := fun c => c != '(') f.toList g.toList _ _
        (fun c hc => bne_iff_ne.mpr (hf f args rfl c hc).1) (fun c hc => bne_iff_ne.mpr (hf' g bs rfl c hc).1)
        (fun c hc => by cases Option.mem_def.mp hc; decide) (fun c hc => by cases Option.mem_def.mp hc; decide) h
      rw [String.toList_injective h1, argsL_inj _ _ (List.append_cancel_right (List.cons.inj h2).2)]

/-- `termStr` without the closing brace, which then serves as the terminator in `flatMap_terminated_inj` -/
def termBody (os : List (Opt Int)) : List Char := '{' :: os.flatMap (fun o => optL o ++ [','])

theorem termStr_toList (t : NTerm) : (termStr t).toList = termBody t.opts ++ ['}'] := by
  simp only [termStr, String.toList_append, String.toList_join, List.flatMap_map, termBody]
  simp [optL]

theorem termBody_no_brace (os : List (Opt Int)) (h : OptsFnOK os) : '}' ∉ termBody os := by
  intro hm
  unfold termBody at hm
  rcases List.mem_cons.mp hm with hm | hm
  · revert hm; decide
  · rw [List.mem_flatMap] at hm
    obtain ⟨o, ho, hc⟩ := hm
    rcases List.mem_append.mp hc with hc | hc
    · exact (optL_no_sep o (fun f args e => h f args (e ▸ ho)) _ hc).2 rfl
    · revert hc; decide

theorem termBody_inj (os os' : List (Opt Int)) (h : OptsFnOK os) (h' : OptsFnOK os')
    (he : termBody os = termBody os') : os = os' := by
  unfold termBody at he
  simp only [List.cons.injEq, true_and] at he
  refine flatMap_terminated_inj optL ',' (fun o => ∀ f args, o = .fn f args → FnNameOK f) ?_ ?_ os os' ?_ ?_ he
  · intro o ho hm
    exact (optL_no_sep o ho _ hm).1 rfl
  · intro a b ha hb hab
    exact optL_inj a b ha hb hab
  · intro o ho f args e; exact h f args (e ▸ ho)
  · intro o ho f args e; exact h' f args (e ▸ ho)

theorem tagKey_inj {t u : Int} {r s : String} (h : toString t ++ ":" ++ r = toString u ++ ":" ++ s) : t = u ∧ r = s := by
  have h' := congrArg String.toList h
  simp only [String.toList_append, List.append_assoc] at h'
  have hc : ":".toList = [':'] := by decide
  rw [hc] at h'
  obtain ⟨h1, h2⟩ := span_unique (p := atomCh) _ _ _ _ (int_toString_atomCh t) (int_toString_atomCh u)
    (fun c hc => by simp at hc; subst hc; decide) (fun c hc => by simp at hc; subst hc; decide) h'
  simp only [List.singleton_append, List.cons.injEq, true_and] at h2
  exact ⟨int_toString_inj h1, String.toList_injective h2⟩

/-- the key `pmove rc t prev` prints, `ntc` being the constraints it attaches (`consAt`; `pmove_consAt` in `CompileTree`) -/
def keyStr (t : Int) (ntc : List (List (Opt Int))) : String :=
  toString t ++ ":" ++ String.join (ntc.map fun os => termStr ⟨[], os⟩)

theorem keyStr_tag {t t' : Int} {ntc ntc' : List (List (Opt Int))} (he : keyStr t ntc = keyStr t' ntc') : t = t' :=
  (tagKey_inj he).1

theorem keyStr_inj {t t' : Int} {ntc ntc' : List (List (Opt Int))} (h : ∀ os ∈ ntc, OptsFnOK os)
    (h' : ∀ os ∈ ntc', OptsFnOK os) (he : keyStr t ntc = keyStr t' ntc') : t = t' ∧ ntc = ntc' := by
  obtain ⟨ht, hr⟩ := tagKey_inj he
  have hr' := congrArg String.toList hr
  simp only [String.toList_join, List.flatMap_map, termStr_toList] at hr'
  exact ⟨ht, flatMap_terminated_inj termBody '}' OptsFnOK termBody_no_brace termBody_inj _ _ h h' hr'⟩

end Ndn.Lvs
