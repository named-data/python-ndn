import NdnProofs.Lemmas.Lvs.SrcTracks
/-!
  The executable form of the source-level semantics (`flatsOfRule`, `srcMatch`, which the model drivers run and the harness
  compares with the real `Checker.match`) computes the relation `SrcMatches` — for every schema whose rule references are
  acyclic (pass 1 of the compiler succeeds), where nesting deeper than the number of rules cannot occur
  (`mem_flatsOfDef_iff`, from which `C11.srcMatch_computes` is read off).
-/
namespace Ndn.Lvs

section
variable (sub : String → List Flat) (cs : List (Term String String)) (r : List (Comp String))

theorem flatsOfName_ref (q : String) : flatsOfName sub cs (.ref q :: r) =
    if isTempRule q then []
    else (sub q).flatMap fun g => (flatsOfName sub cs r).map fun f => ⟨g.items ++ f.items, g.ncons ++ f.ncons⟩ := rfl
end

theorem mem_flatsOfDef {sub : String → List Flat} {r : SRule} {f : Flat} :
    f ∈ flatsOfDef sub r ↔ ∃ cs ∈ altsOf r, ∃ f0 ∈ flatsOfName sub cs r.name, f = ⟨f0.items, namedCons cs ++ f0.ncons⟩ := by
  simp only [flatsOfDef, List.mem_flatMap, List.mem_map, eq_comm]

theorem mem_flatsOfRule_succ {S : Schema} {fuel : Nat} {q : String} {g : Flat} :
    g ∈ flatsOfRule S (fuel + 1) q ↔ ∃ r ∈ S.rules, r.id = q ∧ g ∈ flatsOfDef (flatsOfRule S fuel) r := by
  simp only [flatsOfRule, List.mem_flatMap, List.mem_filter, beq_iff_eq, and_assoc]

theorem mem_flatsOfName_sound {S : Schema} {sub : String → List Flat} (hsub : ∀ q g, g ∈ sub q → Expands S q g)
    (cs : List (Term String String)) : ∀ (comps : List (Comp String)) (f : Flat),
    f ∈ flatsOfName sub cs comps → ExpandsName S cs comps f := by
  intro comps
  induction comps with
  | nil => intro f hf; rw [List.mem_singleton.mp hf]; exact .nil
  | cons c r ih =>
    intro f hf
    cases c with
    | lit v =>
      obtain ⟨f0, hf0, rfl⟩ := List.mem_map.mp hf
      exact .lit (ih f0 hf0)
    | pat p =>
      obtain ⟨f0, hf0, rfl⟩ := List.mem_map.mp hf
      cases hp : isTempPat p with
      | true => simp only [if_true]; exact .temp hp (ih f0 hf0)
      | false => simp only [Bool.false_eq_true, if_false]; exact .named hp (ih f0 hf0)
    | ref q =>
      rw [flatsOfName_ref] at hf
      split at hf
      · exact nomatch hf
      · rename_i ht
        simp only [List.mem_flatMap, List.mem_map] at hf
        obtain ⟨g, hg, f0, hf0, rfl⟩ := hf
        exact .ref (by simpa using ht) (hsub q g hg) (ih f0 hf0)

theorem mem_flatsOfDef_sound {S : Schema} {sub : String → List Flat} (hsub : ∀ q g, g ∈ sub q → Expands S q g)
    (r : SRule) (f : Flat) (hf : f ∈ flatsOfDef sub r) : ExpandsDef S r f := by
  obtain ⟨cs, hcs, f0, hf0, rfl⟩ := mem_flatsOfDef.mp hf
  exact ⟨cs, hcs, f0, mem_flatsOfName_sound hsub cs r.name f0 hf0, rfl⟩

theorem mem_flatsOfRule_sound (S : Schema) : ∀ (fuel : Nat) (q : String) (g : Flat),
    g ∈ flatsOfRule S fuel q → Expands S q g := by
  intro fuel
  induction fuel with
  | zero => intro q g hg; simp [flatsOfRule] at hg
  | succ n ih =>
    intro q g hg
    obtain ⟨r, hr, hrq, hgr⟩ := mem_flatsOfRule_succ.mp hg
    exact expands_iff.mpr ⟨r, hr, hrq, mem_flatsOfDef_sound ih r g hgr⟩

theorem mem_flatsOfName_complete {S : Schema} {sub : String → List Flat} (cs : List (Term String String)) :
    ∀ (comps : List (Comp String)) (f : Flat),
    (∀ q, Comp.ref q ∈ comps → ∀ g, Expands S q g → g ∈ sub q) →
    ExpandsName S cs comps f → f ∈ flatsOfName sub cs comps := by
  intro comps
  induction comps with
  | nil => intro f _ hf; cases hf; exact List.mem_singleton_self _
  | cons c r ih =>
    intro f hsub hf
    have hsub' : ∀ q, Comp.ref q ∈ r → ∀ g, Expands S q g → g ∈ sub q := fun q hq => hsub q (List.mem_cons_of_mem _ hq)
    cases hf with
    | lit h1 => exact List.mem_map.mpr ⟨_, ih _ hsub' h1, rfl⟩
    | named hp h1 => exact List.mem_map.mpr ⟨_, ih _ hsub' h1, by rw [hp]; rfl⟩
    | temp hp h1 => exact List.mem_map.mpr ⟨_, ih _ hsub' h1, by rw [hp]; rfl⟩
    | ref ht he h1 =>
      rw [flatsOfName_ref, ht]
      exact List.mem_flatMap.mpr ⟨_, hsub _ List.mem_cons_self _ he, List.mem_map.mpr ⟨_, ih _ hsub' h1, rfl⟩⟩

/-- with the rules in an order in which references point backwards, fuel = position suffices -/
theorem mem_flatsOfDef_complete {S : Schema} {srules : List SRule} (hmem : ∀ r, r ∈ S.rules → r ∈ srules)
    (hrefs : RefsDone ⟨srules⟩ [] srules) :
    ∀ (n : Nat) (pre : List SRule) (x : SRule) (post : List SRule), srules = pre ++ x :: post → pre.length = n →
    ∀ fuel, n ≤ fuel → ∀ f, ExpandsDef S x f → f ∈ flatsOfDef (flatsOfRule S fuel) x := by
  intro n
  induction n using Nat.strongRecOn with
  | _ n ih =>
    intro pre x post hsplit hlen fuel hfuel f hf
    obtain ⟨cs, hcs, f0, hf0, rfl⟩ := hf
    refine mem_flatsOfDef.mpr ⟨cs, hcs, f0, mem_flatsOfName_complete cs x.name f0 ?_ hf0, rfl⟩
    intro q hq g hg
    obtain ⟨r', hr', hr'q, hdef⟩ := expands_iff.mp hg
    obtain ⟨_, hbefore⟩ := hrefs pre x post hsplit q hq
    rcases hbefore r' (hmem r' hr') hr'q with hd | hd
    · exact nomatch hd
    · obtain ⟨pre', post', hpre⟩ := List.append_of_mem hd
      have hlt : pre'.length < n := by rw [← hlen, hpre]; simp
      cases fuel with
      | zero => omega
      | succ fuel0 =>
        exact mem_flatsOfRule_succ.mpr ⟨r', hr', hr'q,
          ih pre'.length hlt pre' r' (post' ++ x :: post) (by rw [hsplit, hpre]; simp) rfl fuel0 (by omega) g hdef⟩

theorem mem_flatsOfDef_iff (S : Schema) (srules : List SRule) (h : sortRuleReferences S = .ok srules) {r : SRule}
    (hr : r ∈ renameTemps S.rules 1) (f : Flat) :
    f ∈ flatsOfDef (flatsOfRule ⟨renameTemps S.rules 1⟩ (renameTemps S.rules 1).length) r ↔
      ExpandsDef ⟨renameTemps S.rules 1⟩ r f := by
  have hperm := sortRuleReferences_perm S srules h
  refine ⟨mem_flatsOfDef_sound (mem_flatsOfRule_sound _ _) r f, fun hdef => ?_⟩
  obtain ⟨pre, post, hsplit⟩ := List.append_of_mem (hperm.mem_iff.mpr hr)
  have hlen : pre.length ≤ (renameTemps S.rules 1).length := by
    rw [← hperm.length_eq, hsplit]; simp
  exact mem_flatsOfDef_complete (S := ⟨renameTemps S.rules 1⟩) (fun r hr => hperm.mem_iff.mpr hr)
    (sortRuleReferences_refsDone S srules h) pre.length pre r post hsplit rfl _ hlen f hdef

theorem expands_iff_mem_flatsOfRule (S : Schema) (srules : List SRule) (h : sortRuleReferences S = .ok srules)
    (q : String) (g : Flat) :
    Expands ⟨renameTemps S.rules 1⟩ q g ↔
      g ∈ flatsOfRule ⟨renameTemps S.rules 1⟩ ((renameTemps S.rules 1).length + 1) q := by
  rw [expands_iff, mem_flatsOfRule_succ]
  exact exists_congr fun r => and_congr_right fun hr => and_congr_right fun _ => (mem_flatsOfDef_iff S srules h hr g).symm

theorem shapeSigns_exec (S : Schema) (srules : List SRule) (h : sortRuleReferences S = .ok srules)
    {p s : List (Option Bytes)} (hps : ShapeSigns ⟨renameTemps S.rules 1⟩ p s) :
    ∃ r ∈ renameTemps S.rules 1,
      ∃ f ∈ flatsOfDef (flatsOfRule ⟨renameTemps S.rules 1⟩ (renameTemps S.rules 1).length) r, f.shape = p ∧
      ∃ q ∈ r.sign, ∃ g ∈ flatsOfRule ⟨renameTemps S.rules 1⟩ ((renameTemps S.rules 1).length + 1) q, g.shape = s := by
  obtain ⟨r, hr, f, hf, hfp, q, hq, g, hg, hgs⟩ := hps
  exact ⟨r, hr, f, (mem_flatsOfDef_iff S srules h hr f).mpr hf, hfp, q, hq, g,
    (expands_iff_mem_flatsOfRule S srules h q g).mp hg, hgs⟩

end Ndn.Lvs
