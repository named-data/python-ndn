import NdnProofs.Lemmas.Lvs.CompileBase
import NdnProofs.Lemmas.PyDict
/-!
  Pass 2 (`genPatternNumbers`).  Its first loop cannot fail; what matters of it is which identifiers end up in `named_pats`
  and in the `temp_pats` of each rule (`numberName_keys`, `numberNames_named`).  The second loop returns exactly when no
  constraint term is a `BadTerm`, and otherwise raises `SemanticError` (`genPatternNumbers_spec`, from one `*_spec` per
  numbering function).
-/
namespace Ndn.Lvs

theorem tagOf_eq_some {named : List String} {p : String} {k : Nat} :
    tagOf named p = some k ↔ p ∈ named ∧ k = named.idxOf p + 1 := by
  unfold tagOf
  by_cases hm : p ∈ named <;> simp [hm, eq_comm]

theorem numberName_keys (comps : List (Comp String)) (st : NumSt) (tp : PyDict String (List Int)) :
    (∀ q, q ∈ (numberName comps st tp).2.1.named ↔ q ∈ st.named ∨ (q ∈ patsOf comps ∧ isTempPat q = false)) ∧
    (∀ q, (PyDict.get? (numberName comps st tp).2.2 q).isSome ↔
      (PyDict.get? tp q).isSome ∨ (q ∈ patsOf comps ∧ isTempPat q = true)) := by
  fun_induction numberName comps st tp with
  | case1 => exact ⟨fun q => by simp [patsOf], fun q => by simp [patsOf]⟩
  | case2 v r st tp r' st' tp' hr ih => rw [hr] at ih; exact ih
  | case3 i r st tp r' st' tp' hr ih => rw [hr] at ih; exact ih
  | case4 p r st tp ht tp1 r' st' tp' hr ih =>
    rw [hr] at ih
    refine ⟨fun q => ?_, fun q => ?_⟩ <;> by_cases hq : q = p
    · subst hq; simp [ih.1, patsOf_cons_pat, ht]
    · simp [ih.1, patsOf_cons_pat, hq]
    · subst hq; simp [ih.2, patsOf_cons_pat, ht, tp1, PyDict.get?_set]
    · simp [ih.2, patsOf_cons_pat, hq, Ne.symm hq, tp1, PyDict.get?_set]
  | case5 p r st tp ht k hk r' st' tp' hr ih =>
    rw [hr] at ih
    have hp := (tagOf_eq_some.mp hk).1
    refine ⟨fun q => ?_, fun q => ?_⟩ <;> by_cases hq : q = p
    · subst hq; simp [ih.1, hp]
    · simp [ih.1, patsOf_cons_pat, hq]
    · subst hq; simp [ih.2, patsOf_cons_pat, ht]
    · simp [ih.2, patsOf_cons_pat, hq]
  | case6 p r st tp ht hk r' st' tp' hr ih =>
    rw [hr] at ih
    refine ⟨fun q => ?_, fun q => ?_⟩ <;> by_cases hq : q = p
    · subst hq; simp [ih.1, patsOf_cons_pat, ht]
    · simp [ih.1, patsOf_cons_pat, hq]
    · subst hq; simp [ih.2, patsOf_cons_pat, ht]
    · simp [ih.2, patsOf_cons_pat, hq]

/-- the pattern `p`, a named or a temporary one, is written in the name pattern of some rule of `rules`: "occurs in a name",
    not "is in `named_pats`" (that is `NamedIn rules p ∧ isTempPat p = false`, `numberNames_named`) -/
def NamedIn (rules : List SRule) (p : String) : Prop := ∃ r ∈ rules, p ∈ patsOf r.name

theorem numberNames_fst (rules : List SRule) (st : NumSt) : (numberNames rules st).1.map (·.1) = rules := by
  fun_induction numberNames rules st with
  | case1 => rfl
  | case2 r rs st nm st1 tp _ rest st2 hrs ih => rw [hrs] at ih; exact congrArg (r :: ·) ih

theorem numberNames_named (rules : List SRule) (st : NumSt) (q : String) :
    q ∈ (numberNames rules st).2.named ↔ q ∈ st.named ∨ (NamedIn rules q ∧ isTempPat q = false) := by
  fun_induction numberNames rules st with
  | case1 => simp [NamedIn]
  | case2 r rs st nm st1 tp hr rest st2 hrs ih =>
    have h1 := (numberName_keys r.name st []).1 q
    rw [hr] at h1
    rw [hrs] at ih
    simp only [ih, h1, NamedIn, List.mem_cons, exists_eq_or_imp]
    constructor
    · rintro ((h | h) | ⟨h, ht⟩)
      · exact Or.inl h
      · exact Or.inr ⟨Or.inl h.1, h.2⟩
      · exact Or.inr ⟨Or.inr h, ht⟩
    · rintro (h | ⟨h | h, ht⟩)
      · exact Or.inl (Or.inl h)
      · exact Or.inl (Or.inr ⟨h, ht⟩)
      · exact Or.inr ⟨h, ht⟩

theorem numberNames_mem {rules : List SRule} {st : NumSt} {x : SRule × List (Comp Int) × PyDict String (List Int)}
    (hx : x ∈ (numberNames rules st).1) :
    x.1 ∈ rules ∧ ∃ st0, x.2 = ((numberName x.1.name st0 []).1, (numberName x.1.name st0 []).2.2) := by
  fun_induction numberNames rules st with
  | case1 => cases hx
  | case2 r rs st nm st1 tp hr rest st2 hrs ih =>
    rw [hrs] at ih
    rcases List.mem_cons.mp hx with rfl | hx
    · exact ⟨List.mem_cons_self, st, by rw [hr]⟩
    · exact ⟨List.mem_cons_of_mem _ (ih hx).1, (ih hx).2⟩

theorem genPatternNumbers_ok {rules : List SRule} {nrules : List NRule} {named : List String}
    (h : genPatternNumbers rules = .ok (nrules, named)) :
    named = (numberNames rules { named := [], nextTemp := -1 }).2.named ∧
    mapE (numRule named) (numberNames rules { named := [], nextTemp := -1 }).1 = .ok nrules := by
  unfold genPatternNumbers at h
  split at h
  rename_i xs st hx
  rw [hx]
  split at h
  · cases h
  · rename_i nrs hn
    cases h
    exact ⟨rfl, hn⟩

/-- what makes `_gen_pattern_numbers` refuse a constraint term of rule `r` in a schema with rules `rules`:
    the constrained pattern is a named pattern written in no name pattern of the schema, or a temporary
    pattern not written in the name pattern of `r` itself; or a pattern on the right-hand side (an option or
    a user-function argument) is temporary or is written in no name pattern of the schema -/
def BadTerm (rules : List SRule) (r : SRule) (t : Term String String) : Prop :=
  (isTempPat t.pat = false ∧ ¬ NamedIn rules t.pat) ∨
  (isTempPat t.pat = true ∧ t.pat ∉ patsOf r.name) ∨
  (∃ o ∈ t.opts, ∃ p ∈ o.pats, isTempPat p = true ∨ ¬ NamedIn rules p)

theorem numRhs_spec (named : List String) (p : String) :
    RaisesUnless (numRhs named p) (isTempPat p = false ∧ p ∈ named) := by
  unfold numRhs
  split
  · rename_i ht
    exact raisesUnless_error fun h => Bool.false_ne_true (h.1.symm.trans ht)
  · rename_i ht
    cases hk : tagOf named p with
    | some k => exact raisesUnless_ok _ ⟨Bool.eq_false_iff.mpr ht, (tagOf_eq_some.mp hk).1⟩
    | none => exact raisesUnless_error fun h => nomatch hk.symm.trans (tagOf_eq_some.mpr ⟨h.2, rfl⟩)

theorem numArg_spec (named : List String) (a : Arg String) :
    RaisesUnless (numArg named a) (∀ p, a = .pat p → isTempPat p = false ∧ p ∈ named) := by
  cases a with
  | lit v => exact raisesUnless_ok _ (fun _ h => nomatch h)
  | pat q =>
    exact ((numRhs_spec named q).post (fun e he => by simp only [numArg, he])
      fun k hk => ⟨.pat k, by simp only [numArg, hk]⟩).congr ⟨fun h p hp => Arg.pat.inj hp ▸ h, fun h => h q rfl⟩

theorem numOpt_spec (named : List String) (o : Opt String) :
    RaisesUnless (numOpt named o) (∀ p ∈ o.pats, isTempPat p = false ∧ p ∈ named) := by
  cases o with
  | lit v => exact raisesUnless_ok _ (fun _ h => nomatch h)
  | pat q =>
    exact ((numRhs_spec named q).post (fun e he => by simp only [numOpt, he])
      fun k hk => ⟨.pat k, by simp only [numOpt, hk]⟩).congr
      ⟨fun h p hp => List.mem_singleton.mp hp ▸ h, fun h => h q List.mem_cons_self⟩
  | fn f args =>
    refine ((RaisesUnless.mapE (l := args) fun a _ => numArg_spec named a).post (fun e he => by simp only [numOpt, he])
      fun as has => ⟨.fn f as, by simp only [numOpt, has]⟩).congr ?_
    simp only [Opt.pats, List.mem_filterMap]
    exact ⟨fun h p ⟨a, ha, hap⟩ => by cases a <;> cases hap; exact h _ ha _ rfl,
      fun h a ha p hp => h p ⟨a, ha, hp ▸ rfl⟩⟩

theorem numLhs_spec (named : List String) (tp : PyDict String (List Int)) (p : String) :
    RaisesUnless (numLhs named tp p) (if isTempPat p then (PyDict.get? tp p).isSome = true else p ∈ named) := by
  unfold numLhs
  split
  · cases hg : PyDict.get? tp p with
    | none => exact raisesUnless_error (fun h => nomatch h)
    | some l => exact raisesUnless_ok _ rfl
  · cases hk : tagOf named p with
    | some k => exact raisesUnless_ok _ (tagOf_eq_some.mp hk).1
    | none => exact raisesUnless_error fun h => nomatch hk.symm.trans (tagOf_eq_some.mpr ⟨h, rfl⟩)

/-- what `_gen_pattern_numbers` accepts as a constraint term, `temp_pats` of its rule being `tp` -/
def TermOK (named : List String) (tp : PyDict String (List Int)) (t : Term String String) : Prop :=
  (if isTempPat t.pat then (PyDict.get? tp t.pat).isSome = true else t.pat ∈ named) ∧
    ∀ o ∈ t.opts, ∀ p ∈ o.pats, isTempPat p = false ∧ p ∈ named

theorem numTerm_spec (named : List String) (tp : PyDict String (List Int)) (t : Term String String) :
    RaisesUnless (numTerm named tp t) (TermOK named tp t) :=
  (numLhs_spec named tp t.pat).seq (fun e he => by simp only [numTerm, he]) fun ids hids =>
    (RaisesUnless.mapE fun o _ => numOpt_spec named o).post (fun e he => by simp only [numTerm, hids, he])
      fun os hos => ⟨{ pat := ids, opts := os }, by simp only [numTerm, hids, hos]⟩

theorem numRule_spec (named : List String) (x : SRule × List (Comp Int) × PyDict String (List Int)) :
    RaisesUnless (numRule named x) (∀ cs ∈ x.1.cons, ∀ t ∈ cs, TermOK named x.2.2 t) :=
  (RaisesUnless.mapE fun cs _ => RaisesUnless.mapE fun t _ => numTerm_spec named x.2.2 t).post
    (fun e he => by simp only [numRule, he])
    fun c hc => ⟨{ id := x.1.id, name := x.2.1, cons := c, sign := x.1.sign }, by simp only [numRule, hc]⟩

theorem not_badTerm_iff {rules : List SRule} {r : SRule} {t : Term String String} : ¬ BadTerm rules r t ↔
    (if isTempPat t.pat then t.pat ∈ patsOf r.name else NamedIn rules t.pat) ∧
    ∀ o ∈ t.opts, ∀ p ∈ o.pats, isTempPat p = false ∧ NamedIn rules p := by
  constructor
  · intro h
    refine ⟨?_, fun o ho p hp => ⟨Bool.eq_false_iff.mpr fun hpt => h (.inr (.inr ⟨o, ho, p, hp, .inl hpt⟩)),
      Classical.byContradiction fun hn => h (.inr (.inr ⟨o, ho, p, hp, .inr hn⟩))⟩⟩
    split
    · rename_i ht; exact Classical.byContradiction fun hn => h (.inr (.inl ⟨ht, hn⟩))
    · rename_i ht; exact Classical.byContradiction fun hn => h (.inl ⟨Bool.eq_false_iff.mpr ht, hn⟩)
  · rintro ⟨h1, h2⟩ (⟨ht, hn⟩ | ⟨ht, hn⟩ | ⟨o, ho, p, hp, hb⟩)
    · rw [if_neg (Bool.eq_false_iff.mp ht)] at h1; exact hn h1
    · rw [if_pos ht] at h1; exact hn h1
    · exact hb.elim (fun hpt => Bool.eq_false_iff.mp (h2 o ho p hp).1 hpt) (fun hn => hn (h2 o ho p hp).2)

theorem genPatternNumbers_spec (rules : List SRule) :
    RaisesUnless (genPatternNumbers rules) (∀ r ∈ rules, ∀ cs ∈ r.cons, ∀ t ∈ cs, ¬ BadTerm rules r t) := by
  have hterm : ∀ x ∈ (numberNames rules { named := [], nextTemp := -1 }).1, ∀ t : Term String String,
      TermOK (numberNames rules { named := [], nextTemp := -1 }).2.named x.2.2 t ↔ ¬ BadTerm rules x.1 t := by
    intro x hx t
    have hnamed : ∀ q, isTempPat q = false →
        (q ∈ (numberNames rules { named := [], nextTemp := -1 }).2.named ↔ NamedIn rules q) := by
      intro q hq
      simp [numberNames_named, hq]
    have htemp : (PyDict.get? x.2.2 t.pat).isSome ↔ t.pat ∈ patsOf x.1.name ∧ isTempPat t.pat = true := by
      obtain ⟨_, st0, he⟩ := numberNames_mem hx
      rw [he, (numberName_keys x.1.name st0 []).2]
      simp [PyDict.get?]
    rw [TermOK, not_badTerm_iff, htemp]
    refine and_congr ?_ (forall₂_congr fun o _ => forall₂_congr fun p _ => and_congr_right fun hp => hnamed p hp)
    split
    · rename_i ht; simp only [ht, and_true]
    · rename_i ht; exact hnamed _ (Bool.eq_false_iff.mpr ht)
  refine ((RaisesUnless.mapE (l := (numberNames rules { named := [], nextTemp := -1 }).1)
    fun x _ => numRule_spec (numberNames rules { named := [], nextTemp := -1 }).2.named x).post
      (fun e he => ?_) (fun nrs hn => ⟨(nrs, (numberNames rules { named := [], nextTemp := -1 }).2.named), ?_⟩)).congr ?_
  · unfold genPatternNumbers; simp only [he]
  · unfold genPatternNumbers; simp only [hn]
  · have hfst := numberNames_fst rules { named := [], nextTemp := -1 }
    exact ⟨fun h r hr => by obtain ⟨x, hx, rfl⟩ := List.mem_map.mp (hfst ▸ hr); exact fun cs hcs t ht => (hterm x hx t).mp (h x hx cs hcs t ht),
      fun h x hx cs hcs t ht => (hterm x hx t).mpr (h x.1 (hfst ▸ List.mem_map_of_mem hx) cs hcs t ht)⟩

end Ndn.Lvs
