import NdnProofs.Lemmas.Lvs.CompileNumber
import NdnProofs.Lemmas.Lvs.Sanity
import NdnProofs.Lemmas.Lvs.KeyText
/-!
  Pass 4 as a recursion to reason along.  The moves of a node (`vMoves`, `pMoves`: which chains follow which edge); what
  the loop over them returns, move by move (`Kids`, `genMoves_kids`); and `genNode_induct`: a property of the results of
  `genNode` holds once it passes from the subtrees of the moves (`Kids`) to the node.  Proved with it here: the pool is
  laid out as a tree (`Placed`, `genNode_placed`): identifiers are positions, every edge leads to a later node whose
  parent is its source, edges carry a non-empty value or a tag, every constraint option has exactly one of value / tag /
  user function.  Also: what `pattern_movement` returns in terms of KeyText's `keyStr` (`consAt`, `pmove_consAt`), and what
  the grammar's guarantees (`OptOK`, `ChainOK`, `TagsLe`) give of every move (`movesOf_ok`, `movesOf_tagOK`).
-/
namespace Ndn.Lvs

/-- what the grammar guarantees of a constraint option: a literal is an encoded component, hence not empty; a user
    function has a name, without `(` `,` `}` (`FnNameOK`) -/
def OptOK {π : Type} : Opt π → Prop
  | .lit v => v ≠ []
  | .pat _ => True
  | .fn f _ => f ≠ "" ∧ FnNameOK f

def ChainOK (c : Chain) : Prop :=
  (∀ v, Atom.lit v ∈ c.name → v ≠ []) ∧ ∀ t ∈ c.cons, ∀ o ∈ t.opts, OptOK o

/-- a pattern number is a temporary (negative) or one of the `cnt` named patterns -/
def TagOK (cnt : Nat) (t : Int) : Prop := 0 ≤ t → t.toNat ≤ cnt

theorem tagOK_neg {cnt : Nat} {t : Int} (h : t < 0) : TagOK cnt t := fun h0 => by omega

def TagsLe (cnt : Nat) (ctx : List Chain) : Prop := ∀ rc ∈ ctx, ∀ t ∈ rc.tags, 0 ≤ t → t.toNat ≤ cnt

theorem optionShape_encOpt {o : Opt Int} (h : OptOK o) : OptionShape (encOpt o) := by
  cases o with
  | lit v => exact Or.inl ⟨⟨v, rfl, h⟩, rfl, rfl⟩
  | pat t => exact Or.inr (Or.inl ⟨Or.inl rfl, ⟨_, rfl⟩, rfl⟩)
  | fn f args => exact Or.inr (Or.inr ⟨Or.inl rfl, rfl, _, f, rfl, rfl, h.1⟩)

def MoveOK (mv : Move) : Prop :=
  (∀ v, mv.value = some v → v ≠ []) ∧ (∀ cl ∈ mv.cons, ∀ o ∈ cl, OptionShape o) ∧ ∀ c ∈ mv.ctx, ChainOK c

/-- the `ctx'` of `genNode`: the chains still running at `depth` -/
def live (depth : Nat) (ctx : List Chain) : List Chain := ctx.filter (fun rc => !(rc.name.length == depth))

/-- the list `genNode` matches on: value moves first -/
def movesOf (depth : Nat) (ctx : List Chain) (prev : List Int) : List Move :=
  vMoves depth (live depth ctx) prev ++ pMoves depth (live depth ctx) prev

theorem mem_live {depth : Nat} {ctx : List Chain} {rc : Chain} : rc ∈ live depth ctx ↔ rc ∈ ctx ∧ rc.name.length ≠ depth := by
  unfold live
  rw [List.mem_filter]
  simp

theorem drop_of_getElem? {α : Type} {l : List α} {i : Nat} {a : α} (h : l[i]? = some a) :
    l.drop i = a :: l.drop (i + 1) := by
  obtain ⟨hi, he⟩ := List.getElem?_eq_some_iff.mp h
  rw [List.drop_eq_getElem_cons hi, he]

theorem litAt_iff {depth : Nat} {rc : Chain} {v : Bytes} : litAt depth rc = some v ↔ rc.name[depth]? = some (.lit v) := by
  unfold litAt
  constructor
  · intro h
    split at h
    · rename_i w hw; cases h; exact hw
    · cases h
  · intro h; rw [h]

theorem patAt_iff {depth : Nat} {rc : Chain} {t : Int} : patAt depth rc = some t ↔ rc.name[depth]? = some (.pat t) := by
  unfold patAt
  constructor
  · intro h
    split at h
    · rename_i w hw; cases h; exact hw
    · cases h
  · intro h; rw [h]

theorem patAt_mem_tags {depth : Nat} {rc : Chain} {t : Int} (h : patAt depth rc = some t) : t ∈ rc.tags := by
  unfold Chain.tags
  rw [List.mem_filterMap]
  exact ⟨.pat t, List.mem_of_getElem? (patAt_iff.mp h), rfl⟩

theorem mem_vMoves {depth : Nat} {ctx : List Chain} {prev : List Int} {mv : Move} (h : mv ∈ vMoves depth ctx prev) :
    ∃ rc0 ∈ ctx, ∃ v, litAt depth rc0 = some v ∧ mv.value = some v ∧ mv.cons = [] ∧ mv.prev = prev ∧
      ∀ rc, rc ∈ mv.ctx ↔ rc ∈ ctx ∧ litAt depth rc = some v := by
  unfold vMoves at h
  obtain ⟨v, hv, rfl⟩ := List.mem_map.mp h
  obtain ⟨rc0, hrc0, hl⟩ := List.mem_filterMap.mp ((mem_sortDedup _ _ _).mp hv)
  exact ⟨rc0, hrc0, v, hl, rfl, rfl, rfl, fun rc => by rw [List.mem_filter, beq_iff_eq]⟩

theorem vMoves_cover {depth : Nat} {ctx : List Chain} {prev : List Int} {rc : Chain} {v : Bytes}
    (hrc : rc ∈ ctx) (hl : litAt depth rc = some v) : ∃ mv ∈ vMoves depth ctx prev, rc ∈ mv.ctx := by
  refine ⟨{ value := some v, tag := 0, cons := [], ctx := ctx.filter (fun rc => litAt depth rc == some v), prev := prev },
    ?_, List.mem_filter.mpr ⟨hrc, beq_iff_eq.mpr hl⟩⟩
  unfold vMoves
  rw [List.mem_map]
  exact ⟨v, (mem_sortDedup _ _ _).mpr (List.mem_filterMap.mpr ⟨rc, hrc, hl⟩), rfl⟩

theorem mem_pMovesRaw {depth : Nat} {ctx : List Chain} {prev : List Int} {pm : Int × List Constraint × String × Chain}
    (h : pm ∈ pMovesRaw depth ctx prev) :
    pm.2.2.2 ∈ ctx ∧ patAt depth pm.2.2.2 = some pm.1 ∧ pm.2.1 = (pmove pm.2.2.2 pm.1 prev).1 ∧
      pm.2.2.1 = (pmove pm.2.2.2 pm.1 prev).2 := by
  unfold pMovesRaw at h
  rw [List.mem_filterMap] at h
  obtain ⟨rc, hrc, hm⟩ := h
  split at hm
  · rename_i t ht
    cases hm
    exact ⟨hrc, ht, rfl, rfl⟩
  · cases hm

theorem mem_pMoves {depth : Nat} {ctx : List Chain} {prev : List Int} {mv : Move} (h : mv ∈ pMoves depth ctx prev) :
    mv.value = none ∧ ∃ rc0 ∈ ctx, ∃ t0, patAt depth rc0 = some t0 ∧ mv.tag = t0 ∧
      mv.cons = (pmove rc0 t0 prev).1 ∧ mv.prev = prev ++ [t0] ∧
      ∀ rc, rc ∈ mv.ctx ↔ rc ∈ ctx ∧ ∃ t, patAt depth rc = some t ∧ (pmove rc t prev).2 = (pmove rc0 t0 prev).2 := by
  unfold pMoves at h
  simp only [List.mem_filterMap] at h
  obtain ⟨s, _, hm⟩ := h
  split at hm
  · cases hm
  · rename_i pm rest hf
    cases hm
    have hmem : ∀ x, x ∈ pm :: rest ↔ x ∈ pMovesRaw depth ctx prev ∧ x.2.2.1 = s := fun x => by
      rw [← hf, List.mem_filter, beq_iff_eq]
    obtain ⟨h0, hs0⟩ := (hmem pm).mp List.mem_cons_self
    obtain ⟨a1, a2, a3, a4⟩ := mem_pMovesRaw h0
    refine ⟨rfl, pm.2.2.2, a1, pm.1, a2, rfl, a3, rfl, fun rc => ⟨fun hrc => ?_, ?_⟩⟩
    · obtain ⟨x, hx, rfl⟩ := List.mem_map.mp hrc
      obtain ⟨hx0, hxs⟩ := (hmem x).mp hx
      obtain ⟨b1, b2, _, b4⟩ := mem_pMovesRaw hx0
      exact ⟨b1, x.1, b2, by rw [← b4, ← a4, hxs, hs0]⟩
    · rintro ⟨hrc, t, ht, hk⟩
      refine List.mem_map.mpr ⟨(t, (pmove rc t prev).1, (pmove rc t prev).2, rc), (hmem _).mpr ⟨?_, ?_⟩, rfl⟩
      · exact List.mem_filterMap.mpr ⟨rc, hrc, by rw [ht]⟩
      · rw [hk, ← a4, hs0]

theorem pMoves_cover {depth : Nat} {ctx : List Chain} {prev : List Int} {rc : Chain} {t : Int}
    (hrc : rc ∈ ctx) (hp : patAt depth rc = some t) : ∃ mv ∈ pMoves depth ctx prev, rc ∈ mv.ctx := by
  have hraw : (t, (pmove rc t prev).1, (pmove rc t prev).2, rc) ∈ pMovesRaw depth ctx prev := by
    unfold pMovesRaw
    rw [List.mem_filterMap]
    exact ⟨rc, hrc, by rw [hp]⟩
  have hfil : (t, (pmove rc t prev).1, (pmove rc t prev).2, rc) ∈
      (pMovesRaw depth ctx prev).filter (fun pm => pm.2.2.1 == (pmove rc t prev).2) :=
    List.mem_filter.mpr ⟨hraw, beq_self_eq_true _⟩
  cases hf : (pMovesRaw depth ctx prev).filter (fun pm => pm.2.2.1 == (pmove rc t prev).2) with
  | nil => rw [hf] at hfil; cases hfil
  | cons pm rest =>
    refine ⟨{ value := none, tag := pm.1, cons := pm.2.1, ctx := (pm :: rest).map (·.2.2.2), prev := prev ++ [pm.1] },
      ?_, List.mem_map.mpr ⟨_, hf ▸ hfil, rfl⟩⟩
    unfold pMoves
    simp only [List.mem_filterMap]
    exact ⟨_, (mem_sortDedup _ _ _).mpr (List.mem_map.mpr ⟨_, hraw, rfl⟩), by rw [hf]⟩

theorem moves_cover (depth : Nat) (ctx : List Chain) (prev : List Int) (rc : Chain) (hrc : rc ∈ ctx)
    (hlen : depth < rc.name.length) : ∃ mv ∈ movesOf depth ctx prev, rc ∈ mv.ctx := by
  replace hrc := mem_live.mpr ⟨hrc, Nat.ne_of_gt hlen⟩
  have hget : rc.name[depth]? = some rc.name[depth] := List.getElem?_eq_getElem hlen
  cases hat : rc.name[depth] with
  | lit v =>
    obtain ⟨mv, hmv, hin⟩ := vMoves_cover (prev := prev) hrc (litAt_iff.mpr (hat ▸ hget))
    exact ⟨mv, List.mem_append_left _ hmv, hin⟩
  | pat t =>
    obtain ⟨mv, hmv, hin⟩ := pMoves_cover (prev := prev) hrc (patAt_iff.mpr (hat ▸ hget))
    exact ⟨mv, List.mem_append_right _ hmv, hin⟩

theorem movesOf_ctx {depth : Nat} {ctx : List Chain} {prev : List Int} {mv : Move} (h : mv ∈ movesOf depth ctx prev) :
    ∀ rc ∈ mv.ctx, rc ∈ ctx ∧ depth + 1 ≤ rc.name.length := by
  intro rc hrc
  have : rc ∈ live depth ctx ∧ ∃ a, rc.name[depth]? = some a := by
    rcases List.mem_append.mp h with h | h
    · obtain ⟨_, _, v, _, _, _, _, hctx⟩ := mem_vMoves h
      exact ⟨((hctx rc).mp hrc).1, _, litAt_iff.mp ((hctx rc).mp hrc).2⟩
    · obtain ⟨_, _, _, _, _, _, _, _, hctx⟩ := mem_pMoves h
      obtain ⟨h1, t, ht, _⟩ := (hctx rc).mp hrc
      exact ⟨h1, _, patAt_iff.mp ht⟩
  obtain ⟨hl, a, ha⟩ := this
  exact ⟨(mem_live.mp hl).1, lt_of_getElem? ha⟩

/-- `temp_tag_index` when the subtree of `mv` is generated: incremented first for a temporary pattern -/
def Move.tidx (mv : Move) (t : Nat) : Nat := if mv.value.isNone && mv.tag < 0 then t + 1 else t

/-- the edges a move gives: `b` is where its subtree stands, `t` the `temp_tag_index` it is generated with -/
def Move.vEdge (mv : Move) (b : Nat) : List VEdge :=
  match mv.value with | some v => [{ dest := some b, value := some v }] | none => []

def Move.pEdge (mv : Move) (b t : Nat) : List PEdge :=
  match mv.value with
  | some _ => []
  | none => [{ dest := some b, tag := some (if mv.tag < 0 then t else mv.tag.toNat), cons := mv.cons }]

theorem Move.mem_vEdge {mv : Move} {b : Nat} {ve : VEdge} :
    ve ∈ mv.vEdge b ↔ ∃ v, mv.value = some v ∧ ve = ⟨some b, some v⟩ := by
  unfold Move.vEdge
  cases mv.value <;> simp

theorem Move.mem_pEdge {mv : Move} {b t : Nat} {pe : PEdge} :
    pe ∈ mv.pEdge b t ↔ mv.value = none ∧ pe = ⟨some b, some (if mv.tag < 0 then t else mv.tag.toNat), mv.cons⟩ := by
  unfold Move.pEdge
  cases mv.value <;> simp

/-- what `genMoves` returns, move by move: the subtree of a move (`Q`: what is known of it) is placed where the pool
    ends, its edge leads there, and `temp_tag_index` is threaded through -/
inductive Kids (Q : Move → Nat → Nat → List PreNode → Nat → Prop) :
    List Move → Nat → Nat → List VEdge → List PEdge → List PreNode → Nat → Prop
  | nil (b t : Nat) : Kids Q [] b t [] [] [] t
  | cons {mv : Move} {r : List Move} {b t : Nat} {s : List PreNode} {t2 : Nat} {ves : List VEdge} {pes : List PEdge}
      {rest : List PreNode} {t3 : Nat} : Q mv b (mv.tidx t) s t2 → Kids Q r (b + s.length) t2 ves pes rest t3 →
      Kids Q (mv :: r) b t (mv.vEdge b ++ ves) (mv.pEdge b (mv.tidx t) ++ pes) (s ++ rest) t3

theorem Kids.mono {Q Q' : Move → Nat → Nat → List PreNode → Nat → Prop} {mvs : List Move} {b t : Nat} {ves : List VEdge}
    {pes : List PEdge} {nodes : List PreNode} {t' : Nat} (h : Kids Q mvs b t ves pes nodes t')
    (hq : ∀ mv ∈ mvs, ∀ b t s t2, Q mv b t s t2 → Q' mv b t s t2) : Kids Q' mvs b t ves pes nodes t' := by
  induction h with
  | nil => exact .nil _ _
  | cons h1 _ ih => exact .cons (hq _ List.mem_cons_self _ _ _ _ h1) (ih fun m hm => hq m (List.mem_cons_of_mem _ hm))

theorem genMoves_kids {child : List Chain → List Int → Nat → Nat → Except CErr (List PreNode × Nat)}
    {mvs : List Move} {base tidx : Nat} {ves : List VEdge} {pes : List PEdge} {nodes : List PreNode} {t' : Nat}
    (h : genMoves child mvs base tidx = .ok (ves, pes, nodes, t')) :
    Kids (fun mv b t s t2 => child mv.ctx mv.prev b t = .ok (s, t2)) mvs base tidx ves pes nodes t' := by
  fun_induction genMoves child mvs base tidx generalizing ves pes nodes t' with
  | case1 => cases h; exact .nil _ _
  | case2 => cases h
  | case3 => cases h
  | case4 mv r base tidx tidx1 sub tidx2 hsub ves' pes' rest tidx3 hrest v hv =>
    rename_i ih
    cases h
    have := Kids.cons (mv := mv) (t := tidx) hsub (ih hrest)
    simp only [Move.vEdge, Move.pEdge, hv, List.singleton_append, List.nil_append] at this
    exact this
  | case5 mv r base tidx tidx1 sub tidx2 hsub ves' pes' rest tidx3 hrest hv =>
    rename_i ih
    cases h
    have := Kids.cons (mv := mv) (t := tidx) hsub (ih hrest)
    simp only [Move.vEdge, Move.pEdge, hv, List.singleton_append, List.nil_append] at this
    exact this

/-- `Kids` forgotten down to membership: every move has its subtree `s` (with `Q`) inside `nodes`; every node of `nodes` lies
    in the subtree of some move, placed at a `b` that an edge of `ves` or `pes` leads to -/
theorem Kids.calls {Q : Move → Nat → Nat → List PreNode → Nat → Prop} {mvs : List Move} {b t : Nat} {ves : List VEdge}
    {pes : List PEdge} {nodes : List PreNode} {t' : Nat} (h : Kids Q mvs b t ves pes nodes t') :
    (∀ mv ∈ mvs, ∃ b t s t2, Q mv b t s t2 ∧ ∀ n ∈ s, n ∈ nodes) ∧
    (∀ n ∈ nodes, ∃ mv ∈ mvs, ∃ b t s t2, Q mv b t s t2 ∧ n ∈ s ∧ (∀ x ∈ s, x ∈ nodes) ∧
      (some b ∈ ves.map (·.dest) ∨ some b ∈ pes.map (·.dest))) := by
  induction h with
  | nil => exact ⟨(fun _ h => nomatch h), fun _ h => nomatch h⟩
  | @cons mv r b t s t2 ves pes rest t3 hq _ ih =>
    obtain ⟨i1, i2⟩ := ih
    have hd : some b ∈ (mv.vEdge b ++ ves).map (·.dest) ∨ some b ∈ (mv.pEdge b (mv.tidx t) ++ pes).map (·.dest) := by
      unfold Move.vEdge Move.pEdge; cases mv.value <;> simp
    refine ⟨List.forall_mem_cons.mpr ⟨⟨_, _, s, t2, hq, fun n hn => List.mem_append_left _ hn⟩, fun m hm => ?_⟩,
      fun n hn => ?_⟩
    · obtain ⟨b', t', s', t2', hc, hs⟩ := i1 m hm
      exact ⟨b', t', s', t2', hc, fun n hn => List.mem_append_right _ (hs n hn)⟩
    · rcases List.mem_append.mp hn with hn | hn
      · exact ⟨mv, .head _, _, _, s, t2, hq, hn, fun x hx => List.mem_append_left _ hx, hd⟩
      · obtain ⟨m, hm, b', t', s', t2', hc, hns, hss, hds⟩ := i2 n hn
        exact ⟨m, .tail _ hm, b', t', s', t2', hc, hns, fun x hx => List.mem_append_right _ (hss x hx),
          hds.imp (fun h => by rw [List.map_append]; exact List.mem_append_right _ h)
            fun h => by rw [List.map_append]; exact List.mem_append_right _ h⟩

/-- the node `_generate_node(depth, ctx, parent, …)` appends at position `base`, with its edges -/
def genHead (depth : Nat) (ctx : List Chain) (parent : Option Nat) (base : Nat) (ves : List VEdge) (pes : List PEdge) :
    PreNode :=
  { id := base, parent := parent, ruleNames := (ctx.filter (fun rc => rc.name.length == depth)).map (·.id),
    signStr := (ctx.filter (fun rc => rc.name.length == depth)).flatMap (·.sign), vEdges := ves, pEdges := pes }

theorem genNode_induct {P : Nat → List Chain → Option Nat → List Int → Nat → Nat → List PreNode → Nat → Prop}
    (step : ∀ (depth : Nat) (ctx : List Chain) (parent : Option Nat) (prev : List Int) (base tidx : Nat)
      (ves : List VEdge) (pes : List PEdge) (sub : List PreNode) (t' : Nat),
      Kids (fun mv b t s t2 => P (depth + 1) mv.ctx (some base) mv.prev b t s t2) (movesOf depth ctx prev) (base + 1) tidx
        ves pes sub t' →
      P depth ctx parent prev base tidx (genHead depth ctx parent base ves pes :: sub) t')
    {fuel depth : Nat} {ctx : List Chain} {parent : Option Nat} {prev : List Int} {base tidx : Nat}
    {r : List PreNode × Nat} (h : genNode fuel depth ctx parent prev base tidx = .ok r) :
    P depth ctx parent prev base tidx r.1 r.2 := by
  fun_induction genNode fuel depth ctx parent prev base tidx generalizing r with
  | case1 fuel depth ctx parent prev base tidx =>
    rename_i hm
    cases h
    refine step depth ctx parent prev base tidx [] [] [] tidx ?_
    rw [show movesOf depth ctx prev = [] from hm]
    exact .nil _ _
  | case2 => cases h
  | case3 => cases h
  | case4 depth ctx parent prev base tidx _ _ _ mv mvs hm f ves pes rest t3 =>
    rename_i hg ih
    cases h
    refine step depth ctx parent prev base tidx ves pes rest t3 ?_
    rw [show movesOf depth ctx prev = mv :: mvs from hm]
    exact (genMoves_kids hg).mono fun _ _ _ _ _ _ hc => ih _ _ _ _ hc

/-- the numbered constraints `pattern_movement` attaches to tag `t` after the tags `prev` -/
def consAt (rc : Chain) (t : Int) (prev : List Int) : List (List (Opt Int)) :=
  if prev.contains t then [] else (rc.cons.filter (fun c => c.pat.contains t)).map (·.opts)

theorem pmove_consAt (rc : Chain) (t : Int) (prev : List Int) :
    pmove rc t prev = ((consAt rc t prev).map (List.map encOpt), keyStr t (consAt rc t prev)) := by
  unfold pmove consAt keyStr
  split
  · simp [String.join]
  · simp only [List.map_map]; rfl

theorem mem_consAt {rc : Chain} {t : Int} {prev : List Int} {os : List (Opt Int)} (h : os ∈ consAt rc t prev) :
    ∃ c ∈ rc.cons, c.opts = os := by
  unfold consAt at h
  split at h
  · exact nomatch h
  · obtain ⟨c, hc, rfl⟩ := List.mem_map.mp h
    exact ⟨c, (List.mem_filter.mp hc).1, rfl⟩

theorem consAt_fnOK {rc : Chain} (hok : ChainOK rc) (t : Int) (prev : List Int) : ∀ os ∈ consAt rc t prev, OptsFnOK os := by
  intro os hos f args hm
  obtain ⟨c, hc, rfl⟩ := mem_consAt hos
  exact (hok.2 c hc _ hm).2

theorem pmove_key_tag {rc rc' : Chain} {t t' : Int} {prev : List Int}
    (h : (pmove rc t prev).2 = (pmove rc' t' prev).2) : t = t' := by
  rw [pmove_consAt, pmove_consAt] at h
  exact keyStr_tag h

theorem pmove_cons_ok (rc : Chain) (tag : Int) (prev : List Int) (h : ChainOK rc) :
    ∀ cl ∈ (pmove rc tag prev).1, ∀ o ∈ cl, OptionShape o := by
  intro cl hcl o ho
  rw [pmove_consAt] at hcl
  obtain ⟨os, hos, rfl⟩ := List.mem_map.mp hcl
  obtain ⟨c, hc, rfl⟩ := mem_consAt hos
  obtain ⟨o', ho', rfl⟩ := List.mem_map.mp ho
  exact optionShape_encOpt (h.2 c hc o' ho')

theorem movesOf_ok {depth : Nat} {ctx : List Chain} {prev : List Int} (hctx : ∀ c ∈ ctx, ChainOK c) :
    ∀ mv ∈ movesOf depth ctx prev, MoveOK mv := by
  intro mv hmv
  refine ⟨?_, ?_, fun c hc => hctx c (movesOf_ctx hmv c hc).1⟩ <;> rcases List.mem_append.mp hmv with h | h
  · obtain ⟨rc, hrc, v, hl, hv, _⟩ := mem_vMoves h
    intro w hw
    cases hv.symm.trans hw
    exact (hctx rc (mem_live.mp hrc).1).1 _ (List.mem_of_getElem? (litAt_iff.mp hl))
  · intro w hw
    rw [(mem_pMoves h).1] at hw
    cases hw
  · obtain ⟨_, _, _, _, _, hc, _⟩ := mem_vMoves h
    rw [hc]
    nofun
  · obtain ⟨_, rc0, hrc0, t0, _, _, hcons, _⟩ := mem_pMoves h
    rw [hcons]
    exact pmove_cons_ok _ _ _ (hctx rc0 (mem_live.mp hrc0).1)

theorem movesOf_lt {depth : Nat} {ctx : List Chain} {prev : List Int} {mv : Move} (h : mv ∈ movesOf depth ctx prev) :
    ∃ rc ∈ ctx, depth + 1 ≤ rc.name.length := by
  rcases List.mem_append.mp h with h | h
  · obtain ⟨rc, hrc, _, hl, _⟩ := mem_vMoves h
    exact ⟨rc, (mem_live.mp hrc).1, lt_of_getElem? (litAt_iff.mp hl)⟩
  · obtain ⟨_, rc0, hrc0, t0, hp, _⟩ := mem_pMoves h
    exact ⟨rc0, (mem_live.mp hrc0).1, lt_of_getElem? (patAt_iff.mp hp)⟩

theorem movesOf_tagOK {cnt depth : Nat} {ctx : List Chain} {prev : List Int} (htags : TagsLe cnt ctx) :
    ∀ mv ∈ movesOf depth ctx prev, mv.value = none → TagOK cnt mv.tag := by
  intro mv hmv hv
  rcases List.mem_append.mp hmv with h | h
  · obtain ⟨_, _, v, _, hv', _⟩ := mem_vMoves h
    cases hv'.symm.trans hv
  · obtain ⟨_, rc0, hrc0, t0, hp0, htag0, _⟩ := mem_pMoves h
    exact htag0 ▸ htags rc0 (mem_live.mp hrc0).1 t0 (patAt_mem_tags hp0)

def PreNode.dests (n : PreNode) : List (Option Nat) := n.vEdges.map (·.dest) ++ n.pEdges.map (·.dest)

def VEdgesOK (ves : List VEdge) : Prop := ∀ ve ∈ ves, ∃ v, ve.value = some v ∧ v ≠ []

def PEdgesOK (pes : List PEdge) : Prop :=
  ∀ pe ∈ pes, (∃ t, pe.tag = some t) ∧ ∀ cl ∈ pe.cons, ∀ o ∈ cl, OptionShape o

/-- the nodes `nodes` occupy the pool positions `base, base+1, …` and form a forest closed under edges -/
structure Placed (base : Nat) (nodes : List PreNode) : Prop where
  ids : ∀ i n, nodes[i]? = some n → n.id = base + i
  edges : ∀ i n, nodes[i]? = some n → ∀ d ∈ n.dests,
    ∃ j dn, d = some (base + j) ∧ nodes[j]? = some dn ∧ dn.parent = some (base + i)
  ves : ∀ n ∈ nodes, VEdgesOK n.vEdges
  pes : ∀ n ∈ nodes, PEdgesOK n.pEdges

theorem Placed.nil (base : Nat) : Placed base [] :=
  ⟨by simp, by simp, by simp, by simp⟩

theorem Placed.append {b : Nat} {A B : List PreNode} (hA : Placed b A) (hB : Placed (b + A.length) B) :
    Placed b (A ++ B) := by
  refine ⟨fun i n h => ?_, fun i n h d hd => ?_, fun n hn => (List.mem_append.mp hn).elim (hA.ves n) (hB.ves n),
    fun n hn => (List.mem_append.mp hn).elim (hA.pes n) (hB.pes n)⟩
  · rcases Nat.lt_or_ge i A.length with hi | hi
    · rw [List.getElem?_append_left hi] at h
      exact hA.ids i n h
    · rw [List.getElem?_append_right hi] at h
      rw [hB.ids _ n h, Nat.add_assoc, Nat.add_sub_of_le hi]
  · rcases Nat.lt_or_ge i A.length with hi | hi
    · rw [List.getElem?_append_left hi] at h
      obtain ⟨j, dn, hd, hj, hp⟩ := hA.edges i n h d hd
      exact ⟨j, dn, hd, (List.getElem?_append_left (lt_of_getElem? hj)).trans hj, hp⟩
    · rw [List.getElem?_append_right hi] at h
      obtain ⟨j, dn, hd, hj, hp⟩ := hB.edges _ n h d hd
      refine ⟨A.length + j, dn, by rw [hd, Nat.add_assoc], ?_, by rw [hp, Nat.add_assoc, Nat.add_sub_of_le hi]⟩
      rw [List.getElem?_append_right (Nat.le_add_right _ _), Nat.add_sub_cancel_left]
      exact hj

/-- the destinations `ds` lead to nodes of the block `nodes` (placed at `base`) whose parent is `P` -/
def DestsInto (P base : Nat) (nodes : List PreNode) (ds : List (Option Nat)) : Prop :=
  ∀ d ∈ ds, ∃ j dn, d = some (base + j) ∧ nodes[j]? = some dn ∧ dn.parent = some P

theorem DestsInto.shift {P base : Nat} {sub rest : List PreNode} {ds : List (Option Nat)}
    (h : DestsInto P (base + sub.length) rest ds) : DestsInto P base (sub ++ rest) ds := by
  intro d hd
  obtain ⟨j, dn, hd1, hj, hp⟩ := h d hd
  refine ⟨sub.length + j, dn, by rw [hd1, Nat.add_assoc], ?_, hp⟩
  rw [List.getElem?_append_right (Nat.le_add_right _ _), Nat.add_sub_cancel_left]
  exact hj

theorem Placed.cons {b : Nat} {hd : PreNode} {sub : List PreNode} (hid : hd.id = b)
    (hv : VEdgesOK hd.vEdges) (hp : PEdgesOK hd.pEdges)
    (hdst : DestsInto b (b + 1) sub hd.dests)
    (hs : Placed (b + 1) sub) : Placed b (hd :: sub) := by
  have shift : ∀ k, b + 1 + k = b + (k + 1) := fun k => by rw [Nat.add_assoc, Nat.add_comm 1 k]
  refine ⟨fun i n h => ?_, fun i n h d hd' => ?_, List.forall_mem_cons.mpr ⟨hv, hs.ves⟩,
    List.forall_mem_cons.mpr ⟨hp, hs.pes⟩⟩
  · cases i with
    | zero => cases h; exact hid
    | succ i => rw [hs.ids i n (List.getElem?_cons_succ.symm.trans h), shift]
  · cases i with
    | zero =>
      cases h
      obtain ⟨j, dn, hd1, hj, hp1⟩ := hdst d hd'
      exact ⟨j + 1, dn, by rw [hd1, shift], List.getElem?_cons_succ.trans hj, hp1⟩
    | succ i =>
      obtain ⟨j, dn, hd1, hj, hp1⟩ := hs.edges i n (List.getElem?_cons_succ.symm.trans h) d hd'
      exact ⟨j + 1, dn, by rw [hd1, shift], List.getElem?_cons_succ.trans hj, by rw [hp1, shift]⟩

theorem Kids.placed {P : Nat} {mvs : List Move} {b t : Nat} {ves : List VEdge} {pes : List PEdge}
    {nodes : List PreNode} {t' : Nat}
    (h : Kids (fun _ b _ s _ => Placed b s ∧ ∃ hd tl, s = hd :: tl ∧ hd.parent = some P) mvs b t ves pes nodes t')
    (hok : ∀ mv ∈ mvs, MoveOK mv) :
    Placed b nodes ∧ VEdgesOK ves ∧ PEdgesOK pes ∧ DestsInto P b nodes (ves.map (·.dest) ++ pes.map (·.dest)) := by
  induction h with
  | nil => exact ⟨Placed.nil _, (fun _ h => nomatch h), (fun _ h => nomatch h), fun _ h => nomatch h⟩
  | @cons mv r b t s t2 ves pes rest t3 hq _ ih =>
    obtain ⟨hpl, hd, tl, rfl, hpar⟩ := hq
    obtain ⟨hpr, hvr, hper, hdr⟩ := ih fun m hm => hok m (List.mem_cons_of_mem _ hm)
    obtain ⟨ok1, ok2, _⟩ := hok mv List.mem_cons_self
    refine ⟨hpl.append hpr, fun ve hve => ?_, fun pe hpe => ?_, fun d hd' => ?_⟩
    · rcases List.mem_append.mp hve with hve | hve
      · obtain ⟨v, hv, rfl⟩ := Move.mem_vEdge.mp hve
        exact ⟨v, rfl, ok1 v hv⟩
      · exact hvr ve hve
    · rcases List.mem_append.mp hpe with hpe | hpe
      · obtain ⟨_, rfl⟩ := Move.mem_pEdge.mp hpe
        exact ⟨⟨_, rfl⟩, ok2⟩
      · exact hper pe hpe
    · -- the edge of this move leads to the head of its block, the others into the blocks after it
      have : d = some b ∨ d ∈ ves.map (·.dest) ++ pes.map (·.dest) := by
        simp only [List.map_append, List.mem_append, List.mem_map, Move.mem_vEdge, Move.mem_pEdge] at hd' ⊢
        rcases hd' with (⟨ve, ⟨v, _, rfl⟩, rfl⟩ | h) | (⟨pe, ⟨_, rfl⟩, rfl⟩ | h)
        · exact Or.inl rfl
        · exact Or.inr (Or.inl h)
        · exact Or.inl rfl
        · exact Or.inr (Or.inr h)
      rcases this with rfl | hd'
      · exact ⟨0, hd, rfl, rfl, hpar⟩
      · exact hdr.shift d hd'

theorem genNode_placed (fuel depth : Nat) (ctx : List Chain) (parent : Option Nat) (prev : List Int)
    (base tidx : Nat) (nodes : List PreNode) (t' : Nat) (hctx : ∀ c ∈ ctx, ChainOK c)
    (h : genNode fuel depth ctx parent prev base tidx = .ok (nodes, t')) :
    Placed base nodes ∧ ∃ hd tl, nodes = hd :: tl ∧ hd.parent = parent := by
  refine genNode_induct (P := fun _ ctx parent _ base _ nodes _ => (∀ c ∈ ctx, ChainOK c) →
    Placed base nodes ∧ ∃ hd tl, nodes = hd :: tl ∧ hd.parent = parent) ?_ h hctx
  intro depth ctx parent prev base tidx ves pes sub t' hk hctx
  obtain ⟨hpl, hv, hp, hd⟩ := (hk.mono fun mv hmv _ _ _ _ ih =>
    ih fun c hc => hctx c (movesOf_ctx hmv c hc).1).placed (movesOf_ok hctx)
  exact ⟨Placed.cons rfl hv hp hd hpl, _, _, rfl, rfl⟩

end Ndn.Lvs
