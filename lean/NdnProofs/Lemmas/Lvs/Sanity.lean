import NdnProofs.Lemmas.Lvs.Match
/-!
  `_sanity_check`'s `dfs` against the documented rules (`Sane`); the nodes it visits (`collect`) are the reachable ones.
-/
namespace Ndn.Lvs

theorem vEdgeOK_iff (ve : VEdge) :
    vEdgeOK ve = true ↔ (∃ d, ve.dest = some d) ∧ ∃ v, ve.value = some v ∧ v ≠ [] := by
  simp only [vEdgeOK, Bool.and_eq_true, Option.isSome_iff_exists]
  rcases ve.value with _ | _ | _ <;> simp

theorem optOK_iff (o : ConsOption) : optOK o = true ↔ OptionShape o := by
  rcases o with ⟨_ | _ | _, _ | _, _ | ⟨fnId, args⟩⟩ <;> simp [optOK, OptionShape]
  -- where only the user function is set, its id decides
  all_goals cases fnId <;> simp

theorem pEdgeOK_iff (pe : PEdge) :
    pEdgeOK pe = true ↔ (∃ d, pe.dest = some d) ∧ (∃ t, pe.tag = some t) ∧
      ∀ cl ∈ pe.cons, ∀ o ∈ cl, OptionShape o := by
  simp only [pEdgeOK, Bool.and_eq_true, List.all_eq_true, optOK_iff, Option.isSome_iff_exists, and_assoc]

theorem nodeLocalOK_iff (m : Model) (n : Nat) (par : Option Nat) (node : Node) :
    nodeLocalOK m n par node = true ↔
      node.id = some n ∧ node.parent = par ∧ (∀ ve ∈ node.vEdges, vEdgeOK ve = true) ∧
      (∀ pe ∈ node.pEdges, pEdgeOK pe = true) ∧ ∀ k ∈ node.signCons, k < m.nodes.length := by
  unfold nodeLocalOK
  simp [and_assoc]

theorem idsOK_iff (m : Model) :
    idsOK m = true ↔ ∀ (n : Nat) (node : Node), m.nodes[n]? = some node → node.id = some n := by
  unfold idsOK
  rw [List.all_eq_true]
  constructor
  · intro h n node hn
    have hlt : n < m.nodes.length := (List.getElem?_eq_some_iff.mp hn).1
    have := h n (List.mem_range.mpr hlt)
    rw [hn] at this
    simpa using this
  · intro h i _
    cases hn : m.nodes[i]? with
    | none => rfl
    | some node => simp [h i node hn]

theorem dfs_succ (m : Model) (f cur : Nat) (par : Option Nat) :
    dfs m (f + 1) cur par =
      match m.nodes[cur]? with
      | none => false
      | some node =>
        nodeLocalOK m cur par node &&
        node.dests.all (fun d => match d with
          | some d => dfs m f d (some cur)
          | none => false) := by
  rw [dfs]; cases m.nodes[cur]? <;> rfl

theorem dfs_true {m : Model} {f n : Nat} {par : Option Nat} (h : dfs m f n par = true) :
    ∃ f' node, f = f' + 1 ∧ m.nodes[n]? = some node ∧ nodeLocalOK m n par node = true ∧
      ∀ d ∈ node.dests, ∃ k, d = some k ∧ dfs m f' k (some n) = true := by
  cases f with
  | zero => simp [dfs] at h
  | succ f' =>
    rw [dfs_succ] at h
    cases hn : m.nodes[n]? with
    | none => simp [hn] at h
    | some node =>
      simp only [hn, Bool.and_eq_true, List.all_eq_true] at h
      refine ⟨f', node, rfl, rfl, h.1, ?_⟩
      intro d hd
      have := h.2 d hd
      cases d with
      | none => simp at this
      | some k => exact ⟨k, rfl, this⟩

theorem collect_self {m : Model} {f n : Nat} {par : Option Nat} (h : dfs m f n par = true) :
    n ∈ collect m f n := by
  obtain ⟨f', node, rfl, hn, _, _⟩ := dfs_true h
  simp [collect, hn]

theorem reach_collect {m : Model} {F : Nat} (h0 : dfs m F m.startId none = true) {x : Nat} (hr : Reach m x) :
    ∃ f par, dfs m f x par = true ∧ ∀ y ∈ collect m f x, y ∈ collect m F m.startId := by
  induction hr with
  | start => exact ⟨F, none, h0, fun y hy => hy⟩
  | @edge n d node _ hn hd ih =>
    obtain ⟨f, par, hf, hsub⟩ := ih
    obtain ⟨f', node', rfl, hn', _, hall⟩ := dfs_true hf
    rw [hn] at hn'; cases hn'
    obtain ⟨k, hk, hdk⟩ := hall _ hd
    cases hk
    refine ⟨f', some n, hdk, fun y hy => hsub y ?_⟩
    simp only [collect, hn, List.mem_cons, List.mem_flatMap]
    exact Or.inr ⟨some d, hd, hy⟩

theorem collect_reach_lt (m : Model) :
    ∀ (f x y : Nat), Reach m x → y ∈ collect m f x → Reach m y ∧ y < m.nodes.length := by
  intro f
  induction f with
  | zero => intro x y _ h; simp [collect] at h
  | succ f ih =>
    intro x y hx h
    unfold collect at h
    split at h
    · simp at h
    · rename_i node hn
      rcases List.mem_cons.mp h with rfl | h
      · exact ⟨hx, (List.getElem?_eq_some_iff.mp hn).1⟩
      · obtain ⟨d, hd, hy⟩ := List.mem_flatMap.mp h
        cases d with
        | none => simp at hy
        | some k => exact ih k y (Reach.edge hx hn hd) hy

theorem structCheck_iff (m : Model) :
    structCheck m = true ↔ versionOK m = true ∧ idsOK m = true ∧ dfs m (m.nodes.length + 1) m.startId none = true := by
  unfold structCheck
  simp only [Bool.and_eq_true, and_assoc]

theorem mem_collect_iff {m : Model} (hs : structCheck m = true) {x : Nat} :
    x ∈ collect m (m.nodes.length + 1) m.startId ↔ Reach m x := by
  constructor
  · exact fun h => (collect_reach_lt m _ _ _ Reach.start h).1
  · intro hr
    obtain ⟨f, par, hf, hsub⟩ := reach_collect ((structCheck_iff m).mp hs).2.2 hr
    exact hsub x (collect_self hf)

theorem sanityCheck_ok_iff (m : Model) : sanityCheck m = .ok () ↔ structCheck m = true ∧ signOK m = true := by
  unfold sanityCheck; cases structCheck m <;> cases signOK m <;> simp

theorem sanityCheck_modelError_iff (m : Model) : sanityCheck m = .error .modelError ↔ structCheck m = false := by
  unfold sanityCheck; cases structCheck m <;> cases signOK m <;> simp

theorem sanityCheck_semanticError_iff (m : Model) :
    sanityCheck m = .error .semanticError ↔ structCheck m = true ∧ signOK m = false := by
  unfold sanityCheck; cases structCheck m <;> cases signOK m <;> simp

theorem sanityCheck_error_classes (m : Model) (e : LvsErr) (h : sanityCheck m = .error e) :
    e = .modelError ∨ e = .semanticError := by
  unfold sanityCheck at h
  split at h
  · injection h with h; exact Or.inl h.symm
  · split at h
    · injection h with h; exact Or.inr h.symm
    · cases h

theorem sane_of_structCheck (m : Model) (h : structCheck m = true) : Sane m := by
  obtain ⟨hv, hids, h0⟩ := (structCheck_iff m).mp h
  have local_of : ∀ n node, Reach m n → m.nodes[n]? = some node →
      (∀ ve ∈ node.vEdges, vEdgeOK ve = true) ∧ (∀ pe ∈ node.pEdges, pEdgeOK pe = true) ∧
      (∀ k ∈ node.signCons, k < m.nodes.length) ∧
      ∀ d ∈ node.dests, ∃ k dn, d = some k ∧ m.nodes[k]? = some dn ∧ dn.parent = some n := by
    intro n node hr hn
    obtain ⟨f, par, hf, _⟩ := reach_collect h0 hr
    obtain ⟨f', node', _, hn', hl, hall⟩ := dfs_true hf
    rw [hn] at hn'; cases hn'
    obtain ⟨_, _, hve, hpe, hsc⟩ := (nodeLocalOK_iff _ _ _ _).mp hl
    refine ⟨hve, hpe, hsc, fun d hd => ?_⟩
    obtain ⟨k, hk, hdk⟩ := hall d hd
    obtain ⟨_, dn, _, hdn, hld, _⟩ := dfs_true hdk
    exact ⟨k, dn, hk, hdn, ((nodeLocalOK_iff _ _ _ _).mp hld).2.1⟩
  refine ⟨?_, ?_, (idsOK_iff m).mp hids, ?_, ?_, ?_⟩
  · unfold versionOK at hv
    cases hver : m.version with
    | none => simp [hver] at hv
    | some v => simp [hver] at hv; exact ⟨v, rfl, hv.1, hv.2⟩
  · obtain ⟨f', node, _, hn, hl, _⟩ := dfs_true h0
    exact ⟨node, hn, ((nodeLocalOK_iff _ _ _ _).mp hl).2.1⟩
  · intro n node hr hn
    obtain ⟨hve, hpe, _, hd⟩ := local_of n node hr hn
    exact ⟨fun ve hm => ((vEdgeOK_iff ve).mp (hve ve hm)).2, fun pe hm => ((pEdgeOK_iff pe).mp (hpe pe hm)).2.1, hd⟩
  · exact fun n node hr hn => (local_of n node hr hn).2.2.1
  · exact fun n node hr hn pe hpe => ((pEdgeOK_iff pe).mp ((local_of n node hr hn).2.1 pe hpe)).2.2

theorem sane_of_sanityCheck {m : Model} (h : sanityCheck m = .ok ()) : Sane m :=
  sane_of_structCheck m ((sanityCheck_ok_iff m).mp h).1

/-! ### the converse: the documented rules make the reachable part a tree, so `dfs` succeeds within its fuel -/

def parOf (m : Model) (x : Nat) : Option Nat := (m.nodes[x]?).bind (·.parent)

/-- the nodes on the recursion stack of `dfs`, current node first -/
inductive AncPath (m : Model) : List Nat → Prop
  | root : AncPath m [m.startId]
  | step {n d node rest} : AncPath m (n :: rest) → m.nodes[n]? = some node → some d ∈ node.dests →
      AncPath m (d :: n :: rest)

theorem AncPath.reach {m : Model} {p : List Nat} (h : AncPath m p) : ∀ x ∈ p, Reach m x := by
  induction h with
  | root => intro x hx; simp at hx; subst hx; exact Reach.start
  | step _ hn hd ih =>
    intro x hx
    rcases List.mem_cons.mp hx with rfl | hx
    · exact Reach.edge (ih _ (by simp)) hn hd
    · exact ih x hx

/-- on the stack every node has the next one for its parent, and the last one (the start node) none -/
theorem AncPath.par {m : Model} (hs : Sane m) {p : List Nat} (h : AncPath m p) :
    ∀ (i x : Nat), p[i]? = some x → parOf m x = p[i + 1]? := by
  induction h with
  | root =>
    intro i x hx
    obtain ⟨node, hn, hp⟩ := hs.root
    cases i with
    | zero => cases hx; simp [parOf, hn, hp]
    | succ i => cases hx
  | @step n d node rest hp hn hd ih =>
    intro i x hx
    cases i with
    | zero =>
      cases hx
      obtain ⟨k, dn, hk, hdn, hpar⟩ := (hs.edges n node (hp.reach n (by simp)) hn).2.2 _ hd
      cases hk
      simp [parOf, hdn, hpar]
    | succ i => exact ih i x hx

theorem AncPath.nodup {m : Model} (hs : Sane m) {p : List Nat} (h : AncPath m p) : p.Nodup := by
  induction h with
  | root => simp
  | @step n d node rest hp hn hd ih =>
    refine List.nodup_cons.mpr ⟨fun hmem => ?_, ih⟩
    -- were `d` on the stack already, its parent `n` would stand right below it, a second time
    obtain ⟨i, hi⟩ := List.mem_iff_getElem?.mp hmem
    have hn2 : rest[i]? = some n := (hp.par hs i d hi).symm.trans ((AncPath.step hp hn hd).par hs 0 d rfl)
    exact (List.nodup_cons.mp ih).1 (List.mem_of_getElem? hn2)

theorem nodeLocalOK_of_sane {m : Model} (hs : Sane m) {n : Nat} {node : Node} (hr : Reach m n)
    (hn : m.nodes[n]? = some node) (par : Option Nat) (hp : node.parent = par) :
    nodeLocalOK m n par node = true := by
  rw [nodeLocalOK_iff]
  obtain ⟨hval, htag, hdst⟩ := hs.edges n node hr hn
  refine ⟨hs.ids n node hn, hp, ?_, ?_, hs.signers n node hr hn⟩
  · intro ve hve
    obtain ⟨k, _, hk, _⟩ := hdst _ (vdest_mem_dests hve)
    exact (vEdgeOK_iff ve).mpr ⟨⟨k, hk⟩, hval ve hve⟩
  · intro pe hpe
    obtain ⟨k, _, hk, _⟩ := hdst _ (pdest_mem_dests hpe)
    exact (pEdgeOK_iff pe).mpr ⟨⟨k, hk⟩, htag pe hpe, hs.options n node hr hn pe hpe⟩

/-- the invariant of the recursion: fuel + depth of the stack stays above the number of nodes; the stack holds distinct
    nodes (`AncPath.nodup`), so the fuel cannot run out -/
theorem dfs_of_sane {m : Model} (hs : Sane m) :
    ∀ (f n : Nat) (rest : List Nat), AncPath m (n :: rest) → m.nodes.length + 1 ≤ f + (n :: rest).length →
      dfs m f n rest.head? = true
  | 0, n, rest, hp, hlen => by
    have hsub : n :: rest ⊆ List.range m.nodes.length := by
      intro x hx
      obtain ⟨node, hnode⟩ := (hp.reach x hx).node hs.treeOK
      exact List.mem_range.mpr (List.getElem?_eq_some_iff.mp hnode).1
    have := (hp.nodup hs).length_le_of_subset hsub
    rw [List.length_range] at this
    omega
  | f + 1, n, rest, hp, hlen => by
    have hr := hp.reach n (by simp)
    obtain ⟨node, hn⟩ := hr.node hs.treeOK
    have hpar : node.parent = rest.head? := by
      rw [List.head?_eq_getElem?]
      simpa [parOf, hn] using hp.par hs 0 n rfl
    rw [dfs_succ]
    simp only [hn, Bool.and_eq_true, List.all_eq_true]
    refine ⟨nodeLocalOK_of_sane hs hr hn _ hpar, ?_⟩
    intro d hd
    obtain ⟨k, dn, hk, _, _⟩ := (hs.edges n node hr hn).2.2 d hd
    subst hk
    exact dfs_of_sane hs f k (n :: rest) (AncPath.step hp hn hd) (by simp at hlen ⊢; omega)

theorem structCheck_of_sane (m : Model) (hs : Sane m) : structCheck m = true := by
  rw [structCheck_iff]
  refine ⟨?_, (idsOK_iff m).mpr hs.ids, ?_⟩
  · obtain ⟨v, hv, h1, h2⟩ := hs.version
    simp [versionOK, hv, h1, h2]
  · exact dfs_of_sane hs (m.nodes.length + 1) m.startId [] AncPath.root (by simp)

end Ndn.Lvs
