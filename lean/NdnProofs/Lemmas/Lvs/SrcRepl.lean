import NdnProofs.Lemmas.Lvs.SrcFresh
import NdnProofs.Lemmas.Lvs.SrcRename
import NdnProofs.Lemmas.Lvs.CompileSign
/-!
  Pass 3 (`_replicate_rules`): the chains of a rule implement exactly the expansions of its definitions.

  `Prog F own later cs ncs post nt ch fp` (`own`: the temporary numbers of the rule being walked; `later`: those of the
  rules still pending): while the name of a rule is walked through (`post` is what is left of it), the chain `ch`
  implements the definition truncated to the part already walked (`fp`); its temporary numbers are pairwise distinct,
  larger than the next fresh number `nt`, different from the numbers still to come in `post` and from `later`; the inlined
  constraint terms mention none of `own`; and every number of `own` that is not still to come is already in the chain
  (`ownIn`, which makes the finished chain closed: `prog_final`).
-/
namespace Ndn.Lvs

def Flat.app (a b : Flat) : Flat := ⟨a.items ++ b.items, a.ncons ++ b.ncons⟩
def Flat.one (it : SItem) : Flat := ⟨[it], []⟩
def Flat.empty : Flat := ⟨[], []⟩

theorem Flat.app_assoc (a b c : Flat) : (a.app b).app c = a.app (b.app c) := by
  simp [Flat.app, List.append_assoc]

theorem Flat.app_empty (a : Flat) : a.app Flat.empty = a := by
  simp [Flat.app, Flat.empty]

theorem Flat.empty_app (a : Flat) : Flat.empty.app a = a := by
  simp [Flat.app, Flat.empty]

/-- the next fresh number is below every number in use -/
structure NtOK (nt : Int) (own later : List Int) : Prop where
  neg : nt < 0
  own : ∀ t ∈ own, nt < t
  later : ∀ t ∈ later, nt < t

theorem NtOK.mono {nt nt' : Int} {own later : List Int} (h : NtOK nt own later) (hle : nt' ≤ nt) : NtOK nt' own later :=
  ⟨Int.lt_of_le_of_lt hle h.neg, fun t ht => Int.lt_of_le_of_lt hle (h.own t ht),
    fun t ht => Int.lt_of_le_of_lt hle (h.later t ht)⟩

structure Prog (F : List String) (own later : List Int) (cs : List (Term String String)) (ncs : List NTerm)
    (post : List (Comp Int)) (nt : Int) (ch : Chain) (fp : Flat) : Prop where
  impl : Impl F ch ⟨fp.items, namedCons cs ++ fp.ncons⟩
  nodup : (negTags ch.name).Nodup
  cons : ∃ inl, ch.cons = ncs ++ inl ∧ ∀ t ∈ termNegs inl, t ∈ negTags ch.name ∧ t ∉ own
  tags : ∀ t ∈ negTags ch.name, nt < t ∧ t ∉ negsOf post ∧ t ∉ later
  ownIn : ∀ t ∈ own, t ∉ negsOf post → t ∈ negTags ch.name

/-- a constraint set of the rule and its numbered form: the two facts that `Prog.temp` (`hnum`) and `Prog.join` /
    `prog_final` (`hncs`) take about it -/
def AltOK (F : List String) (tp : PyDict String (List Int)) (own : List Int) (cs : List (Term String String))
    (ncs : List NTerm) : Prop :=
  All2 (fun a b => numTerm F tp a = .ok b) cs ncs ∧ ∀ t ∈ termNegs ncs, t ∈ own

section
variable {F : List String} {own later : List Int} {cs : List (Term String String)} {ncs : List NTerm}
  {post : List (Comp Int)} {nt : Int} {ch : Chain} {fp : Flat}

theorem Prog.mono {nt' : Int} (h : Prog F own later cs ncs post nt ch fp) (hle : nt' ≤ nt) :
    Prog F own later cs ncs post nt' ch fp :=
  ⟨h.impl, h.nodup, h.cons, fun t ht => ⟨Int.lt_of_le_of_lt hle (h.tags t ht).1, (h.tags t ht).2⟩, h.ownIn⟩

theorem impl_snoc {N : List (String × List (Opt String))}
    {a : Atom} {it : SItem} (h : Impl F ch ⟨fp.items, N ++ fp.ncons⟩) (hit : ItemNum F it (resItem ch.cons a)) :
    Impl F (ch.snoc a) ⟨(fp.app (Flat.one it)).items, N ++ (fp.app (Flat.one it)).ncons⟩ := by
  constructor
  · show All2 _ (fp.items ++ [it]) ((ch.name ++ [a]).map _)
    rw [List.map_append]
    exact h.1.append (.cons hit .nil)
  · show All2 _ (N ++ (fp.ncons ++ [])) _
    rw [List.append_nil]
    exact h.2

/-- a component that is not a reference: `ts` are the temporary numbers it writes (none, or its own) -/
theorem Prog.snoc {c : Comp Int} {a : Atom} {it : SItem} (ts : List Int)
    (hc : negsOf (c :: post) = ts ++ negsOf post) (ha : negTags [a] = ts) (hpnd : (negsOf (c :: post)).Nodup)
    (hts : ∀ t ∈ ts, nt < t ∧ t ∉ later) (hit : ItemNum F it (resItem ch.cons a))
    (h : Prog F own later cs ncs (c :: post) nt ch fp) :
    Prog F own later cs ncs post nt (ch.snoc a) (fp.app (Flat.one it)) := by
  have hname : negTags (ch.snoc a).name = negTags ch.name ++ ts := by
    show negTags (ch.name ++ [a]) = _
    rw [negTags_append, ha]
  have htags := hc ▸ h.tags
  have hownIn := hc ▸ h.ownIn
  obtain ⟨hnd, _, hdj⟩ := List.nodup_append.mp (hc ▸ hpnd)
  obtain ⟨inl, hinl, hinlp⟩ := h.cons
  refine ⟨impl_snoc h.impl hit, ?_, ?_, ?_, ?_⟩ <;> rw [hname]
  · exact List.nodup_append.mpr ⟨h.nodup, hnd, fun u hu v hv he => (htags u hu).2.1 (List.mem_append_left _ (he ▸ hv))⟩
  · exact ⟨inl, hinl, fun u hu => ⟨List.mem_append_left _ (hinlp u hu).1, (hinlp u hu).2⟩⟩
  · intro u hu
    rcases List.mem_append.mp hu with hu | hu
    · exact ⟨(htags u hu).1, fun hm => (htags u hu).2.1 (List.mem_append_right _ hm), (htags u hu).2.2⟩
    · exact ⟨(hts u hu).1, fun hm => hdj u hu u hm rfl, (hts u hu).2⟩
  · intro u hu hn
    by_cases hut : u ∈ ts
    · exact List.mem_append_right _ hut
    · exact List.mem_append_left _ (hownIn u hu fun hm => (List.mem_append.mp hm).elim hut hn)

theorem Prog.temp {tp : PyDict String (List Int)} {p : String} {t : Int} (hp : isTempPat p = true) (ht : t < 0)
    (hfact : ∀ p' l, PyDict.get? tp p' = some l → (t ∈ l ↔ p' = p))
    (hnum : All2 (fun a b => numTerm F tp a = .ok b) cs ncs)
    (hown : t ∈ own) (hdisj : ∀ u ∈ own, u ∉ later) (hnt : nt < t) (hpnd : (negsOf (.pat t :: post)).Nodup)
    (h : Prog F own later cs ncs (.pat t :: post) nt ch fp) :
    Prog F own later cs ncs post nt (ch.snoc (.pat t)) (fp.app (Flat.one (.temp (tempCons cs p)))) := by
  obtain ⟨inl, hinl, hinlp⟩ := h.cons
  refine h.snoc [t] (by rw [negsOf_cons_pat, if_pos ht]; rfl) (by rw [negTags_cons_pat, if_pos ht]; rfl) hpnd
    (fun u hu => List.mem_singleton.mp hu ▸ ⟨hnt, hdisj t hown⟩) ?_
  -- the inlined terms mention no number of the rule itself, so the terms on `t` are the rule's own
  rw [resItem_pat, if_pos ht, hinl, List.filter_append, filter_contains_nil ht (fun hm => (hinlp t hm).2 hown),
    List.append_nil]
  exact .temp _ _ (own_temp_filter hp ht hfact hnum)

theorem Prog.join {q rid : String} {fr : Chain} {g : Flat} (hpost : ∀ t ∈ negsOf post, t ∈ own)
    (hncs : ∀ t ∈ termNegs ncs, t ∈ own) (hcl : ChainClosed fr) (hg : Impl F fr g)
    (hfr : ∀ t ∈ negTags fr.name, nt < t ∧ t ∉ negTags ch.name ∧ t ∉ own ∧ t ∉ later)
    (h : Prog F own later cs ncs (.ref q :: post) nt ch fp) :
    Prog F own later cs ncs post nt (joinChain rid ch fr) (fp.app g) := by
  obtain ⟨inl, hinl, hinlp⟩ := h.cons
  have hd1 : ∀ t ∈ negTags ch.name, t ∉ termNegs fr.cons := fun t ht hm => (hfr t (hcl.closed t hm)).2.1 ht
  -- the terms of `ch` mention own numbers or numbers of `ch`
  have hd2 : ∀ t ∈ negTags fr.name, t ∉ termNegs ch.cons := by
    intro t ht hm
    rw [hinl, termNegs_append] at hm
    rcases List.mem_append.mp hm with hm | hm
    · exact (hfr t ht).2.2.1 (hncs t hm)
    · exact (hfr t ht).2.1 (hinlp t hm).1
  have hjt : negTags (joinChain rid ch fr).name = negTags ch.name ++ negTags fr.name := negTags_append _ _
  refine ⟨⟨?_, ?_⟩, ?_, ?_, ?_, ?_⟩
  · show All2 (ItemNum F) (fp.items ++ g.items) ((ch.name ++ fr.name).map (resItem (ch.cons ++ fr.cons)))
    rw [List.map_append, resItems_append_right _ _ _ hd1, resItems_append_left _ _ _ hd2]
    exact h.impl.1.append hg.1
  · show All2 (NconsNum F) (namedCons cs ++ (fp.ncons ++ g.ncons)) (resCons (ch.cons ++ fr.cons))
    rw [resCons_append, ← List.append_assoc]
    exact h.impl.2.append hg.2
  · rw [hjt, List.nodup_append]
    exact ⟨h.nodup, hcl.nodup, fun a ha b hb he => (hfr b hb).2.1 (he ▸ ha)⟩
  · refine ⟨inl ++ fr.cons, (congrArg (· ++ fr.cons) hinl).trans (List.append_assoc ..), fun t ht => ?_⟩
    rw [termNegs_append] at ht
    rw [hjt]
    rcases List.mem_append.mp ht with ht | ht
    · exact ⟨List.mem_append_left _ (hinlp t ht).1, (hinlp t ht).2⟩
    · exact ⟨List.mem_append_right _ (hcl.closed t ht), (hfr t (hcl.closed t ht)).2.2.1⟩
  · rw [hjt]
    intro t ht
    rcases List.mem_append.mp ht with ht | ht
    · exact h.tags t ht
    · exact ⟨(hfr t ht).1, fun hm => (hfr t ht).2.2.1 (hpost t hm), (hfr t ht).2.2.2⟩
  · rw [hjt]
    exact fun t ht hn => List.mem_append_left _ (h.ownIn t ht hn)

end

/-- a chain of a referenced rule is inlined (with fresh temporary numbers where needed) -/
theorem Prog.inline {F : List String} {own later : List Int} {cs : List (Term String String)} {ncs : List NTerm}
    {post : List (Comp Int)} {nt : Int} {ch : Chain} {fp : Flat} {q rid : String} {refc : Chain} {g : Flat}
    (hnt : NtOK nt own later) (hpost : ∀ t ∈ negsOf post, t ∈ own)
    (hncs : ∀ t ∈ termNegs ncs, t ∈ own)
    (hcl : ChainClosed refc) (hrt : ∀ t ∈ negTags refc.name, nt < t ∧ t ∉ own ∧ t ∉ later) (hg : Impl F refc g)
    (h : Prog F own later cs ncs (.ref q :: post) nt ch fp) :
    Prog F own later cs ncs post (freshTempTags ch refc nt).2 (joinChain rid ch (freshTempTags ch refc nt).1) (fp.app g) := by
  obtain ⟨himpl, hfcl, hfr⟩ := freshTempTags_impl (ch := ch) hnt.neg hcl (fun t ht => (hrt t ht).1) hg
  have hle := freshTempTags_le ch refc nt
  refine .join hpost hncs hfcl himpl (fun t ht => ?_) (h.mono hle)
  -- a number of the fresh range is below everything in use
  rcases hfr t ht with ⟨hr, hnc⟩ | ⟨hlt, hlen⟩
  · exact ⟨Int.lt_of_le_of_lt hle (hrt t hr).1, hnc, (hrt t hr).2⟩
  · exact ⟨hlt, fun hm => Int.lt_irrefl _ (Int.lt_of_lt_of_le (h.tags _ hm).1 hlen),
      fun hm => Int.lt_irrefl _ (Int.lt_of_lt_of_le (hnt.own _ hm) hlen),
      fun hm => Int.lt_irrefl _ (Int.lt_of_lt_of_le (hnt.later _ hm) hlen)⟩

/-- the chains stored so far: closed, with temporary numbers above `nt` that no pending rule uses -/
def RepTags (own later : List Int) (nt : Int) (rep : PyDict String (List Chain)) : Prop :=
  ∀ q chains, PyDict.get? rep q = some chains → ∀ c ∈ chains,
    ChainClosed c ∧ ∀ t ∈ negTags c.name, nt < t ∧ t ∉ own ∧ t ∉ later

theorem RepTags.mono {own later : List Int} {nt nt' : Int} {rep : PyDict String (List Chain)}
    (h : RepTags own later nt rep) (hle : nt' ≤ nt) : RepTags own later nt' rep := by
  intro q chains hq c hc
  obtain ⟨h1, h2⟩ := h q chains hq c hc
  exact ⟨h1, fun t ht => ⟨Int.lt_of_le_of_lt hle (h2 t ht).1, (h2 t ht).2⟩⟩

/-- walking the rest `spost` / `post` of a name takes the chains `cur` (next fresh number `nt`) to the chains `res`
    (next fresh number `nt'`): every chain of `res` continues a chain of `cur` by an expansion of `spost`, and every
    expansion of `spost` is the continuation of every chain of `cur` in some chain of `res` -/
def Walked (F : List String) (S : Schema) (tp : PyDict String (List Int)) (own later : List Int)
    (spost : List (Comp String)) (post : List (Comp Int)) (cur : List Chain) (nt : Int) (res : List Chain)
    (nt' : Int) : Prop :=
  nt' ≤ nt ∧
  (∀ ch' ∈ res, ∃ ch ∈ cur, ∀ cs ncs fp, AltOK F tp own cs ncs → Prog F own later cs ncs post nt ch fp →
    ∃ g, ExpandsName S cs spost g ∧ Prog F own later cs ncs [] nt' ch' (fp.app g)) ∧
  (∀ ch ∈ cur, ∀ cs ncs fp, AltOK F tp own cs ncs → Prog F own later cs ncs post nt ch fp →
    ∀ g, ExpandsName S cs spost g → ∃ ch' ∈ res, Prog F own later cs ncs [] nt' ch' (fp.app g))

theorem initChains_alts {F : List String} {tp : PyDict String (List Int)} {sr : SRule} {nr : NRule}
    (h : mapE (mapE (numTerm F tp)) sr.cons = .ok nr.cons) :
    All2 (fun cs ch => ch.name = [] ∧ mapE (numTerm F tp) cs = .ok ch.cons) (altsOf sr) (initChains nr) := by
  have hall := mapE_all2 h
  unfold altsOf initChains
  generalize sr.cons = scons, nr.cons = ncons at hall ⊢
  cases hall with
  | nil => exact .cons ⟨rfl, rfl⟩ .nil
  | cons hr hrest =>
    refine .cons ⟨rfl, hr⟩ ?_
    induction hrest with
    | nil => exact .nil
    | cons hr' _ ih => exact .cons ⟨rfl, hr'⟩ ih

theorem prog_init {F : List String} {tp : PyDict String (List Int)} {later : List Int} {nt : Int}
    {cs : List (Term String String)} {ch : Chain} {name : List (Comp Int)} (htp : TpNegs tp name)
    (hname : ch.name = []) (hnum : mapE (numTerm F tp) cs = .ok ch.cons) :
    AltOK F tp (negsOf name) cs ch.cons ∧ Prog F (negsOf name) later cs ch.cons name nt ch Flat.empty := by
  have hall := mapE_all2 hnum
  have hneg : ∀ p l, PyDict.get? tp p = some l → ∀ t ∈ l, t < 0 := fun p l hl t ht =>
    (mem_negsOf.mp (htp p l hl t ht)).2
  refine ⟨⟨hall, fun t ht => ?_⟩, ⟨⟨?_, ?_⟩, ?_, ⟨[], by simp, by simp [termNegs]⟩, ?_, ?_⟩⟩
  · obtain ⟨p, l, hl, htl⟩ := own_termNegs hall t ht
    exact htp p l hl t htl
  · rw [hname]; exact .nil
  · show All2 (NconsNum F) (namedCons cs ++ []) _
    rw [List.append_nil]
    exact own_named_resCons hneg hall
  · rw [hname]; simp [negTags, atomTags]
  · rw [hname]; simp [negTags, atomTags]
  · intro t ht hn; exact absurd ht hn

theorem prog_final {F : List String} {own later : List Int} {cs : List (Term String String)} {ncs : List NTerm} {nt : Int}
    {ch : Chain} {g : Flat} (hncs : ∀ t ∈ termNegs ncs, t ∈ own) (h : Prog F own later cs ncs [] nt ch g) :
    Impl F ch ⟨g.items, namedCons cs ++ g.ncons⟩ ∧ ChainClosed ch ∧ ∀ t ∈ negTags ch.name, nt < t ∧ t ∉ later := by
  obtain ⟨inl, hinl, hinlp⟩ := h.cons
  refine ⟨h.impl, ⟨h.nodup, fun t ht => ?_⟩, fun t ht => ⟨(h.tags t ht).1, (h.tags t ht).2.2⟩⟩
  rw [hinl, termNegs_append] at ht
  rcases List.mem_append.mp ht with ht | ht
  · exact h.ownIn t (hncs t ht) (by simp [negsOf, patsOf])
  · exact (hinlp t ht).1

section
variable {F : List String} {S : Schema} {tp : PyDict String (List Int)} {own later : List Int}

/-- a component that is not a reference: every chain gets the atom `a`, every expansion the item `it cs` -/
theorem Walked.snoc {sc : Comp String} {sr : List (Comp String)} {c : Comp Int} {r : List (Comp Int)} {cur res : List Chain}
    {nt nt' : Int} {a : Atom} {it : List (Term String String) → SItem}
    (hstep : ∀ cs ncs fp ch, AltOK F tp own cs ncs → Prog F own later cs ncs (c :: r) nt ch fp →
      Prog F own later cs ncs r nt (ch.snoc a) (fp.app (Flat.one (it cs))))
    (hintro : ∀ cs g, ExpandsName S cs sr g → ExpandsName S cs (sc :: sr) ((Flat.one (it cs)).app g))
    (hinv : ∀ cs g, ExpandsName S cs (sc :: sr) g → ∃ g', ExpandsName S cs sr g' ∧ g = (Flat.one (it cs)).app g')
    (h : Walked F S tp own later sr r (cur.map (·.snoc a)) nt res nt') :
    Walked F S tp own later (sc :: sr) (c :: r) cur nt res nt' := by
  obtain ⟨i1, i2, i3⟩ := h
  refine ⟨i1, fun ch' hch' => ?_, fun ch hch cs ncs fp halt hp g hg => ?_⟩
  · obtain ⟨ch1, hch1, hp1⟩ := i2 ch' hch'
    obtain ⟨ch, hch, rfl⟩ := List.mem_map.mp hch1
    refine ⟨ch, hch, fun cs ncs fp halt hp => ?_⟩
    obtain ⟨g, hg, hpg⟩ := hp1 cs ncs _ halt (hstep cs ncs fp ch halt hp)
    exact ⟨_, hintro cs g hg, Flat.app_assoc _ _ _ ▸ hpg⟩
  · obtain ⟨g', hg', rfl⟩ := hinv cs g hg
    obtain ⟨ch', hch', hpg⟩ := i3 _ (List.mem_map_of_mem hch) cs ncs _ halt (hstep cs ncs fp ch halt hp) _ hg'
    exact ⟨ch', hch', Flat.app_assoc _ _ _ ▸ hpg⟩

/-- a reference: every chain is joined with every chain of the referenced rule, every expansion with every
    expansion of that rule -/
theorem Walked.inline {rid q : String} {rep : PyDict String (List Chain)} {sr : List (Comp String)} {r : List (Comp Int)}
    {cur res reps : List Chain} {nt nt' : Int} (hnt : NtOK nt own later) (hrt : RepTags own later nt rep)
    (hpown : ∀ t ∈ negsOf r, t ∈ own) (hget : PyDict.get? rep q = some reps)
    (hsound : ∀ c ∈ reps, ∃ g, Expands S q g ∧ Impl F c g) (hqtemp : isTempRule q = false)
    (hcomp : ∀ g, Expands S q g → ∃ c ∈ reps, Impl F c g)
    (h : Walked F S tp own later sr r (inlineRef rid reps cur nt).1 (inlineRef rid reps cur nt).2 res nt') :
    Walked F S tp own later (.ref q :: sr) (.ref q :: r) cur nt res nt' := by
  obtain ⟨m1, m2, m3⟩ := inlineRef_mem rid reps cur nt
  obtain ⟨i1, i2, i3⟩ := h
  have hstep : ∀ (refc : Chain), refc ∈ reps → ∀ (ch : Chain) (nt2 : Int), nt2 ≤ nt → ∀ g1, Impl F refc g1 →
      ∀ cs ncs fp, AltOK F tp own cs ncs → Prog F own later cs ncs (.ref q :: r) nt ch fp →
      Prog F own later cs ncs r (freshTempTags ch refc nt2).2 (joinChain rid ch (freshTempTags ch refc nt2).1)
        (fp.app g1) := by
    intro refc hrefc ch nt2 hle g1 hg1 cs ncs fp halt hp
    obtain ⟨hcl, htg⟩ := (hrt.mono hle) q reps hget refc hrefc
    exact Prog.inline (hnt.mono hle) hpown halt.2 hcl htg hg1 (hp.mono hle)
  refine ⟨Int.le_trans i1 m1, ?_, ?_⟩
  · intro ch' hch'
    obtain ⟨ch1, hch1, hq1⟩ := i2 ch' hch'
    obtain ⟨refc, hrefc, ch, hch, nt2, hle, hle2, rfl⟩ := m2 ch1 hch1
    obtain ⟨g1, hg1e, hg1⟩ := hsound refc hrefc
    refine ⟨ch, hch, fun cs ncs fp halt hp => ?_⟩
    obtain ⟨g, hg, hpg⟩ := hq1 cs ncs _ halt ((hstep refc hrefc ch nt2 hle g1 hg1 cs ncs fp halt hp).mono hle2)
    exact ⟨g1.app g, .ref hqtemp hg1e hg, Flat.app_assoc _ _ _ ▸ hpg⟩
  · intro ch hch cs ncs fp halt hp g hg
    cases hg with
    | @ref _ _ _ g1 g2 _ hg1e hg2 =>
      obtain ⟨refc, hrefc, hg1⟩ := hcomp g1 hg1e
      obtain ⟨nt2, hle, hle2, hin⟩ := m3 refc hrefc ch hch
      obtain ⟨ch', hch', hpg⟩ := i3 _ hin cs ncs _ halt
        ((hstep refc hrefc ch nt2 hle g1 hg1 cs ncs fp halt hp).mono hle2) _ hg2
      exact ⟨ch', hch', Flat.app_assoc fp g1 g2 ▸ hpg⟩

theorem expandName_prog {rid : String} {rep : PyDict String (List Chain)} (hdisj : ∀ u ∈ own, u ∉ later)
    (hsound : ∀ q chains, PyDict.get? rep q = some chains → ∀ c ∈ chains, ∃ g, Expands S q g ∧ Impl F c g) :
    ∀ {spost : List (Comp String)} {post : List (Comp Int)}, All2 (CompNum F tp) spost post →
    (∀ t ∈ negsOf post, t ∈ own) → (negsOf post).Nodup →
    (∀ q, Comp.ref q ∈ spost → isTempRule q = false ∧ ∀ g, Expands S q g →
      ∃ chains, PyDict.get? rep q = some chains ∧ ∃ c ∈ chains, Impl F c g) →
    ∀ (cur : List Chain) (nt : Int) (res : List Chain) (nt' : Int), NtOK nt own later → RepTags own later nt rep →
    expandName rid rep post cur nt = .ok (res, nt') → Walked F S tp own later spost post cur nt res nt' := by
  intro spost post hall
  induction hall with
  | nil =>
    intro _ _ _ cur nt res nt' _ _ h
    obtain ⟨rfl, rfl⟩ := Prod.mk.inj (Except.ok.inj h)
    refine ⟨Int.le_refl _, fun ch' hch' => ⟨ch', hch', fun cs ncs fp _ hp => ⟨Flat.empty, .nil, ?_⟩⟩,
      fun ch hch cs ncs fp _ hp g hg => ⟨ch, hch, ?_⟩⟩
    · rw [Flat.app_empty]; exact hp
    · cases hg
      exact (Flat.app_empty fp).symm ▸ hp
  | @cons sc c sr r hc hrest ih =>
    intro hpown hpnd hrefs cur nt res nt' hnt hrt h
    have hrefs' : ∀ q, Comp.ref q ∈ sr → isTempRule q = false ∧ ∀ g, Expands S q g →
        ∃ chains, PyDict.get? rep q = some chains ∧ ∃ c ∈ chains, Impl F c g :=
      fun q hq => hrefs q (List.mem_cons_of_mem _ hq)
    cases hc with
    | lit v =>
      refine .snoc (a := .lit v) (it := fun _ => .lit v) (fun _ _ _ _ _ hp => hp.snoc [] rfl rfl hpnd (fun _ h => nomatch h) (.lit v)) (fun _ _ hg => .lit hg)
        (fun _ _ hg => ?_) (ih hpown hpnd hrefs' _ nt res nt' hnt hrt h)
      cases hg with
      | lit hg' => exact ⟨_, hg', rfl⟩
    | named p hp1 hp2 =>
      have hnn : ¬ tagIn F p < 0 := Int.not_lt.mpr (Int.le_of_lt (tagIn_pos F p))
      have hpe : negsOf (.pat (tagIn F p) :: r) = negsOf r := by rw [negsOf_cons_pat, if_neg hnn]
      refine .snoc (a := .pat (tagIn F p)) (it := fun _ => .named p)
        (fun _ _ _ ch _ hp => hp.snoc [] hpe (by rw [negTags_cons_pat, if_neg hnn]; rfl) hpnd (fun _ h => nomatch h)
          (by rw [resItem_pat, if_neg hnn]; exact .named p hp1 hp2))
        (fun _ _ hg => .named hp1 hg) (fun _ _ hg => ?_)
        (ih (hpe ▸ hpown) (hpe ▸ hpnd) hrefs' _ nt res nt' hnt hrt h)
      cases hg with
      | named _ hg' => exact ⟨_, hg', rfl⟩
      | temp hpt _ => exact absurd (hp1 ▸ hpt) Bool.false_ne_true
    | temp p t hp1 ht hfact =>
      have hpe : negsOf (.pat t :: r) = t :: negsOf r := by rw [negsOf_cons_pat, if_pos ht]
      have htown : t ∈ own := hpown t (hpe ▸ List.mem_cons_self)
      refine .snoc (a := .pat t) (it := fun cs => .temp (tempCons cs p))
        (fun _ _ _ _ halt hp => hp.temp hp1 ht hfact halt.1 htown hdisj (hnt.own t htown) hpnd)
        (fun _ _ hg => .temp hp1 hg) (fun _ _ hg => ?_)
        (ih (fun u hu => hpown u (hpe ▸ List.mem_cons_of_mem _ hu)) (List.nodup_cons.mp (hpe ▸ hpnd)).2 hrefs' _ nt res nt'
          hnt hrt h)
      cases hg with
      | named hpt _ => exact absurd (hpt.symm.trans hp1) Bool.false_ne_true
      | temp _ hg' => exact ⟨_, hg', rfl⟩
    | ref q =>
      rw [negsOf_cons_ref] at hpown hpnd
      simp only [expandName] at h
      split at h
      · exact nomatch h
      · rename_i reps hget
        obtain ⟨hqtemp, hqcomp⟩ := hrefs q List.mem_cons_self
        refine .inline hnt hrt hpown hget (hsound q reps hget) hqtemp (fun g hg => ?_)
          (ih hpown hpnd hrefs' _ _ res nt' (hnt.mono (inlineRef_mem rid reps cur nt).1)
            (hrt.mono (inlineRef_mem rid reps cur nt).1) h)
        obtain ⟨chains, hchains, hc⟩ := hqcomp g hg
        exact Option.some.inj (hget.symm.trans hchains) ▸ hc

theorem Walked.rule {sr : SRule} {nr : NRule} {nt nt' : Int} {cur : List Chain} (htp : TpNegs tp nr.name)
    (hcons : mapE (mapE (numTerm F tp)) sr.cons = .ok nr.cons)
    (h : Walked F S tp (negsOf nr.name) later sr.name nr.name (initChains nr) nt cur nt') :
    (∀ c ∈ cur, ChainClosed c ∧ (∀ t ∈ negTags c.name, nt' < t ∧ t ∉ later) ∧ ∃ f, ExpandsDef S sr f ∧ Impl F c f) ∧
    ∀ f, ExpandsDef S sr f → ∃ c ∈ cur, Impl F c f := by
  obtain ⟨_, e2, e3⟩ := h
  have hinit := initChains_alts hcons
  constructor
  · intro c hc
    obtain ⟨ch0, hch0, himp⟩ := e2 c hc
    obtain ⟨cs, hcs, hn0, hnum0⟩ := hinit.mem_right ch0 hch0
    obtain ⟨halt, hp0⟩ := prog_init (later := later) (nt := nt) htp hn0 hnum0
    obtain ⟨g, hg, hpg⟩ := himp cs ch0.cons Flat.empty halt hp0
    rw [Flat.empty_app] at hpg
    obtain ⟨f1, f2, f3⟩ := prog_final halt.2 hpg
    exact ⟨f2, f3, _, ⟨cs, hcs, g, hg, rfl⟩, f1⟩
  · rintro f ⟨cs, hcs, g, hg, rfl⟩
    obtain ⟨ch0, hch0, hn0, hnum0⟩ := hinit.mem_left cs hcs
    obtain ⟨halt, hp0⟩ := prog_init (later := later) (nt := nt) htp hn0 hnum0
    obtain ⟨c, hc, hpg⟩ := e3 ch0 hch0 cs ch0.cons Flat.empty halt hp0 g hg
    rw [Flat.empty_app] at hpg
    exact ⟨c, hc, (prog_final halt.2 hpg).1⟩

end

/-- what `rep_rules` means once the definitions `done` were replicated -/
structure RepSem (F : List String) (S : Schema) (done : List SRule) (rep : PyDict String (List Chain)) : Prop where
  sound : ∀ q chains, PyDict.get? rep q = some chains → ∀ c ∈ chains,
    c.id = q ∧ ∃ r ∈ done, r.id = q ∧ c.sign = isort strLe r.sign ∧ ∃ f, ExpandsDef S r f ∧ Impl F c f
  complete : ∀ r ∈ done, ∀ f, ExpandsDef S r f → ∃ chains, PyDict.get? rep r.id = some chains ∧
    ∃ c ∈ chains, c.sign = isort strLe r.sign ∧ Impl F c f

section
variable {F : List String} {S : Schema} {done : List SRule} {rep : PyDict String (List Chain)}

theorem RepSem.sound_expands (h : RepSem F S done rep) (hd : ∀ r ∈ done, r ∈ S.rules) (q : String) (chains : List Chain)
    (hq : PyDict.get? rep q = some chains) (c : Chain) (hc : c ∈ chains) : ∃ g, Expands S q g ∧ Impl F c g := by
  obtain ⟨_, r, hr, hrq, _, f, hf, himpl⟩ := h.sound q chains hq c hc
  exact ⟨f, expands_iff.mpr ⟨r, hd r hr, hrq, hf⟩, himpl⟩

theorem RepSem.complete_expands (h : RepSem F S done rep) {q : String} (hq : ∀ r ∈ S.rules, r.id = q → r ∈ done) {g : Flat}
    (hg : Expands S q g) : ∃ chains, PyDict.get? rep q = some chains ∧ ∃ c ∈ chains, Impl F c g := by
  obtain ⟨r, hr, rfl, hf⟩ := expands_iff.mp hg
  obtain ⟨chains, hch, c, hc, _, himpl⟩ := h.complete r (hq r hr rfl) g hf
  exact ⟨chains, hch, c, hc, himpl⟩

theorem RepSem.add (h : RepSem F S done rep) {sr : SRule} {cur : List Chain}
    (hid : ∀ c ∈ cur, c.id = sr.id ∧ c.sign = isort strLe sr.sign) (hs : ∀ c ∈ cur, ∃ f, ExpandsDef S sr f ∧ Impl F c f)
    (hc : ∀ f, ExpandsDef S sr f → ∃ c ∈ cur, Impl F c f) : RepSem F S (done ++ [sr]) (repAdd rep sr.id cur) := by
  constructor
  · intro q chains hq c hcm
    rcases has_repAdd.mp ⟨chains, hq, hcm⟩ with ⟨old, hold, hco⟩ | ⟨rfl, hcc⟩
    · obtain ⟨h1, r, hr, h2⟩ := h.sound q old hold c hco
      exact ⟨h1, r, List.mem_append_left _ hr, h2⟩
    · exact ⟨(hid c hcc).1, sr, List.mem_append_right _ (List.mem_singleton_self _), rfl, (hid c hcc).2, hs c hcc⟩
  · intro r hr f hf
    rcases List.mem_append.mp hr with hr | hr
    · obtain ⟨chains, hch, c, hcm, hsg⟩ := h.complete r hr f hf
      obtain ⟨v, hv, hcv⟩ := has_repAdd.mpr (.inl ⟨chains, hch, hcm⟩)
      exact ⟨v, hv, c, hcv, hsg⟩
    · cases List.mem_singleton.mp hr
      obtain ⟨c, hcm, himpl⟩ := hc f hf
      obtain ⟨v, hv, hcv⟩ := has_repAdd.mpr (.inr ⟨rfl, hcm⟩)
      exact ⟨v, hv, c, hcv, (hid c hcm).2, himpl⟩

end

/-- in the order `done ++ srs` every reference made by a rule of `srs` points backwards: all definitions of the rule
    referred to come earlier (and it is not a temporary rule) -/
def RefsDone (S : Schema) (done srs : List SRule) : Prop :=
  ∀ pre x post, srs = pre ++ x :: post → ∀ q, Comp.ref q ∈ x.name →
    isTempRule q = false ∧ ∀ r' ∈ S.rules, r'.id = q → r' ∈ done ∨ r' ∈ pre

def pendNegs (nrs : List NRule) : List Int := nrs.flatMap fun nr => negsOf nr.name

theorem RefsDone.tail {S : Schema} {done srs : List SRule} {sr : SRule} (h : RefsDone S done (sr :: srs)) :
    RefsDone S (done ++ [sr]) srs := by
  intro pre x post hsp q hq
  obtain ⟨h1, h2⟩ := h (sr :: pre) x post (hsp ▸ rfl) q hq
  refine ⟨h1, fun r' hr' hr'q => ?_⟩
  rcases h2 r' hr' hr'q with hd | hd
  · exact Or.inl (List.mem_append_left _ hd)
  · rcases List.mem_cons.mp hd with rfl | hd
    · exact Or.inl (List.mem_append_right _ (List.mem_singleton_self _))
    · exact Or.inr hd

theorem RepTags.split {own later : List Int} {nt : Int} {rep : PyDict String (List Chain)}
    (h : RepTags [] (own ++ later) nt rep) : RepTags own later nt rep := fun q chains hq c hc =>
  ⟨(h q chains hq c hc).1, fun t ht => ⟨((h q chains hq c hc).2 t ht).1,
    fun hm => ((h q chains hq c hc).2 t ht).2.2 (List.mem_append_left _ hm),
    fun hm => ((h q chains hq c hc).2 t ht).2.2 (List.mem_append_right _ hm)⟩⟩

theorem replicateLoop_sem {F : List String} {S : Schema} : ∀ {srs : List SRule} {nrs : List NRule},
    All2 (RuleNum F) srs nrs → ∀ (done : List SRule) (rep : PyDict String (List Chain)) (nt : Int)
    (res : PyDict String (List Chain)), (∀ r ∈ done, r ∈ S.rules) → (∀ r ∈ srs, r ∈ S.rules) → RefsDone S done srs →
    (pendNegs nrs).Nodup → NtOK nt [] (pendNegs nrs) → RepTags [] (pendNegs nrs) nt rep → RepSem F S done rep →
    replicateLoop nrs rep nt = .ok res →
    RepSem F S (done ++ srs) res ∧ ∀ q chains, PyDict.get? res q = some chains → ∀ c ∈ chains, ChainClosed c := by
  intro srs nrs hall
  induction hall with
  | nil =>
    intro done rep nt res _ _ _ _ _ hrt hsem h
    simp only [replicateLoop] at h
    injection h with h; subst h
    rw [List.append_nil]
    exact ⟨hsem, fun q chains hq c hc => (hrt q chains hq c hc).1⟩
  | @cons sr nr srs' nrs' hnum hrest ih =>
    intro done rep nt res hdoneS hsrsS hrefs hpnd hnt hrt hsem h
    obtain ⟨hid, hsg, tp, hname, htp, hcons⟩ := hnum
    unfold replicateLoop at h
    split at h
    · exact nomatch h
    · rename_i cur nt' hexp
      -- the numbers of this rule and of the rules to come
      have hpe : pendNegs (nr :: nrs') = negsOf nr.name ++ pendNegs nrs' := by simp [pendNegs]
      rw [hpe] at hpnd hnt hrt
      rw [List.nodup_append] at hpnd
      obtain ⟨hownnd, hlaternd, hdisj⟩ := hpnd
      have hnt' : NtOK nt (negsOf nr.name) (pendNegs nrs') :=
        ⟨hnt.neg, fun t ht => hnt.later t (List.mem_append_left _ ht), fun t ht => hnt.later t (List.mem_append_right _ ht)⟩
      -- every definition of a rule referred to is among `done`: nothing comes before `sr` in `sr :: srs'`
      have hrefs0 := hrefs [] sr srs' rfl
      have hw := expandName_prog (rid := nr.id) (fun u hu hm => hdisj u hu u hm rfl) (hsem.sound_expands hdoneS) hname
        (fun t ht => ht) hownnd (fun q hq => ⟨(hrefs0 q hq).1, fun g => hsem.complete_expands fun r' hr' he =>
          ((hrefs0 q hq).2 r' hr' he).resolve_right nofun⟩) (initChains nr) nt cur nt' hnt' hrt.split hexp
      obtain ⟨hcurS, hcurC⟩ := hw.rule htp hcons
      have hcurf : ∀ c ∈ cur, c.id = nr.id ∧ c.sign = isort strLe sr.sign :=
        hsg ▸ expandName_fields nr.id (isort strLe nr.sign) rep nr.name (initChains nr) nt cur nt'
          (initChains_shape nr).1 hexp
      rw [hid] at hcurf h
      have hres := ih (done ++ [sr]) (repAdd rep sr.id cur) nt' res
        (fun r hr => (List.mem_append.mp hr).elim (hdoneS r) fun hr =>
          List.mem_singleton.mp hr ▸ hsrsS _ List.mem_cons_self)
        (fun r hr => hsrsS r (List.mem_cons_of_mem _ hr)) hrefs.tail hlaternd
        ⟨Int.lt_of_le_of_lt hw.1 hnt.neg, nofun,
          fun t ht => Int.lt_of_le_of_lt hw.1 (hnt.later t (List.mem_append_right _ ht))⟩
        (by
          intro q chains hq c hc
          rcases has_repAdd.mp ⟨chains, hq, hc⟩ with ⟨old, hold', hco⟩ | ⟨_, hcc⟩
          · obtain ⟨h1, h2⟩ := hrt q old hold' c hco
            exact ⟨h1, fun t ht => ⟨Int.lt_of_le_of_lt hw.1 (h2 t ht).1, List.not_mem_nil,
              fun hm => (h2 t ht).2.2 (List.mem_append_right _ hm)⟩⟩
          · exact ⟨(hcurS c hcc).1, fun t ht => ⟨((hcurS c hcc).2.1 t ht).1, List.not_mem_nil, ((hcurS c hcc).2.1 t ht).2⟩⟩)
        (hsem.add hcurf (fun c hc => (hcurS c hc).2.2) hcurC) h
      rwa [List.append_assoc] at hres

end Ndn.Lvs
