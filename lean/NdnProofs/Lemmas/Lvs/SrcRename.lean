import NdnProofs.Lemmas.Lvs.CompileSort
import NdnModel.Lvs.SrcSem
/-!
  Pass 1 renames temporary rules (`#_x` → `#_x#k`).  No name pattern can refer to a temporary rule, so the meaning of
  every other rule is the same in the text as written and in the text with the temporary rules renamed.
-/
namespace Ndn.Lvs

theorem expands_iff {S : Schema} {q : String} {f : Flat} :
    Expands S q f ↔ ∃ r ∈ S.rules, r.id = q ∧ ExpandsDef S r f := by
  constructor
  · intro h
    cases h with
    | mk h1 h2 h3 => exact ⟨_, h1, rfl, _, h2, _, h3, rfl⟩
  · rintro ⟨r, hr, rfl, cs, hcs, f0, h0, rfl⟩
    exact .mk hr hcs h0

/-- every non-temporary definition of `S` is a definition of `S'` (same name pattern, same constraints) -/
def DefsInto (S S' : Schema) : Prop :=
  ∀ r ∈ S.rules, isTempRule r.id = false → ∃ r' ∈ S'.rules, r'.id = r.id ∧ r'.name = r.name ∧ r'.cons = r.cons

theorem Expands.mk_into {S S' : Schema} (h : DefsInto S S') {r : SRule} {cs : List (Term String String)} {f : Flat}
    (hr : r ∈ S.rules) (hcs : cs ∈ altsOf r) (hf : ExpandsName S' cs r.name f) (ht : isTempRule r.id = false) :
    Expands S' r.id ⟨f.items, namedCons cs ++ f.ncons⟩ := by
  obtain ⟨r', hr', hid, hname, hcons⟩ := h r hr ht
  have hcs' : cs ∈ altsOf r' := by unfold altsOf at hcs ⊢; rw [hcons]; exact hcs
  exact hid ▸ Expands.mk hr' hcs' (hname ▸ hf)

theorem expandsName_into {S S' : Schema} (h : DefsInto S S') :
    ∀ {cs : List (Term String String)} {comps : List (Comp String)} {f : Flat},
    ExpandsName S cs comps f → ExpandsName S' cs comps f := by
  intro cs comps f hf
  induction hf using ExpandsName.rec (motive_2 := fun q f _ => isTempRule q = false → Expands S' q f) with
  | nil => exact .nil
  | lit _ ih => exact .lit ih
  | named hp _ ih => exact .named hp ih
  | temp hp _ ih => exact .temp hp ih
  | ref ht _ _ ihe ih => exact .ref ht (ihe ht) ih
  | mk hr hcs _ ih ht => exact Expands.mk_into h hr hcs ih ht

theorem expands_into {S S' : Schema} (h : DefsInto S S') {q : String} {f : Flat} (hf : Expands S q f)
    (ht : isTempRule q = false) : Expands S' q f := by
  cases hf with
  | mk hr hcs h1 => exact Expands.mk_into h hr hcs (expandsName_into h h1) ht

theorem DefsInto.of_subset {S S' : Schema} (h : ∀ r ∈ S.rules, r ∈ S'.rules) : DefsInto S S' :=
  fun r hr _ => ⟨r, h r hr, rfl, rfl, rfl⟩

theorem expandsDef_mono {S S' : Schema} (h : ∀ r ∈ S.rules, r ∈ S'.rules) {r : SRule} {f : Flat}
    (hf : ExpandsDef S r f) : ExpandsDef S' r f := by
  obtain ⟨cs, hcs, f0, hf0, he⟩ := hf
  exact ⟨cs, hcs, f0, expandsName_into (.of_subset h) hf0, he⟩

theorem defsInto_rename (S : Schema) : DefsInto S ⟨renameTemps S.rules 1⟩ := by
  intro r hr ht
  obtain ⟨r', hr', hn, hc, _, hid⟩ := exists_mem_renameTemps (k := 1) hr
  exact ⟨r', hr', hid ht, hn, hc⟩

theorem defsInto_unrename (S : Schema) : DefsInto ⟨renameTemps S.rules 1⟩ S := by
  intro r' hr' ht
  obtain ⟨r, hr, hn, hc, _, htmp, hid⟩ := mem_renameTemps hr'
  exact ⟨r, hr, (hid (htmp ▸ ht)).symm, hn.symm, hc.symm⟩

theorem srcMatches_rename (S : Schema) (fns : PureEnv) (rid : String) (ht : isTempRule rid = false) (σ : SCtx)
    (name : List Bytes) (σ' : SCtx) :
    SrcMatches ⟨renameTemps S.rules 1⟩ fns rid σ name σ' ↔ SrcMatches S fns rid σ name σ' := by
  constructor
  · rintro ⟨f, hf, hr⟩; exact ⟨f, expands_into (defsInto_unrename S) hf ht, hr⟩
  · rintro ⟨f, hf, hr⟩; exact ⟨f, expands_into (defsInto_rename S) hf ht, hr⟩

end Ndn.Lvs
