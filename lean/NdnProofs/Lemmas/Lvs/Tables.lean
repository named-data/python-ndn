import NdnModel.Lvs.Match
import NdnModel.Lvs.Sem
import NdnModel.Lvs.Compile
/-! The front end of `match` / `check`: the checker's `stripDigest` is the specification's `dropDigest` (`stripDigest_eq`),
    hence `check` is `checkCore` on the stripped names (`check_eq`, `check_true_iff`; `Props/C12.lean` and
    `Lemmas/CascadeLvs.lean` start from these).  Inversion of `buildModel` (`buildModel_ok_inv`, for `CompileSane` and
    `CompileMergeGen`).  `stripDigest_spec`, `ruleNamesOf_anonymous` and `buildModel_header` are what the generated-table
    theorems of C11 / C12 / C13 compare with the source text. -/
namespace Ndn.Lvs

theorem stripDigest_eq (name : List Bytes) :
    stripDigest name = (match dropDigest name with | some nm => .ok nm | none => .error .indexError) := by
  unfold stripDigest dropDigest
  cases name.getLast? with
  | none => rfl
  | some c =>
    dsimp only
    cases parseTlNum c 0 with
    | error e => rfl
    | ok p => rcases p with ⟨_ | _ | t, sz⟩ <;> rfl

theorem dropDigest_snoc (n : List Bytes) (c : Bytes) (t s : Nat) (h : parseTlNum c 0 = .ok (t, s)) :
    dropDigest (n ++ [c]) = some (if t = 1 then n else n ++ [c]) := by
  simp [dropDigest, h]

theorem stripDigest_spec (n : List Bytes) (c : Bytes) (t s : Nat) (h : parseTlNum c 0 = .ok (t, s)) :
    stripDigest (n ++ [c]) = .ok (if t = 1 then n else n ++ [c]) := by
  rw [stripDigest_eq, dropDigest_snoc n c t s h]

theorem check_eq (m : Model) (env : FnEnv) (pkt key : List Bytes) :
    check m env pkt key =
      match dropDigest pkt, dropDigest key with
      | some p, some k => checkCore m env p k
      | _, _ => .error .indexError := by
  unfold check
  rw [stripDigest_eq pkt, stripDigest_eq key]
  cases dropDigest pkt <;> cases dropDigest key <;> rfl

theorem check_true_iff (m : Model) (env : FnEnv) (pkt key : List Bytes) :
    check m env pkt key = .ok true ↔
      ∃ p k, dropDigest pkt = some p ∧ dropDigest key = some k ∧ checkCore m env p k = .ok true := by
  rw [check_eq]
  cases dropDigest pkt <;> cases dropDigest key <;> simp

theorem ruleNamesOf_anonymous (m : Model) (n : Nat) (node : Node) (h : m.nodes[n]? = some node)
    (he : node.ruleNames = []) : ruleNamesOf m n = ["#_" ++ toString n] := by
  simp [ruleNamesOf, h, he]

theorem buildModel_ok_inv {chains : List Chain} {named : List String} {m : Model} (h : buildModel chains named = .ok m) :
    ∃ pool t nodes, genNode (maxNameLen chains) 0 chains none [] 0 named.length = .ok (pool, t) ∧
      fixSigning pool = .ok nodes ∧
      m = { version := some maxVersion, startId := 0, namedCnt := named.length, nodes := nodes } := by
  unfold buildModel at h
  split at h
  · cases h
  · rename_i pool tidx hg
    split at h
    · cases h
    · rename_i nodes hfix
      cases h
      exact ⟨pool, tidx, nodes, hg, hfix, rfl⟩

theorem buildModel_header (chains : List Chain) (named : List String) (m : Model) (h : buildModel chains named = .ok m) :
    m.version = some maxVersion ∧ m.startId = 0 ∧ m.namedCnt = named.length := by
  obtain ⟨_, _, _, _, _, rfl⟩ := buildModel_ok_inv h
  exact ⟨rfl, rfl, rfl⟩

end Ndn.Lvs
