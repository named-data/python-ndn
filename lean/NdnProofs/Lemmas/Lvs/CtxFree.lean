import NdnModel.Lvs.Sem
import NdnProofs.Lemmas.PyDict
/-!
  When no constraint of the model looks at the bindings (value options, user functions with literal
  arguments only), a name that matches a node under some initial bindings also matches it under none.
-/
namespace Ndn.Lvs

/-- the option does not depend on the bindings -/
def OptCtxFree (o : ConsOption) : Prop :=
  (∃ v, o.value = some v) ∨ (o.value = none ∧ o.tag = none ∧ ∀ f, o.fn = some f → ∀ a ∈ f.args, a.tag = none)

/-- no constraint of the model refers to another pattern -/
def CtxFree (m : Model) : Prop :=
  ∀ (n : Nat) (node : Node), m.nodes[n]? = some node →
    ∀ pe ∈ node.pEdges, ∀ cl ∈ pe.cons, ∀ o ∈ cl, OptCtxFree o

/-- `σb` binds less than `σa`, and consistently -/
def SubCtx (σb σa : Ctx) : Prop := ∀ t v, PyDict.get? σb t = some v → PyDict.get? σa t = some v

theorem optSat_ctxfree (fns : PureEnv) (σa σb : Ctx) (c : Bytes) (o : ConsOption) (h : OptCtxFree o) :
    OptSat fns σa c o ↔ OptSat fns σb c o := by
  unfold OptSat
  rcases h with ⟨v, hv⟩ | ⟨hv, ht, hf⟩
  · simp [hv]
  · cases hfn : o.fn with
    | none => simp [hv, ht]
    | some f =>
      simp only [hv, ht]
      have : f.args.map (ArgDen σa) = f.args.map (ArgDen σb) :=
        List.map_congr_left (fun a ha => by simp [ArgDen, hf f hfn a ha])
      rw [this]

theorem consSat_ctxfree (fns : PureEnv) (σa σb : Ctx) (c : Bytes) (cons : List Constraint)
    (h : ∀ cl ∈ cons, ∀ o ∈ cl, OptCtxFree o) : ConsSat fns σa c cons → ConsSat fns σb c cons := by
  intro hs cl hcl
  obtain ⟨o, ho, hsat⟩ := hs cl hcl
  exact ⟨o, ho, (optSat_ctxfree fns σa σb c o (h cl hcl o ho)).mp hsat⟩

theorem subCtx_nil (σ : Ctx) : SubCtx [] σ := by
  intro t v h; simp [PyDict.get?] at h

theorem subCtx_set (σb σa : Ctx) (t : Nat) (c : Bytes) (h : SubCtx σb σa) :
    SubCtx (PyDict.set σb t c) (PyDict.set σa t c) := by
  intro t' v hv
  rw [PyDict.get?_set] at hv ⊢
  split at hv
  · rename_i heq; simp [heq, hv]
  · rename_i hne; simp [hne]; exact h t' v hv

theorem subCtx_set_left (σb σa : Ctx) (t : Nat) (c : Bytes) (h : SubCtx σb σa)
    (ha : PyDict.get? σa t = some c) : SubCtx (PyDict.set σb t c) σa := by
  intro t' v hv
  rw [PyDict.get?_set] at hv
  split at hv
  · rename_i heq; subst heq; cases hv; exact ha
  · exact h t' v hv

theorem path_weaken (m : Model) (hcf : CtxFree m) (fns : PureEnv) {n : Nat} {σa : Ctx} {name : List Bytes}
    {n' : Nat} {σa' : Ctx} (hp : Path m fns n σa name n' σa') :
    ∀ σb, SubCtx σb σa → ∃ σb', Path m fns n σb name n' σb' ∧ SubCtx σb' σa' := by
  induction hp with
  | nil n σ => intro σb h; exact ⟨σb, Path.nil _ _, h⟩
  | @value n σ c rest n' σ' node ve d hn hve hval hdest _ ih =>
    intro σb h
    obtain ⟨σb', hp', hs'⟩ := ih σb h
    exact ⟨σb', Path.value hn hve hval hdest hp', hs'⟩
  | @pattern n σ c rest n' σ' node pe d σ₁ hn hpe hdest hacc _ ih =>
    intro σb h
    obtain ⟨t, ht, hcs, hor⟩ := hacc
    have hcs' : ConsSat fns σb c pe.cons := consSat_ctxfree fns σ σb c pe.cons (hcf n node hn pe hpe) hcs
    cases hb : PyDict.get? σb t with
    | some v =>
      -- bound on the weaker side, hence bound (to the same value) on the stronger side
      have hσ := h t v hb
      rcases hor with ⟨hsc, rfl⟩ | ⟨hnone, _⟩
      · rw [hsc] at hσ; cases hσ
        obtain ⟨σb', hp', hs'⟩ := ih σb h
        exact ⟨σb', Path.pattern hn hpe hdest ⟨t, ht, hcs', Or.inl ⟨hb, rfl⟩⟩ hp', hs'⟩
      · rw [hnone] at hσ; cases hσ
    | none =>
      have hsub : SubCtx (if t ≤ m.namedCnt then PyDict.set σb t c else σb) σ₁ := by
        rcases hor with ⟨hsc, rfl⟩ | ⟨hnone, rfl⟩
        · split
          · exact subCtx_set_left σb σ₁ t c h hsc
          · exact h
        · split
          · exact subCtx_set σb σ t c h
          · exact h
      obtain ⟨σb', hp', hs'⟩ := ih _ hsub
      exact ⟨σb', Path.pattern hn hpe hdest ⟨t, ht, hcs', Or.inr ⟨hb, rfl⟩⟩ hp', hs'⟩

end Ndn.Lvs
