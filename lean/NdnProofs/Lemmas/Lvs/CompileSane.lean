import NdnProofs.Lemmas.Lvs.CompileTree
import NdnProofs.Lemmas.Lvs.CompileChains
import NdnProofs.Lemmas.Lvs.Tables
/-!
  `buildModel` (passes 4 and 5 of the compiler model): the model it returns obeys the documented sanity
  rules (`Sane`), every node's identifier is its position and every signer exists (`buildModel_built`); a node has one
  value edge per distinct component value (`buildModel_vdet`); the same of the model `compile` returns (`compile_built`,
  `compile_vdet`).
-/
namespace Ndn.Lvs

theorem mem_ruleNodeIds {pool : List PreNode} {rid : String} {k : Nat} :
    k ∈ ruleNodeIds pool rid ↔ ∃ n ∈ pool, n.id = k ∧ rid ∈ n.ruleNames := by
  unfold ruleNodeIds
  simp only [List.mem_flatMap, List.mem_map, List.mem_filter, beq_iff_eq]
  constructor
  · rintro ⟨n, hn, x, ⟨hx, rfl⟩, rfl⟩
    exact ⟨n, hn, rfl, hx⟩
  · rintro ⟨n, hn, rfl, hr⟩
    exact ⟨n, hn, rid, ⟨hr, rfl⟩, rfl⟩

theorem signersOfStr_mem {pool : List PreNode} {l : List String} {ks : List Nat} (h : signersOfStr pool l = .ok ks)
    (k : Nat) : k ∈ ks ↔ ∃ rid ∈ l, k ∈ ruleNodeIds pool rid := by
  fun_induction signersOfStr pool l generalizing ks with
  | case1 => cases h; simp
  | case2 => cases h
  | case3 => cases h
  | case4 rid r k0 ks0 hids rest hrest ih =>
    cases h
    rw [List.mem_append, ← hids, ih hrest]
    simp only [List.mem_cons, exists_eq_or_imp]

theorem fixNode_ok {pool : List PreNode} {n : PreNode} {node : Node} (h : fixNode pool n = .ok node) :
    ∃ ks, signersOfStr pool n.signStr = .ok ks ∧
      node = { id := some n.id, parent := n.parent, ruleNames := n.ruleNames, vEdges := n.vEdges, pEdges := n.pEdges,
               signCons := isort (fun a b => decide (a ≤ b)) ks } := by
  unfold fixNode at h
  split at h
  · cases h
  · rename_i ks hks
    cases h
    exact ⟨ks, hks, rfl⟩

theorem fixNode_signCons {pool : List PreNode} {n : PreNode} {node : Node} (h : fixNode pool n = .ok node) (k : Nat) :
    k ∈ node.signCons ↔ ∃ rid ∈ n.signStr, ∃ kn ∈ pool, kn.id = k ∧ rid ∈ kn.ruleNames := by
  obtain ⟨ks, hks, rfl⟩ := fixNode_ok h
  simp only [mem_isort, signersOfStr_mem hks, mem_ruleNodeIds]

theorem placed_id_lt {pool : List PreNode} (hp : Placed 0 pool) {n : PreNode} (hn : n ∈ pool) : n.id < pool.length := by
  obtain ⟨i, hi, rfl⟩ := List.getElem_of_mem hn
  have := hp.ids i pool[i] (List.getElem?_eq_getElem hi)
  omega

theorem placed_id_inj {pool : List PreNode} (hp : Placed 0 pool) {n n' : PreNode} (hn : n ∈ pool) (hn' : n' ∈ pool)
    (h : n.id = n'.id) : n = n' := by
  obtain ⟨i, hi, rfl⟩ := List.getElem_of_mem hn
  obtain ⟨j, hj, rfl⟩ := List.getElem_of_mem hn'
  have h1 := hp.ids i pool[i] (List.getElem?_eq_getElem hi)
  have h2 := hp.ids j pool[j] (List.getElem?_eq_getElem hj)
  obtain rfl : i = j := by omega
  rfl

/-- what holds of every model `buildModel` returns: the loader's structural rules (`Sane`), and the layout the
    compiler gives it -/
structure Built (m : Model) : Prop where
  sane : Sane m
  ids : ∀ (i : Nat) (node : Node), m.nodes[i]? = some node → node.id = some i
  signers : ∀ (i : Nat) (node : Node), m.nodes[i]? = some node → ∀ k ∈ node.signCons, k < m.nodes.length
  start : m.startId = 0

theorem fixSigning_idx {pool : List PreNode} {nodes : List Node} (h : fixSigning pool = .ok nodes) (i : Nat) (node : Node)
    (hi : nodes[i]? = some node) : ∃ n, pool[i]? = some n ∧ fixNode pool n = .ok node := by
  obtain ⟨hlen, hidx⟩ := mapE_ok_idx h
  have hil : i < pool.length := hlen ▸ lt_of_getElem? hi
  obtain ⟨b, hb, hf⟩ := hidx i pool[i] (List.getElem?_eq_getElem hil)
  rw [hi] at hb
  cases hb
  exact ⟨pool[i], List.getElem?_eq_getElem hil, hf⟩

theorem buildModel_pool {chains : List Chain} {named : List String} {m : Model} (hc : ∀ c ∈ chains, ChainOK c)
    (h : buildModel chains named = .ok m) :
    ∃ pool tidx, genNode (maxNameLen chains) 0 chains none [] 0 named.length = .ok (pool, tidx) ∧ m.startId = 0 ∧
      (∀ n ∈ pool, ∀ n' ∈ pool, n.id = n'.id → n = n') ∧
      (∀ n ∈ pool, ∃ node, m.nodes[n.id]? = some node ∧ fixNode pool n = .ok node) ∧
      (∀ i node, m.nodes[i]? = some node → ∃ n ∈ pool, n.id = i ∧ fixNode pool n = .ok node) := by
  obtain ⟨pool, tidx, nodes, hg, hfix, rfl⟩ := buildModel_ok_inv h
  obtain ⟨hpl, _⟩ := genNode_placed _ _ _ _ _ _ _ _ _ hc hg
  have hid : ∀ i (n : PreNode), pool[i]? = some n → n.id = i := fun i n hi => by have := hpl.ids i n hi; omega
  refine ⟨pool, tidx, hg, rfl, fun n hn n' hn' => placed_id_inj hpl hn hn', fun n hn => ?_, fun i node hi => ?_⟩
  · obtain ⟨i, hi⟩ := List.getElem?_of_mem hn
    rw [hid i n hi]
    exact (mapE_ok_idx hfix).2 i n hi
  · obtain ⟨n, hn, hf⟩ := fixSigning_idx hfix i node hi
    exact ⟨n, List.mem_of_getElem? hn, hid i n hn, hf⟩

theorem buildModel_built (chains : List Chain) (named : List String) (m : Model)
    (hc : ∀ c ∈ chains, ChainOK c) (h : buildModel chains named = .ok m) : Built m := by
  obtain ⟨pool, tidx, nodes, hg, hfix, rfl⟩ := buildModel_ok_inv h
  obtain ⟨hpl, hd, tl, hpool, hroot⟩ := genNode_placed _ _ _ _ _ _ _ _ _ hc hg
  obtain ⟨hlen, hidx⟩ := mapE_ok_idx hfix
  have hnode := fixSigning_idx hfix
  have hids : ∀ (i : Nat) node, nodes[i]? = some node → node.id = some i := by
    intro i node hi
    obtain ⟨n, hn, hf⟩ := hnode i node hi
    obtain ⟨_, _, rfl⟩ := fixNode_ok hf
    exact congrArg some ((hpl.ids i n hn).trans (Nat.zero_add i))
  have hsig : ∀ (i : Nat) node, nodes[i]? = some node → ∀ k ∈ node.signCons, k < nodes.length := by
    intro i node hi k hk
    obtain ⟨n, hn, hf⟩ := hnode i node hi
    obtain ⟨_, _, n', hn', hid, _⟩ := (fixNode_signCons hf k).mp hk
    have := placed_id_lt hpl hn'
    omega
  refine ⟨?_, hids, hsig, rfl⟩
  refine ⟨⟨maxVersion, rfl, by decide, Nat.le_refl _⟩, ?_, fun n node hn => hids n node hn, ?_,
    fun n node _ hn => hsig n node hn, ?_⟩
  · obtain ⟨b, hb, hf⟩ := hidx 0 hd (by simp [hpool])
    obtain ⟨_, _, rfl⟩ := fixNode_ok hf
    exact ⟨_, hb, hroot⟩
  · intro n node _ hn
    obtain ⟨pn, hpn, hf⟩ := hnode n node hn
    obtain ⟨_, _, rfl⟩ := fixNode_ok hf
    have hmem : pn ∈ pool := List.mem_of_getElem? hpn
    refine ⟨hpl.ves pn hmem, fun pe hpe => ((hpl.pes pn hmem) pe hpe).1, fun d hd' => ?_⟩
    obtain ⟨j, dn, hdj, hj, hpar⟩ := hpl.edges n pn hpn d hd'
    obtain ⟨b, hb, hfb⟩ := hidx j dn hj
    obtain ⟨_, _, rfl⟩ := fixNode_ok hfb
    exact ⟨j, _, by simpa using hdj, hb, by simpa using hpar⟩
  · intro n node _ hn pe hpe cl hcl o ho
    obtain ⟨pn, hpn, hf⟩ := hnode n node hn
    obtain ⟨_, _, rfl⟩ := fixNode_ok hf
    exact ((hpl.pes pn (List.mem_of_getElem? hpn)) pe hpe).2 cl hcl o ho

def VNodup (n : PreNode) : Prop := (n.vEdges.map (·.value)).Nodup

theorem Kids.vals {mvs : List Move} {b t : Nat} {ves : List VEdge} {pes : List PEdge} {nodes : List PreNode} {t' : Nat}
    (h : Kids (fun _ _ _ s _ => ∀ n ∈ s, VNodup n) mvs b t ves pes nodes t') :
    (∀ n ∈ nodes, VNodup n) ∧ ves.map (·.value) = (mvs.filterMap (·.value)).map some := by
  induction h with
  | nil => exact ⟨(fun _ h => nomatch h), rfl⟩
  | @cons mv r b t s t2 ves pes rest t3 hq _ ih =>
    refine ⟨fun n hn => (List.mem_append.mp hn).elim (hq n) (ih.1 n), ?_⟩
    rw [List.map_append, ih.2]
    unfold Move.vEdge
    cases hv : mv.value with
    | none => rw [List.filterMap_cons_none hv]; rfl
    | some v => rw [List.filterMap_cons_some hv]; rfl

theorem vMoves_values (depth : Nat) (ctx : List Chain) (prev : List Int) :
    (vMoves depth ctx prev).filterMap (·.value) = sortDedup bytesLe (ctx.filterMap (litAt depth)) := by
  unfold vMoves
  rw [List.filterMap_map]
  simp only [Function.comp_def]
  exact List.filterMap_some

theorem pMoves_values (depth : Nat) (ctx : List Chain) (prev : List Int) :
    (pMoves depth ctx prev).filterMap (·.value) = [] :=
  List.filterMap_eq_nil_iff.mpr fun _ hmv => (mem_pMoves hmv).1

theorem genNode_vnodup {fuel depth : Nat} {ctx : List Chain} {parent : Option Nat} {prev : List Int}
    {base tidx : Nat} {nodes : List PreNode} {t' : Nat}
    (h : genNode fuel depth ctx parent prev base tidx = .ok (nodes, t')) : ∀ n ∈ nodes, VNodup n := by
  refine genNode_induct (P := fun _ _ _ _ _ _ nodes _ => ∀ n ∈ nodes, VNodup n) ?_ h
  intro depth ctx parent prev base tidx ves pes sub t' hk
  obtain ⟨hall, hvals⟩ := hk.vals
  refine List.forall_mem_cons.mpr ⟨?_, hall⟩
  -- the value moves are the distinct component values
  show (ves.map (·.value)).Nodup
  rw [hvals, movesOf, List.filterMap_append, vMoves_values, pMoves_values, List.append_nil]
  exact List.Pairwise.map some (fun a b hab h => hab (Option.some.inj h)) (nodup_sortDedup _ _)

theorem buildModel_vdet (chains : List Chain) (named : List String) (m : Model)
    (h : buildModel chains named = .ok m) : VDet m := by
  obtain ⟨pool, tidx, nodes, hg, hfix, rfl⟩ := buildModel_ok_inv h
  intro n node hn ve₁ ve₂ h1 h2 c hc1 hc2
  obtain ⟨b, hb, hf⟩ := mapE_ok_mem' hfix node (List.mem_of_getElem? hn)
  have hnd : (node.vEdges.map (·.value)).Nodup := by
    obtain ⟨_, _, rfl⟩ := fixNode_ok hf
    exact genNode_vnodup hg b hb
  rw [inj_of_nodup_map (·.value) hnd h1 h2 (by rw [hc1, hc2])]

/-!
  `compile` as the composition of `chainsOf` and `buildModel` (`compile_ok_inv`, `compile_of_parts`); the model of a
  schema that compiles is `Built` (sane, identifiers = positions, signers exist) and `VDet`.
-/

theorem compile_ok_inv {S : Schema} {m : Model} {syms : List String} (h : compile S = .ok (m, syms)) :
    ∃ chains, chainsOf S = .ok (chains, syms) ∧ buildModel chains syms = .ok m := by
  unfold compile at h
  split at h
  · cases h
  · rename_i chains named hch
    split at h
    · cases h
    · rename_i m' hb
      cases h
      exact ⟨chains, hch, hb⟩

theorem compile_of_parts {S : Schema} {chains : List Chain} {named : List String} {m : Model}
    (h1 : chainsOf S = .ok (chains, named)) (h2 : buildModel chains named = .ok m) : compile S = .ok (m, named) := by
  unfold compile; simp only [h1, h2]

theorem compile_built (S : Schema) (hwf : S.WF) (m : Model) (syms : List String) (h : compile S = .ok (m, syms)) :
    Built m := by
  obtain ⟨chains, hch, hb⟩ := compile_ok_inv h
  exact buildModel_built chains syms m (chainsOf_ok S hwf chains syms hch) hb

theorem compile_vdet (S : Schema) (m : Model) (syms : List String) (h : compile S = .ok (m, syms)) : VDet m := by
  obtain ⟨chains, _, hb⟩ := compile_ok_inv h
  exact buildModel_vdet chains syms m hb

end Ndn.Lvs
