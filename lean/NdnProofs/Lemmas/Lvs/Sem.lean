import NdnProofs.Lemmas.Lvs.Edge
import NdnProofs.Lemmas.Lvs.Example
/-!
  `matchTree` against the denotation `Path`; `matchIter` against `matchTree` (`matchIter_spec` and its projections);
  `checkCore` against `Signs`; `vdetB`, a decidable test that gives `VDet` to the `decide +kernel` examples.
-/
namespace Ndn.Lvs

theorem path_nil_iff (m : Model) (fns : PureEnv) (n : Nat) (σ : Ctx) (n' : Nat) (σ' : Ctx) :
    Path m fns n σ [] n' σ' ↔ n' = n ∧ σ' = σ := by
  constructor
  · intro h; cases h; exact ⟨rfl, rfl⟩
  · intro ⟨h1, h2⟩; subst h1; subst h2; exact Path.nil _ _

theorem path_cons_iff (m : Model) (fns : PureEnv) (n : Nat) (σ : Ctx) (c : Bytes) (rest : List Bytes) (n' : Nat) (σ' : Ctx) :
    Path m fns n σ (c :: rest) n' σ' ↔
      ∃ node, m.nodes[n]? = some node ∧
        ((∃ ve d, ve ∈ node.vEdges ∧ ve.value = some c ∧ ve.dest = some d ∧ Path m fns d σ rest n' σ') ∨
         (∃ pe d σ₁, pe ∈ node.pEdges ∧ pe.dest = some d ∧ Accepts fns m.namedCnt pe c σ σ₁ ∧
            Path m fns d σ₁ rest n' σ')) := by
  constructor
  · intro h
    cases h with
    | value hn hve hv hd hp => exact ⟨_, hn, Or.inl ⟨_, _, hve, hv, hd, hp⟩⟩
    | pattern hn hpe hd ha hp => exact ⟨_, hn, Or.inr ⟨_, _, _, hpe, hd, ha, hp⟩⟩
  · intro ⟨node, hn, h⟩
    rcases h with ⟨ve, d, hve, hv, hd, hp⟩ | ⟨pe, d, σ₁, hpe, hd, ha, hp⟩
    · exact Path.value hn hve hv hd hp
    · exact Path.pattern hn hpe hd ha hp

theorem Reach.of_path {m : Model} {fns : PureEnv} {a b : Nat} {σ σ' : Ctx} {nm : List Bytes}
    (hp : Path m fns a σ nm b σ') : Reach m a → Reach m b := by
  induction hp with
  | nil => exact id
  | value hn hve _ hdest _ ih =>
    intro hr
    exact ih (Reach.edge hr hn (by rw [← hdest]; exact vdest_mem_dests hve))
  | pattern hn hpe hdest _ _ ih =>
    intro hr
    exact ih (Reach.edge hr hn (by rw [← hdest]; exact pdest_mem_dests hpe))

theorem matchTree_sound (m : Model) (env : FnEnv) {name : List Bytes} {n : Nat} {σ : Ctx} {n' : Nat} {σ' : Ctx}
    (h : (n', σ') ∈ matchTree m env name n σ) : Path m (pureOf env) n σ name n' σ' := by
  unfold matchTree at h
  fun_induction matchTreeG m (edgeFn m env) name n σ with
  | case1 => cases List.mem_singleton.mp h; exact Path.nil _ _
  | case2 => cases h
  | case3 c rest n σ node hn ihv ihp =>
    rcases List.mem_append.mp h with h | h
    · split at h
      · rename_i d hf
        obtain ⟨ve, hve, hval, hdest⟩ := firstV_some hf
        exact Path.value hn hve hval hdest (ihv d h)
      · cases h
    · obtain ⟨pe, hpe, hx⟩ := List.mem_flatMap.mp h
      obtain ⟨σ₁, mt, d, hg, hd, hx⟩ := mem_edgeOuts.mp hx
      exact Path.pattern hn hpe hd ((tryEdge_ok_iff env m.namedCnt pe c σ σ₁ _ hg).mp ⟨mt, rfl⟩) (ihp σ₁ d hx)

theorem matchTree_complete (m : Model) (env : FnEnv) (hg : EdgeTotal m (edgeFn m env)) (hv : VDet m)
    {n : Nat} {σ : Ctx} {name : List Bytes} {n' : Nat} {σ' : Ctx}
    (hp : Path m (pureOf env) n σ name n' σ') (hr : Reach m n) :
    (n', σ') ∈ matchTree m env name n σ := by
  unfold matchTree
  induction hp with
  | nil n σ => simp [matchTreeG]
  | @value n σ c rest n' σ' node ve d hn hve hval hdest _ ih =>
    rw [matchTreeG_cons m _ c rest n σ node hn, List.mem_append]
    left
    obtain ⟨ve', hm', hv', hf⟩ := firstV_of_mem hve hval
    have hdd : ve'.dest = some d := by rw [hv n node hn ve' ve hm' hve c hv' hval, hdest]
    rw [hf, hdd]
    exact ih (Reach.edge hr hn (hdest ▸ vdest_mem_dests hve))
  | @pattern n σ c rest n' σ' node pe d σ₁ hn hpe hdest hacc _ ih =>
    rw [matchTreeG_cons m _ c rest n σ node hn, List.mem_append]
    right
    obtain ⟨r, hgr⟩ := hg.ok hr hn hpe c σ
    obtain ⟨mt, hmt⟩ := (tryEdge_ok_iff env m.namedCnt pe c σ σ₁ r hgr).mpr hacc
    subst hmt
    refine List.mem_flatMap.mpr ⟨pe, hpe, mem_edgeOuts.mpr ⟨σ₁, mt, d, hgr, hdest, ?_⟩⟩
    exact ih (Reach.edge hr hn (hdest ▸ pdest_mem_dests hpe))

theorem matchIter_spec (m : Model) (ht : TreeOK m) (env : FnEnv) (name : List Bytes) (σ : Ctx) :
    (matchIter m env name σ).cur = none ∧
    (∃ l, matchTree m env name m.startId σ = (matchIter m env name σ).outs ++ l) ∧
    ((matchIter m env name σ).err = none →
      (matchIter m env name σ).outs = matchTree m env name m.startId σ ∧ (matchIter m env name σ).ctx = σ) ∧
    ∀ e, (matchIter m env name σ).err = some e → Raises m (edgeFn m env) e := by
  unfold matchIter matchTree
  obtain ⟨k, hk, ⟨ei, hrun⟩ | ⟨hcur, ⟨l, l', hsplit, houts⟩, e, herr, hraise⟩⟩ :=
    run_from_start (g := edgeFn m env) (name := name) ht (undoRestores_tryEdge env m.namedCnt) σ
  · rw [runG_of_le _ _ _ _ _ _ hk (by rw [hrun]), hrun]
    exact ⟨rfl, ⟨[], (List.append_nil _).symm⟩, fun _ => ⟨rfl, rfl⟩, nofun⟩
  · rw [runG_of_le _ _ _ _ _ _ hk hcur, houts, herr, List.nil_append]
    exact ⟨hcur, ⟨l', hsplit⟩, nofun, fun _ he => Option.some.inj he ▸ hraise⟩

theorem matchIter_halts (m : Model) (ht : TreeOK m) (env : FnEnv) (name : List Bytes) (σ : Ctx) :
    (matchIter m env name σ).cur = none :=
  (matchIter_spec m ht env name σ).1

theorem matchIter_outs_of_no_err (m : Model) (ht : TreeOK m) (env : FnEnv) (name : List Bytes) (σ : Ctx)
    (hne : (matchIter m env name σ).err = none) :
    (matchIter m env name σ).outs = matchTree m env name m.startId σ ∧
    (matchIter m env name σ).ctx = σ :=
  (matchIter_spec m ht env name σ).2.2.1 hne

theorem matchIter_outs_subset (m : Model) (ht : TreeOK m) (env : FnEnv) (name : List Bytes) (σ : Ctx)
    (x : Nat × Ctx) (hx : x ∈ (matchIter m env name σ).outs) : x ∈ matchTree m env name m.startId σ := by
  obtain ⟨l, hl⟩ := (matchIter_spec m ht env name σ).2.1
  rw [hl]
  exact List.mem_append_left _ hx

theorem matchIter_no_err (m : Model) (hs : Sane m) (env : FnEnv) (henv : EnvTotal env)
    (name : List Bytes) (σ : Ctx) : (matchIter m env name σ).err = none := by
  cases herr : (matchIter m env name σ).err with
  | none => rfl
  | some e => exact absurd ((matchIter_spec m hs.treeOK env name σ).2.2.2 e herr) (edgeTotal_of_sane hs env henv e)

theorem mem_matchTree_iff {m : Model} (hs : Sane m) (hv : VDet m) {env : FnEnv} (henv : EnvTotal env)
    {name : List Bytes} {σ : Ctx} {n : Nat} {σ' : Ctx} :
    (n, σ') ∈ matchTree m env name m.startId σ ↔ Matches m (pureOf env) σ name n σ' :=
  ⟨matchTree_sound m env,
   fun h => matchTree_complete m env (edgeTotal_of_sane hs env henv) hv h Reach.start⟩

theorem mem_outs_iff {m : Model} (hs : Sane m) (hv : VDet m) {env : FnEnv} (henv : EnvTotal env)
    {name : List Bytes} {σ : Ctx} {n : Nat} {σ' : Ctx} :
    (n, σ') ∈ (matchIter m env name σ).outs ↔ Matches m (pureOf env) σ name n σ' := by
  rw [(matchIter_outs_of_no_err m hs.treeOK env name σ (matchIter_no_err m hs env henv name σ)).1]
  exact mem_matchTree_iff hs hv henv

theorem keyHit_no_err (signers : List Nat) (S : St) (h : S.err = none) :
    keyHit signers S = .ok (S.outs.any (fun o => signers.contains o.1)) := by
  unfold keyHit
  cases hb : S.outs.any (fun o => signers.contains o.1) <;> simp [h]

theorem checkLoop_no_err (m : Model) (env : FnEnv) (key : List Bytes)
    (hne : ∀ σ, (matchIter m env key σ).err = none) (l : List (Nat × Ctx)) :
    checkLoop m env key l none =
      .ok (l.any (fun p => (matchIter m env key p.2).outs.any (fun o => (signersOf m p.1).contains o.1))) := by
  induction l with
  | nil => rfl
  | cons p r ih =>
    obtain ⟨pn, σ⟩ := p
    simp only [checkLoop, keyHit_no_err _ _ (hne σ), List.any_cons]
    cases hb : (matchIter m env key σ).outs.any (fun o => (signersOf m pn).contains o.1)
    · simpa using ih
    · simp

theorem checkLoop_true (m : Model) (env : FnEnv) (key : List Bytes) (l : List (Nat × Ctx))
    (oe : Option LvsErr) (h : checkLoop m env key l oe = .ok true) :
    l.any (fun p => (matchIter m env key p.2).outs.any (fun o => (signersOf m p.1).contains o.1)) = true := by
  induction l with
  | nil => cases oe <;> simp [checkLoop] at h
  | cons p r ih =>
    obtain ⟨pn, σ⟩ := p
    rw [List.any_cons, Bool.or_eq_true]
    by_cases hany : ((matchIter m env key σ).outs.any fun o => (signersOf m pn).contains o.1) = true
    · exact Or.inl hany
    · refine Or.inr (ih ?_)
      simp only [checkLoop, keyHit, hany] at h
      cases herr : (matchIter m env key σ).err with
      | none => simpa [herr] using h
      | some e => simp [herr] at h

theorem mem_signersOf {m : Model} {pn kn : Nat} :
    kn ∈ signersOf m pn ↔ ∃ pnode, m.nodes[pn]? = some pnode ∧ kn ∈ pnode.signCons := by
  unfold signersOf
  cases m.nodes[pn]? <;> simp

theorem signs_of_matchTree {m : Model} {env : FnEnv} {pkt key : List Bytes} {pn kn : Nat} {σ σ' : Ctx}
    (hp : (pn, σ) ∈ matchTree m env pkt m.startId []) (hk : (kn, σ') ∈ matchTree m env key m.startId σ)
    (hsig : kn ∈ signersOf m pn) : Signs m (pureOf env) pkt key :=
  have ⟨pnode, hpn, hs⟩ := mem_signersOf.mp hsig
  ⟨pn, σ, pnode, kn, σ', matchTree_sound m env hp, hpn, matchTree_sound m env hk, hs⟩

theorem checkCore_eq (m : Model) (hs : Sane m) (env : FnEnv) (henv : EnvTotal env) (pkt key : List Bytes) :
    checkCore m env pkt key = .ok ((matchTree m env pkt m.startId []).any fun p =>
      (matchTree m env key m.startId p.2).any fun o => (signersOf m p.1).contains o.1) := by
  have hne : ∀ nm σ, (matchIter m env nm σ).err = none := matchIter_no_err m hs env henv
  have houts : ∀ nm σ, (matchIter m env nm σ).outs = matchTree m env nm m.startId σ :=
    fun nm σ => (matchIter_outs_of_no_err m hs.treeOK env nm σ (hne nm σ)).1
  unfold checkCore
  simp only [hne pkt [], checkLoop_no_err m env key (hne key), houts]

theorem checkCore_iff (m : Model) (hs : Sane m) (hv : VDet m) (env : FnEnv) (henv : EnvTotal env)
    (pkt key : List Bytes) :
    ∃ b, checkCore m env pkt key = .ok b ∧ (b = true ↔ Signs m (pureOf env) pkt key) := by
  refine ⟨_, checkCore_eq m hs env henv pkt key, ?_⟩
  simp only [List.any_eq_true, List.contains_iff_mem]
  constructor
  · rintro ⟨⟨pn, σ⟩, hp, ⟨kn, σ'⟩, hk, hsig⟩
    exact signs_of_matchTree hp hk hsig
  · rintro ⟨pn, σ, pnode, kn, σ', hp, hpn, hk, hsig⟩
    exact ⟨(pn, σ), (mem_matchTree_iff hs hv henv).mpr hp, (kn, σ'), (mem_matchTree_iff hs hv henv).mpr hk,
      mem_signersOf.mpr ⟨pnode, hpn, hsig⟩⟩

theorem checkCore_true_sound (m : Model) (hs : Sane m) (env : FnEnv) (pkt key : List Bytes)
    (h : checkCore m env pkt key = .ok true) : Signs m (pureOf env) pkt key := by
  have := checkLoop_true m env key _ _ h
  simp only [List.any_eq_true, List.contains_iff_mem] at this
  obtain ⟨⟨pn, σ⟩, hp, ⟨kn, σ'⟩, hk, hsig⟩ := this
  exact signs_of_matchTree (matchIter_outs_subset m hs.treeOK env pkt [] _ hp)
    (matchIter_outs_subset m hs.treeOK env key σ _ hk) hsig

/-- a decidable sufficient condition for `VDet` -/
def vdetB (m : Model) : Bool :=
  m.nodes.all fun node => node.vEdges.all fun a => node.vEdges.all fun b => a.value != b.value || a.dest == b.dest

theorem vdet_of_vdetB {m : Model} (h : vdetB m = true) : VDet m := by
  intro n node hn ve₁ ve₂ h1 h2 c hc1 hc2
  simp only [vdetB, List.all_eq_true] at h
  simpa [hc1, hc2] using h node (List.mem_of_getElem? hn) ve₁ h1 ve₂ h2

theorem Example.allFns_envTotal : EnvTotal Example.allFns := fun _ => ⟨_, rfl, fun _ _ => ⟨true, rfl⟩⟩

end Ndn.Lvs
