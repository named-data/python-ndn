import NdnProofs.Lemmas.Lvs.CompileSane
import NdnProofs.Lemmas.Lvs.KeyInj
import NdnProofs.Lemmas.Lvs.Example
/-!
  Concrete schemas for the non-vacuity examples of the compiler theorems (C11, C13), evaluated by the kernel
  (`decide +kernel`; no compiler-generated code is trusted).  `Schema.wf_of_all`: `Schema.WF` from a Boolean test, for the
  concrete schemas here and in `Props/C13*`.
-/
namespace Ndn.Lvs

/-- the grammar's guarantees as a computable test -/
def optOKb {π : Type} : Opt π → Bool
  | .lit v => !v.isEmpty
  | .pat _ => true
  | .fn f _ => f != "" && decide (FnNameOK f)

def ruleOKb {τ π : Type} (r : Rule τ π) : Bool :=
  r.name.all (fun c => match c with | .lit v => !v.isEmpty | _ => true) &&
  r.cons.all (fun cs => cs.all (fun t => t.opts.all optOKb))

theorem optOK_of_optOKb {π : Type} {o : Opt π} (h : optOKb o = true) : OptOK o := by
  cases o with
  | lit v => simp [optOKb] at h; exact h
  | pat p => trivial
  | fn f a => simpa [optOKb, OptOK] using h

theorem ruleOK_of_ruleOKb {τ π : Type} {r : Rule τ π} (h : ruleOKb r = true) : RuleOK r := by
  unfold ruleOKb at h
  simp only [Bool.and_eq_true, List.all_eq_true] at h
  refine ⟨fun v hv => ?_, fun cs hcs t ht o ho => optOK_of_optOKb (h.2 cs hcs t ht o ho)⟩
  have := h.1 _ hv
  simp at this
  exact this

theorem Schema.wf_of_all (S : Schema) (h : S.rules.all ruleOKb = true) : S.WF := by
  intro r hr
  exact ruleOK_of_ruleOKb (List.all_eq_true.mp h r hr)

namespace Example

/-- `#p: "d"/x <= #k`,  `#k: "k"/x & {x: "a"|"b"}` -/
def schema : Schema := { rules := [
  { id := "#p", name := [.lit cD, .pat "x"], cons := [], sign := ["#k"] },
  { id := "#k", name := [.lit cK, .pat "x"], cons := [[{ pat := "x", opts := [.lit cA, .lit cB] }]], sign := [] } ] }

theorem schema_wf : schema.WF := Schema.wf_of_all _ (by decide)

/-- the chains of the schema (after numbering `x` = 1) -/
def chains : List Chain := [
  { id := "#k", name := [.lit cK, .pat 1], cons := [{ pat := [1], opts := [.lit cA, .lit cB] }], sign := [] },
  { id := "#p", name := [.lit cD, .pat 1], cons := [], sign := ["#k"] } ]

theorem chainsOf_schema : chainsOf schema = .ok (chains, ["x"]) := by decide +kernel

theorem buildModel_chains : buildModel chains ["x"] = .ok model := by decide +kernel

/-- the compiler model maps the schema to the model the examples of C11–C13 use (the real compiler's output) -/
theorem compile_schema : compile schema = .ok (model, ["x"]) := compile_of_parts chainsOf_schema buildModel_chains

theorem keyInj_chains : KeyInj chains := keyInj_of_wf schema schema_wf chains ["x"] chainsOf_schema

/-- the same with `#k` signed by `#p`: a signing loop -/
def schemaLoop : Schema := { rules := [
  { id := "#p", name := [.lit cD, .pat "x"], cons := [], sign := ["#k"] },
  { id := "#k", name := [.lit cK, .pat "x"], cons := [[{ pat := "x", opts := [.lit cA, .lit cB] }]], sign := ["#p"] } ] }

theorem compile_schemaLoop : compile schemaLoop = .ok (signLoop, ["x"]) := by decide +kernel

theorem schemaLoop_wf : schemaLoop.WF := Schema.wf_of_all _ (by decide)

/-- `#p: "d"/x <= #nokey` -/
def schemaBadSigner : Schema := { rules := [{ id := "#p", name := [.lit cD, .pat "x"], cons := [], sign := ["#nokey"] }] }

/-- `#p: #nope/"d"` -/
def schemaBadRef : Schema := { rules := [{ id := "#p", name := [.ref "#nope", .lit cD], cons := [], sign := [] }] }

/-- `#p: "d"/#q`, `#q: #p/"k"` -/
def schemaRefCycle : Schema := { rules := [
  { id := "#p", name := [.lit cD, .ref "#q"], cons := [], sign := [] },
  { id := "#q", name := [.ref "#p", .lit cK], cons := [], sign := [] } ] }

/-- `#p: "d"/x & {x: "a", y: "b"}` (`y` occurs nowhere) -/
def schemaBadCons : Schema := { rules := [
  { id := "#p", name := [.lit cD, .pat "x"],
    cons := [[{ pat := "x", opts := [.lit cA] }, { pat := "y", opts := [.lit cB] }]], sign := [] }] }

/-- `#p: "d"/x & {x: _t}` (a temporary pattern as constraint value) -/
def schemaTempOpt : Schema := { rules := [
  { id := "#p", name := [.lit cD, .pat "x"], cons := [[{ pat := "x", opts := [.pat "_t"] }]], sign := [] }] }

end Example
end Ndn.Lvs
