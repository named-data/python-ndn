import NdnProofs.Lemmas.Lvs.CompileTree
import NdnProofs.Lemmas.Lvs.Sem
import NdnProofs.Lemmas.PyDict
/-!
  Node merging (`_generate_node`) preserves the accepted (name, bindings) pairs.  `ChainRun fns rc atoms prev σ name σ'` is
  the meaning of one chain on its own: its components accept those of `name` one by one (a literal: equal; a pattern: the
  constraints `pattern_movement` attaches to it hold under the bindings so far, a named pattern binds or repeats its
  binding, a temporary one binds nothing), ending with `σ'`.  `Gen m cnt depth ctx prev n`: node `n` of `m` and everything
  below it is what `_generate_node(depth, ctx, …, prev)` builds (the pool without positions).  `gen_sem`: a name leads from
  such an `n` to a node that carries rule `rid` iff some chain of `ctx` with identifier `rid` runs on it, provided the merge
  key is injective (`KeyInj`: chains are grouped by key, and an edge takes tag and constraints from the first of its group).
-/
namespace Ndn.Lvs

def CtxLe (cnt : Nat) (σ : Ctx) : Prop := ∀ t v, PyDict.get? σ t = some v → t ≤ cnt

/-- what matching pattern `t` against component `c` does to the bindings -/
def BindStep (t : Int) (σ : Ctx) (c : Bytes) (σ₁ : Ctx) : Prop :=
  if t < 0 then σ₁ = σ
  else (PyDict.get? σ t.toNat = some c ∧ σ₁ = σ) ∨ (PyDict.get? σ t.toNat = none ∧ σ₁ = PyDict.set σ t.toNat c)

/-- the meaning of one chain (from the component list `atoms` on, having passed the tags `prev`) -/
def ChainRun (fns : PureEnv) (rc : Chain) : List Atom → List Int → Ctx → List Bytes → Ctx → Prop
  | [], _, σ, [], σ' => σ' = σ
  | [], _, _, _ :: _, _ => False
  | _ :: _, _, _, [], _ => False
  | .lit v :: as, prev, σ, c :: cs, σ' => c = v ∧ ChainRun fns rc as prev σ cs σ'
  | .pat t :: as, prev, σ, c :: cs, σ' =>
    ConsSat fns σ c (pmove rc t prev).1 ∧
      ∃ σ₁, BindStep t σ c σ₁ ∧ ChainRun fns rc as (prev ++ [t]) σ₁ cs σ'

/-- the tag number an edge gets for pattern `t`: a named pattern keeps its number, a temporary one gets a
    number above the named ones -/
def TagFor (cnt : Nat) (t : Int) (tg : Nat) : Prop := (t < 0 → cnt < tg) ∧ (0 ≤ t → tg = t.toNat)

inductive Gen (m : Model) (cnt : Nat) : Nat → List Chain → List Int → Nat → Prop
  | mk (depth : Nat) (ctx : List Chain) (prev : List Int) (n : Nat) (node : Node) (dv tg : Nat → Nat)
      (hn : m.nodes[n]? = some node)
      (hnames : node.ruleNames = (ctx.filter (fun rc => rc.name.length == depth)).map (·.id))
      (hve : ∀ ve, ve ∈ node.vEdges ↔
        ∃ i mv v, (movesOf depth ctx prev)[i]? = some mv ∧ mv.value = some v ∧ ve = ⟨some (dv i), some v⟩)
      (hpe : ∀ pe, pe ∈ node.pEdges ↔
        ∃ i mv, (movesOf depth ctx prev)[i]? = some mv ∧ mv.value = none ∧ pe = ⟨some (dv i), some (tg i), mv.cons⟩)
      (htg : ∀ i mv, (movesOf depth ctx prev)[i]? = some mv → mv.value = none → TagFor cnt mv.tag (tg i))
      (hch : ∀ i mv, (movesOf depth ctx prev)[i]? = some mv → Gen m cnt (depth + 1) mv.ctx mv.prev (dv i)) :
      Gen m cnt depth ctx prev n

/-- the merge key determines the tag and the constraints of a pattern move -/
def KeyInj (ctx : List Chain) : Prop :=
  ∀ rc₁ ∈ ctx, ∀ rc₂ ∈ ctx, ∀ (t₁ t₂ : Int) (prev : List Int),
    t₁ ∈ rc₁.tags → t₂ ∈ rc₂.tags → (pmove rc₁ t₁ prev).2 = (pmove rc₂ t₂ prev).2 →
      t₁ = t₂ ∧ (pmove rc₁ t₁ prev).1 = (pmove rc₂ t₂ prev).1

theorem bindStep_ctxLe {cnt : Nat} {t : Int} {σ σ₁ : Ctx} {c : Bytes} (h : BindStep t σ c σ₁) (hle : CtxLe cnt σ)
    (ht : TagOK cnt t) : CtxLe cnt σ₁ := by
  unfold BindStep at h
  split at h
  · subst h; exact hle
  · rename_i hneg
    rcases h with ⟨_, h⟩ | ⟨_, h⟩
    · subst h; exact hle
    · subst h
      intro t' v hv
      rw [PyDict.get?_set] at hv
      split at hv
      · rename_i he; subst he; exact ht (by omega)
      · exact hle t' v hv

theorem accepts_iff {fns : PureEnv} {cnt tg : Nat} {t : Int} {σ : Ctx} (htf : TagFor cnt t tg) (hle : CtxLe cnt σ)
    (ht : TagOK cnt t) (d : Nat) (cons : List Constraint) (c : Bytes) (σ₁ : Ctx) :
    Accepts fns cnt ⟨some d, some tg, cons⟩ c σ σ₁ ↔ ConsSat fns σ c cons ∧ BindStep t σ c σ₁ := by
  rw [accepts_tag rfl]
  unfold BindStep
  refine and_congr_right fun _ => ?_
  by_cases hneg : t < 0
  · -- the edge of a temporary pattern has a tag above `cnt`: `σ` binds nothing there (`hle`) and `Accepts` records nothing
    have hgt := Nat.not_le.mpr (htf.1 hneg)
    have hnone : PyDict.get? σ tg = none := by
      cases hg : PyDict.get? σ tg with
      | none => rfl
      | some v => exact absurd (hle tg v hg) hgt
    rw [if_pos hneg, hnone, if_neg hgt]
    simp
  · have hge : 0 ≤ t := Int.not_lt.mp hneg
    rw [if_neg hneg, htf.2 hge, if_pos (ht hge)]

/-- what following the move `mv` on the component `c` asks and does to the bindings -/
def MoveStep (fns : PureEnv) (mv : Move) (c : Bytes) (σ σ₁ : Ctx) : Prop :=
  (mv.value = some c ∧ σ₁ = σ) ∨ (mv.value = none ∧ ConsSat fns σ c mv.cons ∧ BindStep mv.tag σ c σ₁)

theorem moveStep_ctxLe {fns : PureEnv} {cnt : Nat} {mv : Move} {c : Bytes} {σ σ₁ : Ctx} (h : MoveStep fns mv c σ σ₁)
    (hle : CtxLe cnt σ) (ht : mv.value = none → TagOK cnt mv.tag) : CtxLe cnt σ₁ := by
  rcases h with ⟨_, rfl⟩ | ⟨hv, _, hb⟩
  · exact hle
  · exact bindStep_ctxLe hb hle (ht hv)

/-- the chains that follow a move have its component at `depth`: the literal of a value move; the pattern of a pattern
    move, whose constraints - taken from the first chain of its key group - are by `KeyInj` those of each of them -/
theorem move_of_chain {depth : Nat} {ctx : List Chain} {prev : List Int} (hkey : KeyInj ctx) {mv : Move}
    (hmv : mv ∈ movesOf depth ctx prev) {rc : Chain} (hin : rc ∈ mv.ctx) :
    (∀ v, mv.value = some v → rc.name[depth]? = some (.lit v) ∧ mv.prev = prev) ∧
    (mv.value = none → rc.name[depth]? = some (.pat mv.tag) ∧ mv.cons = (pmove rc mv.tag prev).1 ∧
      mv.prev = prev ++ [mv.tag]) := by
  rcases List.mem_append.mp hmv with hm | hm
  · obtain ⟨_, _, v, _, hv, _, hprev, hctx⟩ := mem_vMoves hm
    refine ⟨fun w hw => ?_, fun hn => nomatch hv.symm.trans hn⟩
    cases hv.symm.trans hw
    exact ⟨litAt_iff.mp ((hctx rc).mp hin).2, hprev⟩
  · obtain ⟨hv, rc0, hrc0, t0, hp0, htag0, hcons0, hprev0, hgroup⟩ := mem_pMoves hm
    subst htag0
    refine ⟨fun w hw => (nomatch hv.symm.trans hw), fun _ => ?_⟩
    obtain ⟨hrc, t, hpt, hkeyeq⟩ := (hgroup rc).mp hin
    obtain ⟨rfl, hconseq⟩ := hkey rc (mem_live.mp hrc).1 rc0 (mem_live.mp hrc0).1 t mv.tag prev
      (patAt_mem_tags hpt) (patAt_mem_tags hp0) hkeyeq
    exact ⟨patAt_iff.mp hpt, hcons0.trans hconseq.symm, hprev0⟩

theorem chainRun_nil_iff {fns : PureEnv} {rc : Chain} {as : List Atom} {prev : List Int} {σ σ' : Ctx} :
    ChainRun fns rc as prev σ [] σ' ↔ as = [] ∧ σ' = σ := by
  cases as with
  | nil => simp [ChainRun]
  | cons a r => cases a <;> simp [ChainRun]

theorem chainRun_cons_iff {fns : PureEnv} {depth : Nat} {ctx : List Chain} {prev : List Int} (hkey : KeyInj ctx)
    {rc : Chain} (hrc : rc ∈ ctx) (c : Bytes) (cs : List Bytes) (σ σ' : Ctx) :
    ChainRun fns rc (rc.name.drop depth) prev σ (c :: cs) σ' ↔
      ∃ mv ∈ movesOf depth ctx prev, rc ∈ mv.ctx ∧ ∃ σ₁, MoveStep fns mv c σ σ₁ ∧
        ChainRun fns rc (rc.name.drop (depth + 1)) mv.prev σ₁ cs σ' := by
  constructor
  · intro hrun
    have hlt : depth < rc.name.length := Nat.lt_of_not_le fun h => by
      rw [List.drop_eq_nil_iff.mpr h] at hrun; exact hrun
    obtain ⟨mv, hmv, hin⟩ := moves_cover depth ctx prev rc hrc hlt
    obtain ⟨hval, hpat⟩ := move_of_chain hkey hmv hin
    refine ⟨mv, hmv, hin, ?_⟩
    cases hv : mv.value with
    | some v =>
      obtain ⟨ha, hp⟩ := hval v hv
      rw [drop_of_getElem? ha] at hrun
      obtain ⟨rfl, hrun⟩ := hrun
      exact ⟨σ, Or.inl ⟨hv, rfl⟩, by rw [hp]; exact hrun⟩
    | none =>
      obtain ⟨ha, hc, hp⟩ := hpat hv
      rw [drop_of_getElem? ha] at hrun
      obtain ⟨hcs, σ₁, hb, hrun⟩ := hrun
      exact ⟨σ₁, Or.inr ⟨hv, by rw [hc]; exact hcs, hb⟩, by rw [hp]; exact hrun⟩
  · rintro ⟨mv, hmv, hin, σ₁, hstep, hrun⟩
    obtain ⟨hval, hpat⟩ := move_of_chain hkey hmv hin
    rcases hstep with ⟨hv, rfl⟩ | ⟨hv, hcs, hb⟩
    · obtain ⟨ha, hp⟩ := hval c hv
      rw [drop_of_getElem? ha]
      exact ⟨rfl, by rw [← hp]; exact hrun⟩
    · obtain ⟨ha, hc, hp⟩ := hpat hv
      rw [drop_of_getElem? ha]
      exact ⟨by rw [← hc]; exact hcs, σ₁, hb, by rw [← hp]; exact hrun⟩

/-- a step from a `Gen` node follows one of its moves into the child there, itself a `Gen` node -/
theorem Gen.step {m : Model} {fns : PureEnv} {cnt : Nat} (hcnt : m.namedCnt = cnt) {depth : Nat} {ctx : List Chain}
    {prev : List Int} {n : Nat} (hgen : Gen m cnt depth ctx prev n) (htags : TagsLe cnt ctx) :
    ∃ dv : Nat → Nat,
      (∀ i mv, (movesOf depth ctx prev)[i]? = some mv → Gen m cnt (depth + 1) mv.ctx mv.prev (dv i)) ∧
      ∀ {σ : Ctx}, CtxLe cnt σ → ∀ (c : Bytes) (cs : List Bytes) (n' : Nat) (σ' : Ctx),
        Path m fns n σ (c :: cs) n' σ' ↔
          ∃ i mv, (movesOf depth ctx prev)[i]? = some mv ∧
            ∃ σ₁, MoveStep fns mv c σ σ₁ ∧ Path m fns (dv i) σ₁ cs n' σ' := by
  cases hgen with
  | mk _ _ _ _ node dv tg hn hnames hve hpe htg hch =>
  refine ⟨dv, hch, fun {σ} hσ c cs n' σ' => ?_⟩
  have hacc := fun (i : Nat) (mv : Move) (σ₁ : Ctx) (hi : (movesOf depth ctx prev)[i]? = some mv)
      (hv : mv.value = none) =>
    accepts_iff (fns := fns) (htg i mv hi hv) hσ (movesOf_tagOK htags mv (List.mem_of_getElem? hi) hv) (dv i)
      mv.cons c σ₁
  subst hcnt
  rw [path_cons_iff]
  constructor
  · rintro ⟨node1, hn1, hcase⟩
    cases hn.symm.trans hn1
    rcases hcase with ⟨ve, d, hvem, hvv, hvd, hpath⟩ | ⟨pe, d, σ₁, hpem, hpd, hacc', hpath⟩
    · obtain ⟨i, mv, v, hi, hmvv, rfl⟩ := (hve ve).mp hvem
      cases hvv
      cases hvd
      exact ⟨i, mv, hi, σ, Or.inl ⟨hmvv, rfl⟩, hpath⟩
    · obtain ⟨i, mv, hi, hmvv, rfl⟩ := (hpe pe).mp hpem
      cases hpd
      exact ⟨i, mv, hi, σ₁, Or.inr ⟨hmvv, (hacc i mv σ₁ hi hmvv).mp hacc'⟩, hpath⟩
  · rintro ⟨i, mv, hi, σ₁, ⟨hv, rfl⟩ | ⟨hv, hstep⟩, hpath⟩
    · exact ⟨node, hn, Or.inl ⟨_, dv i, (hve _).mpr ⟨i, mv, c, hi, hv, rfl⟩, rfl, rfl, hpath⟩⟩
    · exact ⟨node, hn,
        Or.inr ⟨_, dv i, σ₁, (hpe _).mpr ⟨i, mv, hi, hv, rfl⟩, rfl, (hacc i mv σ₁ hi hv).mpr hstep, hpath⟩⟩

theorem gen_sem (m : Model) (fns : PureEnv) (cnt : Nat) (hcnt : m.namedCnt = cnt) :
    ∀ (rest : List Bytes) (depth : Nat) (ctx : List Chain) (prev : List Int) (n : Nat) (σ : Ctx),
      Gen m cnt depth ctx prev n → (∀ rc ∈ ctx, depth ≤ rc.name.length) → KeyInj ctx → TagsLe cnt ctx →
      CtxLe cnt σ → ∀ (σ' : Ctx) (rid : String),
      (∃ n' node', Path m fns n σ rest n' σ' ∧ m.nodes[n']? = some node' ∧ rid ∈ node'.ruleNames) ↔
        ∃ rc ∈ ctx, rc.id = rid ∧ ChainRun fns rc (rc.name.drop depth) prev σ rest σ' := by
  intro rest
  induction rest with
  | nil =>
    intro depth ctx prev n σ hgen hlen _ _ _ σ' rid
    cases hgen with
    | mk _ _ _ _ node dv tg hn hnames hve hpe htg hch =>
    constructor
    · rintro ⟨n', node', hp, hn', hrid⟩
      obtain ⟨rfl, rfl⟩ := (path_nil_iff m fns n σ n' σ').mp hp
      cases hn.symm.trans hn'
      rw [hnames] at hrid
      obtain ⟨rc, hrc, hid⟩ := List.mem_map.mp hrid
      obtain ⟨hrc, hl⟩ := List.mem_filter.mp hrc
      exact ⟨rc, hrc, hid, chainRun_nil_iff.mpr ⟨List.drop_eq_nil_iff.mpr (Nat.le_of_eq (beq_iff_eq.mp hl)), rfl⟩⟩
    · rintro ⟨rc, hrc, hid, hrun⟩
      obtain ⟨hd, rfl⟩ := chainRun_nil_iff.mp hrun
      have hl := Nat.le_antisymm (List.drop_eq_nil_iff.mp hd) (hlen rc hrc)
      refine ⟨n, node, .nil n _, hn, ?_⟩
      rw [hnames]
      exact List.mem_map.mpr ⟨rc, List.mem_filter.mpr ⟨hrc, beq_iff_eq.mpr hl⟩, hid⟩
  | cons c cs ih =>
    intro depth ctx prev n σ hgen hlen hkey htags hσ σ' rid
    obtain ⟨dv, hch, hstep⟩ := hgen.step (fns := fns) hcnt htags
    -- the chains of a child are chains of this node that go on, so the hypotheses pass to the children
    have ih' := fun (i : Nat) (mv : Move) (σ₁ : Ctx) (hi : (movesOf depth ctx prev)[i]? = some mv)
        (hms : MoveStep fns mv c σ σ₁) =>
      have hsub := movesOf_ctx (List.mem_of_getElem? hi)
      ih (depth + 1) mv.ctx mv.prev (dv i) σ₁ (hch i mv hi) (fun rc hrc => (hsub rc hrc).2)
        (fun r1 h1 r2 h2 => hkey r1 (hsub r1 h1).1 r2 (hsub r2 h2).1) (fun rc hrc => htags rc (hsub rc hrc).1)
        (moveStep_ctxLe hms hσ (movesOf_tagOK htags mv (List.mem_of_getElem? hi))) σ' rid
    constructor
    · rintro ⟨n', node', hp, hn', hrid'⟩
      obtain ⟨i, mv, hi, σ₁, hms, hpath⟩ := (hstep hσ c cs n' σ').mp hp
      obtain ⟨rc, hin, hid, hrun⟩ := (ih' i mv σ₁ hi hms).mp ⟨n', node', hpath, hn', hrid'⟩
      have hrc := (movesOf_ctx (List.mem_of_getElem? hi) rc hin).1
      exact ⟨rc, hrc, hid,
        (chainRun_cons_iff hkey hrc c cs σ σ').mpr ⟨mv, List.mem_of_getElem? hi, hin, σ₁, hms, hrun⟩⟩
    · rintro ⟨rc, hrc, hid, hrun⟩
      obtain ⟨mv, hmv, hin, σ₁, hms, hrun⟩ := (chainRun_cons_iff hkey hrc c cs σ σ').mp hrun
      obtain ⟨i, hi⟩ := List.mem_iff_getElem?.mp hmv
      obtain ⟨n', node', hpath, hn', hrid'⟩ := (ih' i mv σ₁ hi hms).mpr ⟨rc, hin, hid, hrun⟩
      exact ⟨n', node', (hstep hσ c cs n' σ').mpr ⟨i, mv, hi, σ₁, hms, hpath⟩, hn', hrid'⟩

end Ndn.Lvs
