import NdnModel.Lvs.Match
import NdnModel.Lvs.Sem
/-!
  The iterative back-tracking search (`stepG` / `runG`) halts within `stepBound` iterations on every model whose
  reachable part is a tree (`TreeOK`), having yielded `matchTreeG` and restored the caller's context, or a first part of
  `matchTreeG` when a pattern edge raised (`run_from_start`).
-/
namespace Ndn.Lvs

/-- the structural facts the search relies on (a consequence of `Sane`) -/
structure TreeOK (m : Model) : Prop where
  root : ∃ node, m.nodes[m.startId]? = some node ∧ node.parent = none
  edges : ∀ n node, Reach m n → m.nodes[n]? = some node →
    ∀ d ∈ node.dests, ∃ k dn, d = some k ∧ m.nodes[k]? = some dn ∧ dn.parent = some n

theorem Sane.treeOK {m : Model} (h : Sane m) : TreeOK m :=
  ⟨h.root, fun n node hr hn => (h.edges n node hr hn).2.2⟩

/-- undo the binding recorded on `matches` -/
def undo (mt : Option Nat) (ctx : Ctx) : Ctx :=
  match mt with
  | some t => PyDict.erase ctx t
  | none => ctx

/-- what an accepting edge pushes on `matches` undoes its change of the context -/
def UndoRestores (g : EdgeFn) : Prop :=
  ∀ pe c ctx ctx' mt, g pe c ctx = .ok (some (ctx', mt)) → undo mt ctx' = ctx

def Raises (m : Model) (g : EdgeFn) (e : LvsErr) : Prop :=
  ∃ n node pe c ctx, Reach m n ∧ m.nodes[n]? = some node ∧ pe ∈ node.pEdges ∧ g pe c ctx = .error e

def EdgeTotal (m : Model) (g : EdgeFn) : Prop := ∀ e, ¬ Raises m g e

theorem EdgeTotal.ok {m : Model} {g : EdgeFn} (h : EdgeTotal m g) {n : Nat} {node : Node} {pe : PEdge}
    (hr : Reach m n) (hn : m.nodes[n]? = some node) (hpe : pe ∈ node.pEdges) (c : Bytes) (ctx : Ctx) :
    ∃ r, g pe c ctx = .ok r := by
  cases hg : g pe c ctx with
  | ok r => exact ⟨r, rfl⟩
  | error e => exact absurd ⟨n, node, pe, c, ctx, hr, hn, hpe, hg⟩ (h e)

theorem drop_cons_facts {α} (l : List α) (j : Nat) (c : α) (r : List α) (h : l.drop j = c :: r) :
    j < l.length ∧ l[j]? = some c ∧ l.drop (j + 1) = r := by
  have hj : j < l.length := by
    rcases Nat.lt_or_ge j l.length with hj | hj
    · exact hj
    · rw [List.drop_eq_nil_of_le hj] at h; cases h
  rw [List.drop_eq_getElem_cons hj] at h
  injection h with h1 h2
  exact ⟨hj, by rw [List.getElem?_eq_getElem hj, h1], h2⟩

theorem firstV_some {ves : List VEdge} {c : Bytes} {d : Option Nat} (h : firstV ves c = some d) :
    ∃ ve ∈ ves, ve.value = some c ∧ ve.dest = d := by
  induction ves with
  | nil => simp [firstV] at h
  | cons ve r ih =>
    simp only [firstV] at h
    split at h
    · rename_i hv
      exact ⟨ve, by simp, hv, by simpa using h⟩
    · obtain ⟨ve', hm, h1, h2⟩ := ih h
      exact ⟨ve', List.mem_cons_of_mem _ hm, h1, h2⟩

theorem firstV_of_mem {ves : List VEdge} {c : Bytes} {ve : VEdge} (hm : ve ∈ ves) (hv : ve.value = some c) :
    ∃ ve' ∈ ves, ve'.value = some c ∧ firstV ves c = some ve'.dest := by
  induction ves with
  | nil => simp at hm
  | cons x r ih =>
    by_cases hx : x.value = some c
    · exact ⟨x, by simp, hx, by simp [firstV, hx]⟩
    · rcases List.mem_cons.mp hm with rfl | hm
      · exact absurd hv hx
      · obtain ⟨ve', hm', hv', hf⟩ := ih hm
        exact ⟨ve', List.mem_cons_of_mem _ hm', hv', by simp [firstV, hx, hf]⟩

theorem vdest_mem_dests {node : Node} {ve : VEdge} (h : ve ∈ node.vEdges) : ve.dest ∈ node.dests := by
  unfold Node.dests
  exact List.mem_append_left _ (List.mem_map.mpr ⟨ve, h, rfl⟩)

theorem pdest_mem_dests {node : Node} {pe : PEdge} (h : pe ∈ node.pEdges) : pe.dest ∈ node.dests := by
  unfold Node.dests
  exact List.mem_append_right _ (List.mem_map.mpr ⟨pe, h, rfl⟩)

theorem Reach.node {m : Model} (ht : TreeOK m) {n : Nat} (h : Reach m n) : ∃ node, m.nodes[n]? = some node := by
  cases h with
  | start => obtain ⟨node, h1, _⟩ := ht.root; exact ⟨node, h1⟩
  | edge hr hn hd =>
    obtain ⟨k, dn, hk, hdn, _⟩ := ht.edges _ _ hr hn _ hd
    cases hk; exact ⟨dn, hdn⟩

theorem le_foldr_max {α : Type} (f : α → Nat) (l : List α) :
    ∀ a ∈ l, f a ≤ l.foldr (fun x acc => max (f x) acc) 0 := by
  induction l with
  | nil => intro a ha; simp at ha
  | cons x xs ih =>
    intro a ha
    rcases List.mem_cons.mp ha with rfl | ha
    · exact Nat.le_max_left _ _
    · exact Nat.le_trans (ih a ha) (Nat.le_max_right _ _)

theorem pEdges_le_maxPE (m : Model) (n : Nat) (node : Node) (h : m.nodes[n]? = some node) :
    node.pEdges.length ≤ maxPE m :=
  le_foldr_max (·.pEdges.length) m.nodes node (List.mem_of_getElem? h)

section
variable (m : Model) (g : EdgeFn) (name : List Bytes)

theorem stepG_halted (S : St) (h : S.cur = none) : stepG m g name S = S := by
  unfold stepG; rw [h]

theorem runG_halted (k : Nat) (S : St) (h : S.cur = none) : runG m g name k S = S := by
  cases k with
  | zero => rfl
  | succ k => simp [runG, h]

theorem runG_succ (k : Nat) (S : St) : runG m g name (k + 1) S = runG m g name k (stepG m g name S) := by
  cases hc : S.cur with
  | none => rw [stepG_halted m g name S hc, runG_halted m g name _ S hc, runG_halted m g name _ S hc]
  | some c => simp [runG, hc]

theorem runG_add (a b : Nat) (S : St) :
    runG m g name (a + b) S = runG m g name b (runG m g name a S) := by
  induction a generalizing S with
  | zero => simp [runG]
  | succ a ih =>
    rw [show a + 1 + b = (a + b) + 1 by omega, runG_succ, runG_succ, ih]

theorem runG_one (S : St) : runG m g name 1 S = stepG m g name S := by
  rw [runG_succ]; rfl

theorem runG_of_le (k n : Nat) (S : St) (hk : k ≤ n) (hh : (runG m g name k S).cur = none) :
    runG m g name n S = runG m g name k S := by
  obtain ⟨d, rfl⟩ := Nat.exists_eq_add_of_le hk
  rw [runG_add, runG_halted _ _ _ _ _ hh]

theorem stepG_outs (S : St) :
    ∃ l, (stepG m g name S).outs = S.outs ++ l := by
  have keep : ∀ T : St, T.outs = S.outs → ∃ l, T.outs = S.outs ++ l :=
    fun T h => ⟨[], by rw [h, List.append_nil]⟩
  -- the branches of `stepG` in order: only the one that yields appends
  unfold stepG
  split
  · exact keep _ rfl
  · split
    · exact keep _ rfl
    · split
      · exact ⟨_, rfl⟩
      · split
        · exact keep _ rfl
        · split
          · split <;> exact keep _ rfl
          · split
            · exact keep _ rfl
            · split <;> exact keep _ rfl

theorem runG_outs (j d : Nat) (S : St) :
    ∃ l, (runG m g name (j + d) S).outs = (runG m g name j S).outs ++ l := by
  induction d with
  | zero => exact ⟨[], by simp⟩
  | succ d ih =>
    obtain ⟨l, hl⟩ := ih
    rw [show j + (d + 1) = (j + d) + 1 by omega, runG_add, runG_one]
    obtain ⟨l', hl'⟩ := stepG_outs m g name (runG m g name (j + d) S)
    exact ⟨l ++ l', by rw [hl', hl, List.append_assoc]⟩

end

/-- contribution of one pattern edge to the result list (the body of `matchTreeG`'s `flatMap`) -/
def edgeOuts (m : Model) (g : EdgeFn) (rest : List Bytes) (c : Bytes) (ctx : Ctx) (pe : PEdge) :
    List (Nat × Ctx) :=
  match g pe c ctx with
  | .ok (some (ctx', _)) =>
    (match pe.dest with
      | some d => matchTreeG m g rest d ctx'
      | none => [])
  | _ => []

theorem mem_edgeOuts {m : Model} {g : EdgeFn} {rest : List Bytes} {c : Bytes} {σ : Ctx} {pe : PEdge}
    {x : Nat × Ctx} :
    x ∈ edgeOuts m g rest c σ pe ↔
      ∃ σ₁ mt d, g pe c σ = .ok (some (σ₁, mt)) ∧ pe.dest = some d ∧ x ∈ matchTreeG m g rest d σ₁ := by
  unfold edgeOuts
  cases hg : g pe c σ with
  | error e => simp
  | ok r =>
    cases r with
    | none => simp
    | some p =>
      obtain ⟨σ₁, mt⟩ := p
      cases hd : pe.dest with
      | none => simp
      | some d => simp

theorem matchTreeG_cons (m : Model) (g : EdgeFn) (c : Bytes) (rest : List Bytes) (n : Nat) (ctx : Ctx)
    (node : Node) (hn : m.nodes[n]? = some node) :
    matchTreeG m g (c :: rest) n ctx =
      (match firstV node.vEdges c with
        | some (some d) => matchTreeG m g rest d ctx
        | _ => [])
      ++ node.pEdges.flatMap (edgeOuts m g rest c ctx) := by
  simp only [matchTreeG, hn]; rfl

section core
variable {m : Model} {g : EdgeFn} {name : List Bytes}

theorem backtrack_push (node : Node) (cur ei : Option Nat) (i : Nat) (stk : List Nat) (ctx : Ctx) (mt : Option Nat)
    (ms : List (Option Nat)) (outs : List (Nat × Ctx)) :
    backtrack node ⟨cur, ei, i :: stk, ctx, mt :: ms, outs, none⟩ =
      ⟨node.parent, some i, stk, undo mt ctx, ms, outs, none⟩ := by
  cases mt <;> rfl

theorem stepG_yield {n : Nat} {node : Node} (hn : m.nodes[n]? = some node)
    (ei : Option Nat) (stk : List Nat) (ctx : Ctx) (ms : List (Option Nat)) (outs : List (Nat × Ctx))
    (hl : stk.length = name.length) :
    stepG m g name ⟨some n, ei, stk, ctx, ms, outs, none⟩ =
      backtrack node ⟨some n, ei, stk, ctx, ms, outs ++ [(n, ctx)], none⟩ := by
  simp [stepG, hn, hl]

theorem stepG_inner {n : Nat} {node : Node} (hn : m.nodes[n]? = some node)
    (ei : Option Nat) (stk : List Nat) (ctx : Ctx) (ms : List (Option Nat)) (outs : List (Nat × Ctx))
    {c : Bytes} (hc : name[stk.length]? = some c) :
    stepG m g name ⟨some n, ei, stk, ctx, ms, outs, none⟩ =
      match ei with
      | none =>
        (match firstV node.vEdges c with
          | some d => ⟨d, none, 0 :: stk, ctx, none :: ms, outs, none⟩
          | none => ⟨some n, some 0, stk, ctx, ms, outs, none⟩)
      | some i =>
        match node.pEdges[i]? with
        | none => backtrack node ⟨some n, some i, stk, ctx, ms, outs, none⟩
        | some pe =>
          match g pe c ctx with
          | .error e => St.fail ⟨some n, some i, stk, ctx, ms, outs, none⟩ e
          | .ok none => ⟨some n, some (i + 1), stk, ctx, ms, outs, none⟩
          | .ok (some (ctx', mt)) => ⟨pe.dest, none, (i + 1) :: stk, ctx', mt :: ms, outs, none⟩ := by
  have hl : stk.length ≠ name.length := Nat.ne_of_lt (List.getElem?_eq_some_iff.mp hc).1
  simp only [stepG, hn, hl, hc, if_false]
  cases ei <;> rfl

/-- the loop has ended on an exception, having yielded after `outs` a first part of `whole`; built and taken apart as
    `⟨cur = none, ⟨l, l', whole = l ++ l', outs' = outs ++ l⟩, e, err = some e, Raises m g e⟩` -/
def Failed (m : Model) (g : EdgeFn) (outs whole : List (Nat × Ctx)) (S : St) : Prop :=
  S.cur = none ∧ (∃ l l', whole = l ++ l' ∧ S.outs = outs ++ l) ∧ ∃ e, S.err = some e ∧ Raises m g e

/-- from `S outs`, within `k` iterations, the loop reaches `T (outs ++ l)` - it has yielded `l` - or it has ended on the
    exception of an edge, having yielded a first part of `l` (`S`, `T`: a state but for what has been yielded) -/
def Leads (m : Model) (g : EdgeFn) (name : List Bytes) (k : Nat) (S : List (Nat × Ctx) → St) (l : List (Nat × Ctx))
    (T : List (Nat × Ctx) → St) : Prop :=
  ∀ outs, ∃ j, j ≤ k ∧ (runG m g name j (S outs) = T (outs ++ l) ∨ Failed m g outs l (runG m g name j (S outs)))

theorem Leads.step {S T : List (Nat × Ctx) → St} (h : ∀ outs, stepG m g name (S outs) = T outs) :
    Leads m g name 1 S [] T :=
  fun outs => ⟨1, Nat.le_refl 1, .inl (by rw [runG_one, h, List.append_nil])⟩

theorem Leads.trans {k1 k2 : Nat} {S T U : List (Nat × Ctx) → St} {l1 l2 : List (Nat × Ctx)}
    (h1 : Leads m g name k1 S l1 T) (h2 : Leads m g name k2 T l2 U) : Leads m g name (k1 + k2) S (l1 ++ l2) U := by
  intro outs
  obtain ⟨j1, hj1, h1 | ⟨hcur, ⟨l, l', hw, ho⟩, he⟩⟩ := h1 outs
  · obtain ⟨j2, hj2, h2⟩ := h2 (outs ++ l1)
    refine ⟨j1 + j2, Nat.add_le_add hj1 hj2, ?_⟩
    rw [runG_add, h1]
    refine h2.imp (fun h => by rw [h, List.append_assoc]) fun ⟨hcur, ⟨l, l', hw, ho⟩, he⟩ => ?_
    exact ⟨hcur, ⟨l1 ++ l, l', by rw [hw, List.append_assoc], by rw [ho, List.append_assoc]⟩, he⟩
  · exact ⟨j1, Nat.le_trans hj1 (Nat.le_add_right _ _),
      .inr ⟨hcur, ⟨l, l' ++ l2, by rw [hw, List.append_assoc], ho⟩, he⟩⟩

theorem Leads.mono {k k' : Nat} {S T : List (Nat × Ctx) → St} {l : List (Nat × Ctx)} (h : Leads m g name k S l T)
    (hk : k ≤ k') : Leads m g name k' S l T :=
  fun outs => let ⟨j, hj, hr⟩ := h outs; ⟨j, Nat.le_trans hj hk, hr⟩

/-- what a visit of node `n` with `rest` still to match does: it yields `matchTreeG` and back-tracks, or it yields a first
    part of it and ends on the exception of an edge -/
def NodeP (m : Model) (g : EdgeFn) (name : List Bytes) (rest : List Bytes) : Prop :=
  ∀ n node stk ctx ms, Reach m n → m.nodes[n]? = some node →
    stk.length ≤ name.length → name.drop stk.length = rest →
    ∃ ei, Leads m g name (stepBound (maxPE m) rest.length) (fun o => ⟨some n, none, stk, ctx, ms, o, none⟩)
      (matchTreeG m g rest n ctx) (fun o => backtrack node ⟨some n, ei, stk, ctx, ms, o, none⟩)

theorem edges_loop (ht : TreeOK m) (hd : UndoRestores g)
    (c : Bytes) (rest : List Bytes) (ih : NodeP m g name rest)
    {n : Nat} {node : Node} (hr : Reach m n) (hn : m.nodes[n]? = some node)
    (stk : List Nat) (ctx : Ctx) (ms : List (Option Nat))
    (hdrop : name.drop stk.length = c :: rest) :
    ∀ (l : List PEdge) (i : Nat), node.pEdges.drop i = l → i ≤ node.pEdges.length →
      Leads m g name (l.length * (1 + stepBound (maxPE m) rest.length)) (fun o => ⟨some n, some i, stk, ctx, ms, o, none⟩)
        (l.flatMap (edgeOuts m g rest c ctx)) (fun o => ⟨some n, some node.pEdges.length, stk, ctx, ms, o, none⟩) := by
  obtain ⟨hl, hc, hdrop'⟩ := drop_cons_facts _ _ _ _ hdrop
  intro l
  induction l with
  | nil =>
    intro i hdr hi
    obtain rfl : i = node.pEdges.length := Nat.le_antisymm hi (List.drop_eq_nil_iff.mp hdr)
    exact fun outs => ⟨0, by simp, .inl (by simp [runG])⟩
  | cons pe tl ihl =>
    intro i hdr _
    obtain ⟨hi, hpe, hdr'⟩ := drop_cons_facts _ _ _ _ hdr
    have hmem : pe ∈ node.pEdges := List.mem_of_getElem? hpe
    have hstep := fun outs => stepG_inner (g := g) hn (some i) stk ctx ms outs hc
    simp only [hpe] at hstep
    simp only [List.length_cons, Nat.succ_mul, List.flatMap_cons]
    cases hgr : g pe c ctx with
    | error e =>
      intro outs
      refine ⟨1, by omega, .inr ?_⟩
      rw [runG_one, hstep, hgr]
      exact ⟨rfl, ⟨[], _, rfl, (List.append_nil _).symm⟩, e, rfl, n, node, pe, c, ctx, hr, hn, hmem, hgr⟩
    | ok r =>
      simp only [hgr] at hstep
      cases r with
      | none =>
        rw [show edgeOuts m g rest c ctx pe = [] by simp only [edgeOuts, hgr]]
        exact ((Leads.step hstep).trans (ihl (i + 1) hdr' hi)).mono (by omega)
      | some p =>
        obtain ⟨ctx', mt⟩ := p
        -- into the destination, back with the binding undone, on with the next edge
        obtain ⟨d, dn, hdest, hdn, hpar⟩ := ht.edges n node hr hn _ (pdest_mem_dests hmem)
        obtain ⟨ei, hvis⟩ := ih d dn ((i + 1) :: stk) ctx' (mt :: ms)
          (Reach.edge hr hn (hdest ▸ pdest_mem_dests hmem)) hdn hl hdrop'
        simp only [backtrack_push, hpar, hd pe c ctx ctx' mt hgr] at hvis
        rw [hdest] at hstep
        rw [show edgeOuts m g rest c ctx pe = matchTreeG m g rest d ctx' by simp only [edgeOuts, hgr, hdest]]
        exact (((Leads.step hstep).trans hvis).trans (ihl (i + 1) hdr' hi)).mono (by omega)

/-- by induction on what is left of the name: a visit is one step (yield) when nothing is left; else the value edge, the
    loop over the pattern edges - each descent a visit for the shorter rest - and the step that back-tracks; an exception
    on the way ends the visit there -/
theorem nodeP_all (ht : TreeOK m) (hd : UndoRestores g) : ∀ rest, NodeP m g name rest := by
  intro rest
  induction rest with
  | nil =>
    intro n node stk ctx ms _ hn hle hdrop
    have hl : stk.length = name.length := Nat.le_antisymm hle (List.drop_eq_nil_iff.mp hdrop)
    exact ⟨none, fun outs => ⟨1, Nat.le_refl 1, .inl (by rw [runG_one, stepG_yield hn _ _ _ _ _ hl]; rfl)⟩⟩
  | cons c rest ih =>
    intro n node stk ctx ms hr hn _ hdrop
    obtain ⟨hl, hc, hdrop'⟩ := drop_cons_facts _ _ _ _ hdrop
    have hstep := fun ei outs => stepG_inner (g := g) hn ei stk ctx ms outs hc
    -- the loop over the pattern edges, then the step that back-tracks
    have hdone := hstep (some node.pEdges.length)
    simp only [List.getElem?_eq_none (Nat.le_refl _)] at hdone
    have htail := (edges_loop ht hd c rest ih hr hn stk ctx ms hdrop node.pEdges 0 rfl (Nat.zero_le _)).trans
      (Leads.step hdone)
    rw [List.append_nil] at htail
    have hb := Nat.mul_le_mul_right (1 + stepBound (maxPE m) rest.length) (pEdges_le_maxPE m n node hn)
    refine ⟨some node.pEdges.length, ?_⟩
    rw [matchTreeG_cons m g c rest n ctx node hn]
    simp only [stepBound, List.length_cons, Nat.succ_mul, Nat.mul_add, Nat.mul_one] at hb htail ⊢
    -- before it at most one value edge is followed; afterwards the edge index is 0
    have hnone := hstep none
    cases hf : firstV node.vEdges c with
    | none =>
      simp only [hf] at hnone ⊢
      exact ((Leads.step hnone).trans htail).mono (by omega)
    | some dv =>
      obtain ⟨ve, hve, _, hvd⟩ := firstV_some hf
      obtain ⟨d, dn, hdest, hdn, hpar⟩ := ht.edges n node hr hn _ (vdest_mem_dests hve)
      obtain rfl : dv = some d := by rw [← hvd, hdest]
      simp only [hf] at hnone ⊢
      obtain ⟨ei, hvis⟩ := ih d dn (0 :: stk) ctx (none :: ms)
        (Reach.edge hr hn (hdest ▸ vdest_mem_dests hve)) hdn hl hdrop'
      simp only [backtrack_push, hpar, undo] at hvis
      exact (((Leads.step hnone).trans hvis).trans htail).mono (by omega)

theorem run_from_start (ht : TreeOK m) (hd : UndoRestores g) (ctx : Ctx) :
    ∃ k, k ≤ stepBound (maxPE m) name.length ∧
      ((∃ ei, runG m g name k (initSt m ctx) = ⟨none, ei, [], ctx, [], matchTreeG m g name m.startId ctx, none⟩) ∨
       Failed m g [] (matchTreeG m g name m.startId ctx) (runG m g name k (initSt m ctx))) := by
  obtain ⟨root, hroot, hpar⟩ := ht.root
  obtain ⟨ei, hvis⟩ := nodeP_all ht hd name m.startId root [] ctx [] Reach.start hroot (Nat.zero_le _) rfl
  obtain ⟨k, hk, hrun⟩ := hvis []
  refine ⟨k, hk, hrun.imp_left fun h => ⟨ei, ?_⟩⟩
  dsimp only at h
  rw [initSt, h, backtrack, hpar]; rfl

end core

end Ndn.Lvs
