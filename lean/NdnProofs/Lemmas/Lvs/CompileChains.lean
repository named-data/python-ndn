import NdnProofs.Lemmas.Lvs.CompileSort
import NdnProofs.Lemmas.Lvs.CompileTree
import NdnProofs.Lemmas.Lvs.SrcNumber
/-!
  What passes 1–3 put into the chains.  Pass 2 component by component is `genPatternNumbers_num` (`SrcNumber`); read without
  the table it keeps identifiers, signers, references and literals and writes numbers of named patterns or negative ones
  (`numbered_name`, `genPatternNumbers_mem`, `RuleNum.ruleOK`).  Pass 3: every name component and every constraint of a
  chain comes from a rule or is a fresh negative pattern number (`replicateLoop_all`, an instance of the one walk over the
  loop, `replicateLoop_induct`).  So what holds of every numbered rule holds of every chain (`chainsOf_all`): what the
  grammar guarantees of literals and user-function names (`RuleOK` → `ChainOK`, `chainsOf_ok`), and that a non-negative
  pattern number is the number of a named pattern (`chainsOf_tagsLe`).
-/
namespace Ndn.Lvs

/-- what the grammar guarantees of a rule: literal components are encoded components, hence not empty, and every
    constraint option is `OptOK` -/
def RuleOK {τ π : Type} (r : Rule τ π) : Prop :=
  (∀ v, Comp.lit v ∈ r.name → v ≠ []) ∧ ∀ cs ∈ r.cons, ∀ t ∈ cs, ∀ o ∈ t.opts, OptOK o

/-- what `grammar.py` guarantees of every AST it produces, as far as the theorems need it -/
def Schema.WF (S : Schema) : Prop := ∀ r ∈ S.rules, RuleOK r

theorem chainsOf_ok_inv {S : Schema} {chains : List Chain} {named : List String} (h : chainsOf S = .ok (chains, named)) :
    ∃ rules nrules rep, sortRuleReferences S = .ok rules ∧ genPatternNumbers rules = .ok (nrules, named) ∧
      replicateLoop nrules [] (firstFreshTemp nrules) = .ok rep ∧ chains = allChains rep := by
  unfold chainsOf at h
  split at h
  · cases h
  · rename_i rules hsort
    split at h
    · cases h
    · rename_i nrules named' hnum
      split at h
      · cases h
      · rename_i rep hrep
        cases h
        exact ⟨rules, nrules, rep, hsort, hnum, hrep, rfl⟩

theorem mem_allChains {rep : PyDict String (List Chain)} {c : Chain} : c ∈ allChains rep ↔ ∃ p ∈ rep, c ∈ p.2 := by
  unfold allChains
  rw [List.mem_flatMap]
  exact exists_congr fun p => and_congr_left fun _ => mem_isort

theorem firstFreshTemp_neg (rules : List NRule) : firstFreshTemp rules < 0 := by
  have := foldl_min_le (rules.flatMap (fun r => patsOf r.name)) 0
  unfold firstFreshTemp
  omega

theorem numOpt_optOK {named : List String} {o : Opt String} {o' : Opt Int} (h : numOpt named o = .ok o')
    (ho : OptOK o) : OptOK o' := by
  rcases numOpt_inv h with ⟨v, rfl, rfl⟩ | ⟨p, rfl, _, rfl⟩ | ⟨f, args, nargs, rfl, _, rfl⟩
  · exact ho
  · trivial
  · exact ho

theorem CompNum.shape {F : List String} {tp : PyDict String (List Int)} {c : Comp String} {o : Comp Int}
    (h : CompNum F tp c o) :
    (∀ v, o = .lit v → c = .lit v) ∧ (∀ t, o = .pat t → TagOK F.length t) ∧
      refsOf [o] = refsOf [c] := by
  cases h with
  | lit v => exact ⟨fun _ h => Comp.lit.inj h ▸ rfl, fun _ h => (nomatch h), rfl⟩
  | ref q => exact ⟨fun _ h => (nomatch h), fun _ h => (nomatch h), rfl⟩
  | named p _ hp =>
    refine ⟨fun _ h => (nomatch h), fun t ht _ => ?_, rfl⟩
    cases ht
    have := List.idxOf_lt_length_iff.mpr hp
    simp only [tagIn, Int.ofNat_eq_natCast, Int.toNat_natCast]
    omega
  | temp p t _ ht _ => exact ⟨fun _ h => (nomatch h), fun _ h => Comp.pat.inj h ▸ tagOK_neg ht, rfl⟩

theorem numbered_name {F : List String} {tp : PyDict String (List Int)} {comps : List (Comp String)} {out : List (Comp Int)}
    (h : All2 (CompNum F tp) comps out) :
    refsOf out = refsOf comps ∧ (∀ v, Comp.lit v ∈ out → Comp.lit v ∈ comps) ∧ ∀ t ∈ patsOf out, TagOK F.length t := by
  refine ⟨?_, fun v hv => ?_, fun t ht => ?_⟩
  · induction h with
    | nil => rfl
    | cons hr _ ih => rw [refsOf_cons, hr.shape.2.2, ih, ← refsOf_cons]
  · obtain ⟨c, hc, hr⟩ := h.mem_right _ hv
    exact hr.shape.1 v rfl ▸ hc
  · obtain ⟨c, _, hr⟩ := h.mem_right _ (mem_patsOf.mp ht)
    exact hr.shape.2.1 t rfl

theorem genPatternNumbers_pairs {rules : List SRule} {nrules : List NRule} {named : List String}
    (h : genPatternNumbers rules = .ok (nrules, named)) :
    nrules.map (fun nr => (nr.id, refsOf nr.name)) = rules.map (fun r => (r.id, refsOf r.name)) :=
  ((genPatternNumbers_num h).2.1.map_eq fun r nr ⟨hid, _, _, hn, _⟩ => by rw [hid, (numbered_name hn).1]).symm

theorem genPatternNumbers_mem {rules : List SRule} {nrules : List NRule} {named : List String}
    (h : genPatternNumbers rules = .ok (nrules, named)) :
    (∀ r ∈ rules, ∃ nr ∈ nrules, nr.id = r.id ∧ nr.sign = r.sign) ∧
    (∀ nr ∈ nrules, ∃ r ∈ rules, nr.id = r.id ∧ nr.sign = r.sign) :=
  ⟨fun r hr => ((genPatternNumbers_num h).2.1.mem_left r hr).imp fun _ ⟨hnr, hid, hsg, _⟩ => ⟨hnr, hid, hsg⟩,
   fun nr hnr => ((genPatternNumbers_num h).2.1.mem_right nr hnr).imp fun _ ⟨hr, hid, hsg, _⟩ => ⟨hr, hid, hsg⟩⟩

theorem RuleNum.ruleOK {F : List String} {r : SRule} {nr : NRule} (h : RuleNum F r nr) (hr : RuleOK r) : RuleOK nr := by
  obtain ⟨_, _, tp, hn, _, hcons⟩ := h
  refine ⟨fun v hv => hr.1 v ((numbered_name hn).2.1 v hv), fun cs hcs t ht o ho => ?_⟩
  obtain ⟨cs0, hcs0, hm⟩ := mapE_ok_mem' hcons cs hcs
  obtain ⟨t0, ht0, hm2⟩ := mapE_ok_mem' hm t ht
  obtain ⟨o0, ho0, hm3⟩ := mapE_ok_mem' (numTerm_inv hm2).1 o ho
  exact numOpt_optOK hm3 (hr.2 cs0 hcs0 t0 ht0 o0 ho0)

def ChainAll (A : Atom → Prop) (T : NTerm → Prop) (c : Chain) : Prop :=
  (∀ a ∈ c.name, A a) ∧ ∀ t ∈ c.cons, T t

def RuleAll (A : Atom → Prop) (T : NTerm → Prop) (r : NRule) : Prop :=
  (∀ v, Comp.lit v ∈ r.name → A (.lit v)) ∧ (∀ t ∈ patsOf r.name, A (.pat t)) ∧
    ∀ cs ∈ r.cons, ∀ t ∈ cs, T t

/-- `T` survives `_fresh_temp_tags`, which renames the left-hand sides, negative numbers to negative numbers -/
def RenClosed (T : NTerm → Prop) : Prop :=
  ∀ ρ : Int → Int, (∀ i, i < 0 → ρ i < 0) → ∀ t, T t → T { t with pat := t.pat.map ρ }

/-- chain `c` stands in the table `rep_rules` under the key `k` -/
def Has (rep : PyDict String (List Chain)) (k : String) (c : Chain) : Prop :=
  ∃ v, PyDict.get? rep k = some v ∧ c ∈ v

theorem get?_repAdd (rep : PyDict String (List Chain)) (id : String) (cur : List Chain) (k : String) :
    PyDict.get? (repAdd rep id cur) k =
      if id = k then some ((PyDict.get? rep id).getD [] ++ cur) else PyDict.get? rep k := by
  unfold repAdd
  cases h : PyDict.get? rep id <;> simp only [PyDict.get?_set, Option.getD, List.nil_append]

theorem has_repAdd {rep : PyDict String (List Chain)} {id : String} {cur : List Chain} {k : String} {c : Chain} :
    Has (repAdd rep id cur) k c ↔ Has rep k c ∨ (k = id ∧ c ∈ cur) := by
  unfold Has
  rw [get?_repAdd]
  split
  · rename_i he
    subst he
    cases PyDict.get? rep id <;> simp
  · rename_i hne
    simp [Ne.symm hne]

def RepAll (A : Atom → Prop) (T : NTerm → Prop) (rep : PyDict String (List Chain)) : Prop :=
  ∀ k c, Has rep k c → ChainAll A T c

/-- `chain.name + fresh_chain.name`, `chain.cons_set + fresh_chain.cons_set` -/
def joinChain (rid : String) (ch fr : Chain) : Chain :=
  { id := rid, name := ch.name ++ fr.name, cons := ch.cons ++ fr.cons, sign := ch.sign }

theorem inlineInner_cons (rid : String) (refc ch : Chain) (r : List Chain) (nt : Int) :
    inlineInner rid refc (ch :: r) nt =
      (joinChain rid ch (freshTempTags ch refc nt).1 :: (inlineInner rid refc r (freshTempTags ch refc nt).2).1,
        (inlineInner rid refc r (freshTempTags ch refc nt).2).2) := rfl

theorem freshName_le (used : List Int) (name : List Atom) (nt : Int) (mp : PyDict Int Int) :
    (freshName used name nt mp).2.1 ≤ nt := by
  fun_induction freshName used name nt mp with
  | case1 => exact Int.le_refl _
  | case2 _ _ _ _ _ _ _ heq ih => rwa [heq] at ih
  | case3 _ _ nt _ _ _ _ _ heq ih => rw [heq] at ih; exact Int.le_trans ih (Int.le_of_lt (Int.sub_one_lt_of_le (Int.le_refl nt)))
  | case4 _ _ _ _ _ _ _ _ heq ih => rwa [heq] at ih

theorem freshTempTags_le (ch ref : Chain) (nt : Int) : (freshTempTags ch ref nt).2 ≤ nt :=
  freshName_le _ _ _ _

theorem inlineInner_mem (rid : String) (refc : Chain) : ∀ (cur : List Chain) (nt : Int),
    (inlineInner rid refc cur nt).2 ≤ nt ∧
    (∀ ch' ∈ (inlineInner rid refc cur nt).1, ∃ ch ∈ cur, ∃ nt1, nt1 ≤ nt ∧
      (inlineInner rid refc cur nt).2 ≤ (freshTempTags ch refc nt1).2 ∧ ch' = joinChain rid ch (freshTempTags ch refc nt1).1) ∧
    (∀ ch ∈ cur, ∃ nt1, nt1 ≤ nt ∧ (inlineInner rid refc cur nt).2 ≤ (freshTempTags ch refc nt1).2 ∧
      joinChain rid ch (freshTempTags ch refc nt1).1 ∈ (inlineInner rid refc cur nt).1) := by
  intro cur
  induction cur with
  | nil => exact fun nt => ⟨Int.le_refl _, nofun, nofun⟩
  | cons c r ih =>
    intro nt
    obtain ⟨i1, i2, i3⟩ := ih (freshTempTags c refc nt).2
    have hle := freshTempTags_le c refc nt
    rw [inlineInner_cons]
    refine ⟨Int.le_trans i1 hle, ?_, ?_⟩
    · intro ch' hch'
      rcases List.mem_cons.mp hch' with rfl | hch'
      · exact ⟨c, List.mem_cons_self, nt, Int.le_refl _, i1, rfl⟩
      · obtain ⟨ch, hch, nt1, h1, h2, h3⟩ := i2 ch' hch'
        exact ⟨ch, List.mem_cons_of_mem _ hch, nt1, Int.le_trans h1 hle, h2, h3⟩
    · intro ch hch
      rcases List.mem_cons.mp hch with rfl | hch
      · exact ⟨nt, Int.le_refl _, i1, List.mem_cons_self⟩
      · obtain ⟨nt1, h1, h2, h3⟩ := i3 ch hch
        exact ⟨nt1, Int.le_trans h1 hle, h2, List.mem_cons_of_mem _ h3⟩

theorem inlineRef_mem (rid : String) : ∀ (reps cur : List Chain) (nt : Int),
    (inlineRef rid reps cur nt).2 ≤ nt ∧
    (∀ ch' ∈ (inlineRef rid reps cur nt).1, ∃ refc ∈ reps, ∃ ch ∈ cur, ∃ nt1, nt1 ≤ nt ∧
      (inlineRef rid reps cur nt).2 ≤ (freshTempTags ch refc nt1).2 ∧ ch' = joinChain rid ch (freshTempTags ch refc nt1).1) ∧
    (∀ refc ∈ reps, ∀ ch ∈ cur, ∃ nt1, nt1 ≤ nt ∧ (inlineRef rid reps cur nt).2 ≤ (freshTempTags ch refc nt1).2 ∧
      joinChain rid ch (freshTempTags ch refc nt1).1 ∈ (inlineRef rid reps cur nt).1) := by
  intro reps
  induction reps with
  | nil => exact fun cur nt => ⟨Int.le_refl _, nofun, nofun⟩
  | cons refc rs ih =>
    intro cur nt
    obtain ⟨a1, a2, a3⟩ := inlineInner_mem rid refc cur nt
    obtain ⟨i1, i2, i3⟩ := ih cur (inlineInner rid refc cur nt).2
    simp only [inlineRef]
    refine ⟨Int.le_trans i1 a1, ?_, ?_⟩
    · intro ch' hch'
      rcases List.mem_append.mp hch' with hch' | hch'
      · obtain ⟨ch, hch, nt1, h1, h2, h3⟩ := a2 ch' hch'
        exact ⟨refc, List.mem_cons_self, ch, hch, nt1, h1, Int.le_trans i1 h2, h3⟩
      · obtain ⟨rc, hrc, ch, hch, nt1, h1, h2, h3⟩ := i2 ch' hch'
        exact ⟨rc, List.mem_cons_of_mem _ hrc, ch, hch, nt1, Int.le_trans h1 a1, h2, h3⟩
    · intro rc hrc ch hch
      rcases List.mem_cons.mp hrc with rfl | hrc
      · obtain ⟨nt1, h1, h2, h3⟩ := a3 ch hch
        exact ⟨nt1, h1, Int.le_trans i1 h2, List.mem_append_left _ h3⟩
      · obtain ⟨nt1, h1, h2, h3⟩ := i3 rc hrc ch hch
        exact ⟨nt1, Int.le_trans h1 a1, h2, List.mem_append_right _ h3⟩

section
variable {A : Atom → Prop} {T : NTerm → Prop}

/-- the numbers `_fresh_temp_tags` hands out are negative, so it suffices that `A` holds of those -/
theorem freshName_all (hneg : ∀ t : Int, t < 0 → A (.pat t)) (used : List Int) (name : List Atom) (nt : Int)
    (mp : PyDict Int Int) (hnt : nt < 0) (h : ∀ a ∈ name, A a) : ∀ a ∈ (freshName used name nt mp).1, A a := by
  fun_induction freshName used name nt mp with
  | case1 => nofun
  | case2 v r nt mp r' nt' mp' hr ih =>
    rw [hr] at ih
    exact List.forall_mem_cons.mpr ⟨h _ List.mem_cons_self, ih hnt fun a ha => h a (List.mem_cons_of_mem _ ha)⟩
  | case3 t r nt mp _ r' nt' mp' hr ih =>
    rw [hr] at ih
    exact List.forall_mem_cons.mpr ⟨hneg _ hnt,
      ih (Int.lt_trans (Int.sub_one_lt_of_le (Int.le_refl nt)) hnt) fun a ha => h a (List.mem_cons_of_mem _ ha)⟩
  | case4 t r nt mp _ r' nt' mp' hr ih =>
    rw [hr] at ih
    exact List.forall_mem_cons.mpr ⟨h _ List.mem_cons_self, ih hnt fun a ha => h a (List.mem_cons_of_mem _ ha)⟩

theorem freshName_vals (used : List Int) (name : List Atom) (nt : Int) (mp : PyDict Int Int) (hnt : nt < 0)
    (hmp : ∀ k v, PyDict.get? mp k = some v → v < 0) :
    ∀ k v, PyDict.get? (freshName used name nt mp).2.2 k = some v → v < 0 := by
  fun_induction freshName used name nt mp with
  | case1 => exact hmp
  | case2 _ _ _ _ _ _ _ heq ih => rw [heq] at ih; exact ih hnt hmp
  | case3 t _ nt mp _ _ _ _ heq ih =>
    rw [heq] at ih
    refine ih (by omega) fun k v h => ?_
    rw [PyDict.get?_set] at h
    split at h
    · cases h; exact hnt
    · exact hmp k v h
  | case4 _ _ _ _ _ _ _ _ heq ih => rw [heq] at ih; exact ih hnt hmp

theorem renameTag_neg {mp : PyDict Int Int} (hmp : ∀ k v, PyDict.get? mp k = some v → v < 0) {i : Int} (hi : i < 0) :
    renameTag mp i < 0 := by
  unfold renameTag
  split
  · rename_i j hj; exact hmp i j hj
  · exact hi

theorem freshTempTags_all (hneg : ∀ t : Int, t < 0 → A (.pat t)) (hT : RenClosed T) (chain ref : Chain) (nt : Int)
    (hnt : nt < 0) (h : ChainAll A T ref) : ChainAll A T (freshTempTags chain ref nt).1 := by
  refine ⟨freshName_all hneg chain.tags ref.name nt [] hnt h.1, fun t ht => ?_⟩
  obtain ⟨t0, ht0, rfl⟩ := List.mem_map.mp ht
  exact hT _ (fun i hi => renameTag_neg (freshName_vals chain.tags ref.name nt [] hnt nofun) hi) t0 (h.2 t0 ht0)

theorem inlineRef_all (hneg : ∀ t : Int, t < 0 → A (.pat t)) (hT : RenClosed T) (rid : String) (reps cur : List Chain)
    (nt : Int) (hnt : nt < 0) (hreps : ∀ c ∈ reps, ChainAll A T c) (hcur : ∀ c ∈ cur, ChainAll A T c) :
    ∀ c ∈ (inlineRef rid reps cur nt).1, ChainAll A T c := by
  intro c hc
  obtain ⟨refc, hrefc, ch, hch, nt1, hnt1, _, rfl⟩ := (inlineRef_mem rid reps cur nt).2.1 c hc
  have hf := freshTempTags_all hneg hT ch refc nt1 (Int.lt_of_le_of_lt hnt1 hnt) (hreps refc hrefc)
  exact ⟨fun a ha => (List.mem_append.mp ha).elim ((hcur ch hch).1 a) (hf.1 a),
    fun t ht => (List.mem_append.mp ht).elim ((hcur ch hch).2 t) (hf.2 t)⟩

theorem chainAll_snoc {ch : Chain} {a : Atom} (h : ChainAll A T ch) (ha : A a) : ChainAll A T (ch.snoc a) :=
  ⟨fun b hb => (List.mem_append.mp hb).elim (h.1 b) fun hb => List.mem_singleton.mp hb ▸ ha, h.2⟩

theorem expandName_all (hneg : ∀ t : Int, t < 0 → A (.pat t)) (hT : RenClosed T) (rid : String) (rep : PyDict String (List Chain))
    (hrep : RepAll A T rep) (name : List (Comp Int)) (cur : List Chain) (nt : Int) (res : List Chain) (nt' : Int)
    (hnt : nt < 0) (hl : ∀ v, Comp.lit v ∈ name → A (.lit v)) (hp : ∀ t ∈ patsOf name, A (.pat t))
    (hcur : ∀ c ∈ cur, ChainAll A T c) (h : expandName rid rep name cur nt = .ok (res, nt')) :
    nt' < 0 ∧ ∀ c ∈ res, ChainAll A T c := by
  fun_induction expandName rid rep name cur nt with
  | case1 => cases h; exact ⟨hnt, hcur⟩
  | case2 v r cur nt ih =>
    refine ih hnt (fun w hw => hl w (List.mem_cons_of_mem _ hw)) hp (fun c hc => ?_) h
    obtain ⟨c0, hc0, rfl⟩ := List.mem_map.mp hc
    exact chainAll_snoc (hcur c0 hc0) (hl v List.mem_cons_self)
  | case3 t r cur nt ih =>
    refine ih hnt (fun w hw => hl w (List.mem_cons_of_mem _ hw)) (fun u hu => hp u (List.mem_cons_of_mem _ hu))
      (fun c hc => ?_) h
    obtain ⟨c0, hc0, rfl⟩ := List.mem_map.mp hc
    exact chainAll_snoc (hcur c0 hc0) (hp t List.mem_cons_self)
  | case4 => cases h
  | case5 i r cur nt reps hget cur' nt1 hin ih =>
    have a1 := (inlineRef_mem rid reps cur nt).1
    have a2 := inlineRef_all hneg hT rid reps cur nt hnt (fun c hc => hrep i c ⟨reps, hget, hc⟩) hcur
    rw [hin] at a1 a2
    exact ih (Int.lt_of_le_of_lt a1 hnt) (fun w hw => hl w (List.mem_cons_of_mem _ hw)) hp a2 h

theorem initChains_all (r : NRule) (h : RuleAll A T r) : ∀ c ∈ initChains r, ChainAll A T c := by
  intro c hc
  unfold initChains at hc
  simp only [] at hc
  split at hc
  · cases List.mem_singleton.mp hc
    exact ⟨nofun, nofun⟩
  · obtain ⟨cs, hcs, rfl⟩ := List.mem_map.mp hc
    exact ⟨nofun, h.2.2 cs hcs⟩

/-- `I done rep nt`: the rules done, the table `rep_rules`, the counter `next_temp` -/
theorem replicateLoop_induct {I : List NRule → PyDict String (List Chain) → Int → Prop} {rules : List NRule}
    (step : ∀ done r rep nt cur nt', r ∈ rules → I done rep nt →
      expandName r.id rep r.name (initChains r) nt = .ok (cur, nt') → I (done ++ [r]) (repAdd rep r.id cur) nt')
    {rep : PyDict String (List Chain)} {nt : Int} {res : PyDict String (List Chain)}
    (h : replicateLoop rules rep nt = .ok res) {done : List NRule} (h0 : I done rep nt) :
    ∃ nt', I (done ++ rules) res nt' := by
  fun_induction replicateLoop rules rep nt generalizing done with
  | case1 => cases h; exact ⟨_, by rwa [List.append_nil]⟩
  | case2 => cases h
  | case3 r rs rep nt cur nt' hexp ih =>
    rw [List.append_cons]
    exact ih (fun d x rep nt cur nt' hx => step d x rep nt cur nt' (List.mem_cons_of_mem _ hx)) h
      (step done r rep nt cur nt' List.mem_cons_self h0 hexp)

theorem replicateLoop_all (hneg : ∀ t : Int, t < 0 → A (.pat t)) (hT : RenClosed T) {rules : List NRule}
    {rep : PyDict String (List Chain)} {nt : Int} {res : PyDict String (List Chain)} (hnt : nt < 0)
    (hr : ∀ r ∈ rules, RuleAll A T r) (hrep : RepAll A T rep) (h : replicateLoop rules rep nt = .ok res) : RepAll A T res :=
  have ⟨_, _, hres⟩ := replicateLoop_induct (I := fun _ rep nt => nt < 0 ∧ RepAll A T rep) (done := [])
    (fun _ r rep nt cur nt' hrm ⟨hnt, hrep⟩ hexp =>
      have hr0 := hr r hrm
      have ⟨hnt', hcur⟩ := expandName_all hneg hT r.id rep hrep r.name (initChains r) nt cur nt' hnt hr0.1 hr0.2.1
        (initChains_all r hr0) hexp
      ⟨hnt', fun k c hh => (has_repAdd.mp hh).elim (hrep k c) fun hc => hcur c hc.2⟩) h ⟨hnt, hrep⟩
  hres

end

theorem replicateLoop_keys {rules : List NRule} {rep : PyDict String (List Chain)} {nt : Int}
    {res : PyDict String (List Chain)} (hk : (PyDict.keys rep).Nodup) (h : replicateLoop rules rep nt = .ok res) :
    (PyDict.keys res).Nodup :=
  have ⟨_, hres⟩ := replicateLoop_induct (I := fun _ rep _ => (PyDict.keys rep).Nodup) (done := [])
    (fun _ _ rep _ _ _ _ hk _ => by unfold repAdd; split <;> exact PyDict.nodup_keys_set _ _ _ hk) h hk
  hres

/-- the chains of pass 3 are what the table holds under its keys (no key is written twice, so `get?` finds every entry) -/
theorem mem_allChains_loop {rules : List NRule} {nt : Int} {rep : PyDict String (List Chain)}
    (h : replicateLoop rules [] nt = .ok rep) {c : Chain} : c ∈ allChains rep ↔ ∃ k, Has rep k c :=
  mem_allChains.trans
    ⟨fun ⟨p, hp, hc⟩ => ⟨p.1, p.2, PyDict.get?_of_mem rep (replicateLoop_keys (rep := []) List.nodup_nil h) p.1 p.2 hp, hc⟩,
     fun ⟨k, v, hv, hc⟩ => ⟨(k, v), PyDict.mem_of_get? _ _ _ hv, hc⟩⟩

theorem chainsOf_all {A : Atom → Prop} {T : NTerm → Prop} (hneg : ∀ t : Int, t < 0 → A (.pat t)) (hT : RenClosed T)
    {S : Schema} {chains : List Chain} {named : List String} (h : chainsOf S = .ok (chains, named))
    (hr : ∀ r ∈ renameTemps S.rules 1, ∀ nr, RuleNum named r nr → RuleAll A T nr) : ∀ c ∈ chains, ChainAll A T c := by
  obtain ⟨rules, nrules, rep, hsort, hnum, hrep, rfl⟩ := chainsOf_ok_inv h
  intro c hc
  obtain ⟨k, hk⟩ := (mem_allChains_loop hrep).mp hc
  refine replicateLoop_all hneg hT (firstFreshTemp_neg nrules) (fun nr hnr => ?_) (fun _ _ ⟨_, h, _⟩ => nomatch h) hrep k c hk
  obtain ⟨r, hrm, hrn⟩ := (genPatternNumbers_num hnum).2.1.mem_right nr hnr
  exact hr r ((sortRuleReferences_perm S rules hsort).mem_iff.mp hrm) nr hrn

theorem chainsOf_ok (S : Schema) (hwf : S.WF) (chains : List Chain) (named : List String)
    (h : chainsOf S = .ok (chains, named)) : ∀ c ∈ chains, ChainOK c := by
  intro c hc
  obtain ⟨h1, h3⟩ := chainsOf_all (A := fun a => ∀ v, a = .lit v → v ≠ []) (T := fun t => ∀ o ∈ t.opts, OptOK o)
    (fun _ _ _ => nofun) (fun _ _ _ ht => ht) h (fun r hr nr hn => by
      obtain ⟨r0, hr0, hname, hcons, _⟩ := mem_renameTemps hr
      have h2 : RuleOK nr := hn.ruleOK (by unfold RuleOK; rw [hname, hcons]; exact hwf r0 hr0)
      exact ⟨fun v hv w hw => Atom.lit.inj hw ▸ h2.1 v hv, fun _ _ _ => nofun, h2.2⟩) c hc
  exact ⟨fun v hv => h1 _ hv v rfl, h3⟩

theorem chainsOf_tagsLe (S : Schema) (chains : List Chain) (named : List String)
    (h : chainsOf S = .ok (chains, named)) : TagsLe named.length chains := by
  intro rc hrc t ht
  obtain ⟨a, ha, hat⟩ := List.mem_filterMap.mp ht
  cases a with
  | lit v => cases hat
  | pat u =>
    cases hat
    exact (chainsOf_all (A := fun a => ∀ t, a = .pat t → TagOK named.length t) (T := fun _ => True)
      (fun t ht u hu => Atom.pat.inj hu ▸ tagOK_neg ht) (fun _ _ _ _ => trivial) h
      (fun r _ nr ⟨_, _, _, hn, _⟩ => ⟨fun _ _ _ => nofun,
        fun t ht u hu => Atom.pat.inj hu ▸ (numbered_name hn).2.2 t ht, fun _ _ _ _ => trivial⟩) rc hrc).1 _ ha t rfl

/-- `Chain.tags` of a bare name: `c.tags = atomTags c.name` by `rfl` -/
def atomTags (l : List Atom) : List Int := l.filterMap fun a => match a with | .pat t => some t | _ => none

end Ndn.Lvs
