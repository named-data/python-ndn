import NdnModel.Lvs.KeyPath
import NdnProofs.Lemmas.Lvs.CompileSane
/-!
  **Which chains end at which node of the compiled tree**: every node carries exactly the chains of one merge-key path
  (`keyPath`, `NdnModel/Lvs/KeyPath.lean`; `NodeKey`), and every chain is carried by the node of its key path
  (`genNode_keys`).  Hence a signing cycle among the nodes of the compiled model is exactly a signing cycle among the
  key paths of the chains (`signCycle_iff_keySelfSigning`).
-/
namespace Ndn.Lvs

theorem keyFrom_eq_nil {rc : Chain} {l : List Atom} {prev : List Int} : keyFrom rc l prev = [] ↔ l = [] := by
  cases l with
  | nil => simp [keyFrom]
  | cons a r => cases a <;> simp [keyFrom]

theorem keyFrom_drop_cons {rc : Chain} {depth : Nat} {prev : List Int} {k : MKey} {rest : List MKey}
    (h : keyFrom rc (rc.name.drop depth) prev = k :: rest) :
    ∃ a, rc.name[depth]? = some a ∧ keyFrom rc (a :: rc.name.drop (depth + 1)) prev = k :: rest := by
  cases ha : rc.name[depth]? with
  | none => rw [List.drop_eq_nil_of_le (List.getElem?_eq_none_iff.mp ha)] at h; exact nomatch h
  | some a => exact ⟨a, rfl, drop_of_getElem? ha ▸ h⟩

theorem move_key {depth : Nat} {ctx : List Chain} {prev : List Int} {mv : Move} (h : mv ∈ movesOf depth ctx prev) :
    ∃ k : MKey,
      (∀ rc ∈ mv.ctx, rc ∈ live depth ctx ∧
        keyFrom rc (rc.name.drop depth) prev = k :: keyFrom rc (rc.name.drop (depth + 1)) mv.prev) ∧
      (∀ rc ∈ ctx, ∀ rest, keyFrom rc (rc.name.drop depth) prev = k :: rest → rc ∈ mv.ctx) := by
  have hlive : ∀ {rc : Chain} {a : Atom}, rc ∈ ctx → rc.name[depth]? = some a → rc ∈ live depth ctx :=
    fun hrc ha => mem_live.mpr ⟨hrc, Nat.ne_of_gt (lt_of_getElem? ha)⟩
  rcases List.mem_append.mp h with h | h
  · obtain ⟨_, _, v, _, _, _, hp, hctx⟩ := mem_vMoves h
    refine ⟨.lit v, fun rc hrc => ?_, fun rc hrc rest hk => ?_⟩
    · obtain ⟨h1, h2⟩ := (hctx rc).mp hrc
      exact ⟨h1, by rw [drop_of_getElem? (litAt_iff.mp h2), hp]; rfl⟩
    · obtain ⟨a, ha, he⟩ := keyFrom_drop_cons hk
      cases a <;> cases he
      exact (hctx rc).mpr ⟨hlive hrc ha, litAt_iff.mpr ha⟩
  · obtain ⟨_, rc0, _, t0, _, _, _, hprev, hctx⟩ := mem_pMoves h
    refine ⟨.pat (pmove rc0 t0 prev).2, fun rc hrc => ?_, fun rc hrc rest hk => ?_⟩
    · obtain ⟨h1, t, ht, hkey⟩ := (hctx rc).mp hrc
      obtain rfl : t = t0 := pmove_key_tag hkey
      exact ⟨h1, by rw [drop_of_getElem? (patAt_iff.mp ht), hprev, ← hkey]; rfl⟩
    · obtain ⟨a, ha, he⟩ := keyFrom_drop_cons hk
      cases a with
      | lit w => cases he
      | pat t => exact (hctx rc).mpr ⟨hlive hrc ha, t, patAt_iff.mpr ha, MKey.pat.inj (List.cons.inj he).1⟩

/-- node `n` is the node of the key path `kp` among the chains `ctx` (from `depth` on, the tags `prev` having been met):
    the rules and signers it carries come from chains with that key path, and it carries every chain with that key path -/
def NodeKey (ctx : List Chain) (depth : Nat) (prev : List Int) (n : PreNode) (kp : List MKey) : Prop :=
  (∀ rid ∈ n.ruleNames, ∃ rc ∈ ctx, rc.id = rid ∧ keyFrom rc (rc.name.drop depth) prev = kp) ∧
  (∀ s ∈ n.signStr, ∃ rc ∈ ctx, s ∈ rc.sign ∧ keyFrom rc (rc.name.drop depth) prev = kp) ∧
  (∀ rc ∈ ctx, keyFrom rc (rc.name.drop depth) prev = kp → rc.id ∈ n.ruleNames ∧ ∀ s ∈ rc.sign, s ∈ n.signStr)

/-- the node `_generate_node` creates carries the chains that end here: those with the empty key path -/
theorem headKey (ctx : List Chain) (depth : Nat) (prev : List Int) (hlen : ∀ c ∈ ctx, depth ≤ c.name.length)
    (id : Nat) (parent : Option Nat) (ves : List VEdge) (pes : List PEdge) :
    NodeKey ctx depth prev
      { id := id, parent := parent, ruleNames := (ctx.filter (fun rc => rc.name.length == depth)).map (·.id),
        signStr := (ctx.filter (fun rc => rc.name.length == depth)).flatMap (·.sign), vEdges := ves, pEdges := pes } [] := by
  have hend : ∀ rc, rc ∈ ctx.filter (fun rc => rc.name.length == depth) ↔
      rc ∈ ctx ∧ keyFrom rc (rc.name.drop depth) prev = [] := by
    intro rc
    rw [List.mem_filter, keyFrom_eq_nil, List.drop_eq_nil_iff, beq_iff_eq]
    exact and_congr_right fun hrc => ⟨Nat.le_of_eq, fun h => Nat.le_antisymm h (hlen rc hrc)⟩
  refine ⟨fun rid hrid => ?_, fun s hs => ?_, fun rc hrc hk => ?_⟩
  · obtain ⟨rc, hrc, rfl⟩ := List.mem_map.mp hrid
    exact ⟨rc, ((hend rc).mp hrc).1, rfl, ((hend rc).mp hrc).2⟩
  · obtain ⟨rc, hrc, hsr⟩ := List.mem_flatMap.mp hs
    exact ⟨rc, ((hend rc).mp hrc).1, hsr, ((hend rc).mp hrc).2⟩
  · have hf := (hend rc).mpr ⟨hrc, hk⟩
    exact ⟨List.mem_map.mpr ⟨rc, hf, rfl⟩, fun s hs => List.mem_flatMap.mpr ⟨rc, hf, hs⟩⟩

theorem NodeKey.lift {ctx : List Chain} {depth : Nat} {prev : List Int} {mv : Move} {k : MKey} {n : PreNode}
    {kp : List MKey}
    (hsub : ∀ rc ∈ mv.ctx, rc ∈ live depth ctx ∧
      keyFrom rc (rc.name.drop depth) prev = k :: keyFrom rc (rc.name.drop (depth + 1)) mv.prev)
    (hin : ∀ rc ∈ ctx, ∀ rest, keyFrom rc (rc.name.drop depth) prev = k :: rest → rc ∈ mv.ctx)
    (h : NodeKey mv.ctx (depth + 1) mv.prev n kp) : NodeKey ctx depth prev n (k :: kp) := by
  obtain ⟨h1, h2, h3⟩ := h
  refine ⟨fun rid hrid => ?_, fun s hs => ?_, fun rc hrc hk => ?_⟩
  · obtain ⟨rc, hrc, hid, hkp⟩ := h1 rid hrid
    exact ⟨rc, (mem_live.mp (hsub rc hrc).1).1, hid, by rw [(hsub rc hrc).2, hkp]⟩
  · obtain ⟨rc, hrc, hsg, hkp⟩ := h2 s hs
    exact ⟨rc, (mem_live.mp (hsub rc hrc).1).1, hsg, by rw [(hsub rc hrc).2, hkp]⟩
  · have hm := hin rc hrc kp hk
    have := (hsub rc hm).2
    rw [hk] at this
    exact h3 rc hm (List.cons.inj this).2.symm

theorem genNode_keys : ∀ (fuel depth : Nat) (ctx : List Chain) (parent : Option Nat) (prev : List Int)
    (base tidx : Nat) (nodes : List PreNode) (t' : Nat), (∀ c ∈ ctx, depth ≤ c.name.length) →
    genNode fuel depth ctx parent prev base tidx = .ok (nodes, t') →
    (∀ n ∈ nodes, ∃ kp, NodeKey ctx depth prev n kp) ∧
    (∀ rc ∈ ctx, ∃ n ∈ nodes, NodeKey ctx depth prev n (keyFrom rc (rc.name.drop depth) prev)) := by
  intro fuel depth ctx parent prev base tidx nodes t' hlen h
  refine genNode_induct (P := fun depth ctx _ prev _ _ nodes _ => (∀ c ∈ ctx, depth ≤ c.name.length) →
    (∀ n ∈ nodes, ∃ kp, NodeKey ctx depth prev n kp) ∧
    (∀ rc ∈ ctx, ∃ n ∈ nodes, NodeKey ctx depth prev n (keyFrom rc (rc.name.drop depth) prev))) ?_ h hlen
  intro depth ctx parent prev base tidx ves pes sub t' hkids hlen
  have hk := headKey ctx depth prev hlen base parent ves pes
  -- the same statement for the subtree below a move, with the key of the move in front
  have hsub : Kids (fun m _ _ s _ => (∀ n ∈ s, ∃ kp, NodeKey ctx depth prev n kp) ∧
      (∀ rc ∈ m.ctx, ∃ n ∈ s, NodeKey ctx depth prev n (keyFrom rc (rc.name.drop depth) prev)))
      (movesOf depth ctx prev) (base + 1) tidx ves pes sub t' := by
    refine hkids.mono fun m hm b t s t2 ih => ?_
    obtain ⟨k, hk1, hk2⟩ := move_key hm
    obtain ⟨h1, h2⟩ := ih fun c hc => (movesOf_ctx hm c hc).2
    refine ⟨fun n hn => ?_, fun rc hrc => ?_⟩
    · obtain ⟨kp, hkp⟩ := h1 n hn
      exact ⟨k :: kp, hkp.lift hk1 hk2⟩
    · obtain ⟨n, hn, hnk⟩ := h2 rc hrc
      exact ⟨n, hn, by rw [(hk1 rc hrc).2]; exact hnk.lift hk1 hk2⟩
  obtain ⟨hcalls, hfrom⟩ := hsub.calls
  refine ⟨fun n hn => ?_, fun rc hrc => ?_⟩
  · rcases List.mem_cons.mp hn with rfl | hn
    · exact ⟨[], hk⟩
    · obtain ⟨m, hm, b, t, s, t2, hs, hns, _⟩ := hfrom n hn
      exact hs.1 n hns
  · by_cases he : rc.name.length = depth
    · exact ⟨_, List.mem_cons_self, by rw [keyFrom_eq_nil.mpr (List.drop_eq_nil_iff.mpr (Nat.le_of_eq he))]; exact hk⟩
    · obtain ⟨m, hm, hrcm⟩ := moves_cover depth ctx prev rc hrc (by have := hlen rc hrc; omega)
      obtain ⟨b, t, s, t2, hs, hsn⟩ := hcalls m hm
      obtain ⟨n, hn, hnk⟩ := hs.2 rc hrcm
      exact ⟨n, List.mem_cons_of_mem _ (hsn n hn), hnk⟩

/-- **every node `_generate_node` appends is reachable from the node it creates first**: a set of identifiers that
    holds `base` and is closed under the edges of the nodes holds them all -/
theorem genNode_reach (R : Nat → Prop) : ∀ (fuel depth : Nat) (ctx : List Chain) (parent : Option Nat) (prev : List Int)
    (base tidx : Nat) (nodes : List PreNode) (t' : Nat),
    genNode fuel depth ctx parent prev base tidx = .ok (nodes, t') → R base →
    (∀ n ∈ nodes, R n.id → ∀ d, some d ∈ n.dests → R d) → ∀ n ∈ nodes, R n.id := by
  intro fuel depth ctx parent prev base tidx nodes t' h
  refine genNode_induct (P := fun _ _ _ _ base _ nodes _ => R base →
    (∀ n ∈ nodes, R n.id → ∀ d, some d ∈ n.dests → R d) → ∀ n ∈ nodes, R n.id) ?_ h
  intro depth ctx parent prev base tidx ves pes sub t' hkids hbase hstep n hn
  rcases List.mem_cons.mp hn with rfl | hn
  · exact hbase
  · obtain ⟨m, hm, b, t, s, t2, ih, hns, hsubs, hdest⟩ := hkids.calls.2 n hn
    exact ih (hstep _ List.mem_cons_self hbase b (List.mem_append.mpr hdest))
      (fun x hx => hstep x (List.mem_cons_of_mem _ (hsubs x hx))) n hns

theorem NodeKey.signs_iff {chains : List Chain} {pn kn : PreNode} {p s : List MKey} (hp : NodeKey chains 0 [] pn p)
    (hs : NodeKey chains 0 [] kn s) : (∃ rid ∈ pn.signStr, rid ∈ kn.ruleNames) ↔ ChainKeySigns chains p s := by
  constructor
  · rintro ⟨rid, h1, h2⟩
    obtain ⟨cp, hcp, hsg, hcps⟩ := hp.2.1 rid h1
    obtain ⟨ck, hck, rfl, hcks⟩ := hs.1 rid h2
    exact ⟨cp, hcp, ck, hck, hcps, hcks, hsg⟩
  · rintro ⟨cp, hcp, ck, hck, hcps, hcks, hsg⟩
    exact ⟨ck.id, (hp.2.2 cp hcp hcps).2 _ hsg, (hs.2.2 ck hck hcks).1⟩

/-- a signing cycle - a non-empty set closed under "is signed by a member" - is carried along a relation `T`, provided
    everything that is signed has a `T`-image and signing can be followed along `T` -/
theorem selfSigning_transfer {α β : Type} {R : α → α → Prop} {R' : β → β → Prop} (T : α → β → Prop)
    (himg : ∀ p a, R p a → ∃ b, T a b) (hstep : ∀ p a b, R p a → T a b → ∃ b', T p b' ∧ R' b' b)
    (h : ∃ P : α → Prop, (∃ s, P s) ∧ ∀ s, P s → ∃ p, P p ∧ R p s) :
    ∃ P : β → Prop, (∃ s, P s) ∧ ∀ s, P s → ∃ p, P p ∧ R' p s := by
  obtain ⟨P, ⟨s0, hs0⟩, hP⟩ := h
  refine ⟨fun b => ∃ a, P a ∧ T a b, ?_, ?_⟩
  · obtain ⟨p, _, hr⟩ := hP s0 hs0
    obtain ⟨b, hb⟩ := himg p s0 hr
    exact ⟨b, s0, hs0, hb⟩
  · rintro b ⟨a, ha, hab⟩
    obtain ⟨p, hp, hr⟩ := hP a ha
    obtain ⟨b', hpb', hr'⟩ := hstep p a b hr hab
    exact ⟨b', ⟨p, hp, hpb'⟩, hr'⟩

theorem signCycle_iff_keySelfSigning (chains : List Chain) (named : List String) (m : Model)
    (hc : ∀ c ∈ chains, ChainOK c) (h : buildModel chains named = .ok m) :
    (∃ C : List Nat, (∃ c, c ∈ C) ∧
      ∀ c ∈ C, ∃ p ∈ C, Reach m p ∧ ∃ pnode, m.nodes[p]? = some pnode ∧ c ∈ pnode.signCons) ↔
    KeySelfSigning chains := by
  obtain ⟨pool, tidx, hg, hstart, hinj, hfixed, hnode⟩ := buildModel_pool hc h
  obtain ⟨hkeys1, hkeys2⟩ := genNode_keys _ _ _ _ _ _ _ _ _ (fun c _ => Nat.zero_le _) hg
  have hreach : ∀ n ∈ pool, Reach m n.id := by
    refine genNode_reach (Reach m) _ _ _ _ _ _ _ _ _ hg (hstart ▸ Reach.start) fun n hn hr d hd => ?_
    obtain ⟨node, hnd, hf⟩ := hfixed n hn
    obtain ⟨_, _, rfl⟩ := fixNode_ok hf
    exact Reach.edge hr hnd hd
  -- node `p` of the model lists `c` as signer, in terms of the pool
  have hedge : ∀ p c, (∃ pnode, m.nodes[p]? = some pnode ∧ c ∈ pnode.signCons) ↔
      ∃ pn ∈ pool, pn.id = p ∧ ∃ rid ∈ pn.signStr, ∃ kn ∈ pool, kn.id = c ∧ rid ∈ kn.ruleNames := by
    intro p c
    constructor
    · rintro ⟨pnode, hp, hk⟩
      obtain ⟨pn, hpn, hpid, hf⟩ := hnode p pnode hp
      exact ⟨pn, hpn, hpid, (fixNode_signCons hf c).mp hk⟩
    · rintro ⟨pn, hpn, rfl, hk⟩
      obtain ⟨pnode, hp, hf⟩ := hfixed pn hpn
      exact ⟨pnode, hp, (fixNode_signCons hf c).mpr hk⟩
  constructor
  · -- a node goes to its key paths
    rintro ⟨C, hne, hC⟩
    refine selfSigning_transfer (R := fun p c => ∃ pnode, m.nodes[p]? = some pnode ∧ c ∈ pnode.signCons)
      (fun c kp => ∃ n ∈ pool, n.id = c ∧ NodeKey chains 0 [] n kp) ?_ ?_
      ⟨(· ∈ C), hne, fun c hc => by obtain ⟨p, hp, _, hsig⟩ := hC c hc; exact ⟨p, hp, hsig⟩⟩
    · intro p c hsig
      obtain ⟨_, _, _, _, _, kn, hkn, hkid, _⟩ := (hedge p c).mp hsig
      obtain ⟨kp, hkp⟩ := hkeys1 kn hkn
      exact ⟨kp, kn, hkn, hkid, hkp⟩
    · rintro p c s hsig ⟨n, hn, rfl, hns⟩
      obtain ⟨pn, hpn, rfl, rid, hrs, kn, hkn, hkid, hrk⟩ := (hedge _ _).mp hsig
      obtain rfl := hinj kn hkn n hn hkid
      obtain ⟨kpp, hkpp⟩ := hkeys1 pn hpn
      exact ⟨kpp, ⟨pn, hpn, rfl, hkpp⟩, (hkpp.signs_iff hns).mp ⟨rid, hrs, hrk⟩⟩
  · -- the nodes of the key paths of the cycle
    rintro ⟨P, ⟨s0, hs0⟩, hP⟩
    classical
    have hmem : ∀ n ∈ pool, ∀ s, P s → NodeKey chains 0 [] n s →
        n.id ∈ (pool.filter fun n => decide (∃ s, P s ∧ NodeKey chains 0 [] n s)).map (·.id) :=
      fun n hn s hs hns => List.mem_map.mpr ⟨n, List.mem_filter.mpr ⟨hn, decide_eq_true ⟨s, hs, hns⟩⟩, rfl⟩
    refine ⟨(pool.filter fun n => decide (∃ s, P s ∧ NodeKey chains 0 [] n s)).map (·.id), ?_, fun c hcC => ?_⟩
    · obtain ⟨_, _, _, _, ck, hck, _, rfl, _⟩ := hP s0 hs0
      obtain ⟨n, hn, hnk⟩ := hkeys2 ck hck
      exact ⟨n.id, hmem n hn _ hs0 hnk⟩
    · obtain ⟨n, hn, rfl⟩ := List.mem_map.mp hcC
      obtain ⟨s, hs, hns⟩ := of_decide_eq_true (List.mem_filter.mp hn).2
      obtain ⟨p, hp, hsig⟩ := hP s hs
      obtain ⟨cp, hcp, _, _, rfl, _⟩ := id hsig
      obtain ⟨pn, hpn, hpnk⟩ := hkeys2 cp hcp
      obtain ⟨rid, hrs, hrk⟩ := (hpnk.signs_iff hns).mpr hsig
      exact ⟨pn.id, hmem pn hpn _ hp hpnk, hreach pn hpn,
        (hedge _ _).mpr ⟨pn, hpn, rfl, rid, hrs, n, (List.mem_filter.mp hn).1, rfl, hrk⟩⟩

end Ndn.Lvs
