import NdnProofs.Lemmas.Lvs.Match
import NdnProofs.Lemmas.PyDict
/-!
  Constraint evaluation (`_check_cons`, the pattern-edge move) against the specification
  (`OptSat`, `ConsSat`, `Accepts`); totality on sane models.
-/
namespace Ndn.Lvs

/-- the checker's reading of an argument and the specification's are written twice on purpose (the specification does not
    import the checker); they are the same function -/
theorem argVal_eq_ArgDen : argVal = ArgDen := by
  funext σ a; unfold argVal ArgDen; rfl

theorem evalOpt_ok_iff (env : FnEnv) (c : Bytes) (σ : Ctx) (o : ConsOption) (b : Bool)
    (h : evalOpt env c σ o = .ok b) : b = true ↔ OptSat (pureOf env) σ c o := by
  unfold OptSat
  revert h
  fun_cases evalOpt env c σ o <;> intro h
  case case1 v hv => cases h; simp [hv]
  case case2 hv t ht => cases h; simp [hv, ht]
  case case6 hv ht f hf id hid g hg =>
    -- the specification reads the function's answer through `pureOf`
    have hp : pureOf env id c (f.args.map (ArgDen σ)) = b := by simp [pureOf, hg, ← argVal_eq_ArgDen, h]
    simp [hv, ht, hf, hid, hp]
  all_goals cases h

theorem evalOpt_total (env : FnEnv) (henv : EnvTotal env) (c : Bytes) (σ : Ctx) (o : ConsOption)
    (hs : OptionShape o) : ∃ b, evalOpt env c σ o = .ok b := by
  unfold evalOpt
  cases hv : o.value with
  | some v => exact ⟨_, rfl⟩
  | none =>
    cases htg : o.tag with
    | some t => exact ⟨_, rfl⟩
    | none =>
      rcases hs with ⟨⟨v, hv', _⟩, _⟩ | ⟨_, ⟨t, ht⟩, _⟩ | ⟨_, _, f, id, hf, hid, _⟩
      · rw [hv] at hv'; cases hv'
      · rw [htg] at ht; cases ht
      · obtain ⟨gf, hg, htot⟩ := henv id
        obtain ⟨b, hb⟩ := htot c (f.args.map (argVal σ))
        exact ⟨b, by simp [hf, hid, hg, hb]⟩

theorem evalClause_spec (env : FnEnv) (c : Bytes) (σ : Ctx) (cl : List ConsOption) :
    match evalClause env c σ cl with
    | .ok b => (b = true ↔ ∃ o ∈ cl, OptSat (pureOf env) σ c o)
    | .error _ => ∃ o ∈ cl, ∃ e, evalOpt env c σ o = .error e := by
  induction cl with
  | nil => simp [evalClause]
  | cons o r ih =>
    cases ho : evalOpt env c σ o with
    | error e => simp only [evalClause, ho]; exact ⟨o, List.mem_cons_self, e, ho⟩
    | ok bo =>
      have hspec := evalOpt_ok_iff env c σ o bo ho
      cases bo with
      | true => simp [evalClause, ho, hspec.mp rfl]
      | false =>
        simp only [evalClause, ho]
        cases hr : evalClause env c σ r with
        | ok b => rw [hr] at ih; simp [ih, ← hspec]
        | error e =>
          rw [hr] at ih
          obtain ⟨o', hm, he⟩ := ih
          exact ⟨o', List.mem_cons_of_mem _ hm, he⟩

theorem checkCons_spec (env : FnEnv) (c : Bytes) (σ : Ctx) (cons : List Constraint) :
    match checkCons env c σ cons with
    | .ok b => (b = true ↔ ConsSat (pureOf env) σ c cons)
    | .error _ => ∃ cl ∈ cons, ∃ o ∈ cl, ∃ e, evalOpt env c σ o = .error e := by
  unfold ConsSat
  induction cons with
  | nil => simp [checkCons]
  | cons cl r ih =>
    have hspec := evalClause_spec env c σ cl
    cases hc : evalClause env c σ cl with
    | error e => rw [hc] at hspec; simp only [checkCons, hc]; exact ⟨cl, List.mem_cons_self, hspec⟩
    | ok bc =>
      rw [hc] at hspec
      cases bc with
      | false => simp [checkCons, hc, ← hspec]
      | true =>
        simp only [checkCons, hc]
        cases hr : checkCons env c σ r with
        | ok b => rw [hr] at ih; simp [ih, ← hspec]
        | error e =>
          rw [hr] at ih
          obtain ⟨cl', hm, he⟩ := ih
          exact ⟨cl', List.mem_cons_of_mem _ hm, he⟩

theorem accepts_tag {fns : PureEnv} {cnt : Nat} {pe : PEdge} {t : Nat} (ht : pe.tag = some t) (c : Bytes) (σ σ' : Ctx) :
    Accepts fns cnt pe c σ σ' ↔ ConsSat fns σ c pe.cons ∧
      ((σ.get? t = some c ∧ σ' = σ) ∨ (σ.get? t = none ∧ σ' = if t ≤ cnt then σ.set t c else σ)) :=
  ⟨fun ⟨t', ht', h⟩ => by cases ht.symm.trans ht'; exact h, fun h => ⟨t, ht, h⟩⟩

theorem tryEdge_spec (env : FnEnv) (cnt : Nat) (pe : PEdge) (c : Bytes) (σ : Ctx) :
    match tryEdge env cnt pe c σ with
    | .error _ => pe.tag = none ∨ ∃ e, checkCons env c σ pe.cons = .error e
    | .ok none => ∀ σ', ¬ Accepts (pureOf env) cnt pe c σ σ'
    | .ok (some (σ₁, mt)) => undo mt σ₁ = σ ∧ ∀ σ', Accepts (pureOf env) cnt pe c σ σ' ↔ σ' = σ₁ := by
  unfold tryEdge
  cases ht : pe.tag with
  | none =>
    have hA : ∀ σ', ¬ Accepts (pureOf env) cnt pe c σ σ' := fun σ' ⟨t, h, _⟩ => by rw [ht] at h; cases h
    dsimp only
    cases checkCons env c σ pe.cons with
    | error e => exact Or.inl rfl
    | ok b => cases b with
      | false => exact hA
      | true => exact Or.inl rfl
  | some t =>
    have hA := accepts_tag (fns := pureOf env) (cnt := cnt) ht c σ
    have hS : ∀ b, checkCons env c σ pe.cons = .ok b → (ConsSat (pureOf env) σ c pe.cons ↔ b = true) :=
      fun b hc => by have := checkCons_spec env c σ pe.cons; rw [hc] at this; exact this.symm
    dsimp only
    cases hg : PyDict.get? σ t with
    | some v =>
      dsimp only
      by_cases hvc : v = c
      · subst hvc
        rw [if_neg (fun h => h rfl)]
        cases hc : checkCons env v σ pe.cons with
        | error e => exact Or.inr ⟨e, rfl⟩
        | ok b => cases b <;> simp [hA, hS _ hc, hg, undo]
      · rw [if_pos hvc]
        simp [hA, hg, hvc]
    | none =>
      dsimp only
      cases hc : checkCons env c σ pe.cons with
      | error e => exact Or.inr ⟨e, rfl⟩
      | ok b =>
        cases b
        · simp [hA, hS _ hc]
        · by_cases hle : t ≤ cnt <;> simp [hle, hA, hS _ hc, hg, undo, PyDict.erase_set_of_get?_none σ t c hg]

theorem tryEdge_ok_iff (env : FnEnv) (cnt : Nat) (pe : PEdge) (c : Bytes) (σ σ' : Ctx)
    (r : Option (Ctx × Option Nat)) (h : tryEdge env cnt pe c σ = .ok r) :
    (∃ mt, r = some (σ', mt)) ↔ Accepts (pureOf env) cnt pe c σ σ' := by
  have hs := tryEdge_spec env cnt pe c σ
  rw [h] at hs
  rcases r with _ | ⟨σ₁, mt⟩
  · simp [hs σ']
  · simp [hs.2 σ', eq_comm]

theorem undoRestores_tryEdge (env : FnEnv) (cnt : Nat) : UndoRestores (tryEdge env cnt) := by
  intro pe c σ σ' mt h
  have hs := tryEdge_spec env cnt pe c σ
  rw [h] at hs
  exact hs.1

theorem edgeTotal_of_sane {m : Model} (hs : Sane m) (env : FnEnv) (henv : EnvTotal env) :
    EdgeTotal m (edgeFn m env) := by
  intro e ⟨n, node, pe, c, σ, hr, hn, hpe, hres⟩
  -- the exception would be that of an edge without tag or of an option, and a sane model has neither
  have hsp := tryEdge_spec env m.namedCnt pe c σ
  rw [show tryEdge env m.namedCnt pe c σ = .error e from hres] at hsp
  rcases hsp with ht | ⟨e', hc⟩
  · obtain ⟨t, ht'⟩ := (hs.edges n node hr hn).2.1 pe hpe
    rw [ht] at ht'; cases ht'
  · have := checkCons_spec env c σ pe.cons
    rw [hc] at this
    obtain ⟨cl, hcl, o, ho, e'', he⟩ := this
    obtain ⟨b, hb⟩ := evalOpt_total env henv c σ o (hs.options n node hr hn pe hpe cl hcl o ho)
    rw [hb] at he; cases he

end Ndn.Lvs
