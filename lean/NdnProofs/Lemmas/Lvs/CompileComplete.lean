import NdnProofs.Lemmas.Lvs.CompileSign
/-!
  When `compile` returns: exactly on the schemas without static error (`StaticOK`), and otherwise it raises
  `SemanticError` (`compile_spec`, from the `*_spec` of the passes).  Passes 3 and 4 never raise: `rep_rules[comp.id]` finds
  its key (references point backwards in the sorted rule list, so no `KeyError`), and the fuel of `genNode` is never
  exhausted.  The statements about single errors (Props/C13) are read off `compile_spec`.
-/
namespace Ndn.Lvs

theorem expandName_total (rid : String) (rep : PyDict String (List Chain)) (name : List (Comp Int)) (cur : List Chain)
    (nt : Int) (h : ∀ i ∈ refsOf name, ∃ v, PyDict.get? rep i = some v) :
    ∃ r, expandName rid rep name cur nt = .ok r := by
  fun_induction expandName rid rep name cur nt with
  | case1 => exact ⟨_, rfl⟩
  | case2 v r cur nt ih => exact ih h
  | case3 t r cur nt ih => exact ih h
  | case4 i r cur nt hget =>
    obtain ⟨v, hv⟩ := h i List.mem_cons_self
    rw [hget] at hv
    cases hv
  | case5 i r cur nt reps hget cur' nt1 hin ih => exact ih fun j hj => h j (List.mem_cons_of_mem _ hj)

theorem replicateLoop_total (rules : List NRule) (rep : PyDict String (List Chain)) (nt : Int)
    (h : ∀ pre x post, rules.map (fun nr => (nr.id, refsOf nr.name)) = pre ++ x :: post →
      ∀ i ∈ x.2, (∃ y ∈ pre, y.1 = i) ∨ ∃ v, PyDict.get? rep i = some v) :
    ∃ res, replicateLoop rules rep nt = .ok res := by
  fun_induction replicateLoop rules rep nt with
  | case1 => exact ⟨_, rfl⟩
  | case2 r rs rep nt e hexp =>
    -- the references of the first rule are already in `rep_rules`
    obtain ⟨_, hok⟩ := expandName_total r.id rep r.name (initChains r) nt fun i hi =>
      (h [] (r.id, refsOf r.name) _ rfl i hi).resolve_left fun ⟨_, hy, _⟩ => nomatch hy
    rw [hexp] at hok
    cases hok
  | case3 r rs rep nt cur nt' hexp ih =>
    refine ih fun pre x post hsplit i hi => ?_
    rw [get?_repAdd]
    rcases h ((r.id, refsOf r.name) :: pre) x post (by rw [List.map_cons, hsplit]; rfl) i hi with ⟨y, hy, hyi⟩ | hv
    · rcases List.mem_cons.mp hy with rfl | hy
      · exact Or.inr ⟨_, by rw [if_pos hyi]⟩
      · exact Or.inl ⟨y, hy, hyi⟩
    · split
      · exact Or.inr ⟨_, rfl⟩
      · exact Or.inr hv

theorem genMoves_total {child : List Chain → List Int → Nat → Nat → Except CErr (List PreNode × Nat)}
    (mvs : List Move) (base tidx : Nat) (h : ∀ mv ∈ mvs, ∀ b t, ∃ r, child mv.ctx mv.prev b t = .ok r) :
    ∃ r, genMoves child mvs base tidx = .ok r := by
  fun_induction genMoves child mvs base tidx with
  | case1 => exact ⟨_, rfl⟩
  | case2 mv r base tidx tidx1 e he =>
    obtain ⟨_, hok⟩ := h mv List.mem_cons_self base tidx1
    rw [he] at hok
    cases hok
  | case3 mv r base tidx tidx1 sub tidx2 _ e he ih =>
    obtain ⟨_, hok⟩ := ih fun m hm => h m (List.mem_cons_of_mem _ hm)
    rw [he] at hok
    cases hok
  | case4 => exact ⟨_, rfl⟩
  | case5 => exact ⟨_, rfl⟩

theorem genNode_total (fuel depth : Nat) (ctx : List Chain) (parent : Option Nat) (prev : List Int)
    (base tidx : Nat) (hlen : ∀ c ∈ ctx, c.name.length ≤ depth + fuel) :
    ∃ r, genNode fuel depth ctx parent prev base tidx = .ok r := by
  fun_induction genNode fuel depth ctx parent prev base tidx with
  | case1 => exact ⟨_, rfl⟩
  | case2 depth ctx parent prev base tidx _ mv mvs hm =>
    have hmvs : movesOf depth ctx prev = mv :: mvs := hm
    have hmv : mv ∈ movesOf depth ctx prev := hmvs ▸ List.mem_cons_self
    obtain ⟨rc, hrc, hlt⟩ := movesOf_lt hmv
    have := hlen rc hrc
    omega
  | case3 depth ctx parent prev base tidx _ mv mvs hm f e he ih =>
    have hmvs : movesOf depth ctx prev = mv :: mvs := hm
    obtain ⟨_, hok⟩ := genMoves_total (child := fun c p b t => genNode f (depth + 1) c (some base) p b t)
      (mv :: mvs) (base + 1) tidx fun m hm b t => ih _ _ _ _ fun c hc => by
        have := hlen c (movesOf_ctx (hmvs ▸ hm) c hc).1
        omega
    rw [he] at hok
    cases hok
  | case4 => exact ⟨_, rfl⟩

theorem le_maxNameLen (chains : List Chain) : ∀ c ∈ chains, c.name.length ≤ maxNameLen chains :=
  le_foldr_max (·.name.length) chains

theorem compile_of_chainsOf_error {S : Schema} {e : CErr} (h : chainsOf S = .error e) : compile S = .error e := by
  unfold compile; rw [h]

theorem chainsOf_of_sort_error {S : Schema} {e : CErr} (h : sortRuleReferences S = .error e) :
    chainsOf S = .error e := by
  unfold chainsOf; rw [h]

theorem namedIn_sorted {S : Schema} {rules : List SRule} (h : sortRuleReferences S = .ok rules) (p : String) :
    NamedIn rules p ↔ NamedIn S.rules p := by
  have hperm := sortRuleReferences_perm S rules h
  constructor
  · rintro ⟨x, hx, hp⟩
    obtain ⟨x0, hx0, hxn, _⟩ := mem_renameTemps (hperm.mem_iff.mp hx)
    exact ⟨x0, hx0, hxn ▸ hp⟩
  · rintro ⟨x, hx, hp⟩
    obtain ⟨x', hx', hxn, _⟩ := exists_mem_renameTemps (k := 1) hx
    exact ⟨x', hperm.mem_iff.mpr hx', hxn ▸ hp⟩

theorem badTerm_congr {rules rules' : List SRule} {r r' : SRule} {t : Term String String}
    (hN : ∀ p, NamedIn rules p ↔ NamedIn rules' p) (hn : r.name = r'.name) : BadTerm rules r t ↔ BadTerm rules' r' t := by
  unfold BadTerm
  simp only [hN, hn]

/-- **the compile-time conditions**: what a schema must satisfy for `compile_lvs` not to raise -/
structure StaticOK (S : Schema) : Prop where
  refs : RefsOK S
  /-- no constraint term names an unknown pattern / uses a temporary pattern as a value -/
  terms : ∀ r ∈ S.rules, ∀ cs ∈ r.cons, ∀ t ∈ cs, ¬ BadTerm S.rules r t
  /-- every signer is the identifier of a rule (temporary rules having been renamed `#_x#k`, so: of a
      non-temporary rule) -/
  signers : ∀ r ∈ S.rules, ∀ s ∈ r.sign, s ∈ ruleIds (renameTemps S.rules 1)

theorem buildModel_spec {S : Schema} {chains : List Chain} {named : List String} (h : chainsOf S = .ok (chains, named)) :
    RaisesUnless (buildModel chains named) (∀ r ∈ S.rules, ∀ s ∈ r.sign, s ∈ ruleIds (renameTemps S.rules 1)) := by
  obtain ⟨⟨pool, t⟩, hg⟩ := genNode_total (maxNameLen chains) 0 chains none [] 0 named.length
    (fun c hc => by have := le_maxNameLen chains c hc; omega)
  obtain ⟨hends, hnames⟩ := genNode_ends _ _ _ _ _ _ _ _ _ (fun c _ => Nat.zero_le _) hg
  obtain ⟨hrule, hchain⟩ := chainsOf_heads h
  refine ((fixSigning_spec pool).post (fun e he => by unfold buildModel; simp only [hg, he])
    fun nodes hn => ⟨_, by unfold buildModel; simp only [hg, hn]; rfl⟩).congr ⟨fun hp r hr s hs => ?_, fun hS n hn s hs => ?_⟩
  · -- the chain of `r` ends at a node; the node that carries `s` carries a chain, which comes from a rule
    obtain ⟨r', hr', _, _, hsg, _⟩ := exists_mem_renameTemps (k := 1) hr
    obtain ⟨c, hc, _, hcs⟩ := hchain r' hr'
    obtain ⟨n, hn, _, hsn⟩ := hends c hc
    obtain ⟨k, hk, hsk⟩ := hp n hn s (hsn s (by rw [hcs, mem_isort, hsg]; exact hs))
    obtain ⟨rc, hrc, hid⟩ := (hnames k hk).1 s hsk
    obtain ⟨r2, hr2, hid2, _⟩ := hrule rc hrc
    exact mem_ruleIds.mpr ⟨r2, hr2, by rw [← hid2, hid]⟩
  · obtain ⟨rc, hrc, hsrc⟩ := (hnames n hn).2 s hs
    obtain ⟨r', hr', _, hsg⟩ := hrule rc hrc
    obtain ⟨r, hr, _, _, hsg0, _⟩ := mem_renameTemps hr'
    obtain ⟨r2, hr2, hid2⟩ := mem_ruleIds.mp (hS r hr s (by rw [← hsg0, ← mem_isort (le := strLe), ← hsg]; exact hsrc))
    obtain ⟨c2, hc2, hcid, _⟩ := hchain r2 hr2
    obtain ⟨k, hk, hrk, _⟩ := hends c2 hc2
    exact ⟨k, hk, by rw [← hid2, ← hcid]; exact hrk⟩

theorem chainsOf_spec (S : Schema) : RaisesUnless (chainsOf S)
    (RefsOK S ∧ ∀ r ∈ S.rules, ∀ cs ∈ r.cons, ∀ t ∈ cs, ¬ BadTerm S.rules r t) :=
  (sortRuleReferences_spec S).seq (fun e he => chainsOf_of_sort_error he) fun rules hs => by
    have hperm := sortRuleReferences_perm S rules hs
    refine ((genPatternNumbers_spec rules).post (fun e he => by unfold chainsOf; simp only [hs, he])
      fun p hp => ?_).congr ⟨fun h r hr cs hcs t ht hbad => ?_, fun h r' hr' cs hcs t ht hbad => ?_⟩
    · -- after the sort references point backwards, so `rep_rules[comp.id]` is there
      have hrb := sortRuleReferences_refsBefore S rules hs
      rw [← genPatternNumbers_pairs (nrules := p.1) (named := p.2) hp] at hrb
      obtain ⟨rep, hrep⟩ := replicateLoop_total p.1 [] (firstFreshTemp p.1)
        (fun pre x post hsplit i hi => Or.inl (hrb pre x post hsplit i hi))
      exact ⟨(allChains rep, p.2), by unfold chainsOf replicateRules; simp only [hs, hp, hrep]⟩
    · obtain ⟨r', hr', hn, hc, _⟩ := exists_mem_renameTemps (k := 1) hr
      exact h r' (hperm.mem_iff.mpr hr') cs (hc ▸ hcs) t ht ((badTerm_congr (namedIn_sorted hs) hn).mpr hbad)
    · obtain ⟨r, hr, hn, hc, _⟩ := mem_renameTemps (hperm.mem_iff.mp hr')
      exact h r hr cs (hc ▸ hcs) t ht ((badTerm_congr (namedIn_sorted hs) hn).mp hbad)

theorem compile_spec (S : Schema) : RaisesUnless (compile S) (StaticOK S) :=
  ((chainsOf_spec S).seq (fun e he => compile_of_chainsOf_error he) fun p hp =>
    (buildModel_spec (chains := p.1) (named := p.2) hp).post (fun e he => by unfold compile; simp only [hp, he])
      fun m hm => ⟨(m, p.2), by unfold compile; simp only [hp, hm]⟩).congr
    ⟨fun h => ⟨h.1.1, h.1.2, h.2⟩, fun h => ⟨⟨h.refs, h.terms⟩, h.signers⟩⟩

theorem compile_complete (S : Schema) (h : StaticOK S) : ∃ res, compile S = .ok res := (compile_spec S).1.mpr h

end Ndn.Lvs
