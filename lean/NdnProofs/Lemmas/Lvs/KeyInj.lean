import NdnProofs.Lemmas.Lvs.CompileMerge
import NdnProofs.Lemmas.Lvs.CompileChains
import NdnProofs.Lemmas.Lvs.KeyText
/-!
  `KeyInj` as a general fact: on well-formed chains (`ChainOK`: user-function names without `(` `,` `}`) the merge key of
  `pattern_movement` determines the tag and the constraints of the edge (`keyInj_of_chainOK`, from `keyStr_inj`).  The
  chains of a schema the parser can produce are well formed (`chainsOf_ok`), so the hypothesis of `gen_sem` holds for every
  such schema (`keyInj_of_wf`).  The computable test `keyInjB`, which the drivers evaluate on every compiled schema, is
  equivalent to `KeyInj` (through `keyInjB_iff`, what the test tries); two pairs of chains with a separator in a function name print one key each (`badChains_keys`).
-/
namespace Ndn.Lvs

theorem keyInj_of_chainOK (ctx : List Chain) (h : ∀ c ∈ ctx, ChainOK c) : KeyInj ctx := by
  intro rc₁ h1 rc₂ h2 t₁ t₂ prev _ _ hk
  rw [pmove_consAt, pmove_consAt] at hk ⊢
  obtain ⟨ht, hc⟩ := keyStr_inj (consAt_fnOK (h rc₁ h1) _ _) (consAt_fnOK (h rc₂ h2) _ _) hk
  exact ⟨ht, congrArg (List.map (List.map encOpt)) hc⟩

theorem keyInj_of_wf (S : Schema) (hwf : S.WF) (chains : List Chain) (named : List String)
    (h : chainsOf S = .ok (chains, named)) : KeyInj chains :=
  keyInj_of_chainOK chains (chainsOf_ok S hwf chains named h)

theorem pmove_eq_pmoveB (rc : Chain) (t : Int) (prev : List Int) : pmove rc t prev = pmoveB rc t (prev.contains t) := by
  unfold pmove pmoveB
  rfl

/-- what the test tries: every two tags of every two chains with either answer of `previous_tags.contains`, the same
    tag only with the same answer -/
theorem keyInjB_iff {chains : List Chain} : keyInjB chains = true ↔
    ∀ rc₁ ∈ chains, ∀ rc₂ ∈ chains, ∀ t₁ ∈ rc₁.tags, ∀ t₂ ∈ rc₂.tags, ∀ b₁ b₂ : Bool, (t₁ = t₂ → b₁ = b₂) →
      (pmoveB rc₁ t₁ b₁).2 = (pmoveB rc₂ t₂ b₂).2 → t₁ = t₂ ∧ (pmoveB rc₁ t₁ b₁).1 = (pmoveB rc₂ t₂ b₂).1 := by
  unfold keyInjB
  simp only [List.all_eq_true]
  refine forall₂_congr fun rc₁ _ => forall₂_congr fun rc₂ _ => forall₂_congr fun t₁ _ => forall₂_congr fun t₂ _ => ?_
  constructor
  · intro h b₁ b₂ hb hk
    have := h b₁ (by cases b₁ <;> simp) b₂ (by cases b₂ <;> simp)
    rw [if_neg fun hc => hc.2 (hb hc.1), if_pos (beq_iff_eq.mpr hk)] at this
    simpa using this
  · intro h b₁ _ b₂ _
    split
    · rfl
    · rename_i hc
      split
      · rename_i hk
        simpa using h b₁ b₂ (fun e => Decidable.byContradiction fun hne => hc ⟨e, hne⟩) (beq_iff_eq.mp hk)
      · rfl

theorem keyInj_of_keyInjB (chains : List Chain) (h : keyInjB chains = true) : KeyInj chains := by
  intro rc₁ h1 rc₂ h2 t₁ t₂ prev ht1 ht2 hk
  rw [pmove_eq_pmoveB, pmove_eq_pmoveB] at hk ⊢
  exact keyInjB_iff.mp h rc₁ h1 rc₂ h2 t₁ ht1 t₂ ht2 _ _ (fun e => e ▸ rfl) hk

theorem keyInjB_of_keyInj (chains : List Chain) (h : KeyInj chains) : keyInjB chains = true := by
  refine keyInjB_iff.mpr fun rc₁ h1 rc₂ h2 t₁ ht1 t₂ ht2 b₁ b₂ hb hk => ?_
  -- `KeyInj` quantifies over `prev`, the test over the two answers of `prev.contains`: each pair it tries is realised
  have hprev : ∃ prev : List Int, prev.contains t₁ = b₁ ∧ prev.contains t₂ = b₂ := by
    cases b₁ <;> cases b₂
    · exact ⟨[], by simp, by simp⟩
    · refine ⟨[t₂], ?_, by simp⟩
      have : t₁ ≠ t₂ := fun e => nomatch hb e
      simp [this]
    · refine ⟨[t₁], by simp, ?_⟩
      have : t₂ ≠ t₁ := fun e => nomatch hb e.symm
      simp [this]
    · exact ⟨[t₁, t₂], by simp, by simp⟩
  obtain ⟨prev, rfl, rfl⟩ := hprev
  simpa only [pmove_eq_pmoveB] using h rc₁ h1 rc₂ h2 t₁ t₂ prev ht1 ht2 (by rw [pmove_eq_pmoveB, pmove_eq_pmoveB]; exact hk)

/-- a user-function name with a `,` in it: one option prints like two -/
def badCommaChains : List Chain := [
  { id := "#a", name := [.pat 1], cons := [{ pat := [1], opts := [.fn "$f(),$g" []] }], sign := [] },
  { id := "#b", name := [.pat 1], cons := [{ pat := [1], opts := [.fn "$f" [], .fn "$g" []] }], sign := [] } ]

/-- a user-function name with a `}` in it: one constraint prints like two -/
def badBraceChains : List Chain := [
  { id := "#a", name := [.pat 1], cons := [{ pat := [1], opts := [.fn "$f(),}{$g" []] }], sign := [] },
  { id := "#b", name := [.pat 1], cons := [{ pat := [1], opts := [.fn "$f" []] }, { pat := [1], opts := [.fn "$g" []] }],
    sign := [] } ]

theorem badChains_keys :
    (∀ rc ∈ badCommaChains, (pmove rc 1 []).2 = "1:{$f(),$g(),}") ∧
    (∀ rc ∈ badBraceChains, (pmove rc 1 []).2 = "1:{$f(),}{$g(),}") := by decide +kernel

theorem badChains_keyInjB : keyInjB badCommaChains = false ∧ keyInjB badBraceChains = false := by decide +kernel

end Ndn.Lvs
