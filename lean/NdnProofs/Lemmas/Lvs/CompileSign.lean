import NdnProofs.Lemmas.Lvs.CompileChains
import NdnProofs.Lemmas.Lvs.KeyPath
/-!
  Identifiers and signers through passes 3–5: every rule leaves a chain carrying its identifier and signers and every
  chain comes from a rule (`chainsOf_heads`), every chain ends at a node of the pool and the pool carries nothing else
  (`genNode_ends`); pass 5 (`fixSigning`) returns unless a node lists a signer that no node carries (`fixSigning_spec`).
-/
namespace Ndn.Lvs

def RepNE (rep : PyDict String (List Chain)) : Prop := ∀ k v, PyDict.get? rep k = some v → v ≠ []

theorem expandName_fields (rid : String) (sg : List String) (rep : PyDict String (List Chain))
    (name : List (Comp Int)) (cur : List Chain) (nt : Int) (res : List Chain) (nt' : Int)
    (hcur : ∀ c ∈ cur, c.id = rid ∧ c.sign = sg) (h : expandName rid rep name cur nt = .ok (res, nt')) :
    ∀ c ∈ res, c.id = rid ∧ c.sign = sg := by
  have hsnoc : ∀ (cur : List Chain) (a : Atom), (∀ c ∈ cur, c.id = rid ∧ c.sign = sg) →
      ∀ c ∈ cur.map (·.snoc a), c.id = rid ∧ c.sign = sg := fun cur a hcur c hc => by
    obtain ⟨c0, hc0, rfl⟩ := List.mem_map.mp hc
    exact hcur c0 hc0
  fun_induction expandName rid rep name cur nt with
  | case1 => cases h; exact hcur
  | case2 v r cur nt ih => exact ih (hsnoc cur _ hcur) h
  | case3 t r cur nt ih => exact ih (hsnoc cur _ hcur) h
  | case4 => cases h
  | case5 i r cur nt reps hget cur' nt1 hin ih =>
    -- `new_chains`: the chains so far, each joined with a copy of a referenced chain
    have hs := (inlineRef_mem rid reps cur nt).2.1
    rw [hin] at hs
    refine ih (fun c hc => ?_) h
    obtain ⟨_, _, ch, hch, _, _, _, rfl⟩ := hs c hc
    exact ⟨rfl, (hcur ch hch).2⟩

theorem expandName_ne (rid : String) (rep : PyDict String (List Chain)) (hne : RepNE rep)
    (name : List (Comp Int)) (cur : List Chain) (nt : Int) (res : List Chain) (nt' : Int) (hn : cur ≠ [])
    (h : expandName rid rep name cur nt = .ok (res, nt')) : res ≠ [] := by
  fun_induction expandName rid rep name cur nt with
  | case1 => cases h; exact hn
  | case2 v r cur nt ih => exact ih (mt List.map_eq_nil_iff.mp hn) h
  | case3 t r cur nt ih => exact ih (mt List.map_eq_nil_iff.mp hn) h
  | case4 => cases h
  | case5 i r cur nt reps hget cur' nt1 hin ih =>
    have hall := (inlineRef_mem rid reps cur nt).2.2
    rw [hin] at hall
    obtain ⟨refc, hrefc⟩ := List.exists_mem_of_ne_nil _ (hne _ _ hget)
    obtain ⟨ch, hch⟩ := List.exists_mem_of_ne_nil _ hn
    obtain ⟨_, _, _, hm⟩ := hall refc hrefc ch hch
    exact ih (List.ne_nil_of_mem hm) h

theorem initChains_shape (r : NRule) : (∀ c ∈ initChains r, c.id = r.id ∧ c.sign = isort strLe r.sign) ∧ initChains r ≠ [] := by
  unfold initChains
  simp only []
  split
  · exact ⟨fun c hc => List.mem_singleton.mp hc ▸ ⟨rfl, rfl⟩, List.cons_ne_nil _ _⟩
  · rename_i hne
    refine ⟨fun c hc => ?_, fun h => hne ?_⟩
    · obtain ⟨cs, _, rfl⟩ := List.mem_map.mp hc
      exact ⟨rfl, rfl⟩
    · rw [List.map_eq_nil_iff.mp h]; rfl

theorem replicateLoop_has {rules : List NRule} {nt : Int} {res : PyDict String (List Chain)}
    (h : replicateLoop rules [] nt = .ok res) :
    (∀ r ∈ rules, ∃ c, Has res r.id c ∧ c.id = r.id ∧ c.sign = isort strLe r.sign) ∧
    (∀ k c, Has res k c → ∃ r ∈ rules, c.id = r.id ∧ c.sign = isort strLe r.sign) := by
  -- `RepNE` is kept besides (the code's `assert len(new_chains) > 0`): inlining an empty entry would leave the rule no chain
  obtain ⟨_, _, hres⟩ := replicateLoop_induct (done := [])
    (I := fun done rep _ => RepNE rep ∧ (∀ r ∈ done, ∃ c, Has rep r.id c ∧ c.id = r.id ∧ c.sign = isort strLe r.sign) ∧
      ∀ k c, Has rep k c → ∃ r ∈ done, c.id = r.id ∧ c.sign = isort strLe r.sign)
    (fun done r rep nt cur nt' _ ⟨hne, h1, h2⟩ hexp => by
      have hcur := expandName_fields r.id (isort strLe r.sign) rep r.name (initChains r) nt cur nt' (initChains_shape r).1 hexp
      have hcne := expandName_ne r.id rep hne r.name (initChains r) nt cur nt' (initChains_shape r).2 hexp
      obtain ⟨c0, hc0⟩ := List.exists_mem_of_ne_nil _ hcne
      refine ⟨fun k v hv => ?_, fun x hx => ?_, fun k c hh => ?_⟩
      · rw [get?_repAdd] at hv
        split at hv
        · cases hv
          exact fun h0 => hcne (List.append_eq_nil_iff.mp h0).2
        · exact hne k v hv
      · rcases List.mem_append.mp hx with hx | hx
        · exact (h1 x hx).imp fun c hc => ⟨has_repAdd.mpr (.inl hc.1), hc.2⟩
        · cases List.mem_singleton.mp hx
          exact ⟨c0, has_repAdd.mpr (.inr ⟨rfl, hc0⟩), hcur c0 hc0⟩
      · rcases has_repAdd.mp hh with hh | ⟨_, hc⟩
        · exact (h2 k c hh).imp fun x hx => ⟨List.mem_append_left _ hx.1, hx.2⟩
        · exact ⟨r, List.mem_append_right _ (List.mem_singleton_self r), hcur c hc⟩)
    h ⟨fun _ _ h => (nomatch h), nofun, fun _ _ ⟨_, h, _⟩ => nomatch h⟩
  exact hres

theorem genNode_ends (fuel depth : Nat) (ctx : List Chain) (parent : Option Nat) (prev : List Int)
    (base tidx : Nat) (nodes : List PreNode) (t' : Nat) (hlen : ∀ c ∈ ctx, depth ≤ c.name.length)
    (h : genNode fuel depth ctx parent prev base tidx = .ok (nodes, t')) :
    (∀ rc ∈ ctx, ∃ n ∈ nodes, rc.id ∈ n.ruleNames ∧ ∀ s ∈ rc.sign, s ∈ n.signStr) ∧
    (∀ n ∈ nodes, (∀ rid ∈ n.ruleNames, ∃ rc ∈ ctx, rc.id = rid) ∧ ∀ s ∈ n.signStr, ∃ rc ∈ ctx, s ∈ rc.sign) := by
  obtain ⟨h1, h2⟩ := genNode_keys _ _ _ _ _ _ _ _ _ hlen h
  refine ⟨fun rc hrc => ?_, fun n hn => ?_⟩
  · obtain ⟨n, hn, hk⟩ := h2 rc hrc
    exact ⟨n, hn, hk.2.2 rc hrc rfl⟩
  · obtain ⟨kp, hk⟩ := h1 n hn
    exact ⟨fun rid hr => (hk.1 rid hr).imp fun rc h => ⟨h.1, h.2.1⟩,
      fun s hs => (hk.2.1 s hs).imp fun rc h => ⟨h.1, h.2.1⟩⟩

theorem ruleNodeIds_ne_nil {pool : List PreNode} {rid : String} :
    ruleNodeIds pool rid ≠ [] ↔ ∃ k ∈ pool, rid ∈ k.ruleNames :=
  ⟨fun h => by
    obtain ⟨i, hi⟩ := List.exists_mem_of_ne_nil _ h
    obtain ⟨k, hk, _, hr⟩ := mem_ruleNodeIds.mp hi
    exact ⟨k, hk, hr⟩,
   fun ⟨k, hk, hr⟩ => List.ne_nil_of_mem (mem_ruleNodeIds.mpr ⟨k, hk, rfl, hr⟩)⟩

theorem signersOfStr_spec (pool : List PreNode) (l : List String) :
    RaisesUnless (signersOfStr pool l) (∀ rid ∈ l, ruleNodeIds pool rid ≠ []) := by
  induction l with
  | nil => exact raisesUnless_ok _ (fun _ h => nomatch h)
  | cons rid r ih =>
    unfold signersOfStr
    cases hids : ruleNodeIds pool rid with
    | nil => exact raisesUnless_error fun h => h rid List.mem_cons_self hids
    | cons k ks =>
      exact (ih.post (fun e he => by simp only [he]) fun rest hr => ⟨k :: ks ++ rest, by simp only [hr]⟩).congr
        ⟨fun h => List.forall_mem_cons.mpr ⟨by rw [hids]; exact List.cons_ne_nil _ _, h⟩,
         fun h => (List.forall_mem_cons.mp h).2⟩

theorem fixSigning_spec (pool : List PreNode) :
    RaisesUnless (fixSigning pool) (∀ n ∈ pool, ∀ s ∈ n.signStr, ∃ k ∈ pool, s ∈ k.ruleNames) :=
  (RaisesUnless.mapE (l := pool) fun n _ => (signersOfStr_spec pool n.signStr).post
    (fun e he => by simp only [fixNode, he]) fun ks hks => ⟨_, by simp only [fixNode, hks]; rfl⟩).congr
    (forall₂_congr fun n _ => forall₂_congr fun s _ => ruleNodeIds_ne_nil)

theorem chainsOf_heads {S : Schema} {chains : List Chain} {named : List String} (h : chainsOf S = .ok (chains, named)) :
    (∀ c ∈ chains, ∃ r ∈ renameTemps S.rules 1, c.id = r.id ∧ c.sign = isort strLe r.sign) ∧
    (∀ r ∈ renameTemps S.rules 1, ∃ c ∈ chains, c.id = r.id ∧ c.sign = isort strLe r.sign) := by
  obtain ⟨rules, nrules, rep, hsort, hnum, hrep, rfl⟩ := chainsOf_ok_inv h
  have hperm := sortRuleReferences_perm S rules hsort
  obtain ⟨hfw, hbw⟩ := genPatternNumbers_mem hnum
  obtain ⟨h3, h4⟩ := replicateLoop_has hrep
  refine ⟨fun c hc => ?_, fun r hr => ?_⟩
  · obtain ⟨k, hk⟩ := (mem_allChains_loop hrep).mp hc
    obtain ⟨nr, hnr, hid, hsg⟩ := h4 k c hk
    obtain ⟨r, hr, hrid, hrsg⟩ := hbw nr hnr
    exact ⟨r, hperm.mem_iff.mp hr, hid.trans hrid, by rw [hsg, hrsg]⟩
  · obtain ⟨nr, hnr, hid, hsg⟩ := hfw r (hperm.mem_iff.mpr hr)
    obtain ⟨c, hc, hcid, hcs⟩ := h3 nr hnr
    exact ⟨c, (mem_allChains_loop hrep).mpr ⟨_, hc⟩, hcid.trans hid, by rw [hcs, hsg]⟩

end Ndn.Lvs
