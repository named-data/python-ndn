import NdnProofs.Lemmas.Lvs.SrcTracks
import NdnProofs.Lemmas.Lvs.KeyPath
/-!
  Signing cycles among key paths of chains, read as signing cycles among the keys of the name patterns of the text
  (`keySelfSigning_src`), and back for schemas without temporary patterns (`src_keySelfSigning_tempFree`); a cycle among keys
  is a cycle among shapes (`srcKeySelfSigning_shape`).  `chainsOf_keys`: the key path of a chain of a schema is `Flat.keys` of
  what it implements, numbered.
-/
namespace Ndn.Lvs

theorem tempFree_renameTemps {S : Schema} (h : TempFree S) : TempFree ⟨renameTemps S.rules 1⟩ := by
  intro r hr p hp
  obtain ⟨r0, hr0, hn, _⟩ := mem_renameTemps hr
  exact h r0 hr0 p (hn ▸ hp)

theorem tempFree_of_all (S : Schema) (h : S.rules.all (fun r => (patsOf r.name).all (fun p => !isTempPat p)) = true) :
    TempFree S := by
  intro r hr p hp
  have h1 := List.all_eq_true.mp h r hr
  have h2 := List.all_eq_true.mp h1 p (by unfold patsOf; rw [List.mem_filterMap]; exact ⟨_, hp, rfl⟩)
  simpa using h2

theorem expandsName_noTemp {S : Schema} (hS : TempFree S) :
    ∀ {cs : List (Term String String)} {comps : List (Comp String)} {f : Flat},
    (∀ p, Comp.pat p ∈ comps → isTempPat p = false) → ExpandsName S cs comps f → ∀ it ∈ f.items, ∀ tc, it ≠ .temp tc :=
  fun hc h => ExpandsName.rec
    (motive_1 := fun _ comps f _ => (∀ p, Comp.pat p ∈ comps → isTempPat p = false) → ∀ it ∈ f.items, ∀ tc, it ≠ .temp tc)
    (motive_2 := fun _ f _ => ∀ it ∈ f.items, ∀ tc, it ≠ .temp tc)
    (nil := fun _ => nofun)
    (lit := fun _ ih hc => List.forall_mem_cons.mpr ⟨nofun, ih fun p hp => hc p (.tail _ hp)⟩)
    (named := fun _ _ ih hc => List.forall_mem_cons.mpr ⟨nofun, ih fun p hp => hc p (.tail _ hp)⟩)
    (temp := fun hp _ _ hc => absurd (hc _ (.head _)) (by rw [hp]; nofun))
    (ref := fun _ _ _ ihe ih hc it hit tc =>
      (List.mem_append.mp hit).elim (ihe it · tc) (ih (fun p hp => hc p (.tail _ hp)) it · tc))
    (mk := fun hr _ _ ih => ih (hS _ hr))
    h hc

theorem skeysFrom_noTemp (ncons : List (String × List (Opt String))) (items : List SItem) (seen : List String)
    (h : ∀ it ∈ items, ∀ tc, it ≠ .temp tc) : ∀ a ∈ skeysFrom ncons items seen, a.isTemp = false := by
  fun_induction skeysFrom ncons items seen with
  | case1 => nofun
  | case2 v r seen ih => exact List.forall_mem_cons.mpr ⟨rfl, ih fun it hit => h it (.tail _ hit)⟩
  | case3 tc r seen ih => exact absurd rfl (h _ (.head _) tc)
  | case4 x r seen ih => exact List.forall_mem_cons.mpr ⟨rfl, ih fun it hit => h it (.tail _ hit)⟩

theorem keys_noTemp {S : Schema} (hS : TempFree S) {q : String} {f : Flat} (h : Expands S q f) :
    ∀ a ∈ f.keys, a.isTemp = false := by
  cases h with
  | mk hr _ h1 => exact skeysFrom_noTemp _ _ [] fun it hit tc => expandsName_noTemp hS (hS _ hr) h1 it hit tc

def SKey.shape : SKey → Option Bytes
  | .lit v => some v
  | _ => none

theorem skeysFrom_shape (ncons : List (String × List (Opt String))) (items : List SItem) (seen : List String) :
    (skeysFrom ncons items seen).map SKey.shape = items.map SItem.shape := by
  fun_induction skeysFrom ncons items seen with
  | case1 => rfl
  | case2 v r seen ih => exact congrArg (_ :: ·) ih
  | case3 tc r seen ih => exact congrArg (_ :: ·) ih
  | case4 x r seen ih => exact congrArg (_ :: ·) ih

theorem keys_shape (f : Flat) : f.keys.map SKey.shape = f.shape := skeysFrom_shape f.ncons f.items []

theorem srcKeySelfSigning_shape {S : Schema} (h : SrcKeySelfSigning S) : ShapeSelfSigning S := by
  refine selfSigning_transfer (fun k sh => k.map SKey.shape = sh) (fun _ _ _ => ⟨_, rfl⟩) ?_ h
  rintro p a _ ⟨r, hr, f, hf, rfl, q, hq, g, hg, rfl⟩ rfl
  exact ⟨_, rfl, r, hr, f, hf, (keys_shape f).symm, q, hq, g, hg, (keys_shape g).symm⟩

theorem chainsOf_keys (S : Schema) (hwf : S.WF) (chains : List Chain) (F : List String)
    (h : chainsOf S = .ok (chains, F)) {c : Chain} (hc : c ∈ chains) {f : Flat} (hi : Impl F c f) :
    All2 (KeyNum F) f.keys (keyPath c) :=
  impl_keys hi (chainsOf_ok S hwf chains F h c hc) (chainsOf_patOK S chains F h c hc) ((chainsOf_sem S chains F h).2.1 c hc).1.nodup

theorem keySelfSigning_src (S : Schema) (hwf : S.WF) (chains : List Chain) (F : List String)
    (h : chainsOf S = .ok (chains, F)) (hcy : KeySelfSigning chains) : SrcKeySelfSigning ⟨renameTemps S.rules 1⟩ := by
  obtain ⟨_, hsound, _⟩ := chainsOf_sem S chains F h
  have hkeys := @chainsOf_keys S hwf chains F h
  -- a key path goes to the keys of the expansions that its chains implement
  refine selfSigning_transfer (fun k k' => ∃ c ∈ chains, keyPath c = k ∧ ∃ f, Impl F c f ∧ f.keys = k') ?_ ?_ hcy
  · rintro _ _ ⟨_, _, ck, hck, _, rfl, _⟩
    obtain ⟨_, _, _, _, _, f, _, himpl⟩ := hsound ck hck
    exact ⟨f.keys, ck, hck, rfl, f, himpl, rfl⟩
  · rintro _ _ _ ⟨cp, hcp, ck, hck, rfl, rfl, hsig⟩ ⟨c, hc, hck', f, himpl, rfl⟩
    obtain ⟨_, r, hr, _, hsg, fp, hfp, himplp⟩ := hsound cp hcp
    obtain ⟨_, r', hr', hr'id, _, g, hg, himplk⟩ := hsound ck hck
    refine ⟨fp.keys, ⟨cp, hcp, rfl, fp, himplp, rfl⟩, r, hr, fp, hfp, rfl, ck.id, ?_, g,
      expands_iff.mpr ⟨r', hr', hr'id, hg⟩, All2.left_unique (R := KeyNum F) (fun _ _ _ => keyNum_left_unique) (hkeys hck himplk) (hck' ▸ hkeys hc himpl)⟩
    rw [hsg, mem_isort] at hsig
    exact hsig

theorem src_keySelfSigning_tempFree (S : Schema) (hwf : S.WF) (htf : TempFree S) (chains : List Chain) (F : List String)
    (h : chainsOf S = .ok (chains, F)) (hcy : SrcKeySelfSigning ⟨renameTemps S.rules 1⟩) : KeySelfSigning chains := by
  have hcomp := (chainsOf_sem S chains F h).2.2
  have hkeys := @chainsOf_keys S hwf chains F h
  -- the key of an expansion of a rule goes to the key paths of the chains that implement it
  refine selfSigning_transfer
    (fun k' k => ∃ c ∈ chains, keyPath c = k ∧ ∃ f q, Expands ⟨renameTemps S.rules 1⟩ q f ∧ Impl F c f ∧ f.keys = k') ?_ ?_ hcy
  · rintro _ _ ⟨_, _, _, _, _, q, _, g, hg, rfl⟩
    obtain ⟨c, hc, _, himpl⟩ := chainsOf_complete S chains F h hg
    exact ⟨keyPath c, c, hc, rfl, g, q, hg, himpl, rfl⟩
  · rintro _ _ _ ⟨r, hr, fp, hfp, rfl, q, hq, g, hg, rfl⟩ ⟨c, hc, rfl, f, _, _, himpl, hgk⟩
    obtain ⟨cp, hcp, _, hsgp, himplp⟩ := hcomp r hr fp hfp
    obtain ⟨ck, hck, rfl, himplk⟩ := chainsOf_complete S chains F h hg
    refine ⟨keyPath cp, ⟨cp, hcp, rfl, fp, r.id, expands_iff.mpr ⟨r, hr, rfl, hfp⟩, himplp, rfl⟩, cp, hcp, ck, hck, rfl,
      All2.right_unique (R := KeyNum F) (P := fun a => a.isTemp = false) (fun _ _ _ ha => keyNum_right_unique ha) (keys_noTemp (tempFree_renameTemps htf) hg)
        (hkeys hck himplk) (hgk ▸ hkeys hc himpl), ?_⟩
    rw [hsgp, mem_isort]
    exact hq

end Ndn.Lvs
