import NdnProofs.Lemmas.Lvs.CompileMerge
import NdnProofs.Lemmas.Lvs.CompileSane
/-!
  The pool `genNode` returns, once placed in a model, is a `Gen` tree; hence (`buildModel_sem`) the compiled
  tree accepts exactly what its chains accept one by one.
-/
namespace Ndn.Lvs

/-- the block `sub` of the pool sits at position `base` of the model's node array (signers aside) -/
def BlockAt (m : Model) (base : Nat) (sub : List PreNode) : Prop :=
  ∀ (i : Nat) (n : PreNode), sub[i]? = some n → ∃ node, m.nodes[base + i]? = some node ∧
    node.ruleNames = n.ruleNames ∧ node.vEdges = n.vEdges ∧ node.pEdges = n.pEdges

theorem BlockAt.left {m : Model} {base : Nat} {A B : List PreNode} (h : BlockAt m base (A ++ B)) :
    BlockAt m base A := by
  intro i n hi
  have hl : i < A.length := by
    rcases Nat.lt_or_ge i A.length with h | h
    · exact h
    · rw [List.getElem?_eq_none h] at hi; simp at hi
  exact h i n (by rw [List.getElem?_append_left hl]; exact hi)

theorem BlockAt.right {m : Model} {base : Nat} {A B : List PreNode} (h : BlockAt m base (A ++ B)) :
    BlockAt m (base + A.length) B := by
  intro i n hi
  obtain ⟨node, hn, hr⟩ := h (A.length + i) n (by rw [List.getElem?_append_right (by omega)]; simpa using hi)
  exact ⟨node, by rw [← hn]; congr 1; omega, hr⟩

theorem BlockAt.head {m : Model} {base : Nat} {hd : PreNode} {tl : List PreNode} (h : BlockAt m base (hd :: tl)) :
    ∃ node, m.nodes[base]? = some node ∧ node.ruleNames = hd.ruleNames ∧ node.vEdges = hd.vEdges ∧
      node.pEdges = hd.pEdges := by
  obtain ⟨node, hn, hr⟩ := h 0 hd rfl
  exact ⟨node, by simpa using hn, hr⟩

def consFn (a : Nat) (f : Nat → Nat) : Nat → Nat
  | 0 => a
  | i + 1 => f i

theorem exists_getElem?_cons {α : Type} {a : α} {l : List α} {Q : Nat → α → Prop} :
    (∃ i x, (a :: l)[i]? = some x ∧ Q i x) ↔ Q 0 a ∨ ∃ i x, l[i]? = some x ∧ Q (i + 1) x := by
  constructor
  · rintro ⟨i, x, hi, hq⟩
    cases i with
    | zero => cases hi; exact Or.inl hq
    | succ i => exact Or.inr ⟨i, x, List.getElem?_cons_succ.symm.trans hi, hq⟩
  · rintro (hq | ⟨i, x, hi, hq⟩)
    · exact ⟨0, a, rfl, hq⟩
    · exact ⟨i + 1, x, by rw [List.getElem?_cons_succ]; exact hi, hq⟩

theorem Kids.gen {m : Model} {cnt D : Nat} {mvs : List Move} {b t : Nat} {ves : List VEdge} {pes : List PEdge}
    {nodes : List PreNode} {t' : Nat}
    (h : Kids (fun mv b t s t2 => t ≤ t2 ∧ (cnt ≤ t → BlockAt m b s → Gen m cnt D mv.ctx mv.prev b)) mvs b t ves pes
      nodes t') :
    t ≤ t' ∧ (cnt ≤ t → BlockAt m b nodes → ∃ dv tg : Nat → Nat,
      (∀ ve, ve ∈ ves ↔ ∃ i mv, mvs[i]? = some mv ∧ ∃ v, mv.value = some v ∧ ve = ⟨some (dv i), some v⟩) ∧
      (∀ pe, pe ∈ pes ↔ ∃ i mv, mvs[i]? = some mv ∧ mv.value = none ∧ pe = ⟨some (dv i), some (tg i), mv.cons⟩) ∧
      (∀ (i : Nat) (mv : Move), mvs[i]? = some mv → mv.value = none → TagFor cnt mv.tag (tg i)) ∧
      (∀ (i : Nat) (mv : Move), mvs[i]? = some mv → Gen m cnt D mv.ctx mv.prev (dv i))) := by
  induction h with
  | nil => exact ⟨Nat.le_refl _, fun _ _ => ⟨id, id, by simp, by simp, (fun _ _ h => nomatch h), fun _ _ h => nomatch h⟩⟩
  | @cons mv r b t s t2 ves pes rest t3 hq _ ih =>
    have h1 : t ≤ mv.tidx t := by unfold Move.tidx; split <;> omega
    refine ⟨Nat.le_trans h1 (Nat.le_trans hq.1 ih.1), fun hcnt hsub => ?_⟩
    obtain ⟨dv, tg, hves, hpes, htg, hgen⟩ := ih.2 (Nat.le_trans hcnt (Nat.le_trans h1 hq.1)) hsub.right
    refine ⟨consFn b dv, consFn (if mv.tag < 0 then mv.tidx t else mv.tag.toNat) tg,
      fun ve => ?_, fun pe => ?_, fun i mv' hi hv' => ?_, fun i mv' hi => ?_⟩
    · rw [List.mem_append, Move.mem_vEdge, hves, exists_getElem?_cons]; exact Iff.rfl
    · rw [List.mem_append, Move.mem_pEdge, hpes, exists_getElem?_cons]; exact Iff.rfl
    · cases i with
      | zero =>
        cases hi
        -- a temporary pattern gets the incremented `temp_tag_index`, which is above the named tags
        refine ⟨fun hneg => ?_, fun hge => ?_⟩
        · show cnt < if mv.tag < 0 then mv.tidx t else mv.tag.toNat
          have : mv.tidx t = t + 1 := if_pos (by rw [hv']; exact decide_eq_true hneg)
          rw [if_pos hneg, this]
          exact Nat.lt_succ_of_le hcnt
        · show (if mv.tag < 0 then mv.tidx t else mv.tag.toNat) = mv.tag.toNat
          rw [if_neg (by omega)]
      | succ i => exact htg i mv' (List.getElem?_cons_succ.symm.trans hi) hv'
    · cases i with
      | zero => cases hi; exact hq.2 (Nat.le_trans hcnt h1) hsub.left
      | succ i => exact hgen i mv' (List.getElem?_cons_succ.symm.trans hi)

theorem genNode_gen (m : Model) (cnt : Nat) (fuel depth : Nat) (ctx : List Chain) (parent : Option Nat)
    (prev : List Int) (base tidx : Nat) (sub : List PreNode) (t' : Nat)
    (h : genNode fuel depth ctx parent prev base tidx = .ok (sub, t')) (hcnt : cnt ≤ tidx) (hsub : BlockAt m base sub) :
    Gen m cnt depth ctx prev base := by
  refine genNode_induct (P := fun depth ctx _ prev base tidx sub t' => tidx ≤ t' ∧
    (cnt ≤ tidx → BlockAt m base sub → Gen m cnt depth ctx prev base)) ?_ h |>.2 hcnt hsub
  intro depth ctx parent prev base tidx ves pes sub t' hk
  obtain ⟨hle, hg⟩ := hk.gen
  refine ⟨hle, fun hcnt hsub => ?_⟩
  obtain ⟨node, hn, hr, hv, hp⟩ := hsub.head
  obtain ⟨dv, tg, hves, hpes, htg, hgen⟩ := hg hcnt (hsub.right (A := [_]))
  refine Gen.mk depth ctx prev base node dv tg hn hr (fun ve => ?_) (fun pe => by rw [hp]; exact hpes pe) htg hgen
  rw [hv]
  exact (hves ve).trans
    ⟨fun ⟨i, mv, hi, v, h1, h2⟩ => ⟨i, mv, v, hi, h1, h2⟩, fun ⟨i, mv, v, hi, h1, h2⟩ => ⟨i, mv, hi, v, h1, h2⟩⟩

theorem buildModel_sem (chains : List Chain) (named : List String) (m : Model)
    (h : buildModel chains named = .ok m) (hkey : KeyInj chains) (htags : TagsLe named.length chains)
    (fns : PureEnv) (σ : Ctx) (hσ : CtxLe named.length σ) (name : List Bytes) (σ' : Ctx) (rid : String) :
    (∃ n node, Matches m fns σ name n σ' ∧ m.nodes[n]? = some node ∧ rid ∈ node.ruleNames) ↔
      ∃ rc ∈ chains, rc.id = rid ∧ ChainRun fns rc rc.name [] σ name σ' := by
  obtain ⟨pool, tidx, nodes, hg, hfix, rfl⟩ := buildModel_ok_inv h
  have hsub : BlockAt { version := some maxVersion, startId := 0, namedCnt := named.length, nodes := nodes } 0 pool := by
    intro i n hi
    obtain ⟨b, hb, hf⟩ := (mapE_ok_idx hfix).2 i n hi
    obtain ⟨_, _, rfl⟩ := fixNode_ok hf
    exact ⟨_, (Nat.zero_add i).symm ▸ hb, rfl, rfl, rfl⟩
  have hgen := genNode_gen _ named.length _ _ _ _ _ _ _ _ _ hg (Nat.le_refl _) hsub
  exact gen_sem _ fns named.length rfl name 0 chains [] 0 σ hgen (fun _ _ => Nat.zero_le _) hkey htags hσ σ' rid

end Ndn.Lvs
