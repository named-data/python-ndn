import NdnProofs.Lemmas.Lvs.SrcNumber
import NdnModel.Lvs.KeyPath
import NdnProofs.Lemmas.Lvs.CompileMerge
import NdnProofs.Lemmas.Lvs.CompileChains
/-!
  A rule chain (`Compiler.RuleChain`, numbered patterns, one global constraint list addressed by pattern number)
  *implements* an expanded definition of the source text (`Flat`) when, position by position, literals agree, a
  non-negative number is the number of the named pattern standing there, and the constraints that mention a
  negative number are — once numbered — the constraints of the temporary pattern standing there (`Impl`).
  Here: the numbered bindings (`encCtx`), a numbered option holds iff the option of the text does (`numOpt_sat` …
  `numCons_sat`), and the text's matching reads nothing of an expansion but its keys (`Flat.run_eq_keysRun`).
-/
namespace Ndn.Lvs

/-- the bindings `σ` with the identifiers replaced by their numbers in the table `F` -/
def encCtx (F : List String) (σ : SCtx) : Ctx := σ.map fun p => (F.idxOf p.1 + 1, p.2)

def SCtxIn (F : List String) (σ : SCtx) : Prop := ∀ p ∈ σ, p.1 ∈ F

theorem idxOf_succ_eq_iff {F : List String} {y : String} (hy : y ∈ F) (x : String) :
    F.idxOf y + 1 = F.idxOf x + 1 ↔ y = x :=
  ⟨fun he => idxOf_inj hy (Nat.succ.inj he), fun he => he ▸ rfl⟩

theorem get?_encCtx {F : List String} {σ : SCtx} (hσ : SCtxIn F σ) (x : String) :
    PyDict.get? (encCtx F σ) (F.idxOf x + 1) = PyDict.get? σ x := by
  induction σ with
  | nil => rfl
  | cons p r ih =>
    have hr : SCtxIn F r := fun q hq => hσ q (List.mem_cons_of_mem _ hq)
    simp only [encCtx, List.map_cons, PyDict.get?, idxOf_succ_eq_iff (hσ p List.mem_cons_self)] at ih ⊢
    rw [ih hr]

theorem set_encCtx {F : List String} {σ : SCtx} (hσ : SCtxIn F σ) (x : String) (c : Bytes) :
    PyDict.set (encCtx F σ) (F.idxOf x + 1) c = encCtx F (PyDict.set σ x c) := by
  induction σ with
  | nil => rfl
  | cons p r ih =>
    have hr : SCtxIn F r := fun q hq => hσ q (List.mem_cons_of_mem _ hq)
    simp only [encCtx, List.map_cons, PyDict.set, idxOf_succ_eq_iff (hσ p List.mem_cons_self)] at ih ⊢
    split <;> simp only [List.map_cons, ih hr]

theorem sctxIn_set {F : List String} {σ : SCtx} (hσ : SCtxIn F σ) {x : String} (hx : x ∈ F) (c : Bytes) :
    SCtxIn F (PyDict.set σ x c) := by
  intro p hp
  rcases PyDict.mem_set_cases _ _ _ _ hp with rfl | hp
  · exact hx
  · exact hσ p hp

theorem ctxLe_encCtx {F : List String} {σ : SCtx} (hσ : SCtxIn F σ) : CtxLe F.length (encCtx F σ) := by
  intro t v h
  have hm := PyDict.mem_of_get? _ _ _ h
  simp only [encCtx, List.mem_map] at hm
  obtain ⟨p, hp, he⟩ := hm
  have : F.idxOf p.1 < F.length := List.idxOf_lt_length_iff.mpr (hσ p hp)
  injection he with he _
  omega

theorem bindStep_named {F : List String} {σ : SCtx} (hσ : SCtxIn F σ) (c : Bytes) (x : String) (σ₁ : Ctx) :
    BindStep (tagIn F x) (encCtx F σ) c σ₁ ↔
    (PyDict.get? σ x = some c ∧ σ₁ = encCtx F σ) ∨ (PyDict.get? σ x = none ∧ σ₁ = encCtx F (PyDict.set σ x c)) := by
  rw [BindStep, if_neg (Int.not_lt.mpr (Int.le_of_lt (tagIn_pos F x))), tagIn_toNat, get?_encCtx hσ, set_encCtx hσ]

theorem numArg_den {F : List String} {σ : SCtx} (hσ : SCtxIn F σ) {a : Arg String} {na : Arg Int}
    (h : numArg F a = .ok na) : ArgDen (encCtx F σ) (encArg na) = sArg σ a := by
  rcases numArg_inv h with ⟨v, rfl, rfl⟩ | ⟨p, rfl, _, rfl⟩
  · rfl
  · simp only [encArg, ArgDen, sArg, tagIn_toNat, get?_encCtx hσ]
    cases PyDict.get? σ p <;> rfl

theorem numArgs_den {F : List String} {σ : SCtx} (hσ : SCtxIn F σ) {args : List (Arg String)} {nargs : List (Arg Int)}
    (h : mapE (numArg F) args = .ok nargs) : (nargs.map encArg).map (ArgDen (encCtx F σ)) = args.map (sArg σ) := by
  rw [List.map_map, (mapE_all2 h).map_eq fun a na hr => (numArg_den hσ hr).symm]
  rfl

theorem numOpt_sat {F : List String} {σ : SCtx} (hσ : SCtxIn F σ) (fns : PureEnv) (c : Bytes) {o : Opt String}
    {no : Opt Int} (h : numOpt F o = .ok no) : OptSat fns (encCtx F σ) c (encOpt no) ↔ sOptSat fns σ c o = true := by
  rcases numOpt_inv h with ⟨v, rfl, rfl⟩ | ⟨p, rfl, _, rfl⟩ | ⟨f, args, nargs, rfl, hargs, rfl⟩
  · simp [encOpt, OptSat, sOptSat]
  · simp [encOpt, OptSat, sOptSat, tagIn_toNat, get?_encCtx hσ]
  · simp [encOpt, OptSat, sOptSat, numArgs_den hσ hargs]

theorem numOpts_sat {F : List String} {σ : SCtx} (hσ : SCtxIn F σ) (fns : PureEnv) (c : Bytes)
    {os : List (Opt String)} {nos : List (Opt Int)} (h : mapE (numOpt F) os = .ok nos) :
    ((∃ o ∈ nos.map encOpt, OptSat fns (encCtx F σ) c o) ↔ os.any (sOptSat fns σ c) = true) := by
  have hall := mapE_all2 h
  clear h
  induction hall with
  | nil => simp
  | cons hr _ ih =>
    simp only [List.map_cons, List.mem_cons, exists_eq_or_imp, List.any_cons, Bool.or_eq_true, numOpt_sat hσ fns c hr, ih]

/-- constraints (each a list of options) and their numbered form -/
abbrev OptsNum (F : List String) (tc : List (List (Opt String))) (ntc : List (List (Opt Int))) : Prop :=
  All2 (fun os nos => mapE (numOpt F) os = .ok nos) tc ntc

theorem numCons_sat {F : List String} {σ : SCtx} (hσ : SCtxIn F σ) (fns : PureEnv) (c : Bytes)
    {tc : List (List (Opt String))} {ntc : List (List (Opt Int))} (h : OptsNum F tc ntc) :
    ConsSat fns (encCtx F σ) c (ntc.map (List.map encOpt)) ↔ consHold fns σ c tc = true := by
  unfold ConsSat consHold
  induction h with
  | nil => simp
  | cons hr _ ih =>
    simp only [List.map_cons, List.mem_cons, forall_eq_or_imp, List.all_cons, Bool.and_eq_true, numOpts_sat hσ fns c hr, ih]

inductive NItem where
  | lit (v : Bytes)
  | named (k : Int)
  | temp (cons : List (List (Opt Int)))

/-- what stands at a position of a chain: a temporary pattern is given the constraints that mention its number -/
def resItem (cons : List NTerm) : Atom → NItem
  | .lit v => .lit v
  | .pat t => if t < 0 then .temp ((cons.filter (fun c => c.pat.contains t)).map (·.opts)) else .named t

theorem resItem_pat (cons : List NTerm) (t : Int) : resItem cons (.pat t) =
    if t < 0 then .temp ((cons.filter (fun c => c.pat.contains t)).map (·.opts)) else .named t := rfl

/-- the constraints of a chain on named patterns, by pattern number -/
def resCons (cons : List NTerm) : List (Int × List (Opt Int)) :=
  cons.flatMap fun c => (c.pat.filter (fun k => decide (0 ≤ k))).map (fun k => (k, c.opts))

inductive ItemNum (F : List String) : SItem → NItem → Prop
  | lit (v : Bytes) : ItemNum F (.lit v) (.lit v)
  | named (x : String) : isTempPat x = false → x ∈ F → ItemNum F (.named x) (.named (tagIn F x))
  | temp (tc : List (List (Opt String))) (ntc : List (List (Opt Int))) :
      All2 (fun os nos => mapE (numOpt F) os = .ok nos) tc ntc → ItemNum F (.temp tc) (.temp ntc)

def NconsNum (F : List String) (p : String × List (Opt String)) (q : Int × List (Opt Int)) : Prop :=
  isTempPat p.1 = false ∧ p.1 ∈ F ∧ q.1 = tagIn F p.1 ∧ mapE (numOpt F) p.2 = .ok q.2

def Impl (F : List String) (ch : Chain) (f : Flat) : Prop :=
  All2 (ItemNum F) f.items (ch.name.map (resItem ch.cons)) ∧ All2 (NconsNum F) f.ncons (resCons ch.cons)

def negTags (l : List Atom) : List Int := (atomTags l).filter (· < 0)

theorem negTags_cons_pat (t : Int) (l : List Atom) : negTags (.pat t :: l) = if t < 0 then t :: negTags l else negTags l := by
  simp only [negTags, atomTags, List.filterMap_cons, List.filter_cons, decide_eq_true_eq]

theorem negTags_cons_lit (v : Bytes) (l : List Atom) : negTags (.lit v :: l) = negTags l := rfl

theorem mem_negTags {l : List Atom} {t : Int} : t ∈ negTags l ↔ Atom.pat t ∈ l ∧ t < 0 := by
  unfold negTags atomTags
  simp only [List.mem_filter, List.mem_filterMap, decide_eq_true_eq]
  constructor
  · rintro ⟨⟨a, ha, h⟩, h2⟩
    cases a <;> simp at h
    subst h; exact ⟨ha, h2⟩
  · rintro ⟨h1, h2⟩
    exact ⟨⟨_, h1, rfl⟩, h2⟩

theorem negTags_append (a b : List Atom) : negTags (a ++ b) = negTags a ++ negTags b := by
  unfold negTags atomTags; simp

section
variable (fns : PureEnv) (ncons : List (String × List (Opt String))) (is : List SItem) (seen : List String)
  (σ : SCtx) (c : Bytes) (cs : List Bytes)

theorem flatRun_nil_cons : flatRun fns ncons [] seen σ (c :: cs) = none := rfl

theorem flatRun_cons_nil (it : SItem) : flatRun fns ncons (it :: is) seen σ [] = none := by cases it <;> rfl

theorem flatRun_lit (v : Bytes) : flatRun fns ncons (.lit v :: is) seen σ (c :: cs) =
    if c = v then flatRun fns ncons is seen σ cs else none := rfl

theorem flatRun_temp (tc : List (List (Opt String))) : flatRun fns ncons (.temp tc :: is) seen σ (c :: cs) =
    if consHold fns σ c tc then flatRun fns ncons is seen σ cs else none := rfl

theorem flatRun_named (x : String) : flatRun fns ncons (.named x :: is) seen σ (c :: cs) =
    if seen.contains x || consHold fns σ c ((ncons.filter (fun t => t.1 == x)).map (·.2)) then
      match σ.get? x with
      | some v => if v = c then flatRun fns ncons is (x :: seen) σ cs else none
      | none => flatRun fns ncons is (x :: seen) (σ.set x c) cs
    else none := rfl
end

/-- matching the keys of an expanded name pattern against the components, left to right: `Flat.run` reads nothing of
    an expansion but its keys (`flatRun_eq_keysRun`) -/
def keysRun (fns : PureEnv) : List SKey → SCtx → List Bytes → Option SCtx
  | [], σ, [] => some σ
  | [], _, _ :: _ => none
  | _ :: _, _, [] => none
  | .lit v :: ks, σ, c :: cs => if c = v then keysRun fns ks σ cs else none
  | .temp tc :: ks, σ, c :: cs => if consHold fns σ c tc then keysRun fns ks σ cs else none
  | .named x tc :: ks, σ, c :: cs =>
    if consHold fns σ c tc then
      match σ.get? x with
      | some v => if v = c then keysRun fns ks σ cs else none
      | none => keysRun fns ks (σ.set x c) cs
    else none

theorem flatRun_eq_keysRun (fns : PureEnv) (ncons : List (String × List (Opt String))) :
    ∀ (items : List SItem) (seen : List String) (σ : SCtx) (name : List Bytes),
    flatRun fns ncons items seen σ name = keysRun fns (skeysFrom ncons items seen) σ name := by
  intro items
  induction items with
  | nil => intro seen σ name; cases name <;> rfl
  | cons it its ih =>
    intro seen σ name
    cases name with
    | nil => rw [flatRun_cons_nil]; cases it <;> rfl
    | cons c cs =>
      cases it with
      | lit v => simp only [flatRun_lit, skeysFrom, keysRun, ih]
      | temp tc => simp only [flatRun_temp, skeysFrom, keysRun, ih]
      | named x =>
        simp only [flatRun_named, skeysFrom, keysRun, ih]
        cases seen.contains x <;> rfl

theorem Flat.run_eq_keysRun (fns : PureEnv) (f : Flat) (σ : SCtx) (name : List Bytes) :
    f.run fns σ name = keysRun fns f.keys σ name :=
  flatRun_eq_keysRun fns f.ncons f.items [] σ name

end Ndn.Lvs
