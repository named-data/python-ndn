import NdnProofs.Lemmas.Lvs.SrcRun
/-!
  Building blocks for pass 3 (`_replicate_rules`, `_fresh_temp_tags`):

  * the constraint terms of a numbered rule, filtered by the number of one of the rule's own temporary patterns /
    collected by named pattern, are the numbered constraints of the source term (`own_temp_filter`, `own_named_resCons`);
  * appending constraint terms that mention none of the temporary numbers of a name does not change what stands at its
    positions (`resItems_append_right/left`);
  * `_fresh_temp_tags` is an injective renaming of the temporary numbers of the referenced chain, and the renamed numbers
    avoid the numbers in use (`freshTempTags_spec`); such a renaming keeps what stands at every position and the
    constraints on named patterns (`resItems_rename`, `resCons_rename`).  So the chain it returns is closed again and
    implements the same expansion (`freshTempTags_impl`; `SrcRepl` uses it together with `freshTempTags_le` of `CompileChains`).
-/
namespace Ndn.Lvs

/-- the negative numbers mentioned on the left of constraint terms -/
def termNegs (cons : List NTerm) : List Int := cons.flatMap fun c => c.pat.filter (· < 0)

theorem mem_termNegs {cons : List NTerm} {t : Int} : t ∈ termNegs cons ↔ ∃ c ∈ cons, t ∈ c.pat ∧ t < 0 := by
  unfold termNegs
  simp only [List.mem_flatMap, List.mem_filter, decide_eq_true_eq]

theorem termNegs_append (a b : List NTerm) : termNegs (a ++ b) = termNegs a ++ termNegs b := by
  unfold termNegs; simp

theorem own_temp_filter {F : List String} {tp : PyDict String (List Int)} {p : String} {t : Int}
    (hp : isTempPat p = true) (ht : t < 0) (hfact : ∀ p' l, PyDict.get? tp p' = some l → (t ∈ l ↔ p' = p))
    {cs : List (Term String String)} {ncs : List NTerm} (h : All2 (fun a b => numTerm F tp a = .ok b) cs ncs) :
    OptsNum F (tempCons cs p) ((ncs.filter (fun c => c.pat.contains t)).map (·.opts)) := by
  refine h.filter_map (fun a b hr => ?_) fun a b hr => ?_
  · rcases (numTerm_inv hr).2 with ⟨_, hl⟩ | ⟨hat, _, hids⟩
    · simp only [List.contains_eq_mem, hfact a.pat b.pat hl, Bool.beq_eq_decide_eq]
    · have hap : ¬ a.pat = p := fun he => by rw [he, hp] at hat; simp at hat
      have hpos := tagIn_pos F a.pat
      have h1 : t ∉ b.pat := by rw [hids]; simp only [List.mem_singleton]; omega
      simp [h1, hap]
  · exact (numTerm_inv hr).1

theorem own_named_resCons {F : List String} {tp : PyDict String (List Int)}
    (hneg : ∀ p l, PyDict.get? tp p = some l → ∀ t ∈ l, t < 0) :
    ∀ {cs : List (Term String String)} {ncs : List NTerm}, All2 (fun a b => numTerm F tp a = .ok b) cs ncs →
    All2 (NconsNum F) (namedCons cs) (resCons ncs) := by
  intro cs ncs h
  unfold namedCons resCons
  induction h with
  | nil => exact .nil
  | @cons a b as bs hr _ ih =>
    obtain ⟨ho, hl⟩ := numTerm_inv hr
    simp only [List.filter_cons, List.flatMap_cons]
    rcases hl with ⟨hat, hl⟩ | ⟨hat, hm, hids⟩
    · have hall := hneg a.pat b.pat hl
      have : b.pat.filter (fun k => decide (0 ≤ k)) = [] := by
        rw [List.filter_eq_nil_iff]
        intro k hk
        have := hall k hk
        simp only [decide_eq_true_eq]; omega
      simp only [hat, Bool.not_true, Bool.false_eq_true, if_false, this, List.map_nil, List.nil_append]
      exact ih
    · have hpos := tagIn_pos F a.pat
      have : b.pat.filter (fun k => decide (0 ≤ k)) = [tagIn F a.pat] := by
        rw [hids]; simp only [List.filter_cons, List.filter_nil]
        have : decide (0 ≤ tagIn F a.pat) = true := by simp only [decide_eq_true_eq]; omega
        simp [this]
      simp only [hat, Bool.not_false, if_true, this, List.map_cons, List.map_nil, List.cons_append, List.nil_append]
      exact .cons ⟨hat, hm, rfl, ho⟩ ih

theorem own_termNegs {F : List String} {tp : PyDict String (List Int)} {cs : List (Term String String)} {ncs : List NTerm}
    (h : All2 (fun a b => numTerm F tp a = .ok b) cs ncs) :
    ∀ t ∈ termNegs ncs, ∃ p l, PyDict.get? tp p = some l ∧ t ∈ l := by
  intro t ht
  obtain ⟨c, hc, htc, hneg⟩ := mem_termNegs.mp ht
  obtain ⟨a, _, hr⟩ := h.mem_right c hc
  rcases (numTerm_inv hr).2 with ⟨_, hl⟩ | ⟨_, _, hids⟩
  · exact ⟨a.pat, c.pat, hl, htc⟩
  · rw [hids, List.mem_singleton] at htc
    have := tagIn_pos F a.pat
    omega

theorem filter_contains_nil {extra : List NTerm} {t : Int} (ht : t < 0) (h : t ∉ termNegs extra) :
    extra.filter (fun c => c.pat.contains t) = [] := by
  rw [List.filter_eq_nil_iff]
  intro c hc hcon
  exact h (mem_termNegs.mpr ⟨c, hc, by simpa using hcon, ht⟩)

theorem resItems_congr {cons cons' : List NTerm} {name : List Atom}
    (h : ∀ t ∈ negTags name, cons.filter (fun c => c.pat.contains t) = cons'.filter (fun c => c.pat.contains t)) :
    name.map (resItem cons) = name.map (resItem cons') := by
  apply List.map_congr_left
  intro a ha
  cases a with
  | lit v => rfl
  | pat t =>
    rw [resItem_pat, resItem_pat]
    split
    · rename_i ht; rw [h t (mem_negTags.mpr ⟨ha, ht⟩)]
    · rfl

theorem resItems_append_right (cons extra : List NTerm) (name : List Atom)
    (h : ∀ t ∈ negTags name, t ∉ termNegs extra) : name.map (resItem (cons ++ extra)) = name.map (resItem cons) :=
  resItems_congr fun t ht => by
    rw [List.filter_append, filter_contains_nil (mem_negTags.mp ht).2 (h t ht), List.append_nil]

theorem resItems_append_left (extra cons : List NTerm) (name : List Atom)
    (h : ∀ t ∈ negTags name, t ∉ termNegs extra) : name.map (resItem (extra ++ cons)) = name.map (resItem cons) :=
  resItems_congr fun t ht => by
    rw [List.filter_append, filter_contains_nil (mem_negTags.mp ht).2 (h t ht), List.nil_append]

theorem resCons_append (a b : List NTerm) : resCons (a ++ b) = resCons a ++ resCons b := by
  unfold resCons; simp

def renAtom (ρ : Int → Int) : Atom → Atom
  | .lit v => .lit v
  | .pat t => .pat (ρ t)

def renTerm (ρ : Int → Int) (c : NTerm) : NTerm := { c with pat := c.pat.map ρ }

/-- `ρ` renames the temporary numbers `T` injectively into temporary numbers and leaves named numbers alone -/
structure RenOK (ρ : Int → Int) (T : List Int) : Prop where
  nonneg : ∀ t, 0 ≤ t → ρ t = t
  neg : ∀ t ∈ T, ρ t < 0
  inj : ∀ t ∈ T, ∀ u ∈ T, ρ t = ρ u → t = u

theorem ren_contains {ρ : Int → Int} {T : List Int} (h : RenOK ρ T) {pat : List Int} (hpat : ∀ u ∈ pat, u < 0 → u ∈ T)
    {t : Int} (ht : t ∈ T) : (pat.map ρ).contains (ρ t) = pat.contains t := by
  have : ρ t ∈ pat.map ρ ↔ t ∈ pat := by
    rw [List.mem_map]
    constructor
    · rintro ⟨u, hu, he⟩
      by_cases hu0 : u < 0
      · exact h.inj u (hpat u hu hu0) t ht he ▸ hu
      · have := h.nonneg u (by omega)
        have := h.neg t ht
        omega
    · intro hm; exact ⟨t, hm, rfl⟩
  by_cases hm : t ∈ pat
  · simp [hm, this.mpr hm]
  · have : ρ t ∉ pat.map ρ := fun hh => hm (this.mp hh)
    simp [hm, this]

theorem resItems_rename {ρ : Int → Int} {name : List Atom} {cons : List NTerm} (h : RenOK ρ (negTags name))
    (hclosed : ∀ t ∈ termNegs cons, t ∈ negTags name) :
    (name.map (renAtom ρ)).map (resItem (cons.map (renTerm ρ))) = name.map (resItem cons) := by
  rw [List.map_map]
  apply List.map_congr_left
  intro a ha
  cases a with
  | lit v => rfl
  | pat t =>
    simp only [Function.comp, renAtom, resItem]
    by_cases ht : t < 0
    · have htT : t ∈ negTags name := mem_negTags.mpr ⟨ha, ht⟩
      simp only [h.neg t htT, ht, if_true, List.filter_map, List.map_map]
      have hf : List.filter ((fun c => c.pat.contains (ρ t)) ∘ renTerm ρ) cons =
          List.filter (fun c => c.pat.contains t) cons := by
        apply List.filter_congr
        intro c hc
        simp only [Function.comp, renTerm]
        exact ren_contains h (fun u hu hu0 => hclosed u (mem_termNegs.mpr ⟨c, hc, hu, hu0⟩)) htT
      rw [hf]
      rfl
    · have := h.nonneg t (by omega)
      simp only [this, ht, if_false]

theorem filter_nonneg_rename {ρ : Int → Int} {T : List Int} (h : RenOK ρ T) :
    ∀ {pat : List Int}, (∀ u ∈ pat, u < 0 → u ∈ T) →
    (pat.map ρ).filter (fun k => decide (0 ≤ k)) = pat.filter (fun k => decide (0 ≤ k)) := by
  intro pat
  induction pat with
  | nil => intro _; rfl
  | cons u r ih =>
    intro hpat
    have ihr := ih (fun v hv => hpat v (List.mem_cons_of_mem _ hv))
    simp only [List.map_cons, List.filter_cons, ihr]
    by_cases hu : 0 ≤ u
    · simp [h.nonneg u hu, hu]
    · have := h.neg u (hpat u List.mem_cons_self (by omega))
      have h1 : ¬ 0 ≤ ρ u := by omega
      simp [h1, hu]

theorem resCons_rename {ρ : Int → Int} {T : List Int} {cons : List NTerm} (h : RenOK ρ T)
    (hclosed : ∀ t ∈ termNegs cons, t ∈ T) : resCons (cons.map (renTerm ρ)) = resCons cons := by
  unfold resCons
  induction cons with
  | nil => rfl
  | cons c r ih =>
    have h1 : ∀ u ∈ c.pat, u < 0 → u ∈ T := fun u hu hu0 =>
      hclosed u (mem_termNegs.mpr ⟨c, List.mem_cons_self, hu, hu0⟩)
    have h2 : ∀ t ∈ termNegs r, t ∈ T := fun t ht => by
      obtain ⟨c', hc', hx⟩ := mem_termNegs.mp ht
      exact hclosed t (mem_termNegs.mpr ⟨c', List.mem_cons_of_mem _ hc', hx⟩)
    simp only [List.map_cons, List.flatMap_cons, ih h2, renTerm, filter_nonneg_rename h h1]

theorem negTags_rename {ρ : Int → Int} : ∀ {name : List Atom}, RenOK ρ (negTags name) →
    negTags (name.map (renAtom ρ)) = (negTags name).map ρ := by
  intro name
  induction name with
  | nil => intro _; rfl
  | cons a r ih =>
    intro h
    cases a with
    | lit v =>
      simp only [List.map_cons, renAtom, negTags_cons_lit] at h ⊢
      exact ih h
    | pat t =>
      simp only [List.map_cons, renAtom, negTags_cons_pat] at h ⊢
      by_cases ht : t < 0
      · simp only [ht, if_true] at h ⊢
        have hr : RenOK ρ (negTags r) := ⟨h.nonneg, fun u hu => h.neg u (List.mem_cons_of_mem _ hu),
          fun u hu v hv => h.inj u (List.mem_cons_of_mem _ hu) v (List.mem_cons_of_mem _ hv)⟩
        simp only [h.neg t List.mem_cons_self, if_true, List.map_cons, ih hr]
      · simp only [ht, if_false] at h ⊢
        have := h.nonneg t (by omega)
        simp only [this, ht, if_false]
        exact ih h

theorem termNegs_rename {ρ : Int → Int} {T : List Int} {cons : List NTerm} (h : RenOK ρ T)
    (hclosed : ∀ t ∈ termNegs cons, t ∈ T) : ∀ t ∈ termNegs (cons.map (renTerm ρ)), ∃ u ∈ T, t = ρ u := by
  intro t ht
  obtain ⟨c', hc', htc, hneg⟩ := mem_termNegs.mp ht
  obtain ⟨c, hc, rfl⟩ := List.mem_map.mp hc'
  simp only [renTerm, List.mem_map] at htc
  obtain ⟨u, hu, rfl⟩ := htc
  have hu0 : u < 0 := by
    apply Classical.byContradiction
    intro hn
    have := h.nonneg u (by omega)
    omega
  exact ⟨u, hclosed u (mem_termNegs.mpr ⟨c, hc, hu, hu0⟩), rfl⟩

theorem renameTag_none {mp : PyDict Int Int} {t : Int} (h : PyDict.get? mp t = none) : renameTag mp t = t := by
  simp [renameTag, h]

theorem renameTag_some {mp : PyDict Int Int} {t v : Int} (h : PyDict.get? mp t = some v) : renameTag mp t = v := by
  simp [renameTag, h]

theorem freshName_lit (used : List Int) (v : Bytes) (r : List Atom) (nt : Int) (mp : PyDict Int Int) :
    freshName used (.lit v :: r) nt mp = (.lit v :: (freshName used r nt mp).1, (freshName used r nt mp).2) := rfl

theorem freshName_pat (used : List Int) (t : Int) (r : List Atom) (nt : Int) (mp : PyDict Int Int) :
    freshName used (.pat t :: r) nt mp =
      if t < 0 ∧ t ∈ used then
        (.pat nt :: (freshName used r (nt - 1) (PyDict.set mp t nt)).1,
          (freshName used r (nt - 1) (PyDict.set mp t nt)).2)
      else (.pat t :: (freshName used r nt mp).1, (freshName used r nt mp).2) := by
  simp only [freshName, Bool.and_eq_true, decide_eq_true_eq, List.contains_eq_mem]

theorem negTags_sublist_cons (a : Atom) (r : List Atom) : (negTags r).Sublist (negTags (a :: r)) :=
  ((List.sublist_cons_self a r).filterMap _).filter _

theorem freshName_spec (used : List Int) : ∀ (name : List Atom) (nt : Int) (mp : PyDict Int Int),
    (negTags name).Nodup → (∀ k, PyDict.get? mp k ≠ none → k < 0 ∧ k ∉ negTags name) →
    (freshName used name nt mp).1 = name.map (renAtom (renameTag (freshName used name nt mp).2.2)) ∧
    (∀ k, ¬ (k ∈ negTags name ∧ k ∈ used) → PyDict.get? (freshName used name nt mp).2.2 k = PyDict.get? mp k) ∧
    (∀ t ∈ negTags name, t ∈ used → ∃ v, PyDict.get? (freshName used name nt mp).2.2 t = some v ∧
      (freshName used name nt mp).2.1 < v ∧ v ≤ nt) ∧
    (∀ t ∈ negTags name, ∀ u ∈ negTags name, t ∈ used → u ∈ used →
      PyDict.get? (freshName used name nt mp).2.2 t = PyDict.get? (freshName used name nt mp).2.2 u → t = u) := by
  intro name
  induction name with
  | nil => intro nt mp _ _; exact ⟨rfl, fun _ _ => rfl, nofun, nofun⟩
  | cons a r ih =>
    intro nt mp hnd hmp
    have hsub : ∀ u ∈ negTags r, u ∈ negTags (a :: r) := fun u hu => (negTags_sublist_cons a r).subset hu
    have hmp' : ∀ k, PyDict.get? mp k ≠ none → k < 0 ∧ k ∉ negTags r := fun k hk =>
      ⟨(hmp k hk).1, fun h => (hmp k hk).2 (hsub k h)⟩
    cases a with
    | lit v =>
      obtain ⟨h1, h2⟩ := ih nt mp (negTags_cons_lit v r ▸ hnd) hmp'
      simp only [freshName_lit, negTags_cons_lit, List.map_cons, renAtom]
      exact ⟨congrArg _ h1, h2⟩
    | pat t =>
      rw [freshName_pat]
      by_cases hc : t < 0 ∧ t ∈ used
      · -- renamed: `t ↦ nt`, and the rest of the name gets numbers below `nt`
        rw [if_pos hc]
        dsimp only
        rw [negTags_cons_pat, if_pos hc.1] at hnd ⊢
        obtain ⟨htr, hnd'⟩ := List.nodup_cons.mp hnd
        obtain ⟨h1, h2, h3, h4⟩ := ih (nt - 1) (PyDict.set mp t nt) hnd' (fun k hk => by
          rw [PyDict.get?_set] at hk
          by_cases he : t = k
          · exact he ▸ ⟨hc.1, htr⟩
          · rw [if_neg he] at hk; exact hmp' k hk)
        have hle := freshName_le used r (nt - 1) (PyDict.set mp t nt)
        generalize freshName used r (nt - 1) (PyDict.set mp t nt) = R at h1 h2 h3 h4 hle ⊢
        have hget : PyDict.get? R.2.2 t = some nt := by
          rw [h2 t fun h => htr h.1, PyDict.get?_set, if_pos rfl]
        refine ⟨by rw [List.map_cons, renAtom, renameTag_some hget, ← h1], fun k hk => ?_, fun u hu huu => ?_,
          fun u hu w hw huu hwu he => ?_⟩
        · have hkt : ¬ t = k := fun he => hk (he ▸ ⟨List.mem_cons_self, hc.2⟩)
          rw [h2 k fun h => hk ⟨List.mem_cons_of_mem _ h.1, h.2⟩, PyDict.get?_set, if_neg hkt]
        · rcases List.mem_cons.mp hu with rfl | hu
          · exact ⟨nt, hget, Int.lt_of_le_sub_one hle, Int.le_refl _⟩
          · obtain ⟨v, hv, hlt, hvle⟩ := h3 u hu huu
            exact ⟨v, hv, hlt, Int.le_of_lt (Int.lt_of_le_sub_one hvle)⟩
        · rcases List.mem_cons.mp hu with rfl | hur
          · rcases List.mem_cons.mp hw with rfl | hwr
            · rfl
            · obtain ⟨v, hv, _, hvle⟩ := h3 w hwr hwu
              rw [hget, hv] at he
              exact absurd (Option.some.inj he ▸ hvle) (Int.not_le.mpr (Int.sub_one_lt_of_le (Int.le_refl _)))
          · rcases List.mem_cons.mp hw with rfl | hwr
            · obtain ⟨v, hv, _, hvle⟩ := h3 u hur huu
              rw [hget, hv] at he
              exact absurd (Option.some.inj he ▸ hvle) (Int.not_le.mpr (Int.sub_one_lt_of_le (Int.le_refl _)))
            · exact h4 u hur w hwr huu hwu he
      · -- kept: `t` is not a key of `mapping`
        rw [if_neg hc]
        dsimp only
        obtain ⟨h1, h2, h3, h4⟩ := ih nt mp (hnd.sublist (negTags_sublist_cons _ r)) hmp'
        generalize freshName used r nt mp = R at h1 h2 h3 h4 ⊢
        have hmem : ∀ u ∈ negTags (.pat t :: r), u ∈ used → u ∈ negTags r := by
          intro u hu huu
          obtain ⟨hin, hu0⟩ := mem_negTags.mp hu
          rcases List.mem_cons.mp hin with he | hin
          · injection he with he; exact absurd ⟨he ▸ hu0, he ▸ huu⟩ hc
          · exact mem_negTags.mpr ⟨hin, hu0⟩
        have hkeep : PyDict.get? R.2.2 t = none := by
          rw [h2 t fun h => hc ⟨(mem_negTags.mp h.1).2, h.2⟩]
          apply Classical.byContradiction
          intro hne
          exact (hmp t hne).2 (mem_negTags.mpr ⟨List.mem_cons_self, (hmp t hne).1⟩)
        exact ⟨by rw [List.map_cons, renAtom, renameTag_none hkeep, ← h1],
          fun k hk => h2 k fun h => hk ⟨hsub k h.1, h.2⟩,
          fun u hu huu => h3 u (hmem u hu huu) huu,
          fun u hu w hw huu hwu => h4 u (hmem u hu huu) w (hmem w hw hwu) huu hwu⟩

theorem freshTempTags_spec (chain ref : Chain) (nt : Int) (hnt : nt < 0) (hnd : (negTags ref.name).Nodup)
    (hgt : ∀ t ∈ negTags ref.name, nt < t) :
    ∃ ρ : Int → Int,
      (freshTempTags chain ref nt).1.name = ref.name.map (renAtom ρ) ∧
      (freshTempTags chain ref nt).1.cons = ref.cons.map (renTerm ρ) ∧
      RenOK ρ (negTags ref.name) ∧
      (∀ t ∈ negTags ref.name, (t ∉ chain.tags ∧ ρ t = t) ∨ ((freshTempTags chain ref nt).2 < ρ t ∧ ρ t ≤ nt)) := by
  obtain ⟨h1, h2, h3, h4⟩ := freshName_spec chain.tags ref.name nt [] hnd (fun k hk => absurd rfl hk)
  -- a number is renamed iff it is in use; then its new number lies in the fresh range
  have hval : ∀ t ∈ negTags ref.name,
      (t ∉ chain.tags ∧ PyDict.get? (freshName chain.tags ref.name nt []).2.2 t = none) ∨
      (t ∈ chain.tags ∧ ∃ v, PyDict.get? (freshName chain.tags ref.name nt []).2.2 t = some v ∧
        (freshName chain.tags ref.name nt []).2.1 < v ∧ v ≤ nt) := fun t ht =>
    if hu : t ∈ chain.tags then Or.inr ⟨hu, h3 t ht hu⟩ else Or.inl ⟨hu, h2 t fun h => hu h.2⟩
  refine ⟨renameTag (freshName chain.tags ref.name nt []).2.2, h1, rfl, ⟨fun t ht => ?_, fun t ht => ?_,
    fun t ht u hu he => ?_⟩, fun t ht => ?_⟩
  · exact renameTag_none (h2 t fun h => Int.not_lt.mpr ht (mem_negTags.mp h.1).2)
  · have := (mem_negTags.mp ht).2
    rcases hval t ht with ⟨_, hn⟩ | ⟨_, v, hv, _, hle⟩
    · rw [renameTag_none hn]; exact this
    · rw [renameTag_some hv]; exact Int.lt_of_le_of_lt hle hnt
  · rcases hval t ht with ⟨_, hn⟩ | ⟨htu, v, hv, _, hle⟩ <;>
      rcases hval u hu with ⟨_, hn'⟩ | ⟨huu, v', hv', _, hle'⟩
    · rwa [renameTag_none hn, renameTag_none hn'] at he
    · rw [renameTag_none hn, renameTag_some hv'] at he
      exact absurd (he ▸ hgt t ht) (Int.not_lt.mpr hle')
    · rw [renameTag_some hv, renameTag_none hn'] at he
      exact absurd (he ▸ hgt u hu) (Int.not_lt.mpr hle)
    · rw [renameTag_some hv, renameTag_some hv'] at he
      exact h4 t ht u hu htu huu (by rw [hv, hv', he])
  · rcases hval t ht with ⟨hu, hn⟩ | ⟨_, v, hv, hlt, hle⟩
    · exact Or.inl ⟨hu, renameTag_none hn⟩
    · exact Or.inr (by rw [renameTag_some hv]; exact ⟨hlt, hle⟩)

/-- a chain of `rep_rules`: its temporary numbers are pairwise distinct and its terms mention only them -/
structure ChainClosed (c : Chain) : Prop where
  nodup : (negTags c.name).Nodup
  closed : ∀ t ∈ termNegs c.cons, t ∈ negTags c.name

theorem freshTempTags_impl {F : List String} {ch refc : Chain} {g : Flat} {nt : Int} (hnt : nt < 0)
    (hcl : ChainClosed refc) (hgt : ∀ t ∈ negTags refc.name, nt < t) (hg : Impl F refc g) :
    Impl F (freshTempTags ch refc nt).1 g ∧ ChainClosed (freshTempTags ch refc nt).1 ∧
    ∀ t ∈ negTags (freshTempTags ch refc nt).1.name,
      (t ∈ negTags refc.name ∧ t ∉ negTags ch.name) ∨ ((freshTempTags ch refc nt).2 < t ∧ t ≤ nt) := by
  obtain ⟨ρ, hfn, hfc, hren, hval⟩ := freshTempTags_spec ch refc nt hnt hcl.nodup hgt
  have htags : negTags (freshTempTags ch refc nt).1.name = (negTags refc.name).map ρ := hfn ▸ negTags_rename hren
  refine ⟨⟨?_, ?_⟩, ⟨?_, fun t ht => ?_⟩, fun t ht => ?_⟩
  · rw [hfn, hfc, resItems_rename hren hcl.closed]
    exact hg.1
  · rw [hfc, resCons_rename hren hcl.closed]
    exact hg.2
  · rw [htags]
    exact List.pairwise_map.mpr (hcl.nodup.imp_of_mem fun ha hb hne he => hne (hren.inj _ ha _ hb he))
  · rw [hfc] at ht
    obtain ⟨u, hu, rfl⟩ := termNegs_rename hren hcl.closed t ht
    exact htags ▸ List.mem_map_of_mem hu
  · rw [htags] at ht
    obtain ⟨u, hu, rfl⟩ := List.mem_map.mp ht
    exact (hval u hu).imp (fun ⟨hnu, he⟩ => he.symm ▸ ⟨hu, fun hm => hnu (List.mem_filter.mp hm).1⟩) id

end Ndn.Lvs
