import NdnGen.C10
import NdnGen.C07
import NdnProofs.Lemmas.LpCodec
/-!
  `Ndn.Lp.parseLp Gen.C10.table` (envelope decoder model of C10) and `Ndn.RecvBytes.lpDec` (envelope decoder of the
  byte-level receive pipeline of C06, i.e. the generic codec of C07 over the generated schema `Gen.C07.lp`) are the
  same function on every byte string.  Both tables are regenerated from the live `LpPacketValue` class; that they
  describe the same format is `lp_schema_eq` (closed by evaluation).
-/
namespace Ndn.LpCodec
open Ndn Ndn.Codec Ndn.Lp Ndn.Packet Ndn.Recv Ndn.RecvBytes

/-- the same table as `Ndn.C10.T` (Lemmas/LpEnvelope) -/
abbrev T : Table := Gen.C10.table

/-- decidable form of `SubsDistinct` -/
def subsNodup (tbl : List (Nat × Kind)) : Bool :=
  tbl.all fun f => match f.2 with
    | .model sub _ => decide (sub.map (·.1)).Nodup
    | .flat _ => true

theorem subsDistinct_of (tbl : List (Nat × Kind)) (h : subsNodup tbl = true) : SubsDistinct tbl := by
  intro t sub ic hm
  have := List.all_eq_true.1 h _ hm
  simp only [decide_eq_true_eq] at this
  exact distinct_of_nodup sub this

theorem lp_schema_eq : Gen.C07.lp = T.fields.map kschema := by rfl

theorem table_facts : (T.fields.map (·.1)).Nodup ∧ subsNodup T.fields = true ∧ T.lengthCheck = false ∧ T.tLpPacket = 100 := by
  decide

theorem init_eq : (T.fields.map kschema).map initVal = posOf kvalue T.fields [] := by rfl

/-- the value parsers agree on every byte string -/
theorem parse_agree (v : Bytes) :
    Codec.parse Gen.C07.lp true v = (Lp.parseValue T v).map (posOf kvalue T.fields) := by
  unfold Codec.parse Lp.parseValue
  rw [lp_schema_eq, init_eq, table_facts.2.2.1]
  exact sim_loop kschema kvalue (parseVal false) T.fields (simK _ (subsDistinct_of _ table_facts.2.1))
    (distinct_of_nodup _ table_facts.1) true (v.length + 1) v.length v 0 0 [] (Nat.lt_succ_self _) (Nat.le_refl _)
    (by intro e he; simp at he)

theorem isNone_fvalue (k : FKind) (v : FVal) : isNone (fvalue k v) = false := by cases v <;> rfl

theorem isNone_kvalue (k : Kind) (v : Val) : isNone (kvalue k v) = false := by
  cases k <;> cases v <;> simp [kvalue, isNone_fvalue] <;> rfl

theorem isNone_none : isNone Value.none = true := rfl

theorem anyPresent_agree (fs : List (Nat × Val)) :
    anyPresent Gen.C07.lp (posOf kvalue T.fields fs) [82, 83]
      = ((lookup fs T.tFragIndex).isSome || (lookup fs T.tFragCount).isSome) := by
  rw [lp_schema_eq, anyPresent_posOf kschema kschema_typ kvalue isNone_kvalue]
  simp [T, Gen.C10.table]

theorem field_lp (fs : List (Nat × Val)) (t : Nat) (k : Kind) (hf : T.fields.find? (·.1 == t) = some (t, k)) :
    RecvBytes.field Gen.C07.lp (posOf kvalue T.fields fs) t
      = some (kschema (t, k), ((lookup fs t).map (kvalue k)).getD .none) := by
  rw [lp_schema_eq, field_posOf kschema kschema_typ kvalue fs t, hf, Option.map_some]

theorem lpFacts_agree (fs : List (Nat × Val)) :
    lpFacts (posOf kvalue T.fields fs)
      = { nack := nackOf T (lookup fs T.tNack), pitToken := bytesOf (lookup fs T.tPitToken),
          fragment := bytesOf (lookup fs T.tFragment) } := by
  have bytes : ∀ t, T.fields.find? (·.1 == t) = some (t, .flat .bytes) →
      bytesField Gen.C07.lp (posOf kvalue T.fields fs) t = bytesOf (lookup fs t) := by
    intro t ht
    rw [bytesField, field_lp fs t _ ht]
    cases lookup fs t with
    | none => rfl
    | some v =>
      cases v with
      | flat fv => cases fv <;> rfl
      | model m => rfl
  have e1 : nackField Gen.C07.lp (posOf kvalue T.fields fs) = nackOf T (lookup fs T.tNack) := by
    rw [nackField, field_lp fs RecvBytes.tNack (.model [(T.tNackReason, .uint)] false) (by decide)]
    show _ = nackOf T (lookup fs RecvBytes.tNack)
    cases lookup fs RecvBytes.tNack with
    | none => rfl
    | some v =>
      cases v with
      | flat fv => cases fv <;> rfl
      | model m =>
        simp only [Option.map_some, Option.getD_some, kschema, kvalue, posOf, List.map_cons, List.map_nil, RecvBytes.field, fschema, Schema.typ, nackOf,
          RecvBytes.tNackReason, T, Gen.C10.table, eq_self, if_true]
        cases lookup m 801 with
        | none => rfl
        | some x => cases x <;> rfl
  rw [lpFacts, e1, bytes RecvBytes.tPitToken (by decide), bytes RecvBytes.tFragment (by decide)]
  rfl

/-- **The envelope decoder of C10 is the envelope decoder of the byte-level receive pipeline**, on EVERY byte string:
    same LpFacts for every accepted wire, same exception class for every rejected one. -/
theorem parseLp_eq_lpDec (w : Bytes) : parseLp T w = lpDec w := by
  unfold parseLp lpDec decodePacket
  rw [table_facts.2.2.2]
  cases parseAndCheckTl w 100 with
  | error e => rfl
  | ok v =>
    simp only [bind, Except.bind, parse_agree]
    cases Lp.parseValue T v with
    | error e => rfl
    | ok fs =>
      simp only [Except.map, Bool.false_and, Bool.false_eq_true, if_false, anyPresent_agree]
      cases ((lookup fs T.tFragIndex).isSome || (lookup fs T.tFragCount).isSome) <;>
        simp [lpFacts_agree, pure, Except.pure]

end Ndn.LpCodec
