import NdnProofs.Lemmas.PitSpecRun
/-!
The invariant `Inv` relating trie, node heap and per-Interest states, and the changes of a state that keep it.  No
operation of the model is opened here (`init`, `setSt`, `pend` and `trieGet` apart): the statements are about two states
`σ`, `σ'` and what is known of their fields; `Inv` sees a state only through `ints`, through which Interests wait, the
trie and the lists of the linked nodes (`Inv.congr`).  `Inv` is kept by a step that only takes entries out of node lists
and unlinks the nodes it empties (`winv_node_step`, stated as the walk of `_on_data` needs it, where the `del`s come
after the walk: `WInv`; `inv_node_split` for a single node), and by one more Interest (`inv_express`).  `Eff` is what an
event other than `express` does to the table: the state of each Interest is updated by a function of its own request and
state; `Adds` is what `express` does.  `upd` and `node_pass`: the waiting entries of one node are handed to a function
one by one.
-/
namespace Ndn.Pit

theorem mem_of_lookup {tr : List (Name × Nat)} {n : Name} {v : Nat} (h : tr.lookup n = some v) :
    (n, v) ∈ tr := by
  obtain ⟨l1, l2, rfl, _⟩ := List.lookup_eq_some_iff.mp h
  simp

theorem lookup_none_iff {tr : List (Name × Nat)} {n : Name} :
    tr.lookup n = none ↔ n ∉ tr.map Prod.fst := by
  rw [List.lookup_eq_none_iff]
  simp only [List.mem_map, not_exists, not_and, bne_iff_ne, ne_eq]
  exact ⟨fun h p hp hc => h p hp hc.symm, fun h p hp hc => h p hp hc.symm⟩

theorem nodup_map_filter {α β} (f : α → β) (p : α → Bool) {l : List α} (h : (l.map f).Nodup) :
    ((l.filter p).map f).Nodup :=
  List.Nodup.sublist (List.Sublist.map f List.filter_sublist) h

theorem pend_def (σ : State) (n : Nat) : pend σ n = σ.heap.getD n [] := rfl

theorem getD_set {l : List (List Nat)} {i j : Nat} {a : List Nat} :
    (l.set i a).getD j [] = if i = j ∧ i < l.length then a else l.getD j [] := by
  simp only [List.getD_eq_getElem?_getD, List.getElem?_set]
  by_cases h : i = j
  · subst h
    by_cases h2 : i < l.length
    · simp [h2]
    · simp [h2]
  · simp [h]

theorem getD_concat {l : List (List Nat)} {a : List Nat} {j : Nat} :
    (l ++ [a]).getD j [] = if l.length = j then a else l.getD j [] := by
  rw [List.getD_eq_getElem?_getD, List.getD_eq_getElem?_getD, List.getElem?_append]
  split
  · next h => rw [if_neg (Nat.ne_of_gt h)]
  · split
    · next h2 => rw [← h2, Nat.sub_self]; rfl
    · rw [List.getElem?_eq_none (by simp; omega), List.getElem?_eq_none (by omega)]

theorem lt_of_getD_ne_nil {l : List (List Nat)} {i : Nat} (h : l.getD i [] ≠ []) : i < l.length := by
  rcases Nat.lt_or_ge i l.length with h1 | h1
  · exact h1
  · exfalso; apply h; simp [List.getD_eq_getElem?_getD, List.getElem?_eq_none h1]

structure Inv (σ : State) : Prop where
  len : σ.sts.length = σ.ints.length
  names : (σ.trie.map Prod.fst).Nodup
  ids : (σ.trie.map Prod.snd).Nodup
  /-- every entry of a linked node is a waiting Interest that captured this node under this name -/
  linked : ∀ b ∈ σ.trie, ∀ e ∈ pend σ b.2, ∃ I, σ.ints[e]? = some I ∧ σ.sts[e]? = some .waiting ∧
    I.node = b.2 ∧ I.name = b.1
  nonempty : ∀ b ∈ σ.trie, pend σ b.2 ≠ []
  /-- every waiting Interest has its entry in the node it captured, which is linked under its name -/
  waiting : ∀ i I, σ.ints[i]? = some I → σ.sts[i]? = some .waiting →
    (I.name, I.node) ∈ σ.trie ∧ i ∈ pend σ I.node

theorem inv_init : Inv init := by
  constructor <;> simp [init, pend]

theorem Inv.idx_lt {σ : State} (h : Inv σ) {i : Nat} {I : Interest} (hi : σ.ints[i]? = some I) :
    i < σ.sts.length := by
  rw [h.len]; exact lt_of_getElem? hi

theorem Inv.sts_some {σ : State} (h : Inv σ) {i : Nat} {I : Interest} (hi : σ.ints[i]? = some I) :
    ∃ s, σ.sts[i]? = some s := ⟨_, List.getElem?_eq_getElem (h.idx_lt hi)⟩

theorem Inv.ints_some {σ : State} (h : Inv σ) {i : Nat} {s : IState} (hs : σ.sts[i]? = some s) :
    ∃ I, σ.ints[i]? = some I := ⟨_, List.getElem?_eq_getElem (h.len ▸ lt_of_getElem? hs)⟩

theorem Inv.lookup {σ : State} (h : Inv σ) {b : Name × Nat} (hb : b ∈ σ.trie) :
    trieGet σ.trie b.1 = some b.2 := lookup_of_mem h.names hb

theorem Inv.not_mem_of_not_waiting {σ : State} (h : Inv σ) {i : Nat}
    (hs : σ.sts[i]? ≠ some .waiting) {b : Name × Nat} (hb : b ∈ σ.trie) : i ∉ pend σ b.2 := by
  intro hm
  obtain ⟨I, _, hw, _⟩ := h.linked b hb i hm
  exact hs hw

theorem Inv.trie_eq_nil_iff {σ : State} (h : Inv σ) : σ.trie = [] ↔ ∀ i : Nat, σ.sts[i]? ≠ some .waiting := by
  constructor
  · intro ht i hw
    obtain ⟨I, hi⟩ := h.ints_some hw
    have := (h.waiting i I hi hw).1
    rw [ht] at this; cases this
  · intro hn
    cases ht : σ.trie with
    | nil => rfl
    | cons b r =>
      have hb : b ∈ σ.trie := ht ▸ List.mem_cons_self
      obtain ⟨e, he⟩ := List.exists_mem_of_ne_nil _ (h.nonempty b hb)
      obtain ⟨_, _, hw, _⟩ := h.linked b hb e he
      exact absurd hw (hn e)

/-- Invariant *during* `_on_data`: the nodes named in `cl` (the clean list) are fully satisfied - their entries
    have been handed to the validator but the list was left untouched - and wait for their `del`. -/
structure WInv (σ : State) (cl : List Name) : Prop where
  len : σ.sts.length = σ.ints.length
  names : (σ.trie.map Prod.fst).Nodup
  ids : (σ.trie.map Prod.snd).Nodup
  linked : ∀ b ∈ σ.trie, ∀ e ∈ pend σ b.2, ∃ I, σ.ints[e]? = some I ∧ I.node = b.2 ∧ I.name = b.1 ∧
    (b.1 ∉ cl → σ.sts[e]? = some .waiting)
  nonempty : ∀ b ∈ σ.trie, pend σ b.2 ≠ []
  waiting : ∀ i I, σ.ints[i]? = some I → σ.sts[i]? = some .waiting →
    (I.name, I.node) ∈ σ.trie ∧ i ∈ pend σ I.node ∧ I.name ∉ cl
  clsub : ∀ n ∈ cl, n ∈ σ.trie.map Prod.fst
  clnodup : cl.Nodup

theorem WInv.of_inv {σ : State} (h : Inv σ) : WInv σ [] := by
  refine ⟨h.len, h.names, h.ids, ?_, h.nonempty, ?_, by simp, by simp⟩
  · intro b hb e he
    obtain ⟨I, h1, h2, h3, h4⟩ := h.linked b hb e he
    exact ⟨I, h1, h3, h4, fun _ => h2⟩
  · intro i I hi hw
    obtain ⟨h1, h2⟩ := h.waiting i I hi hw
    exact ⟨h1, h2, by simp⟩

theorem Inv.congr {σ σ' : State} (h : Inv σ) (hints : σ'.ints = σ.ints) (hlen : σ'.sts.length = σ.sts.length)
    (hw : ∀ j : Nat, σ'.sts[j]? = some IState.waiting ↔ σ.sts[j]? = some IState.waiting) (htrie : σ'.trie = σ.trie)
    (hp : ∀ b ∈ σ.trie, pend σ' b.2 = pend σ b.2) : Inv σ' := by
  refine ⟨by rw [hlen, hints]; exact h.len, htrie ▸ h.names, htrie ▸ h.ids, fun b hb e he => ?_, fun b hb => ?_,
    fun j J hj hw' => ?_⟩
  · rw [htrie] at hb; rw [hp b hb] at he; rw [hints, hw]; exact h.linked b hb e he
  · rw [htrie] at hb; rw [hp b hb]; exact h.nonempty b hb
  · rw [hints] at hj
    obtain ⟨h1, h2⟩ := h.waiting j J hj ((hw j).mp hw')
    exact ⟨htrie ▸ h1, by rw [hp _ h1]; exact h2⟩

/-- One node of the walk: the entries `p` of the node `b` stop waiting; an emptied node keeps its list and goes on the
    clean list, another one gets the list of the entries that are left. -/
theorem winv_node_step {σ σ' : State} {cl : List Name} (hW : WInv σ cl) {b : Name × Nat} (hb : b ∈ σ.trie)
    (hbcl : b.1 ∉ cl) (p : Nat → Bool) (hints : σ'.ints = σ.ints) (hlen : σ'.sts.length = σ.sts.length)
    (hA : ∀ e ∈ pend σ b.2, p e = true → σ'.sts[e]? ≠ some .waiting)
    (hB : ∀ j, ¬ (j ∈ pend σ b.2 ∧ p j = true) → (σ'.sts[j]? = some .waiting ↔ σ.sts[j]? = some .waiting))
    (htrie : σ'.trie = σ.trie) :
    ((pend σ b.2).filter (fun e => !p e) = [] → σ'.heap = σ.heap → WInv σ' (cl ++ [b.1])) ∧
    ((pend σ b.2).filter (fun e => !p e) ≠ [] →
      σ'.heap = σ.heap.set b.2 ((pend σ b.2).filter (fun e => !p e)) → WInv σ' cl) := by
  generalize hrest : (pend σ b.2).filter (fun e => !p e) = rest
  have hother : ∀ b' ∈ σ.trie, b'.2 ≠ b.2 → ∀ e ∈ pend σ b'.2, e ∉ pend σ b.2 := by
    intro b' hb' hne e he hc
    obtain ⟨I1, a1, a3, _, _⟩ := hW.linked b' hb' e he
    obtain ⟨I2, b1, b3, _, _⟩ := hW.linked b hb e hc
    rw [a1] at b1; cases b1
    exact hne (a3.symm.trans b3)
  have hrestmem : ∀ j ∈ pend σ b.2, ¬ (j ∈ pend σ b.2 ∧ p j = true) → j ∈ rest := by
    intro j hj hn
    rw [← hrest]
    refine List.mem_filter.mpr ⟨hj, ?_⟩
    cases hp : p j with
    | false => rfl
    | true => exact absurd ⟨hj, hp⟩ hn
  -- both cases at once: the node `b` gets the list `rest` unless that is empty, and then goes on the clean list
  have core : (∀ n, pend σ' n = if b.2 = n ∧ rest ≠ [] then rest else pend σ n) →
      WInv σ' (if rest = [] then cl ++ [b.1] else cl) := by
    intro hpend
    have hsub : ∀ n, ∀ e ∈ pend σ' n, e ∈ pend σ n := by
      intro n e he
      rw [hpend] at he
      split at he
      · next hc => rw [← hc.1]; rw [← hrest] at he; exact (List.mem_filter.mp he).1
      · exact he
    have hcl : ∀ n : Name, n ∈ (if rest = [] then cl ++ [b.1] else cl) ↔ n ∈ cl ∨ (rest = [] ∧ n = b.1) := by
      intro n; split <;> simp [*]
    refine ⟨by rw [hlen, hints]; exact hW.len, htrie ▸ hW.names, htrie ▸ hW.ids, fun b' hb' e he => ?_,
      fun b' hb' => ?_, fun j J hj hw => ?_, fun n hn => ?_, ?_⟩
    · rw [htrie] at hb'
      obtain ⟨I, h1, h2, h3, h4⟩ := hW.linked b' hb' e (hsub _ e he)
      refine ⟨I, hints ▸ h1, h2, h3, fun hn => ?_⟩
      obtain ⟨hn1, hn2⟩ := not_or.mp (mt (hcl _).mpr hn)
      refine (hB e fun hc => ?_).mpr (h4 hn1)
      by_cases hbb : b'.2 = b.2
      · cases inj_of_nodup_map _ hW.ids hb' hb hbb
        rw [hpend, if_pos ⟨rfl, fun hr => hn2 ⟨hr, rfl⟩⟩, ← hrest] at he
        simp [hc.2] at he
      · exact hother b' hb' hbb e (hsub _ e he) hc.1
    · rw [htrie] at hb'; rw [hpend]
      split
      · next hc => exact hc.2
      · exact hW.nonempty b' hb'
    · have hnp : ¬ (j ∈ pend σ b.2 ∧ p j = true) := fun hc => hA j hc.1 hc.2 hw
      obtain ⟨h1, h2, h3⟩ := hW.waiting j J (hints ▸ hj) ((hB j hnp).mp hw)
      refine ⟨htrie ▸ h1, ?_, fun hn => ?_⟩
      · rw [hpend]
        split
        · next hc => exact hrestmem j (hc.1 ▸ h2) hnp
        · exact h2
      · rcases (hcl _).mp hn with hc | ⟨hr, hc⟩
        · exact h3 hc
        · -- `rest` is empty, so an entry of this node would have stopped waiting
          have hnode : J.node = b.2 := (Prod.mk.inj (inj_of_nodup_map _ hW.names h1 hb hc)).2
          exact List.ne_nil_of_mem (hrestmem j (hnode ▸ h2) hnp) hr
    · rw [htrie]
      rcases (hcl n).mp hn with hn | ⟨_, rfl⟩
      · exact hW.clsub n hn
      · exact List.mem_map.mpr ⟨b, hb, rfl⟩
    · split
      · exact List.nodup_append.mpr ⟨hW.clnodup, by simp, fun a ha c hc hac => by
          rw [List.mem_singleton.mp hc] at hac; exact hbcl (hac ▸ ha)⟩
      · exact hW.clnodup
  constructor
  · intro huns hheap
    have := core fun n => by rw [if_neg (fun hc => hc.2 huns)]; simp only [pend_def, hheap]
    rwa [if_pos huns] at this
  · intro huns hheap
    have hlt : b.2 < σ.heap.length := lt_of_getD_ne_nil (hW.nonempty b hb)
    have := core fun n => by simp only [pend_def, hheap, getD_set, hlt, huns, and_true, ne_eq, not_false_eq_true]
    rwa [if_neg huns] at this

theorem inv_of_winv {σ : State} {cl : List Name} (hW : WInv σ cl) :
    Inv { σ with trie := σ.trie.filter (fun b => !cl.contains b.1) } := by
  have hmem : ∀ b, b ∈ σ.trie.filter (fun b => !cl.contains b.1) ↔ b ∈ σ.trie ∧ b.1 ∉ cl := by
    intro b; simp [List.mem_filter]
  refine ⟨hW.len, nodup_map_filter _ _ hW.names, nodup_map_filter _ _ hW.ids, ?_, ?_, ?_⟩
  · intro b hb e he
    obtain ⟨hb1, hb2⟩ := (hmem b).mp hb
    obtain ⟨I, h1, h2, h3, h4⟩ := hW.linked b hb1 e he
    exact ⟨I, h1, h4 hb2, h2, h3⟩
  · intro b hb
    exact hW.nonempty b ((hmem b).mp hb).1
  · intro j J hj hw
    obtain ⟨h1, h2, h3⟩ := hW.waiting j J hj hw
    exact ⟨(hmem _).mpr ⟨h1, h3⟩, h2⟩

/-- Nack and `_remove_pending`: `winv_node_step` for a single node and an empty clean list -/
theorem inv_node_split {σ σ' : State} (h : Inv σ) {nm : Name} {nid : Nat} (hb0 : (nm, nid) ∈ σ.trie)
    (p : Nat → Bool) (hints : σ'.ints = σ.ints) (hlen : σ'.sts.length = σ.sts.length)
    (hA : ∀ e ∈ pend σ nid, p e = true → σ'.sts[e]? ≠ some .waiting)
    (hB : ∀ j, ¬ (j ∈ pend σ nid ∧ p j = true) → (σ'.sts[j]? = some .waiting ↔ σ.sts[j]? = some .waiting))
    (hheap : σ'.heap = σ.heap.set nid ((pend σ nid).filter (fun e => !p e)))
    (htrie : σ'.trie = if (pend σ nid).filter (fun e => !p e) = [] then σ.trie.filter (fun b => b.1 != nm)
      else σ.trie) : Inv σ' := by
  by_cases huns : (pend σ nid).filter (fun e => !p e) = []
  · -- as in the walk of `_on_data`, but the emptied list is stored before the node is unlinked
    have hW := (winv_node_step (σ' := { σ' with heap := σ.heap, trie := σ.trie }) (WInv.of_inv h) hb0 (by simp) p hints
      hlen hA hB rfl).1 huns rfl
    refine (inv_of_winv hW).congr rfl rfl (fun _ => Iff.rfl)
      (by rw [htrie, if_pos huns]; exact List.filter_congr fun b _ => by by_cases hc : b.1 = nm <;> simp [hc]) fun b hb => ?_
    obtain ⟨hb1, hb2⟩ := List.mem_filter.mp hb
    have hne : nid ≠ b.2 := fun hc => by
      rw [← inj_of_nodup_map _ h.ids hb0 hb1 hc] at hb2
      simp at hb2
    simp only [pend_def, hheap, getD_set, hne, false_and, if_false]
  · have hW := (winv_node_step (WInv.of_inv h) hb0 (by simp) p hints hlen hA hB (by rw [htrie, if_neg huns])).2 huns hheap
    exact (inv_of_winv hW).congr rfl rfl (fun _ => Iff.rfl) (List.filter_eq_self.mpr fun _ _ => by simp).symm fun _ _ => rfl

theorem inv_setSt {σ : State} (h : Inv σ) {i : Nat} (hs : σ.sts[i]? ≠ some .waiting) {s : IState}
    (hne : s ≠ .waiting) : Inv (setSt σ i s) := by
  refine h.congr rfl (List.length_set ..) (fun j => ?_) rfl fun _ _ => rfl
  show (σ.sts.set i s)[j]? = some .waiting ↔ _
  rw [List.getElem?_set]
  by_cases hij : i = j
  · subst hij
    rw [if_pos rfl]
    refine iff_of_false (fun hc => ?_) hs
    split at hc
    · exact hne (Option.some.inj hc)
    · cases hc
  · rw [if_neg hij]

theorem inv_clock {σ : State} (h : Inv σ) (c : Nat) : Inv { σ with clock := c } :=
  h.congr rfl rfl (fun _ => Iff.rfl) rfl fun _ _ => rfl

theorem waiting_concat_cases {σ : State} (h : σ.sts.length = σ.ints.length) {I J : Interest} {s : IState} {j : Nat}
    (hj : (σ.ints ++ [I])[j]? = some J) (hw : (σ.sts ++ [s])[j]? = some .waiting) :
    (σ.ints[j]? = some J ∧ σ.sts[j]? = some .waiting) ∨ (j = σ.ints.length ∧ J = I ∧ s = .waiting) := by
  rcases getElem?_concat_cases hj with hj | ⟨hj, hJ⟩
  · rcases getElem?_concat_cases hw with hw | ⟨hw, _⟩
    · exact Or.inl ⟨hj, hw⟩
    · have := lt_of_getElem? hj; rw [h] at hw; omega
  · rcases getElem?_concat_cases hw with hw | ⟨_, hw⟩
    · have := lt_of_getElem? hw; rw [h] at this; omega
    · exact Or.inr ⟨hj, hJ, hw.symm⟩

/-- `express_raw_interest`: the node captured is the one linked under the name, or a fresh one that is linked now -/
theorem inv_express {σ σ' : State} (h : Inv σ) {I : Interest}
    (hints : σ'.ints = σ.ints ++ [I]) (hsts : σ'.sts = σ.sts ++ [.waiting])
    (hpend : ∀ n, pend σ' n = if I.node = n then pend σ I.node ++ [σ.ints.length] else pend σ n)
    (htrie : σ'.trie = σ.trie ∧ (I.name, I.node) ∈ σ.trie ∨
      σ'.trie = σ.trie ++ [(I.name, I.node)] ∧ I.name ∉ σ.trie.map Prod.fst ∧ I.node ∉ σ.trie.map Prod.snd ∧
        pend σ I.node = []) : Inv σ' := by
  have hnew : (σ.ints ++ [I])[σ.ints.length]? = some I ∧ (σ.sts ++ [IState.waiting])[σ.ints.length]? = some .waiting :=
    ⟨by simp, by rw [← h.len]; simp⟩
  have hcases : ∀ b ∈ σ'.trie, b ∈ σ.trie ∨ (b = (I.name, I.node) ∧ pend σ I.node = []) := by
    intro b hb
    rcases htrie with ⟨ht, _⟩ | ⟨ht, _, _, hp⟩
    · exact Or.inl (ht ▸ hb)
    · rw [ht] at hb
      exact (List.mem_append.mp hb).imp id fun hb => ⟨by simpa using hb, hp⟩
  have hname : ∀ b ∈ σ'.trie, I.node = b.2 → I.name = b.1 := by
    intro b hb hn
    rcases htrie with ⟨_, hm⟩ | ⟨_, _, hid, _⟩
    · rcases hcases b hb with hb | ⟨hb, _⟩
      · exact congrArg Prod.fst (inj_of_nodup_map _ h.ids hm hb hn)
      · rw [hb]
    · rcases hcases b hb with hb | ⟨hb, _⟩
      · exact absurd (List.mem_map.mpr ⟨b, hb, hn.symm⟩) hid
      · rw [hb]
  have hold : ∀ b ∈ σ'.trie, I.node ≠ b.2 → b ∈ σ.trie := fun b hb hn =>
    (hcases b hb).resolve_right fun hc => hn (by rw [hc.1])
  refine ⟨by simp [hints, hsts, h.len], ?_, ?_, fun b hb e he => ?_, fun b hb => ?_, fun j J hj hw => ?_⟩
  · rcases htrie with ⟨ht, _⟩ | ⟨ht, hnm, _, _⟩
    · exact ht ▸ h.names
    · rw [ht, List.map_append]
      exact List.nodup_append.mpr ⟨h.names, by simp, fun a ha c hc => by
        simp only [List.map_cons, List.map_nil, List.mem_singleton] at hc; exact fun hac => hnm (hc ▸ hac ▸ ha)⟩
  · rcases htrie with ⟨ht, _⟩ | ⟨ht, _, hid, _⟩
    · exact ht ▸ h.ids
    · rw [ht, List.map_append]
      exact List.nodup_append.mpr ⟨h.ids, by simp, fun a ha c hc => by
        simp only [List.map_cons, List.map_nil, List.mem_singleton] at hc; exact fun hac => hid (hc ▸ hac ▸ ha)⟩
  · rw [hpend] at he
    rw [hints, hsts]
    have old : b ∈ σ.trie → e ∈ pend σ b.2 → ∃ I', (σ.ints ++ [I])[e]? = some I' ∧
        (σ.sts ++ [IState.waiting])[e]? = some .waiting ∧ I'.node = b.2 ∧ I'.name = b.1 := fun hb he => by
      obtain ⟨I', h1, h2, h3, h4⟩ := h.linked b hb e he
      exact ⟨I', getElem?_concat_old h1, getElem?_concat_old h2, h3, h4⟩
    by_cases hn : I.node = b.2
    · rw [if_pos hn] at he
      rcases List.mem_append.mp he with he | he
      · rcases hcases b hb with hb | ⟨_, hp⟩
        · exact old hb (hn ▸ he)
        · rw [hp] at he; simp at he
      · rw [List.mem_singleton.mp he]
        exact ⟨I, hnew.1, hnew.2, hn, hname b hb hn⟩
    · rw [if_neg hn] at he
      exact old (hold b hb hn) he
  · rw [hpend]
    split
    · simp
    · next hn => exact h.nonempty b (hold b hb hn)
  · rw [hints] at hj
    rw [hsts] at hw
    rw [hpend]
    rcases waiting_concat_cases h.len hj hw with ⟨hj, hw⟩ | ⟨hj, hJ, _⟩
    · obtain ⟨h1, h2⟩ := h.waiting j J hj hw
      refine ⟨?_, ?_⟩
      · rcases htrie with ⟨ht, _⟩ | ⟨ht, _⟩
        · exact ht ▸ h1
        · rw [ht]; exact List.mem_append_left _ h1
      · split
        · next hn => exact List.mem_append_left _ (hn ▸ h2)
        · exact h2
    · rw [hJ, hj, if_pos rfl]
      refine ⟨?_, by simp⟩
      rcases htrie with ⟨ht, hm⟩ | ⟨ht, _⟩
      · exact ht ▸ hm
      · rw [ht]; simp

theorem inv_express_silent {σ : State} (h : Inv σ) (I : Interest) {s : IState} (hs : s ≠ .waiting) :
    Inv { σ with ints := σ.ints ++ [I], sts := σ.sts ++ [s] } := by
  refine ⟨by simp [h.len], h.names, h.ids, ?_, h.nonempty, ?_⟩
  · intro b hb e he
    obtain ⟨I', h1, h2, h3, h4⟩ := h.linked b hb e he
    exact ⟨I', getElem?_concat_old h1, getElem?_concat_old h2, h3, h4⟩
  · intro j J hj hw
    rcases waiting_concat_cases h.len hj hw with ⟨hj, hw⟩ | ⟨_, _, hw⟩
    · exact h.waiting j J hj hw
    · exact absurd hw hs

/-- `σ'` is `σ` with the state of every Interest updated by `f` (index, request, old state), no callback has raised -/
structure Eff (σ σ' : State) (f : Nat → Req → IState → IState) : Prop where
  errs : σ'.errs = σ.errs
  ints : σ'.ints = σ.ints
  clock : σ'.clock = σ.clock
  len : σ'.sts.length = σ.sts.length
  sts : ∀ (j : Nat) (J : Interest) (s : IState), σ.ints[j]? = some J → σ.sts[j]? = some s →
    σ'.sts[j]? = some (f j J.toReq s)

theorem Eff.refl (σ : State) : Eff σ σ fun _ _ s => s := ⟨rfl, rfl, rfl, rfl, fun _ _ _ _ hs => hs⟩

theorem Eff.trans {σ σ1 σ2 : State} {f g : Nat → Req → IState → IState} (e1 : Eff σ σ1 f) (e2 : Eff σ1 σ2 g) :
    Eff σ σ2 fun j r s => g j r (f j r s) :=
  ⟨e2.errs.trans e1.errs, e2.ints.trans e1.ints, e2.clock.trans e1.clock, e2.len.trans e1.len,
    fun j J s hj hs => e2.sts j J _ (e1.ints ▸ hj) (e1.sts j J s hj hs)⟩

theorem Eff.congr {σ σ' : State} {f g : Nat → Req → IState → IState} (e : Eff σ σ' f)
    (h : ∀ (j : Nat) (J : Interest) (s : IState), σ.ints[j]? = some J → σ.sts[j]? = some s →
      f j J.toReq s = g j J.toReq s) : Eff σ σ' g :=
  ⟨e.errs, e.ints, e.clock, e.len, fun j J s hj hs => by rw [e.sts j J s hj hs, h j J s hj hs]⟩

theorem Eff.of_eq {σ σ' σ'' : State} {f : Nat → Req → IState → IState} (e : Eff σ σ' f) (h1 : σ''.errs = σ'.errs)
    (h2 : σ''.ints = σ'.ints) (h3 : σ''.clock = σ'.clock) (h4 : σ''.sts = σ'.sts) : Eff σ σ'' f :=
  ⟨h1.trans e.errs, h2.trans e.ints, h3.trans e.clock, (congrArg List.length h4).trans e.len,
    fun j J s hj hs => h4 ▸ e.sts j J s hj hs⟩

theorem Eff.sts_inv {σ σ' : State} {f : Nat → Req → IState → IState} (e : Eff σ σ' f) (h : Inv σ) {j : Nat}
    {s' : IState} (hs' : σ'.sts[j]? = some s') :
    ∃ J s, σ.ints[j]? = some J ∧ σ.sts[j]? = some s ∧ s' = f j J.toReq s := by
  have hs := List.getElem?_eq_getElem (e.len ▸ lt_of_getElem? hs')
  obtain ⟨J, hJ⟩ := h.ints_some hs
  exact ⟨J, _, hJ, hs, Option.some.inj (hs'.symm.trans (e.sts j J _ hJ hs))⟩

/-- `σ'` is `σ` with one Interest more: request `q`, captured node unspecified, state `s` -/
structure Adds (σ σ' : State) (q : Req) (s : IState) : Prop where
  errs : σ'.errs = σ.errs
  clock : σ'.clock = σ.clock
  sts : σ'.sts = σ.sts ++ [s]
  ints : ∃ nid, σ'.ints = σ.ints ++ [⟨q, nid⟩]

def upd (ints : List Interest) (g : Interest → IState) (sts : List IState) (e : Nat) : List IState :=
  match ints[e]?, sts[e]? with
  | some I, some .waiting => sts.set e (g I)
  | _, _ => sts

section
variable {ints : List Interest} {g : Interest → IState}

theorem upd_get_ne (sts : List IState) {e j : Nat} (h : j ≠ e) : (upd ints g sts e)[j]? = sts[j]? := by
  unfold upd; split
  · rw [List.getElem?_set, if_neg (Ne.symm h)]
  · rfl

theorem upd_get_self (sts : List IState) {e : Nat} {J : Interest} (hj : ints[e]? = some J) :
    (upd ints g sts e)[e]? = if sts[e]? = some .waiting then some (g J) else sts[e]? := by
  unfold upd; rw [hj]
  by_cases hw : sts[e]? = some .waiting
  · rw [hw, if_pos rfl, List.getElem?_set]
    simp [lt_of_getElem? hw]
  · rw [if_neg hw]; split
    · next hw' => exact absurd hw' hw
    · rfl

theorem foldl_upd_length (L : List Nat) (sts : List IState) : (L.foldl (upd ints g) sts).length = sts.length := by
  induction L generalizing sts with
  | nil => rfl
  | cons e r ih =>
    rw [List.foldl_cons, ih]
    unfold upd; split <;> simp

theorem foldl_upd_of_not_mem (L : List Nat) (sts : List IState) {j : Nat} (hj : j ∉ L) :
    (L.foldl (upd ints g) sts)[j]? = sts[j]? := by
  induction L generalizing sts with
  | nil => rfl
  | cons e r ih =>
    simp only [List.mem_cons, not_or] at hj
    rw [List.foldl_cons, ih _ hj.2, upd_get_ne _ hj.1]

theorem foldl_upd_get (L : List Nat) (sts : List IState) {j : Nat} {J : Interest} (hj : ints[j]? = some J) :
    (L.foldl (upd ints g) sts)[j]? = if j ∈ L ∧ sts[j]? = some .waiting then some (g J) else sts[j]? := by
  induction L generalizing sts with
  | nil => simp
  | cons e r ih =>
    rw [List.foldl_cons, ih]
    by_cases hje : j = e
    · subst hje
      rw [upd_get_self _ hj]
      by_cases hw : sts[j]? = some .waiting
      · simp [hw]
      · simp [hw]
    · rw [upd_get_ne _ hje]; simp [hje]

theorem foldl_op_upd {op : State → Nat → State} {P : State → Prop}
    (hop : ∀ σ e, P σ → P (op σ e) ∧ (op σ e).sts = upd ints g σ.sts e) (L : List Nat) (σ : State) (hP : P σ) :
    P (L.foldl op σ) ∧ (L.foldl op σ).sts = L.foldl (upd ints g) σ.sts := by
  induction L generalizing σ with
  | nil => exact ⟨hP, rfl⟩
  | cons e r ih =>
    simp only [List.foldl_cons]
    obtain ⟨h1, h2⟩ := hop σ e hP
    obtain ⟨h3, h4⟩ := ih (op σ e) h1
    exact ⟨h3, by rw [h4, h2]⟩

end

/-- The entries `p` of a linked node `b` whose turn in the walk has not come are handed to `g` one by one.  `P` is what
    `p` tests, said of the request.  The conclusions have the form of the hypotheses `hlen`, `hA`, `hB` of
    `winv_node_step` and of the field `sts` of an `Eff`. -/
theorem node_pass {σ : State} {cl : List Name} (hW : WInv σ cl) {b : Name × Nat} (hb : b ∈ σ.trie) (hbcl : b.1 ∉ cl)
    {p : Nat → Bool} {P : Req → Prop} [DecidablePred P]
    (hpP : ∀ (j : Nat) (J : Interest), σ.ints[j]? = some J → J.name = b.1 → (p j = true ↔ P J.toReq))
    {g : Interest → IState} (hg : ∀ I, g I ≠ .waiting) {sts' : List IState}
    (hsts : sts' = ((pend σ b.2).filter p).foldl (upd σ.ints g) σ.sts) :
    sts'.length = σ.sts.length ∧
    (∀ e ∈ pend σ b.2, p e = true → sts'[e]? ≠ some .waiting) ∧
    (∀ j, ¬ (j ∈ pend σ b.2 ∧ p j = true) → (sts'[j]? = some .waiting ↔ σ.sts[j]? = some .waiting)) ∧
    ∀ (j : Nat) (J : Interest) (s : IState), σ.ints[j]? = some J → σ.sts[j]? = some s →
      sts'[j]? = some (if s = .waiting ∧ J.name = b.1 ∧ P J.toReq then g J else s) := by
  subst hsts
  refine ⟨foldl_upd_length _ _, fun e he hpe => ?_, fun j hn => ?_, fun j J s hj hs => ?_⟩
  · obtain ⟨I, h1, _, _, h4⟩ := hW.linked b hb e he
    rw [foldl_upd_get _ _ h1, if_pos ⟨List.mem_filter.mpr ⟨he, hpe⟩, h4 hbcl⟩]
    simpa using hg I
  · rw [foldl_upd_of_not_mem _ _ (fun hc => hn (List.mem_filter.mp hc))]
  · rw [foldl_upd_get _ _ hj, hs]
    by_cases hw : s = .waiting
    · subst hw
      obtain ⟨h1, h2, _⟩ := hW.waiting j J hj hs
      -- a waiting Interest has its entry in this node iff it bears the node's name
      have hiff : j ∈ (pend σ b.2).filter p ↔ J.name = b.1 ∧ P J.toReq := by
        rw [List.mem_filter]
        constructor
        · intro ⟨a, c⟩
          obtain ⟨I', c1, _, c4, _⟩ := hW.linked b hb j a
          rw [hj] at c1; cases c1
          exact ⟨c4, (hpP j J hj c4).mp c⟩
        · intro ⟨a, c⟩
          have hn : J.node = b.2 := (Prod.mk.inj (inj_of_nodup_map _ hW.names h1 hb a)).2
          exact ⟨hn ▸ h2, (hpP j J hj a).mpr c⟩
      by_cases hM : J.name = b.1 ∧ P J.toReq
      · rw [if_pos ⟨hiff.mpr hM, rfl⟩, if_pos ⟨rfl, hM⟩]
      · rw [if_neg (fun hc => hM (hiff.mp hc.1)), if_neg (fun hc => hM hc.2)]
    · rw [if_neg (fun hc => hw (Option.some.inj hc.2)), if_neg (fun hc => hw hc.1)]

end Ndn.Pit
