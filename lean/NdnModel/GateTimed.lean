import NdnModel.Gate
import NdnModel.Fib
import NdnGen.C05T
/-
  The incoming-Interest gate as a TIMED model: validation takes time, and the routing table may change meanwhile.

    src/ndn/appv2.py   NDNApp._on_interest / submit_interest / attach_handler / detach_handler
    src/ndn/app.py     NDNApp._on_interest / submit_interest / set_interest_filter / unset_interest_filter

  What the code does, step by step (both front-ends):
  * ARRIVAL (`_on_interest`, one uninterrupted stretch: `params_sha256_checker` is awaited but never yields):
    `longest_prefix` once; `node = trie_step.value` - the NODE OBJECT is what is kept, not its name and not its
    fields; no route / `node.callback is None`: return; digest check when required (a wrong digest: return);
    `aio.create_task(submit_interest())` - a separate task nobody awaits.
  * START (the task's first turn - a later loop iteration, the table may have changed): `node.validator` is read NOW,
    from the kept node object; the validator is called (or the constant verdict of a validator-less route / a plain
    Interest is taken, and the task goes straight to the end).
  * DONE (the validator returns - any time later, the table may have changed again): `node.callback` is read NOW, from
    the kept node object, and called when the verdict lets the Interest through.  A validator that raises ends the
    task with that exception (nothing in `submit_interest` catches it: `validatorCaught` of the generated table is
    empty); being a task of its own, the exception goes to the loop's exception handler and to nobody else - the
    reception path and the other Interests in flight are not affected.
  * No timer takes part: the InterestLifetime only bounds `reply` (C04); `Ev.deadline` changes nothing here.

  Node objects have identity: `heap` holds every `PrefixTreeNode` ever created (by address), `trie` maps a name to an
  address.  `attach` = `setdefault` + the truthiness test of `node.callback` (ValueError) + two field writes INTO THE
  OBJECT; `detach` = `del trie[name]`, which unlinks the object and does not touch it.  So a detached node keeps its
  handler and its validator, and an Interest in flight that holds it is delivered to the detached handler: that is
  what the code does (whether it should is C04's business - `detach_receives_nothing` there speaks of Interests that
  ARRIVE after the detach).  What C05 needs - the validator consulted is the one registered with the handler that is
  finally called - is a theorem (`NdnProofs/Lemmas/GateTimed.lean`: a node with a callback is never written again).

  From the SOURCE TEXT: `Gate.shape` (lean/NdnGen/C05.lean) as in the atomic model, and lean/NdnGen/C05T.lean:
  the way attach writes the validator (`valWrite`), the `except` classes around the validator call
  (`validatorCaught`); one `longest_prefix`, one binding of `node`, the spawn statement and the two reads
  `node.validator` / `node.callback` are pinned by `Ndn.C05.gen_timed`.
-/
namespace Ndn.GateTimed
open Ndn
open Ndn.Pit (FrontEnd Verdict)
open Ndn.Gate (IntPkt shape)

abbrev Name := Fib.Name
abbrev Hid := Fib.Hid
/-- identity of a validator callable -/
abbrev Vid := Nat
/-- an incoming Interest: its position among the arrivals -/
abbrev Iid := Nat

def tshape : FrontEnd → Src.SubmitShape
  | .v1 => Gen.C05T.v1
  | .v2 => Gen.C05T.v2

/-- `PrefixTreeNode`: the two fields the gate reads -/
structure TNode where
  callback : Option Hid
  validator : Option Vid
  deriving DecidableEq, Repr

inductive Phase where
  | queued                      -- `submit_interest` is scheduled, has not run yet
  | validating (vid : Vid)      -- it awaits validator `vid`
  | finished                    -- dropped at arrival, or the task is over
  deriving DecidableEq, Repr

/-- why a `submit_interest` task ended with an exception -/
inductive Exc where
  | timeoutError | scripted     -- what the validator raised
  | typeError                   -- `node.callback` was `None` when called (unreachable, see `Lemmas/GateTimed`)
  deriving DecidableEq, Repr

inductive Obs where
  | digest (i : Iid)                  -- `params_sha256_checker` ran on Interest `i`
  | validate (i : Iid) (vid : Vid)    -- validator `vid` was called with Interest `i`
  | handle (i : Iid) (h : Hid)        -- handler `h` was called with Interest `i`
  | died (i : Iid) (e : Exc)          -- the `submit_interest` task of `i` ended with an exception
  deriving DecidableEq, Repr

def Obs.iid : Obs → Iid
  | .digest i => i | .validate i _ => i | .handle i _ => i | .died i _ => i

structure Flight where
  name : Name
  pkt : IntPkt
  node : Option Nat             -- address of the node object `_on_interest` kept (`none`: it returned before spawning)
  phase : Phase
  deriving DecidableEq, Repr

inductive Ev where
  | attach (p : Name) (h : Option Hid) (v : Option Vid)
  | detach (p : Name)
  | arrive (n : Name) (pkt : IntPkt)
  | start (i : Iid)                   -- the `submit_interest` task of `i` gets its first turn
  | done (i : Iid) (v : Verdict)      -- the validator `i` is waiting for returns `v` (or raises)
  | deadline (i : Iid)                -- the InterestLifetime of `i` is over
  deriving DecidableEq, Repr

structure St where
  trie : PyDict Name Nat := []
  heap : List TNode := []
  flights : List Flight := []
  log : List Obs := []
  res : List Fib.Res := []            -- what the attach / detach calls returned, in order
  deriving Repr

/-! ### the table -/

/-- `attach_handler` / `set_interest_filter` -/
def attach (fe : FrontEnd) (s : St) (p : Name) (h : Option Hid) (v : Option Vid) : St × Fib.Res :=
  match PyDict.get? s.trie p with
  | some a =>
    match s.heap[a]? with
    | some nd =>
      if nd.callback.isSome then (s, .err .valueError)
      else ({ s with heap := s.heap.set a ⟨h, (tshape fe).valWrite.apply nd.validator v⟩ }, .ok)
    | none => (s, .err .other)      -- a dangling address: unreachable (`Lemmas/GateTimedTable`, `TrieWf`)
  | none =>
    ({ s with trie := PyDict.set s.trie p s.heap.length,
              heap := s.heap ++ [⟨h, (tshape fe).valWrite.apply none v⟩] }, .ok)

/-- `detach_handler` / `unset_interest_filter`: `del trie[name]` -/
def detach (s : St) (p : Name) : St × Fib.Res :=
  if PyDict.contains s.trie p then ({ s with trie := PyDict.erase s.trie p }, .ok) else (s, .err .keyError)

/-- `trie.longest_prefix(n)`: prefixes of `n` from length `k` downwards (as `Fib.scan`, over addresses) -/
def scan (t : PyDict Name Nat) (n : Name) : Nat → Option (Name × Nat)
  | 0 => (PyDict.get? t []).map fun a => ([], a)
  | k + 1 =>
    match PyDict.get? t (n.take (k + 1)) with
    | some a => some (n.take (k + 1), a)
    | none => scan t n k

def lookup (t : PyDict Name Nat) (n : Name) : Option (Name × Nat) := scan t n n.length

/-! ### one Interest: the pure part of `submit_interest`, given what the node object holds when it is read -/

/-- after the validator's answer `v` (not an exception): `node.callback` is read and called, or not -/
def conclude (fe : FrontEnd) (i : Iid) (nd : TNode) (v : Verdict) : Phase × List Obs :=
  if Gate.lets fe v then
    match nd.callback with
    | some h => (.finished, [.handle i h])
    | none => (.finished, [.died i .typeError])
  else (.finished, [])

/-- the task's first turn: `node.validator` is read -/
def startF (fe : FrontEnd) (av : Vid) (i : Iid) (pkt : IntPkt) (nd : TNode) : Phase × List Obs :=
  if (shape fe).validateWhen.holds pkt.hasParams pkt.hasSig then
    match nd.validator, (shape fe).noValidatorAs with
    | some vid, _ => (.validating vid, [.validate i vid])
    | none, some r => conclude fe i nd (Verdict.ofVR r)
    | none, none => (.validating av, [.validate i av])
  else conclude fe i nd (Verdict.ofVR (shape fe).plain)

def excOf : Verdict → Exc
  | .raiseTimeout => .timeoutError
  | _ => .scripted

/-- the validator returns: an exception no `except` clause of `submit_interest` names ends the task -/
def doneF (fe : FrontEnd) (i : Iid) (nd : TNode) (v : Verdict) : Phase × List Obs :=
  match Pit.validOf (tshape fe).validatorCaught (tshape fe).validatorCaughtAs v with
  | some v' => conclude fe i nd v'
  | none => (.finished, [.died i (excOf v)])

/-! ### the machine -/

def setPhase (s : St) (i : Iid) (fl : Flight) (r : Phase × List Obs) : St :=
  { s with flights := s.flights.set i { fl with phase := r.1 }, log := s.log ++ r.2 }

def arrive (fe : FrontEnd) (s : St) (n : Name) (pkt : IntPkt) : St :=
  let i := s.flights.length
  let drop (log : List Obs) : St := { s with log := log, flights := s.flights ++ [⟨n, pkt, none, .finished⟩] }
  match lookup s.trie n with
  | none => drop s.log
  | some (_, a) =>
    match (s.heap[a]?).bind (·.callback) with
    | none => drop s.log
    | some _ =>
      let digestReq := (shape fe).digestWhen.holds pkt.hasParams pkt.hasSig
      let log' := if digestReq then s.log ++ [.digest i] else s.log
      if digestReq && !pkt.digestOk then drop log'
      else { s with log := log', flights := s.flights ++ [⟨n, pkt, some a, .queued⟩] }

/-- `av`: the legacy application-wide `int_validator` -/
def step (fe : FrontEnd) (av : Vid) (s : St) : Ev → St
  | .attach p h v => let r := attach fe s p h v; { r.1 with res := r.1.res ++ [r.2] }
  | .detach p => let r := detach s p; { r.1 with res := r.1.res ++ [r.2] }
  | .arrive n pkt => arrive fe s n pkt
  | .start i =>
    match s.flights[i]? with
    | some fl =>
      match fl.phase, fl.node with
      | .queued, some a =>
        match s.heap[a]? with
        | some nd => setPhase s i fl (startF fe av i fl.pkt nd)
        | none => s
      | _, _ => s
    | none => s
  | .done i v =>
    match s.flights[i]? with
    | some fl =>
      match fl.phase, fl.node with
      | .validating _, some a =>
        match s.heap[a]? with
        | some nd => setPhase s i fl (doneF fe i nd v)
        | none => s
      | _, _ => s
    | none => s
  | .deadline _ => s

def runFrom (fe : FrontEnd) (av : Vid) (s : St) (evs : List Ev) : St := evs.foldl (step fe av) s

/-- the application after a history, starting with an empty table -/
def run (fe : FrontEnd) (av : Vid) (evs : List Ev) : St := runFrom fe av {} evs

/-- every table entry the model computes with was recognised by the extractor, and the shape of `_on_interest` is the
    one the model mirrors: one lookup, one binding of `node`, nothing caught around the validator -/
def tableOk : Bool :=
  Gate.tableOk && [FrontEnd.v1, .v2].all fun fe =>
    (tshape fe).valWrite != .unknown && (tshape fe).lookups == 1 && (tshape fe).nodeBinds.length == 1 &&
    !(tshape fe).validatorCaught.contains .unknown

end Ndn.GateTimed
