import NdnProofs.Lemmas.Basic
import NdnProofs.Lemmas.Calendar
import NdnProofs.Lemmas.Cascade
import NdnProofs.Lemmas.CascadeLvs
import NdnProofs.Lemmas.ClassMerge
import NdnProofs.Lemmas.ClientConf
import NdnProofs.Lemmas.Codec
import NdnProofs.Lemmas.CodecAccept
import NdnProofs.Lemmas.CodecLoop
import NdnProofs.Lemmas.CodecParse
import NdnProofs.Lemmas.CodecRT
import NdnProofs.Lemmas.CodecReenc
import NdnProofs.Lemmas.CodecStrict
import NdnProofs.Lemmas.CodecTotal
import NdnProofs.Lemmas.CodecTurn
import NdnProofs.Lemmas.FaceTasks
import NdnProofs.Lemmas.Fib
import NdnProofs.Lemmas.Framing
import NdnProofs.Lemmas.GateTimed
import NdnProofs.Lemmas.GateTimedTable
import NdnProofs.Lemmas.Keychain
import NdnProofs.Lemmas.KeychainHoare
import NdnProofs.Lemmas.KeychainPhases
import NdnProofs.Lemmas.KeychainTable
import NdnProofs.Lemmas.Lp
import NdnProofs.Lemmas.LpAgree
import NdnProofs.Lemmas.LpCodec
import NdnProofs.Lemmas.LpEnvelope
import NdnProofs.Lemmas.Lvs.CompileBase
import NdnProofs.Lemmas.Lvs.CompileChains
import NdnProofs.Lemmas.Lvs.CompileComplete
import NdnProofs.Lemmas.Lvs.CompileExample
import NdnProofs.Lemmas.Lvs.CompileMerge
import NdnProofs.Lemmas.Lvs.CompileMergeGen
import NdnProofs.Lemmas.Lvs.CompileNumber
import NdnProofs.Lemmas.Lvs.CompileSane
import NdnProofs.Lemmas.Lvs.CompileSign
import NdnProofs.Lemmas.Lvs.CompileSort
import NdnProofs.Lemmas.Lvs.CompileTree
import NdnProofs.Lemmas.Lvs.CtxFree
import NdnProofs.Lemmas.Lvs.Edge
import NdnProofs.Lemmas.Lvs.Example
import NdnProofs.Lemmas.Lvs.KeyExp
import NdnProofs.Lemmas.Lvs.KeyInj
import NdnProofs.Lemmas.Lvs.KeyPath
import NdnProofs.Lemmas.Lvs.KeyText
import NdnProofs.Lemmas.Lvs.Match
import NdnProofs.Lemmas.Lvs.Sanity
import NdnProofs.Lemmas.Lvs.Sem
import NdnProofs.Lemmas.Lvs.SignOrder
import NdnProofs.Lemmas.Lvs.SrcExec
import NdnProofs.Lemmas.Lvs.SrcFresh
import NdnProofs.Lemmas.Lvs.SrcNumber
import NdnProofs.Lemmas.Lvs.SrcRename
import NdnProofs.Lemmas.Lvs.SrcRepl
import NdnProofs.Lemmas.Lvs.SrcRun
import NdnProofs.Lemmas.Lvs.SrcTracks
import NdnProofs.Lemmas.Lvs.Tables
import NdnProofs.Lemmas.MarkerRun
import NdnProofs.Lemmas.NameOrder
import NdnProofs.Lemmas.NameStr
import NdnProofs.Lemmas.NameToStr
import NdnProofs.Lemmas.NameUri
import NdnProofs.Lemmas.NameUriName
import NdnProofs.Lemmas.NameWire
import NdnProofs.Lemmas.NfdBytes
import NdnProofs.Lemmas.NfdMgmt
import NdnProofs.Lemmas.PacketEnc
import NdnProofs.Lemmas.PacketName
import NdnProofs.Lemmas.PacketParseInterest
import NdnProofs.Lemmas.Pit
import NdnProofs.Lemmas.PitGen
import NdnProofs.Lemmas.PitInv
import NdnProofs.Lemmas.PitSpec
import NdnProofs.Lemmas.PitSpecRun
import NdnProofs.Lemmas.PitTies
import NdnProofs.Lemmas.PyDict
import NdnProofs.Lemmas.PySem
import NdnProofs.Lemmas.Receive
import NdnProofs.Lemmas.ReceiveLp
import NdnProofs.Lemmas.SegFetch
import NdnProofs.Lemmas.SegFetchNames
import NdnProofs.Lemmas.SegFetchRounds
import NdnProofs.Lemmas.SegFetchScripted
import NdnProofs.Lemmas.SegFetchTimed
import NdnProofs.Lemmas.Sha256Eval
import NdnProofs.Lemmas.Shrink
import NdnProofs.Lemmas.Signers
import NdnProofs.Lemmas.StreamReader
import NdnProofs.Lemmas.Svs
import NdnProofs.Lemmas.SvsBytes
import NdnProofs.Lemmas.SvsX
import NdnProofs.Lemmas.TlNum
import NdnProofs.Props.C01
import NdnProofs.Props.C02
import NdnProofs.Props.C02Sign
import NdnProofs.Props.C02Vectors
import NdnProofs.Props.C03
import NdnProofs.Props.C04
import NdnProofs.Props.C05
import NdnProofs.Props.C06
import NdnProofs.Props.C06Tasks
import NdnProofs.Props.C07
import NdnProofs.Props.C08
import NdnProofs.Props.C09
import NdnProofs.Props.C09Tables
import NdnProofs.Props.C09ToStr
import NdnProofs.Props.C10
import NdnProofs.Props.C10Bytes
import NdnProofs.Props.C11
import NdnProofs.Props.C11Tables
import NdnProofs.Props.C12
import NdnProofs.Props.C12Tables
import NdnProofs.Props.C13
import NdnProofs.Props.C13Keys
import NdnProofs.Props.C13Load
import NdnProofs.Props.C13Tables
import NdnProofs.Props.C14
import NdnProofs.Props.C14Lvs
import NdnProofs.Props.C15
import NdnProofs.Props.C16
import NdnProofs.Props.C17
import NdnProofs.Props.C18
import NdnProofs.Props.C19
import NdnProofs.Props.C20
import NdnProofs.Props.ComponentGen
import NdnProofs.Props.NameGen
import NdnProofs.Props.TlvModelGen
import NdnProofs.Props.TlvModelParseGen
import NdnProofs.Props.TlvVarGen
